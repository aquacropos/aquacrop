import AquaVerif.Proofs.Run

/-
C13 (irrigation contracts) on every simulated day of every run of `runModel`.

`DayRec.irrIn` is what `irrigation` read on a recorded day; `run_irr_day` says the recorded
`IrrOut` is `C13.day` of it (`run_irr_cfg`: with the strategy record and the schedule entry of the
configuration), so every contract of `Properties/C13.lean` holds on every day of every run
(`run_irr_none`, `run_irr_daily_max`, `run_irr_interval_amount`, `run_irr_column` here, the others
in `Properties/C13Run.lean`); the seasonal cap is an invariant of the run (`run_season_cap`), the
counters are zero at every season start (`run_counter_reset`).
-/

set_option linter.unusedSectionVars false
namespace Aqua
open Aqua.Clock
variable {α : Type} [Field α] [LinearOrder α] [IsStrictOrderedRing α]

/-- what `irrigation` (step 6) read on the recorded day, besides the strategy parameters
`d.P.W.irr` and the seasonal counter `d.st.irrCum`: the profile after drainage, *yesterday's*
growth stage, yesterday's potential evaporation and transpiration, today's rooting depth and days
after planting, the schedule entry of the day, the rain and the runoff of step 5 -/
def DayRec.irrIn (d : DayRec α) : C13.DayIn α :=
  { cells := d.r.trace.d.cells, stage := d.st.growthStage, ePot := d.st.ePot, tPot := d.st.tPot,
    zRoot := d.r.trace.rd.zRoot, dap := d.r.trace.tc.dap, sched := d.D.sched,
    zMin := d.P.W.crop.tr.zMin, aer := d.P.W.crop.tr.aer, zTop := d.P.W.soil.zTop, gs := d.D.gs,
    rain := d.D.rain, runoff := d.r.trace.r.runoff }

section c13day
variable {F : Fn α} {T : TrigFn α} {P : DayParams α} {st : DayState' α} {D : DayIn' α}
  {r : DayResult α}

theorem fullDay_irrigation (h : fullDay F T P st D = .ok r) :
    irrigation F P.W.irr r.trace.d.cells st.growthStage st.irrCum st.ePot st.tPot
        r.trace.rd.zRoot r.trace.tc.dap D.sched P.W.crop.tr.zMin P.W.crop.tr.aer P.W.soil.zTop D.gs
        D.rain r.trace.r.runoff = .ok r.trace.i ∧
      r.water.irr = r.trace.i.irr ∧ r.state.irrCum = r.trace.i.irrCum ∧
      r.growth.dap = r.trace.tc.dap := by
  obtain ⟨X, hs, rfl⟩ := fullDay_ok' h
  exact ⟨hs.water.hi, rfl, rfl, rfl⟩

end c13day

section c13
variable {F : Fn α} {T : TrigFn α} {cfg : RunCfg α} {s s' : RunState α}

theorem run_irr_day (hr : RunReach F T cfg s) :
    ∀ d ∈ s.daysRev, C13.day F d.P.W.irr d.st.irrCum d.irrIn = .ok d.r.trace.i ∧
      d.r.water.irr = d.r.trace.i.irr ∧ d.r.state.irrCum = d.r.trace.i.irrCum := by
  intro d hd
  obtain ⟨a, b, c, _⟩ := fullDay_irrigation (run_days hr d hd)
  exact ⟨a, b, c⟩

/-- `d.r.flux.irrDay` is the irrigation column of the `water_flux` row, `d.r.water.irr` the depth
`irrigation` applied; under net irrigation (method 4) the column holds `IrrNet + PreIrr` instead -/
theorem run_irr_column (hr : RunReach F T cfg s) :
    ∀ d ∈ s.daysRev,
      (d.D.gs = true → d.P.W.irr.method ≠ 4 → d.r.flux.irrDay = d.r.water.irr) ∧
      (d.D.gs = false → d.r.flux.irrDay = 0 ∧ d.r.water.irr = 0) := by
  intro d hd
  have hday := run_days hr d hd
  have hrow : d.r.flux.irrDay = if d.D.gs then (if d.P.W.irr.method = 4 then
      d.r.water.irrNet + d.r.water.preIrr else d.r.water.irr) else 0 := by
    have w := fullDay_waterOf hday
    obtain ⟨_, _, e⟩ := waterDay_ok w.day
    rw [w.irrDay, e]; rfl
  refine ⟨fun hg hm => ?_, fun hg => ?_⟩
  · rw [hrow, hg]; simp [hm]
  · obtain ⟨a, _, _⟩ := run_irr_day hr d hd
    refine ⟨by rw [hrow, hg]; simp, ?_⟩
    rw [(run_irr_day hr d hd).2.1]
    exact C13.none_offseason_rainfed_net F _ _ _ _ a (Or.inl hg)

theorem run_irr_cfg (hr : RunReach F T cfg s) :
    ∀ d ∈ s.daysRev,
      C13.day F (irrSetOf cfg d.D.season).irr d.st.irrCum d.irrIn = .ok d.r.trace.i ∧
      d.r.water.irr = d.r.trace.i.irr ∧
      d.irrIn.sched = (irrSetOf cfg d.D.season).sched d.D.tsc := by
  intro d hd
  obtain ⟨a, b, _⟩ := run_irr_day hr d hd
  have hc := run_dayCfg hr d hd
  rw [hc.irr] at a
  exact ⟨a, b, hc.sched⟩

theorem run_irr_none (hr : RunReach F T cfg s) :
    ∀ d ∈ s.daysRev,
      d.D.gs = false ∨ (irrSetOf cfg d.D.season).irr.method = 0 ∨
        (irrSetOf cfg d.D.season).irr.method = 4 → d.r.water.irr = 0 := by
  intro d hd hz
  obtain ⟨a, b, _⟩ := run_irr_cfg hr d hd
  rw [b]
  exact C13.none_offseason_rainfed_net F _ _ _ _ a hz

theorem run_irr_daily_max (hmax : ∀ season, 0 ≤ (irrSetOf cfg season).irr.maxIrr)
    (hr : RunReach F T cfg s) :
    ∀ d ∈ s.daysRev, 0 ≤ d.r.water.irr ∧
      d.r.water.irr ≤ (irrSetOf cfg d.D.season).irr.maxIrr := by
  intro d hd
  obtain ⟨a, b, _⟩ := run_irr_cfg hr d hd
  rw [b]
  exact C13.within_daily_max F _ _ _ _ a (hmax _)

theorem run_irr_interval_amount (hmax : ∀ season, 0 ≤ (irrSetOf cfg season).irr.maxIrr)
    (heff : ∀ season, (irrSetOf cfg season).irr.appEff ≤ 200) (hr : RunReach F T cfg s) :
    ∀ d ∈ s.daysRev, d.D.gs = true → d.P.W.irr.method = 2 →
      ((d.r.growth.dap : Int) - 1) % (d.P.W.irr.interval : Int) = 0 →
      d.r.water.irr = irrCap d.P.W.irr.maxSeason d.st.irrCum
        (pmin d.P.W.irr.maxIrr
          (pmax 0 d.r.trace.i.depletion * ((100 - d.P.W.irr.appEff + 100) / 100))) := by
  intro d hd hg hm hday'
  obtain ⟨a, b, _, e⟩ := fullDay_irrigation (run_days hr d hd)
  have hc := (run_dayCfg hr d hd).irr
  rw [b]
  rw [e] at hday'
  exact C13.interval_amount F d.P.W.irr d.st.irrCum d.irrIn d.r.trace.i a hg hm hday'
    (by rw [hc]; exact hmax _) (by rw [hc]; exact heff _)

/-- premises on the configuration for the seasonal cap: a non-negative `MaxIrrSeason` in both
irrigation-management records, and an initial counter not above the one in force at the start -/
structure IrrCapOK (cfg : RunCfg α) : Prop where
  maxSeason : ∀ season, 0 ≤ (irrSetOf cfg season).irr.maxSeason
  init : cfg.init.irrCum ≤ (irrSetOf cfg cfg.clock.season0).irr.maxSeason

/-- an invariant of the run only because the counter is reset at every season start, where the
irrigation-management record (and with it the maximum) may change -/
theorem run_season_cap (hK : IrrCapOK cfg) (hr : RunReach F T cfg s) :
    s.day.irrCum ≤ (irrSetOf cfg s.season).irr.maxSeason ∧
      ∀ d ∈ s.daysRev, d.st.irrCum ≤ (irrSetOf cfg d.D.season).irr.maxSeason ∧
        d.r.state.irrCum ≤ (irrSetOf cfg d.D.season).irr.maxSeason := by
  refine run_ind_season (H := fun _ => True)
    (I := fun k st => st.irrCum ≤ (irrSetOf cfg k).irr.maxSeason)
    (R := fun d => d.st.irrCum ≤ (irrSetOf cfg d.D.season).irr.maxSeason ∧
      d.r.state.irrCum ≤ (irrSetOf cfg d.D.season).irr.maxSeason)
    hK.init (fun {s s' d} _ _ hs h1 _ => ?_) (fun _ _ _ => hK.maxSeason _) hr (fun _ _ => trivial)
  obtain ⟨a, _, c, _⟩ := fullDay_irrigation hs.day
  have hirr : d.P.W.irr = (irrSetOf cfg s.season).irr := by rw [hs.P]; rfl
  rw [hirr] at a
  have h2 : d.r.state.irrCum ≤ (irrSetOf cfg s.season).irr.maxSeason := by
    rw [c]; exact irr_season_cap a (hK.maxSeason _) h1
  exact ⟨h2, by rw [hs.season]; exact ⟨h1, h2⟩⟩

theorem run_counter_reset (hr : RunReach F T cfg s) :
    List.IsChain (fun d2 d1 => d2.D.season ≠ d1.D.season →
      d2.D.season = d1.D.season + 1 ∧ d2.st.irrCum = 0 ∧ d2.st.irrNetCum = 0 ∧ d2.st.dap = 0 ∧
        d2.st.harvestFlag = false) s.daysRev := by
  refine (run_linked hr).imp (fun {d2 d1} h hne => ?_)
  rcases h with ⟨e, _⟩ | ⟨e1, e2⟩
  · exact absurd e hne
  · obtain ⟨r1, r2, r3, r4, _⟩ := resetState_fields cfg (cfg.seasonCrop d2.D.season.toNat) d1.r.state
    rw [e2]
    exact ⟨e1, r1, r2, r3, r4⟩

end c13

end Aqua

#print axioms Aqua.run_irr_day
#print axioms Aqua.run_irr_column
#print axioms Aqua.run_irr_none
#print axioms Aqua.run_irr_daily_max
#print axioms Aqua.run_irr_interval_amount
#print axioms Aqua.run_season_cap
#print axioms Aqua.run_counter_reset
