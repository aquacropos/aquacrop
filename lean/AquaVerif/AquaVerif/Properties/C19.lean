import AquaVerif.Proofs.WaterDay
import AquaVerif.Proofs.GwSeries
/-
Property C19 — shallow groundwater behaves consistently.

What is modelled: `check_groundwater_table` (`checkGroundwaterTable`: presence of the table in
the profile and the parabolic adjustment of field capacity within `Xmax` above it),
`capillary_rise`, `groundwater_inflow`, their place in the day (`waterDay`, steps 1, 8, 14) and
the daily table-depth series of `read_groundwater_table` (`gwSeries`, `Model/GwSeries.lean`).

What is quantified over: an arbitrary linearly ordered field, every `Fn`, every profile, table
depth, parameter record, state, day input and `CropDay`; every list of dated observations.
Statements are about successful calls.

Stated honestly:
* the range of the adjusted field capacity needs the law `PowSqLaw F` (`x ** 2 = x · x`,
  `Proofs/PowSq.lean`): the parabola factor is `(zMid − (zGW − Xmax)) ** 2` in the Python, i.e.
  C `pow(·, 2.0)`, and the model writes `F.pow · 2` there (`fcadj_range`, `day_fcadj_range`; at
  run level the law is the field `powSq` of `CfgOK.fn`);
* capillary rise lifts a compartment to at most `th_fc_adj + 1/20000` (or leaves it where it
  was): the code adds `min(dthMax, round(room, 4))`, and the rounded room can exceed the room
  (`cr_le_fcadj_with_slack`; needs the laws `0 < exp x`, `|round(x,4) − x| ≤ 1/20000`,
  `round(x,4) > 0 → x > 0`);
* "far below" for the field-capacity adjustment is tested **at the bottom compartment only**
  (`fcadj_far`): the loop leaves at the first compartment from the bottom that is `≥ Xmax` above
  the table;
* end-of-day saturation below the table: unconditionally `th ≥ th_s` for every compartment whose
  centre is at or below the table (groundwater inflow is the last process that writes `th`);
  `th = th_s` needs `th ≤ th_s` before the inflow, i.e. the premises of `C03.day_inv`;
* the "Variable" series is linear **in time** between consecutive observations, wherever they are
  dated (before the first simulated day, inside the period, after the last day): the table is
  de-duplicated (the last row of a date wins), sorted by date, and interpolated over dates
  (`gw_series_interpolated`; `gw_series_window_independent`: the length of the simulation does
  not enter); `NaN` before the first observation (`gw_series_before_first_nan`,
  `gw_series_nan_iff`), the last depth from the last observation on (`gw_series_after_last`).
  "Consecutive" is a premise of `gw_series_interpolated`: both rows are the last rows of their
  dates and no row of the table is dated strictly between them.
Here: the theorems about each process and about one day (`waterDay`); the theorems along a run
are in `Properties/C19Run.lean`.
-/

set_option linter.unusedSectionVars false
namespace Aqua.C19
open Aqua
variable {α : Type} [Field α] [LinearOrder α] [IsStrictOrderedRing α]

/-! ### adjusted field capacity -/

/-- With a water table, the adjusted field capacity of every (well-formed) compartment lies
between its field capacity and saturation. -/
theorem fcadj_range {F : Fn α} (hF : PowSqLaw F) (cells : List (Cell α)) (zGW : α) (r : GwtOut α)
    (hwf : ∀ x ∈ cells, x.c.WF) (h : checkGroundwaterTable F cells 1 zGW = some r) :
    ∀ y ∈ r.cells, y.c.WF ∧ y.c.thFC ≤ y.fcAdj ∧ y.fcAdj ≤ y.c.thS :=
  forall_of_forall₂ (checkGroundwaterTable_frame F cells 1 zGW r h)
    (fun x _ hr (hx : x.c.WF) => hr.1 ▸ ⟨hx, hr.2.2.2.2.2 rfl hF hx.fc_s⟩) hwf

/-- … and equals field capacity everywhere when the table is at least `Xmax` below the centre of
the bottom compartment. -/
theorem fcadj_far (F : Fn α) (front : List (Cell α)) (last : Cell α) (zGW : α) (r : GwtOut α)
    (hfar : gwXmax F last.c.thFC ≤ zGW - last.c.zMid)
    (h : checkGroundwaterTable F (front ++ [last]) 1 zGW = some r) :
    ∀ y ∈ r.cells, y.fcAdj = y.c.thFC := by
  rw [fcAdj_far F front last zGW (checkGroundwaterTable_ok F _ zGW r h).1 hfar] at h
  rw [← Option.some.inj h]
  intro y hy
  simp only [List.mem_map] at hy
  obtain ⟨x, _, rfl⟩ := hy
  rfl

/-- When step 1 returns, it reports "table in the profile" exactly when some compartment centre is
at or below the table, and the depth it was given is non-negative (a negative one raises). -/
theorem table_in_soil_iff (F : Fn α) (cells : List (Cell α)) (zGW : α) (r : GwtOut α)
    (h : checkGroundwaterTable F cells 1 zGW = some r) :
    r.table = true ∧ r.zGW = zGW ∧ 0 ≤ zGW ∧ (r.wtInSoil = true ↔ ∃ x ∈ cells, zGW ≤ x.c.zMid) :=
  checkGroundwaterTable_wt F cells zGW r h

/-! ### saturation below the table -/

/-- After groundwater inflow every compartment whose centre is at or below the table is exactly
saturated (given `th ≤ th_s` before). -/
theorem below_table_saturated (cells : List (Cell α)) (zGW : α) (r : List (Cell α) × α)
    (hle : ∀ x ∈ cells, x.th ≤ x.c.thS) (h : groundwaterInflow cells true zGW = some r) :
    ∀ y ∈ r.1, zGW ≤ y.c.zMid → y.th = y.c.thS := by
  obtain ⟨hf, -, -, hsat⟩ := groundwaterInflow_spec cells true zGW r h
  intro y hy hz
  have hge := hsat rfl y hy hz
  obtain ⟨x, hx, hc, -, -, -, -, hth⟩ := forall₂_mem_right hf hy
  apply le_antisymm _ hge
  rcases hth with e | ⟨_, e⟩
  · rw [hc, e]; exact hle x hx
  · rw [hc, e]

/-- When the centre of the top compartment is at or below the table, every compartment of the
profile is filled to at least saturation, whatever its own centre. -/
theorem below_table_saturated_downwards (x : Cell α) (xs : List (Cell α)) (zGW : α)
    (hz : zGW ≤ x.c.zMid) :
    groundwaterInflow (x :: xs) true zGW = some (gwFill (x :: xs) 0) ∧
      ∀ y ∈ (gwFill (x :: xs) 0).1, y.c.thS ≤ y.th := by
  refine ⟨by simp [groundwaterInflow, gwSeek, hz], ?_⟩
  rw [gwFill_eq]
  exact List.forall_mem_map.2 fun _ _ => le_max_right _ _

variable {F : Fn α} {W : WaterParams α} {fm : FieldMngt α} {C : CropDay α}
  {cells : List (Cell α)} {S : DayState α} {D : DayIn α} {out : DayOut α}

/-- **At the end of the day**, when the table is in the profile (`hin`), every compartment whose
centre lies at or below the table holds at least its saturation content — for every `CropDay` and
with no premise on the inputs: groundwater inflow is the last process of the day that writes `th`. -/
theorem day_below_table_saturated (h : waterDay F W fm C cells S D = .ok out)
    (hin : out.wtInSoil = true) : ∀ y ∈ out.cells, out.zGW ≤ y.c.zMid → y.c.thS ≤ y.th := by
  obtain ⟨T, hs, rfl⟩ := waterDay_ok h
  exact (groundwaterInflow_spec _ _ _ _ hs.hw).2.2.2 hin

/-- … and exactly its saturation content under the premises of `C03.day_inv`. -/
theorem day_below_table_saturated_exact (h : waterDay F W fm C cells S D = .ok out)
    (hP : DayPre F W cells S) (wp fc : Nat → α) (hT : DayTrPre F W C cells wp fc)
    (hL : W.waterTable = 1 → GwExpLaws F ∧ GwRoundLaws F ∧ GwRoundSign F)
    (hNo : ∀ y ∈ out.crCells, y.th ≤ y.c.thS) (hin : out.wtInSoil = true) :
    ∀ y ∈ out.cells, out.zGW ≤ y.c.zMid → y.th = y.c.thS := by
  obtain ⟨T, hs, rfl⟩ := waterDay_ok h
  have t_inv := (day_late_inv hs hP.smt wp fc hT
    (day_cr_inv hs (day_mid hs hP).f_inv hL hNo)).2.1
  have hw := hs.hw
  simp only [dayOutOf] at hin
  rw [hin] at hw
  exact below_table_saturated _ _ _ (fun x hx => (t_inv x hx).th_hi) hw

/-! ### the day's table report and adjusted field capacity -/

/-- With a water table the day reports the table depth it was given, and "table in the profile"
exactly when some compartment centre is at or below it. -/
theorem day_table (h : waterDay F W fm C cells S D = .ok out) (hwt : W.waterTable = 1) :
    out.zGW = D.zGW ∧ 0 ≤ D.zGW ∧ (out.wtInSoil = true ↔ ∃ x ∈ cells, D.zGW ≤ x.c.zMid) := by
  obtain ⟨T, hs, rfl⟩ := waterDay_ok h
  have hg := hs.hg
  rw [hwt] at hg
  obtain ⟨_, a, b, c⟩ := checkGroundwaterTable_wt F cells D.zGW T.g hg
  exact ⟨a, b, c⟩

/-- With a water table the adjusted field capacity of every (well-formed) compartment is within
`[th_fc, th_s]` at the end of the day (it is written by step 1 only). -/
theorem day_fcadj_range (hF : PowSqLaw F) (h : waterDay F W fm C cells S D = .ok out)
    (hwt : W.waterTable = 1) (hwf : ∀ x ∈ cells, x.c.WF) :
    ∀ y ∈ out.cells, y.c.thFC ≤ y.fcAdj ∧ y.fcAdj ≤ y.c.thS := by
  obtain ⟨T, hs, rfl⟩ := waterDay_ok h
  have hdz : ∀ x ∈ cells, 0 < x.c.dz := fun x hx => (hwf x hx).dz_pos
  have hcs := day_comps hs
  have hg := hs.hg
  rw [hwt] at hg
  have r := fcadj_range hF cells D.zGW T.g hwf hg
  have hpair : T.w.1.map (fun x => (x.c, x.fcAdj)) = T.g.cells.map (fun x => (x.c, x.fcAdj)) := by
    rw [← List.zip_map', ← List.zip_map', hcs.w.trans hcs.g.symm, (day_fcAdj hs).2]
  exact forall_of_map_eq (fun x : Cell α => (x.c, x.fcAdj)) hpair
    (fun p => p.1.thFC ≤ p.2 ∧ p.2 ≤ p.1.thS) (fun x hx => (r x hx).2)

/-! ### capillary rise; a table far below -/

/-- Capillary rise never lowers a water content and never lifts a compartment above its adjusted
field capacity **plus 1/20000** (or leaves it where it was). -/
theorem cr_le_fcadj_with_slack (F : Fn α) (hE : GwExpLaws F) (hR : GwRoundLaws F)
    (hS : GwRoundSign F) (cells : List (Cell α)) (nLayer : Nat) (fshape zGW : α) (wt : Nat)
    (r : CROut α) (hdz : ∀ x ∈ cells, 0 < x.c.dz)
    (h : capillaryRise F cells nLayer fshape zGW wt = .ok r) :
    ∀ y ∈ r.cells, ∃ x ∈ cells, y.c = x.c ∧ y.fcAdj = x.fcAdj ∧ x.th ≤ y.th ∧
      y.th ≤ max x.th (x.fcAdj + 1 / 20000) :=
  capillaryRise_bounds F hE hR hS cells nLayer fshape zGW wt r hdz h

/-- A table 4 m or more below the centre of the bottom compartment: no capillary rise, profile
unchanged. -/
theorem far_table_no_rise (F : Fn α) (h0 : GwRound0Laws F) (front : List (Cell α))
    (last : Cell α) (fshape zGW : α) (hfar : 4 ≤ zGW - last.c.zMid) :
    capillaryRise F (front ++ [last]) last.c.layer fshape zGW 1 =
      .ok { cells := front ++ [last], crTot := 0, crAdded := 0, dzFill := 0, nIter := 0,
            nCap := 0, nFill := 0 } := by
  have hlim : crLimit F zGW last.c.zMid last.c = 0 := by
    unfold crLimit
    rw [if_neg fun h => absurd h.2.2 (not_lt.mpr hfar)]
  unfold capillaryRise
  simp only [one_ne_zero, if_false, if_true, List.reverse_append, List.reverse_singleton,
    List.singleton_append, ne_eq, not_true_eq_false, hlim]
  rw [crLoop, if_neg fun h => absurd h.1 (by rw [zero_mul, h0.round0_zero]; exact lt_irrefl _)]
  simp

/-- … at day level: the reported capillary rise is 0 (and nothing was added). -/
theorem day_far_table_no_rise (h : waterDay F W fm C cells S D = .ok out) (h0 : GwRound0Laws F)
    (front : List (Cell α)) (last : Cell α) (hcells : cells = front ++ [last])
    (hdz : ∀ x ∈ cells, 0 < x.c.dz) (hfar : 4 ≤ D.zGW - last.c.zMid) :
    out.cr = 0 ∧ out.crAdded = 0 ∧ out.dzFill = 0 := by
  obtain ⟨T, hs, rfl⟩ := waterDay_ok h
  have hc := hs.hc
  simp only [dayOutOf]
  by_cases hw1 : W.waterTable = 1
  swap
  · rw [daySteps_cr_no_table hs hw1]
    exact ⟨rfl, rfl, rfl⟩
  · have hg := hs.hg
    rw [hw1] at hg
    obtain ⟨_, hz, _, _⟩ := checkGroundwaterTable_wt F cells D.zGW T.g hg
    have hmap := (day_comps hs).f
    rw [hcells] at hmap
    obtain ⟨l1, l', hl, hl'⟩ := exists_snoc_of_map_c hmap
    rw [hw1, hz, hl] at hc
    obtain ⟨b, above, hrev, hlay, _⟩ := capillaryRise_table F _ _ _ _ _ hc
    have hb : b = l' := by
      rw [List.reverse_append, List.reverse_singleton, List.singleton_append] at hrev
      exact (List.cons.inj hrev).1.symm
    rw [← hlay, hb, far_table_no_rise F h0 l1 l' _ _ (by rw [hl']; exact hfar)] at hc
    rw [← Except.ok.inj hc]
    exact ⟨rfl, rfl, rfl⟩

/-- A table below every compartment centre gives no groundwater inflow. -/
theorem day_table_below_profile_no_inflow (h : waterDay F W fm C cells S D = .ok out)
    (hlow : ∀ x ∈ cells, x.c.zMid < D.zGW) : out.wtInSoil = false ∧ out.gwIn = 0 := by
  obtain ⟨T, hs, rfl⟩ := waterDay_ok h
  have hwi : T.g.wtInSoil = false := by
    by_cases hwt : W.waterTable = 1
    · have hg := hs.hg
      rw [hwt] at hg
      obtain ⟨_, _, _, c⟩ := checkGroundwaterTable_wt F cells D.zGW T.g hg
      cases hb : T.g.wtInSoil with
      | false => rfl
      | true =>
        obtain ⟨x, hx, hz⟩ := c.1 hb
        exact absurd hz (not_le.mpr (hlow x hx))
    · have hg := hs.hg
      rw [checkGroundwaterTable_no_table F cells _ D.zGW hwt] at hg
      rw [← Option.some.inj hg]
  have hw := hs.hw
  rw [hwi, groundwaterInflow_no_table] at hw
  simp only [dayOutOf]
  exact ⟨hwi, by rw [← Option.some.inj hw]⟩

/-! ### no table -/

/-- Without a water table the three groundwater processes do nothing: the check leaves the cells
alone, capillary rise and groundwater inflow are zero with the profile unchanged. -/
theorem no_table_zero_fluxes (F : Fn α) (cells : List (Cell α)) (nLayer : Nat) (fshape zGW : α) :
    checkGroundwaterTable F cells 0 zGW =
        some { cells := cells, table := false, wtInSoil := false, zGW := zGW } ∧
    capillaryRise F cells nLayer fshape zGW 0 =
        .ok { cells := cells, crTot := 0, crAdded := 0, dzFill := 0, nIter := 0, nCap := 0,
              nFill := 0 } ∧
    groundwaterInflow cells false zGW = some (cells, 0) :=
  ⟨checkGroundwaterTable_no_table F cells 0 zGW (by decide),
   capillaryRise_no_table F cells nLayer fshape zGW, groundwaterInflow_no_table cells zGW⟩

/-- **Without a water table the day's capillary rise and groundwater inflow are zero** and the
adjusted field capacity is left alone — for every `CropDay`. -/
theorem day_no_table_zero_fluxes (h : waterDay F W fm C cells S D = .ok out)
    (hwt : W.waterTable ≠ 1) (hdz : ∀ x ∈ cells, 0 < x.c.dz) :
    out.cr = 0 ∧ out.crAdded = 0 ∧ out.gwIn = 0 ∧ out.wtInSoil = false ∧
      out.cells.map (·.fcAdj) = cells.map (·.fcAdj) := by
  obtain ⟨T, hs, rfl⟩ := waterDay_ok h
  have hg := hs.hg
  rw [checkGroundwaterTable_no_table F cells _ D.zGW hwt] at hg
  have hg' := Option.some.inj hg
  have hwi : T.g.wtInSoil = false := by rw [← hg']
  have hw := hs.hw
  rw [hwi, groundwaterInflow_no_table] at hw
  have hc := daySteps_cr_no_table hs hwt
  simp only [dayOutOf]
  refine ⟨by rw [hc], by rw [hc], by rw [← Option.some.inj hw], hwi, ?_⟩
  rw [(day_fcAdj hs).2, ← hg']

/-- **A water table far below the profile gives the same day as none**: with the table below every
compartment centre, at least `Xmax` and at least 4 m below the centre of the bottom compartment,
and a profile whose adjusted field capacity equals field capacity (as it does without a table),
`waterDay` with the table equals `waterDay` without one (whatever depth is passed then) in every
output — cells, ponding, all fluxes, all state — except the reported table depth; errors coincide
too.  `hlay` is the layer assertion `capillary_rise` makes only when there is a table. -/
theorem day_far_table_equals_none (F : Fn α) (h0 : GwRound0Laws F) (W : WaterParams α)
    (fm : FieldMngt α) (C : CropDay α) (front : List (Cell α)) (last : Cell α) (S : DayState α)
    (D : DayIn α) (z' : α)
    (hdz : ∀ x ∈ front ++ [last], 0 < x.c.dz)
    (hfc : ∀ x ∈ front ++ [last], x.fcAdj = x.c.thFC)
    (hz : 0 ≤ D.zGW) (hlow : ∀ x ∈ front ++ [last], x.c.zMid < D.zGW)
    (hX : gwXmax F last.c.thFC ≤ D.zGW - last.c.zMid) (h4 : 4 ≤ D.zGW - last.c.zMid)
    (hlay : W.soil.nLayer = last.c.layer) :
    (waterDay F { W with waterTable := 1 } fm C (front ++ [last]) S D).map DayOut.noZGW =
      (waterDay F { W with waterTable := 0 } fm C (front ++ [last]) S { D with zGW := z' }).map
        DayOut.noZGW := by
  have hg1 : checkGroundwaterTable F (front ++ [last]) 1 D.zGW =
      some { cells := front ++ [last], table := true, wtInSoil := false, zGW := D.zGW } := by
    have hno : anyMidGE D.zGW (front ++ [last]) = false :=
      Bool.eq_false_iff.2 fun hb =>
        let ⟨x, hx, hz⟩ := (anyMidGE_iff D.zGW _).1 hb
        absurd hz (not_le.2 (hlow x hx))
    rw [fcAdj_far F front last D.zGW hz hX, map_resetFC_id _ hfc, hno]
  have hg0 : checkGroundwaterTable F (front ++ [last]) 0 z' =
      some { cells := front ++ [last], table := false, wtInSoil := false, zGW := z' } :=
    checkGroundwaterTable_no_table F _ 0 z' (by decide)
  rw [waterDay_map DayOut.noZGW hg1, waterDay_map DayOut.noZGW hg0]
  -- the two runs of `waterDayRest` read the table at two places only: capillary rise (below,
  -- `hc`) and groundwater inflow (`wtInSoil = false` in both)
  unfold waterDayRest
  refine map_bind_congr fun p hp => map_bind_congr fun r _ => map_bind_congr fun i _ =>
    map_bind_congr fun f hf => ?_
  have hfc' : f.cells.map (·.c) = (front ++ [last]).map (·.c) :=
    ((infiltration_frame hf (·.c) (fun _ _ => rfl) fun _ _ => rfl).trans (drainage_frame F p.1 (·.c) (fun _ _ => rfl) fun _ _ => rfl)).trans
      (map_eq_of_forall₂ (preIrrigationR_spec _ _ _ _ _ _ _ _ _ (optErr_ok hp)).1 (·.c)
        (fun x y h => h.1))
  obtain ⟨l1, l', hl, hl'⟩ := exists_snoc_of_map_c hfc'
  have hc : capillaryRise F f.cells W.soil.nLayer W.soil.fshapeCR D.zGW 1 =
      capillaryRise F f.cells W.soil.nLayer W.soil.fshapeCR z' 0 := by
    rw [capillaryRise_no_table, hl, hlay, ← congrArg Comp.layer hl']
    exact far_table_no_rise F h0 l1 l' _ _ (by rw [hl']; exact h4)
  dsimp only
  rw [hc]
  refine map_bind_congr fun c _ => map_bind_congr fun e _ => map_bind_congr fun t _ => ?_
  rw [groundwaterInflow_no_table, groundwaterInflow_no_table]
  exact map_bind_congr fun w _ => map_bind_congr fun rz _ => rfl

/-! ### the daily table-depth series -/

/-- "Constant" method: on simulation day `i` the depth is that of the last observation dated on
or before day `i` (all later rows being dated after `i`) — a step function. -/
theorem gw_series_constant (n : Nat) (pre post : List (Int × α)) (d : Int) (v : α) (i : Nat)
    (hi : i < n) (hd : d ≤ Int.ofNat i) (hpost : ∀ q ∈ post, Int.ofNat i < q.1) :
    (gwConstant n (pre ++ (d, v) :: post))[i]? = some (some v) := by
  rw [gwConstant_getElem n _ i hi, gw_constant (Int.ofNat i) true pre post d v none hd hpost]

/-- … and before the first observation's date its depth holds as well. -/
theorem gw_series_constant_before_first (n : Nat) (d0 : Int) (v0 : α) (rest : List (Int × α))
    (i : Nat) (hi : i < n) (hrest : ∀ q ∈ rest, Int.ofNat i < q.1) :
    (gwConstant n ((d0, v0) :: rest))[i]? = some (some v0) := by
  rw [gwConstant_getElem n _ i hi, gw_constant_first (Int.ofNat i) d0 v0 rest none hrest]

/-- A single observation gives a constant series, whatever the method. -/
theorem gw_series_single (n : Nat) (me : GwMethod) (d : Int) (v : α) :
    gwSeries n me [(d, v)] = .ok (List.replicate n (some v)) :=
  rfl

/-- "Variable" method: on an observation day inside the simulation the series has exactly the
observed depth. -/
theorem gw_series_at_observation (n : Nat) (pre post : List (Int × α)) (d : Nat) (v : α)
    (hd : d < n) (hpost : ∀ q ∈ post, q.1 ≠ Int.ofNat d) :
    (gwVariable n (pre ++ (Int.ofNat d, v) :: post))[d]? = some (some v) :=
  gw_variable_at_obs n pre post d v hd hpost

/-- "Variable" method: **between two consecutive observations** `(d0, v0)` and `(d1, v1)` — each the
last row of the table carrying its date, no row of the table dated strictly between `d0` and
`d1` — a simulation day `i` with `d0 ≤ i < d1` has the depth on the straight line *in time*
`v0 + (v1 − v0)·(i − d0)/(d1 − d0)`.  Dates are day offsets from the first simulated day; `d0`
may be negative and `d1` may be `≥ n` (observations outside the simulated period). -/
theorem gw_series_interpolated (n : Nat) (obs pre0 post0 pre1 post1 : List (Int × α))
    (d0 d1 : Int) (v0 v1 : α) (i : Nat) (hi : i < n)
    (e0 : obs = pre0 ++ (d0, v0) :: post0) (hpost0 : ∀ q ∈ post0, q.1 ≠ d0)
    (e1 : obs = pre1 ++ (d1, v1) :: post1) (hpost1 : ∀ q ∈ post1, q.1 ≠ d1)
    (hno : ∀ q ∈ obs, ¬ (d0 < q.1 ∧ q.1 < d1)) (h0 : d0 ≤ Int.ofNat i) (h1 : Int.ofNat i < d1) :
    (gwVariable n obs)[i]? =
      some (some ((v1 - v0) / ((d1 - d0 : Int) : α) * ((Int.ofNat i - d0 : Int) : α) + v0)) :=
  gw_variable_between n obs pre0 post0 pre1 post1 d0 d1 v0 v1 i hi e0 hpost0 e1 hpost1 hno h0 h1

/-- … and that depth lies between the two observed depths. -/
theorem gw_series_interpolated_within (n : Nat) (obs pre0 post0 pre1 post1 : List (Int × α))
    (d0 d1 : Int) (v0 v1 : α) (i : Nat) (hi : i < n)
    (e0 : obs = pre0 ++ (d0, v0) :: post0) (hpost0 : ∀ q ∈ post0, q.1 ≠ d0)
    (e1 : obs = pre1 ++ (d1, v1) :: post1) (hpost1 : ∀ q ∈ post1, q.1 ≠ d1)
    (hno : ∀ q ∈ obs, ¬ (d0 < q.1 ∧ q.1 < d1)) (h0 : d0 ≤ Int.ofNat i) (h1 : Int.ofNat i < d1) :
    ∃ z, (gwVariable n obs)[i]? = some (some z) ∧ min v0 v1 ≤ z ∧ z ≤ max v0 v1 :=
  ⟨_, gw_variable_between n obs pre0 post0 pre1 post1 d0 d1 v0 v1 i hi e0 hpost0 e1 hpost1 hno h0 h1,
    gw_line_bounds (Int.ofNat i) d0 d1 v0 v1 h0 h1⟩

/-- "Variable" method: a simulation day before every observation is `NaN`. -/
theorem gw_series_before_first_nan (n : Nat) (obs : List (Int × α)) (i : Nat) (hi : i < n)
    (h : ∀ q ∈ obs, Int.ofNat i < q.1) : (gwVariable n obs)[i]? = some none := by
  rw [gwVariable_getElem n _ i hi]
  cases hpts : sortByDate (dedupLast obs) with
  | nil => rfl
  | cons p ps =>
    have hp : p ∈ obs := dedupLast_subset obs p ((sortByDate_mem _ _).mp (by rw [hpts]; simp))
    rw [gwVarAt_before_first _ p ps (h p hp)]

/-- … and only those days: day `i` has a depth exactly when some observation is dated on or before
it. -/
theorem gw_series_nan_iff (n : Nat) (obs : List (Int × α)) (i : Nat) (hi : i < n) :
    (∃ z, (gwVariable n obs)[i]? = some (some z)) ↔ ∃ q ∈ obs, q.1 ≤ Int.ofNat i := by
  rw [gwVariable_getElem n _ i hi]
  have hs := gwPts_strict obs
  cases hpts : sortByDate (dedupLast obs) with
  | nil =>
    constructor
    · rintro ⟨z, hz⟩; simp [gwVarAt] at hz
    · rintro ⟨q, hq, _⟩
      obtain ⟨q', hq', _⟩ := dedupLast_date_mem obs q hq
      have := (sortByDate_mem _ _).mpr hq'
      rw [hpts] at this; simp at this
  | cons p ps =>
    rw [hpts] at hs
    have hp : p ∈ obs := dedupLast_subset obs p ((sortByDate_mem _ _).mp (by rw [hpts]; simp))
    have e : (∃ z, some (gwVarAt (Int.ofNat i) (p :: ps)) = some (some z)) ↔ p.1 ≤ Int.ofNat i := by
      simp only [Option.some.injEq, ← Option.ne_none_iff_exists', ne_eq, gwVarAt_eq_none_iff,
        Int.not_lt]
    rw [e]
    constructor
    · exact fun h => ⟨p, hp, h⟩
    · rintro ⟨q, hq, hqi⟩
      obtain ⟨q', hq', e'⟩ := dedupLast_date_mem obs q hq
      have hq'' : q' ∈ p :: ps := by rw [← hpts]; exact (sortByDate_mem _ _).mpr hq'
      rcases List.mem_cons.mp hq'' with rfl | h
      · omega
      · have := (List.pairwise_cons.mp hs).1 q' h; omega

/-- "Variable" method: from the latest observation date on (the row being the last one carrying
that date) the series holds that depth. -/
theorem gw_series_after_last (n : Nat) (pre post : List (Int × α)) (d : Int) (v : α) (i : Nat)
    (hi : i < n) (hpost : ∀ q ∈ post, q.1 ≠ d)
    (hlast : ∀ q ∈ pre ++ (d, v) :: post, q.1 ≤ d) (hd : d ≤ Int.ofNat i) :
    (gwVariable n (pre ++ (d, v) :: post))[i]? = some (some v) := by
  rw [gwVariable_getElem n _ i hi]
  have hm := (sortByDate_mem _ _).mpr (dedupLast_mem_of_last pre post d v hpost)
  obtain ⟨s, t, e⟩ := List.append_of_mem hm
  have hs := gwPts_strict (pre ++ (d, v) :: post)
  have ht : t = [] := by
    cases t with
    | nil => rfl
    | cons c t' =>
      exfalso
      have hc : c ∈ sortByDate (dedupLast (pre ++ (d, v) :: post)) := by rw [e]; simp
      have hc' := hlast c (dedupLast_subset _ c ((sortByDate_mem _ _).mp hc))
      rw [e] at hs
      have : d < c.1 :=
        (List.pairwise_cons.mp (List.pairwise_append.mp hs).2.1).1 c List.mem_cons_self
      omega
  subst ht
  rw [e] at hs ⊢
  rw [gwVarAt_after_last (Int.ofNat i) s d v hs hd]

/-- "Variable" method: **the length of the simulation does not enter** — a day covered by two
simulations of different length (same start, same table) has the same depth in both. -/
theorem gw_series_window_independent (n m : Nat) (obs : List (Int × α)) (i : Nat) (hn : i < n)
    (hm : i < m) : (gwVariable n obs)[i]? = (gwVariable m obs)[i]? :=
  gw_variable_window_independent n m obs i hn hm

/-- "Variable" method: the order of the rows of a table with distinct dates does not matter. -/
theorem gw_series_row_order_irrelevant (n : Nat) (obs obs' : List (Int × α)) (hp : obs.Perm obs')
    (h : obs.Pairwise (fun a b => a.1 ≠ b.1)) : gwVariable n obs = gwVariable n obs' := by
  have h' : obs'.Pairwise (fun a b => a.1 ≠ b.1) :=
    (hp.pairwise_iff (fun {x y} (hxy : x.1 ≠ y.1) => hxy.symm)).mp h
  unfold gwVariable
  simp only [dedupLast_of_distinct obs h, dedupLast_of_distinct obs' h',
    sortByDate_perm_eq obs obs' hp h]

/-- "Variable" method: starting the simulation `k` days later (every date offset decreases by `k`)
gives the old series from day `k` on. -/
theorem gw_series_start_shift (n k : Nat) (obs : List (Int × α)) (i : Nat) (hi : i < n) :
    (gwVariable n (shiftDates (-(k : Int)) obs))[i]? = (gwVariable (n + k) obs)[i + k]? := by
  rw [gwVariable_getElem n _ i hi, gwVariable_getElem (n + k) _ (i + k) (by omega)]
  rw [dedupLast_shift, sortByDate_shift]
  have e : Int.ofNat i = Int.ofNat (i + k) + (-(k : Int)) := by
    simp only [Int.ofNat_eq_natCast, Int.natCast_add]; omega
  rw [e, gwVarAt_shift]

/-! ### non-vacuity -/

/-- the concrete day of `Proofs/WaterDay.lean` has a water table at 1 m below a 0.4 m profile:
positive capillary rise, no groundwater inflow, adjusted field capacity within limits -/
example : ∃ out, waterDay DayExample.Fq DayExample.Wq DayExample.fmq DayExample.Cq
      DayExample.cellsq DayExample.Sq DayExample.Dq = .ok out ∧ 0 < out.cr ∧ out.gwIn = 0 ∧
    (∀ y ∈ out.cells, y.c.thFC ≤ y.fcAdj ∧ y.fcAdj ≤ y.c.thS) := by
  obtain ⟨out, h, _, hcr, _⟩ := DayExample.runs
  refine ⟨out, h, hcr, ?_, day_fcadj_range DayExample.Fq_sq h rfl
    (fun x hx => (DayExample.cells_pre x hx).inv.wf)⟩
  refine (day_table_below_profile_no_inflow h ?_).2
  intro x hx
  simp only [DayExample.cellsq, List.mem_cons, List.not_mem_nil, or_false] at hx
  rcases hx with rfl | rfl | rfl | rfl <;> norm_num [DayExample.cq, DayExample.Dq]

/-- observations on day 1 (1 m) and day 3 (2 m) of a 5-day run: `NaN` before, linear on day 2, last
value held -/
example : gwVariable 5 [((1 : Int), (1 : ℚ)), (3, 2)] =
    [none, some 1, some (3 / 2), some 2, some 2] := by
  decide +kernel

/-- observations 10 days before the start (1 m), on day 5 (2.5 m) and 9 days after the last day
(4 m) of an 11-day run: straight lines in time through all three -/
example : gwVariable 11 [((-10 : Int), (1 : ℚ)), (5, 5/2), (20, 4)] =
    [some 2, some (21/10), some (11/5), some (23/10), some (12/5), some (5/2), some (13/5),
     some (27/10), some (14/5), some (29/10), some 3] := by
  decide +kernel

/-- `gw_series_interpolated` with both observations outside a 3-day simulation (`d0 = −2`,
`d1 = 7`), rows not in date order: day 1 is at 1 + 3·3/9 = 2 m -/
example : (gwVariable 3 [((7 : Int), (4 : ℚ)), (-2, 1)])[1]? = some (some 2) := by
  rw [gw_series_interpolated 3 [((7 : Int), (4 : ℚ)), (-2, 1)] [((7 : Int), (4 : ℚ))] [] []
    [((-2 : Int), (1 : ℚ))] (-2) 7 1 4 1 (by decide) rfl (by simp) rfl (by simp) (by simp)
    (by decide) (by decide)]
  norm_num

end Aqua.C19
