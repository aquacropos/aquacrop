import AquaVerif.Proofs.CatalogueCfg

/-
Property C03 along a run: the theorems of `Properties/C03.lean` on every simulated day of every
run of `runModel` (the run-level lemma files rest on the day-level theorems of that file, so these
cannot stand in it).
-/

set_option linter.unusedSectionVars false
namespace Aqua.C03
open Aqua
variable {α : Type} [Field α] [LinearOrder α] [IsStrictOrderedRing α]

/-! ### every simulated day of every run -/

/-- **Run level.** Starting from an initial water content within limits, on every reachable day of
every run every compartment satisfies `Cell.Inv` (air-dry ≤ θ ≤ saturation, adjusted field
capacity within [FC, SAT]) and ponding is non-negative — by induction over the run (premises as
in `C01.run_closes`). -/
theorem run_inv {F : Fn α} {T : TrigFn α} {cfg : RunCfg α} {s : RunState α}
    (hP : RunPre F cfg) (wp fc : Nat → α) (hr : RunReach F T cfg s)
    (hOK : ∀ d ∈ s.daysRev, DayOK F wp fc d) :
    WaterInv cfg s ∧ ∀ d ∈ s.daysRev, DayPre F d.P.W d.st.cells d.st.water ∧
      (∀ y ∈ d.r.state.cells, y.Inv) ∧ 0 ≤ d.r.state.pond :=
  Aqua.run_inv hP wp fc hr hOK

/-- **Run level.** (Premises as in `run_inv`.)  After every simulated day ponded water is zero when
no (effective) bunds are configured; with bunds it is not above the bund height after a day that
started with it not above, given `0 ≤ EsPot`, `0 ≤ TrPot` and `LagAerIntegral` of that day. -/
theorem run_pond_bounds {F : Fn α} {T : TrigFn α} {cfg : RunCfg α} {s : RunState α}
    (hP : RunPre F cfg) (wp fc : Nat → α) (hr : RunReach F T cfg s)
    (hOK : ∀ d ∈ s.daysRev, DayOK F wp fc d) :
    ∀ d ∈ s.daysRev, (d.P.fm.bunds = false ∨ d.P.fm.zBund ≤ 0.001 → d.r.state.pond = 0) ∧
      (d.P.fm.bunds = true → d.st.pond ≤ d.P.fm.zBund → 0 ≤ d.r.flux.esPot →
        0 ≤ d.r.flux.trPot → LagAerIntegral d.P.W → d.r.state.pond ≤ d.P.fm.zBund) :=
  Aqua.run_pond_bounds hP wp fc hr hOK

/-! ### run level, per-day premises discharged (`Proofs/RunClosed*.lean`) -/

section closed

/-- **Run level, closed.** `th_dry ≤ th ≤ th_s` and ponding ≥ 0 in every reachable state and at
both ends of every simulated day, the compartments' parameters unchanged in every reachable
state — `CfgOK` and the capillary-rise residual only. -/
theorem run_inv_closed {F : Fn α} {T : TrigFn α} {cfg : RunCfg α} {s : RunState α}
    (hC : CfgOK F T cfg) (hr : RunReach F T cfg s) (hR : ∀ d ∈ s.daysRev, ResidualW d) :
    WaterInv cfg s ∧ ∀ d ∈ s.daysRev, DayPre F d.P.W d.st.cells d.st.water ∧
      (∀ y ∈ d.r.state.cells, y.Inv) ∧ 0 ≤ d.r.state.pond :=
  Aqua.run_inv_closed hC hr hR

/-- ponded water: ≥ 0, zero without (effective) bunds, with bunds not above them after a day that
started with it not above — under the premises of `C04.run_flux_closed`, which discharge
`0 ≤ EsPot`, `0 ≤ TrPot`, `LagAerIntegral` of `run_pond_bounds`. -/
theorem run_pond_bounds_closed {F : Fn α} {T : TrigFn α} {cfg : RunCfg α} {s : RunState α} {A : α}
    (hC : CfgOK F T cfg) (hT : CfgTrOK F cfg A) (hJ : CfgRwOK F cfg) (hE : CfgEsOK cfg)
    (hW : WeatherOK F cfg) (hr : RunReach F T cfg s) (hR : ∀ d ∈ s.daysRev, ResidualW d) :
    ∀ d ∈ s.daysRev, 0 ≤ d.r.state.pond ∧
      (d.P.fm.bunds = false ∨ d.P.fm.zBund ≤ 0.001 → d.r.state.pond = 0) ∧
      (d.P.fm.bunds = true → d.st.pond ≤ d.P.fm.zBund → d.r.state.pond ≤ d.P.fm.zBund) :=
  fun d hd => (run_flux_closed hC hT hJ hE hW hr hR d hd).2.2.2

/-- without a water table, no hypothesis about computed values: `WaterInv`, `aer_days_comp ≥ 0` and
`r_cor ≥ 0` of every reachable state (the clause of `run_inv_closed` about the recorded days is not
part of the statement) -/
theorem run_inv_no_table {F : Fn α} {T : TrigFn α} {cfg : RunCfg α} {s : RunState α}
    (hC : CfgOK F T cfg) (hwt : cfg.W0.waterTable ≠ 1) (hr : RunReach F T cfg s) :
    WaterInv cfg s ∧ (∀ x ∈ s.day.cells, 0 ≤ x.aer) ∧ 0 ≤ s.day.rCor := by
  obtain ⟨_, _, hI, _⟩ := run_dayFacts hC hr (run_residualW_of_no_table hwt hr)
  exact ⟨hI.water, hI.aer, hI.rCor⟩
end closed

/-! ### run level, catalogue configurations (`Proofs/Catalogue*.lean`): every hypothesis is membership in a table
regenerated from the sources, a fact about initialisation outputs, or a premise on the weather -/

section catalogueRun
open Aqua.Response Aqua.HarvestIndexReal

/-- **Run level, catalogue configurations.** Water contents within `[th_dry, th_s]`, adjusted field
capacity within `[th_fc, th_s]`, ponding ≥ 0 in every reachable state and at both ends of every
simulated day, compartment parameters unchanged in every reachable state, for every run of every
catalogue configuration — with a water table under `ResidualW`. -/
theorem catalogue_run_inv {cfg : RunCfg ℝ} {s : RunState ℝ} (h : CatCfg cfg)
    (hr : RunReach realFn realTrig cfg s) (hR : ∀ d ∈ s.daysRev, ResidualW d) :
    WaterInv cfg s ∧ ∀ d ∈ s.daysRev, DayPre realFn d.P.W d.st.cells d.st.water ∧
      (∀ y ∈ d.r.state.cells, y.Inv) ∧ 0 ≤ d.r.state.pond :=
  Aqua.catalogue_run_inv h hr hR

/-- the initial profile of a catalogue configuration satisfies every profile premise of `CfgOK` -/
theorem catalogue_initial_profile {cfg : RunCfg ℝ} (h : CatCfg cfg) :
    SoilInitOK cfg.init.cells cfg.thini := h.soil.ok
end catalogueRun

end Aqua.C03
