import AquaVerif.Proofs.Inert
import AquaVerif.Proofs.Day
/-
Process-level lemmas in the form the call sites of `fullDayTrace_of_sims`
(`Proofs/InertRunRel.lean`) need:

* `pre_irrigation`, `transpiration`: `NetIrrSMT` is read only under net irrigation, the method only
  through the test `IrrMethod == 4`;
* `irrigation`: off season nothing is read; two calls whose demands are both capped to 0 agree;
* `soil_evaporation`: the two premises of `soilEvaporation_withAdj` (`Proofs/Inert.lean`) for the
  five parameters that enter only the refresh test and the mulch / wetting adjustment (`Mulches`,
  `fMulch`, `MulchPct`, `WetSurf`, `IrrMethod`): `evapRefresh_method` and `esPotAdjust_value`.
-/

set_option linter.unusedSectionVars false
namespace Aqua
variable {α : Type} [Field α] [LinearOrder α] [IsStrictOrderedRing α]

/-! ## `pre_irrigation`, `transpiration` -/

theorem preIrrigationT_method_congr {F : Fn α} {np : Bool} {cells : List (Cell α)} {gs : Bool}
    {m m' : Nat} {dap : Int} {zRoot zMin smt smt' : α}
    (h4 : gs = true → (m' = 4 ↔ m = 4)) (hs : gs = true → m = 4 → smt' = smt) :
    preIrrigationT F np cells gs m' dap zRoot zMin smt' =
      preIrrigationT F np cells gs m dap zRoot zMin smt := by
  unfold preIrrigationT preIrrigationR
  cases gs with
  | false => rfl
  | true =>
    by_cases hm : m = 4
    · have hm' := (h4 rfl).mpr hm
      rw [hs rfl hm, hm, hm']
    · have hm' : m' ≠ 4 := mt (h4 rfl).mp hm
      simp [hm, hm']

theorem trCore_of_ne_net {F : Fn α} {nComp : Nat} {zTop : α} {crop : TrCrop α} {m m' : Nat}
    (smt smt' : α) {st : TrState α} {et0 : α} {pot : TrPotR α} {sf : TrSurfR α} {rz : RZ α}
    (hm : m ≠ 4) (hm' : m' ≠ 4) :
    trCore F nComp zTop crop m' smt' st et0 pot sf rz =
      trCore F nComp zTop crop m smt st et0 pot sf rz := by
  have e1 : ∀ t k : α, trPotRzOf m' t k = trPotRzOf m t k := fun t k => by
    unfold trPotRzOf
    rw [if_pos hm, if_pos hm']
  have e2 : trLoopPOf F crop m' st et0 sf.daySub = trLoopPOf F crop m st et0 sf.daySub := by
    unfold trLoopPOf
    rw [decide_eq_false hm, decide_eq_false hm']
  have e3 : ∀ rd cs cells t, trNetIrr F crop m' smt' zTop rd cs cells st t =
      trNetIrr F crop m smt zTop rd cs cells st t := fun rd cs cells t => by
    unfold trNetIrr
    rw [if_neg (fun h => hm' h.1), if_neg (fun h => hm' h.1), if_neg (fun h => hm h.1),
      if_neg (fun h => hm h.1)]
  unfold trCore
  simp only [e1, e2, e3]

theorem transpiration_method_congr {F : Fn α} {cells : List (Cell α)} {nComp : Nat} {zTop : α}
    {crop : TrCrop α} {m m' : Nat} {smt smt' : α} {st : TrState α} {et0 cur ref : α} {gs : Bool}
    {gdd : α} (h4 : gs = true → (m' = 4 ↔ m = 4)) (hs : gs = true → m = 4 → smt' = smt) :
    transpiration F cells nComp zTop crop m' smt' st et0 cur ref gs gdd =
      transpiration F cells nComp zTop crop m smt st et0 cur ref gs gdd := by
  cases gs with
  | false => rw [transpiration_offseason, transpiration_offseason]
  | true =>
    by_cases hm : m = 4
    · rw [hs rfl hm, hm, (h4 rfl).mpr hm]
    · unfold transpiration
      simp only [trCore_of_ne_net smt smt' hm (mt (h4 rfl).mp hm)]

/-! ## `irrigation` -/

section irr
variable {F : Fn α} {cells : List (Cell α)} {st : Nat} {irrCum ePot tPot zRoot : α} {dap : Nat}
  {zMin aer zTop : α} {rain runoff : α}

/-- off season nothing of the irrigation record is read (up to the ghost branch id, which records
the sign of `MaxIrrSeason`) -/
theorem irrigation_offseason_noBranch (P P' : IrrParams α) (sched sched' : Option α) :
    (irrigation F P' cells st irrCum ePot tPot zRoot dap sched' zMin aer zTop false rain runoff).map
        IrrOut.noBranch =
      (irrigation F P cells st irrCum ePot tPot zRoot dap sched zMin aer zTop false rain runoff).map
        IrrOut.noBranch := by
  unfold irrigation
  simp [Except.map, IrrOut.noBranch, irrFinish, irrCap_zero]

theorem irrigation_of_zero {P : IrrParams α} {sched : Option α}
    (hd : ∀ dep taw, ∃ x n, irrDemand P (if dap = 1 then 1 else st) dep taw dap sched = .ok (x, n) ∧
      irrCap P.maxSeason irrCum (pmax 0 x) = 0) :
    (irrigation F P cells st irrCum ePot tPot zRoot dap sched zMin aer zTop true rain runoff).map
        IrrOut.noBranch =
      match rootZoneWater F cells zRoot zTop zMin aer with
      | none => .error .rootZone
      | some rz => .ok { depletion := irrDepletion rz ePot tPot zRoot zMin rain runoff,
                         taw := rz.tawRz, irrCum := irrCum, irr := 0, branch := 0 } := by
  unfold irrigation
  simp only [if_true]
  cases rootZoneWater F cells zRoot zTop zMin aer with
  | none => rfl
  | some rz =>
    simp only []
    obtain ⟨x, n, h1, h2⟩ := hd (irrDepletion rz ePot tPot zRoot zMin rain runoff) rz.tawRz
    rw [h1]
    simp [Except.map, IrrOut.noBranch, irrFinish, h2]

theorem irr_zero_of_zero {P : IrrParams α} {sched : Option α} {gs : Bool} {out : IrrOut α}
    (h : irrigation F P cells st irrCum ePot tPot zRoot dap sched zMin aer zTop gs rain runoff
      = .ok out)
    (hd : gs = true → ∀ dep taw, ∃ x n,
      irrDemand P (if dap = 1 then 1 else st) dep taw dap sched = .ok (x, n) ∧
      irrCap P.maxSeason irrCum (pmax 0 x) = 0) : out.irr = 0 := by
  cases gs with
  | false => exact (irr_offseason h).1
  | true =>
    obtain ⟨rz, irr0, fired, -, -, -, hdm, hi, -⟩ := irrigation_spec h
    obtain ⟨x, n, h1, h2⟩ := hd rfl out.depletion out.taw
    rw [h1] at hdm
    simp only [Except.ok.injEq, Prod.mk.injEq] at hdm
    rw [hi, ← hdm.1, h2]

theorem irrigation_noBranch_of_zero {P P' : IrrParams α} {sched sched' : Option α} (gs : Bool)
    (hd : gs = true → ∀ dep taw, ∃ x n,
      irrDemand P (if dap = 1 then 1 else st) dep taw dap sched = .ok (x, n) ∧
      irrCap P.maxSeason irrCum (pmax 0 x) = 0)
    (hd' : gs = true → ∀ dep taw, ∃ x n,
      irrDemand P' (if dap = 1 then 1 else st) dep taw dap sched' = .ok (x, n) ∧
      irrCap P'.maxSeason irrCum (pmax 0 x) = 0) :
    (irrigation F P' cells st irrCum ePot tPot zRoot dap sched' zMin aer zTop gs rain runoff).map
        IrrOut.noBranch =
      (irrigation F P cells st irrCum ePot tPot zRoot dap sched zMin aer zTop gs rain runoff).map
        IrrOut.noBranch := by
  cases gs with
  | false =>
    exact irrigation_offseason_noBranch P P' sched sched'
  | true =>
    rw [irrigation_of_zero (hd rfl), irrigation_of_zero (hd' rfl)]

end irr

/-! ## `soil_evaporation`: the five parameters of the refresh test and the adjustment -/

/-- "an application that wets the surface" is `0 < Irr` under a method other than net irrigation -/
theorem wetted_iff {irr : α} {im im' : Nat} (h : irr ≤ 0 ∨ (im' = 4 ↔ im = 4)) :
    (0 < irr ∧ im' ≠ 4) ↔ (0 < irr ∧ im ≠ 4) := by
  rcases h with h | h
  · exact ⟨fun a => absurd a.1 (not_lt.mpr h), fun a => absurd a.1 (not_lt.mpr h)⟩
  · exact and_congr_right fun _ => not_congr h

theorem evapRefresh_method (P : EvapParams α) (m : Bool) (f p w : α) (im : Nat) (D : EvapDay α)
    (s : EvapSurf α) (h : D.irr ≤ 0 ∨ (im = 4 ↔ P.irrMethod = 4)) :
    (evapRefresh (P.withAdj m f p w im) D s).1 = (evapRefresh P D s).1 := by
  unfold evapRefresh
  simp only [wetted_iff h]

/-- the factor the mulch adjustment multiplies the potential evaporation with -/
def mulchFactor (mulches : Bool) (fMulch mulchPct : α) : α :=
  if mulches then 1 - fMulch * (mulchPct / 100) else 1

theorem mulch_adjust (c : Prop) [Decidable c] (m : Bool) (f p e : α) :
    (if (decide c && m) = true then e * (1 - f * (p / 100)) else e) =
      if c then e * mulchFactor m f p else e := by
  unfold mulchFactor
  by_cases hc : c <;> cases m <;> simp [hc]

theorem esPotAdjust_value {P : EvapParams α} {m : Bool} {f p w : α} {im : Nat} {S : EvapState α}
    {D : EvapDay α} (e : α)
    (hmul : mulchFactor m f p = mulchFactor P.mulches P.fMulch P.mulchPct)
    (hwet : D.irr ≤ 0 ∨ ((im = 4 ↔ P.irrMethod = 4) ∧ (P.irrMethod ≠ 4 → w = P.wetSurf))) :
    (esPotAdjust (P.withAdj m f p w im) S D e).1 = (esPotAdjust P S D e).1 := by
  have hc : (0 < D.irr ∧ im ≠ 4) ↔ (0 < D.irr ∧ P.irrMethod ≠ 4) :=
    wetted_iff (hwet.imp_right And.left)
  unfold esPotAdjust
  simp only []
  rw [mulch_adjust, mulch_adjust, hmul]
  by_cases hwt : 0 < D.irr ∧ P.irrMethod ≠ 4
  · have hw : w = P.wetSurf :=
      hwet.elim (fun h => absurd hwt.1 (not_lt.mpr h)) (fun h => h.2 hwt.2)
    rw [decide_eq_true (hc.mpr hwt), decide_eq_true hwt, hw]
  · rw [decide_eq_false (mt hc.mp hwt), decide_eq_false hwt]
    rfl

end Aqua
