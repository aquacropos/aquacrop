import AquaVerif.Model.Session
import AquaVerif.Proofs.Clock
/-
Theorems about the API state machine `Aqua.Session` (`Model/Session.lean`).
Core Lean only.
-/

namespace Aqua.Session
open Aqua.Clock

variable {c : Cfg} {ev : Ev}

/-! ### `update_time` / `_perform_timestep` with partial effects agree with the clock model -/

theorem updateTimeP_spec (c : Cfg) (s : St) :
    match updateTime c s with
    | .ok s' => updateTimeP c s = (s', false, none)
    | .error _ => (updateTimeP c s).2.2 ≠ none ∧ (updateTimeP c s).1.finished = false := by
  unfold updateTime updateTimeP
  by_cases h1 : s.finished = true
  · simp [h1]
  · simp only [h1]
    by_cases h2 : (s.harvestFlag && !c.offSeason) = true
    · simp only [h2, if_true]
      by_cases h3 : s.season < c.nSeasons - 1
      · simp only [h3, if_true]
        cases hp : pyGet c.planting (s.season + 1) with
        | error e => simp [bind, Except.bind]
        | ok p =>
          simp only [bind, Except.bind]
          by_cases h4 : p ≥ c.n
          · simp [h4]
          · by_cases h5 : p + 1 ≥ c.n
            · simp [h4, h5]
            · simp [h4, h5, pure, Except.pure]
      · simp [h3, pure, Except.pure]
    · simp only [h2]
      by_cases h4 : s.t + 1 ≥ c.n
      · simp [h4]
      · by_cases h5 : s.t + 1 + 1 ≥ c.n
        · simp [h4, h5]
        · simp only [h4, h5, if_false]
          by_cases h3 : s.season < c.nSeasons - 1
          · simp only [h3, if_true]
            cases hp : pyGet c.planting (s.season + 1) with
            | error e => simp [bind, Except.bind]
            | ok p =>
              simp only [bind, Except.bind]
              by_cases h6 : s.t + 1 = p
              · simp [h6, pure, Except.pure]
              · simp [h6, pure, Except.pure]
          · simp [h3, pure, Except.pure]

theorem performP_spec (saf : Bool) (o : Obj) :
    match performP c ev saf o with
    | (o', none) => o'.converted = (o'.clock.finished || saf) ∧
        (o.clock.finished = false → perform c ev o.clock = .ok o'.clock)
    | (o', some _) => (o'.clock.finished = true → o.clock.finished = true) ∧
        o'.converted = o.converted := by
  unfold performP
  by_cases hd : o.desync = true
  · rw [if_pos hd]; exact ⟨id, rfl⟩
  rw [if_neg hd]
  cases hs : seasonInfo c o.clock.season with
  | error e => exact ⟨id, rfl⟩
  | ok ph =>
    simp only
    by_cases hc : o.converted = true
    · rw [if_pos hc]; exact ⟨id, rfl⟩
    rw [if_neg hc]
    have hu := updateTimeP_spec c (checkFinished c (solCore ev o.clock ph))
    cases hk : updateTime c (checkFinished c (solCore ev o.clock ph)) with
    | ok s' =>
      rw [hk] at hu
      simp only at hu
      rw [hu]
      refine ⟨rfl, fun hf => ?_⟩
      unfold perform solution
      simp only [hf, Bool.false_eq_true, if_false, hs]
      exact hk
    | error e' =>
      rw [hk] at hu
      generalize updateTimeP c (checkFinished c (solCore ev o.clock ph)) = r at hu ⊢
      obtain ⟨s3, d, _ | e⟩ := r
      · exact absurd rfl hu.1
      · refine ⟨fun hf => ?_, (Bool.eq_false_iff.mpr hc).symm⟩
        rw [hu.2] at hf; cases hf

/-- **a `_perform_timestep` on tables that are DataFrames** raises the table-write exception and
changes nothing but `dap`, `crop_mature`, `crop_dead` (the in-place update of `NewCond`) -/
theorem performP_converted {o : Obj} (saf : Bool) (hc : o.converted = true) (hd : o.desync = false)
    {ph : Option (Nat × Int)} (hs : seasonInfo c o.clock.season = .ok ph) :
    performP c ev saf o =
      ({ o with clock := { o.clock with dap := (solCore ev o.clock ph).dap,
                                        mature := (solCore ev o.clock ph).mature,
                                        dead := (solCore ev o.clock ph).dead } },
       some (if c.n = 3 then .tableKey else .tableWrite)) := by
  unfold performP
  simp only [hd, Bool.false_eq_true, if_false, hs, hc, if_true]

/-! ### Invariant of the API object -/

/-- a finished clock has DataFrame tables -/
def ObjOK (o : Obj) : Prop := o.clock.finished = true → o.converted = true

theorem performP_objOK {o : Obj} (saf : Bool) (h : ObjOK o) : ObjOK (performP c ev saf o).1 := by
  have hP := performP_spec (c := c) (ev := ev) saf o
  generalize performP c ev saf o = r at hP ⊢
  obtain ⟨o', _ | e⟩ := r
  · intro hf
    show o'.converted = true
    rw [hP.1, hf]; rfl
  · intro hf
    show o'.converted = true
    rw [hP.2]; exact h (hP.1 hf)

theorem tillLoop_spec (saf : Bool) : ∀ (f : Nat) (o : Obj),
    (ObjOK o → ObjOK (tillLoop c ev saf f o).1) ∧
    ((tillLoop c ev saf f o).2 = none ↔ (tillLoop c ev saf f o).1.clock.finished = true) := by
  intro f
  induction f with
  | zero =>
    intro o
    unfold tillLoop
    cases hf : o.clock.finished <;> simp [hf]
  | succ f ih =>
    intro o
    unfold tillLoop
    cases hf : o.clock.finished with
    | true => simp [hf]
    | false =>
      simp only [Bool.false_eq_true, if_false]
      have hP := performP_spec (c := c) (ev := ev) saf o
      have hok := performP_objOK (c := c) (ev := ev) (o := o) saf
      generalize performP c ev saf o = r at hP hok ⊢
      obtain ⟨o', _ | e⟩ := r
      · exact ⟨fun h => (ih o').1 (hok h), (ih o').2⟩
      · refine ⟨hok, ?_⟩
        simp only [reduceCtorEq, false_iff]
        intro hf'
        rw [hP.1 hf'] at hf; cases hf

theorem stepsLoop_none (po : Bool) (k : Nat) (saf : Bool) :
    stepsLoop c ev po (k + 1) saf none = (saf || (po && decide (k = 0)), none, .raised .attr) := rfl

theorem stepsLoop_spec (po : Bool) : ∀ (k : Nat) (saf : Bool) (ob : Obj),
    ∃ ob', (stepsLoop c ev po k saf (some ob)).2.1 = some ob' ∧ (ObjOK ob → ObjOK ob') ∧
      ((stepsLoop c ev po k saf (some ob)).2.2 = .finished → ob'.clock.finished = true) ∧
      ((stepsLoop c ev po k saf (some ob)).2.2 = .exhausted → 1 ≤ k → ob'.clock.finished = false) ∧
      (∀ e, (stepsLoop c ev po k saf (some ob)).2.2 = .raised e → ob'.clock.finished = true →
        ob.clock.finished = true) := by
  intro k
  induction k with
  | zero =>
    intro saf ob
    exact ⟨ob, rfl, id, by simp [stepsLoop], by simp, by simp [stepsLoop]⟩
  | succ k ih =>
    intro saf ob
    unfold stepsLoop
    simp only
    have hP := performP_spec (c := c) (ev := ev) (saf || (po && decide (k = 0))) ob
    have hok := performP_objOK (c := c) (ev := ev) (o := ob) (saf || (po && decide (k = 0)))
    generalize performP c ev (saf || (po && decide (k = 0))) ob = r at hP hok ⊢
    obtain ⟨ob1, _ | e⟩ := r
    · simp only
      cases hf1 : ob1.clock.finished with
      | true =>
        simp only [if_true]
        exact ⟨ob1, rfl, hok, fun _ => hf1, by simp, by simp⟩
      | false =>
        simp only [Bool.false_eq_true, if_false]
        obtain ⟨ob', h1, h2, h3, h4, h5⟩ := ih (saf || (po && decide (k = 0))) ob1
        refine ⟨ob', h1, fun h => h2 (hok h), h3, ?_, ?_⟩
        · intro he _
          cases k with
          | zero =>
            simp only [stepsLoop] at h1
            cases h1; exact hf1
          | succ k => exact h4 he (by omega)
        · intro e he hf
          have := h5 e he hf
          rw [this] at hf1; cases hf1
    · exact ⟨ob1, rfl, hok, by simp, by simp, fun _ _ hf => hP.1 hf⟩

structure Inv (s : SSt) : Prop where
  /-- `__has_model_executed` implies that `_initialize` has succeeded once -/
  exec : s.executed = true → s.obj.isSome = true
  /-- finished clock ⇒ DataFrame tables, and the flags say "executed, finished" -/
  fin : ∀ o, s.obj = some o → ObjOK o ∧
    (o.clock.finished = true → s.hasFinished = true ∧ s.executed = true)

theorem inv_fresh : Inv fresh := ⟨by simp [fresh], by simp [fresh]⟩

theorem inv_of_some {s : SSt} {o : Obj} (ho : s.obj = some o) (hok : ObjOK o)
    (hf : o.clock.finished = true → s.hasFinished = true ∧ s.executed = true) : Inv s :=
  ⟨fun _ => by rw [ho]; rfl, fun o2 ho2 => by rw [ho] at ho2; cases ho2; exact ⟨hok, hf⟩⟩

theorem inv_initObj {s : SSt} (h : Inv s) : Inv (initObj c s).1 := by
  unfold initObj
  cases hc : Clock.init c with
  | error e => exact ⟨h.exec, h.fin⟩
  | ok k =>
    have hu : k.finished = false := by cases init_eq hc; rfl
    exact inv_of_some rfl (fun hf => by simp [hu] at hf) (fun hf => by simp [hu] at hf)

theorem initObj_flags (c : Cfg) (s : SSt) :
    (initObj c s).1.executed = s.executed ∧ (initObj c s).1.hasFinished = s.hasFinished ∧
    (initObj c s).1.stepsAreFinished = false := by
  unfold initObj
  cases Clock.init c <;> exact ⟨rfl, rfl, rfl⟩

theorem runBody_spec (k : Int) (till po : Bool) (s0 : SSt) :
    (Inv s0 → Inv (runBody c ev k till po s0).1) ∧
    (((runBody c ev k till po s0).2 = .retTrue ∧ (runBody c ev k till po s0).1.executed = true ∧
        ∃ o, (runBody c ev k till po s0).1.obj = some o ∧
          (runBody c ev k till po s0).1.hasFinished = o.clock.finished) ∨
      (∃ e, (runBody c ev k till po s0).2 = .raised e) ∧
        (runBody c ev k till po s0).1.executed = s0.executed ∧
        (runBody c ev k till po s0).1.hasFinished = s0.hasFinished) := by
  unfold runBody
  cases till with
  | true =>
    simp only [if_true]
    cases ho : s0.obj with
    | none => exact ⟨id, .inr ⟨⟨_, rfl⟩, rfl, rfl⟩⟩
    | some o =>
      simp only
      obtain ⟨h1, h2⟩ := tillLoop_spec (c := c) (ev := ev) s0.stepsAreFinished (fuel c) o
      generalize tillLoop c ev s0.stepsAreFinished (fuel c) o = r at h1 h2 ⊢
      obtain ⟨o', _ | e⟩ := r
      · exact ⟨fun h => inv_of_some rfl (h1 (h.fin o ho).1) fun _ => ⟨rfl, rfl⟩,
          .inl ⟨rfl, rfl, o', rfl, (h2.mp rfl).symm⟩⟩
      · refine ⟨fun h => inv_of_some rfl (h1 (h.fin o ho).1) fun hf => ?_, .inr ⟨⟨_, rfl⟩, rfl, rfl⟩⟩
        cases h2.mpr hf
  | false =>
    simp only [Bool.false_eq_true, if_false]
    by_cases hk : k < 1
    · rw [if_pos hk]; exact ⟨id, .inr ⟨⟨_, rfl⟩, rfl, rfl⟩⟩
    · rw [if_neg hk]
      cases ho : s0.obj with
      | none =>
        obtain ⟨j, hj⟩ : ∃ j, k.toNat = j + 1 := ⟨k.toNat - 1, by omega⟩
        rw [hj, stepsLoop_none]
        refine ⟨fun h => ⟨fun he => ?_, fun o h2 => by cases h2⟩, .inr ⟨⟨_, rfl⟩, rfl, rfl⟩⟩
        have := h.exec he
        rw [ho] at this; cases this
      | some ob =>
        obtain ⟨ob', h1, h2, h3, h4, h5⟩ :=
          stepsLoop_spec (c := c) (ev := ev) po k.toNat s0.stepsAreFinished ob
        generalize stepsLoop c ev po k.toNat s0.stepsAreFinished (some ob) = r at h1 h3 h4 h5 ⊢
        obtain ⟨saf, o', e⟩ := r
        simp only at h1 h3 h4 h5
        subst h1
        cases e with
        | raised e =>
          exact ⟨fun h => inv_of_some rfl (h2 (h.fin ob ho).1) fun hf => (h.fin ob ho).2 (h5 e rfl hf),
            .inr ⟨⟨_, rfl⟩, rfl, rfl⟩⟩
        | finished =>
          exact ⟨fun h => inv_of_some rfl (h2 (h.fin ob ho).1) fun _ => ⟨rfl, rfl⟩,
            .inl ⟨rfl, rfl, ob', rfl, (h3 rfl).symm⟩⟩
        | exhausted =>
          have hf := h4 rfl (by omega)
          refine ⟨fun h => inv_of_some rfl (h2 (h.fin ob ho).1) fun hf' => ?_,
            .inl ⟨rfl, rfl, ob', rfl, hf.symm⟩⟩
          rw [hf] at hf'; cases hf'

theorem run_spec (k : Int) (till ini po : Bool) (s : SSt) :
    (Inv s → Inv (run c ev k till ini po s).1) ∧
    (((run c ev k till ini po s).2 = .retTrue ∧ (run c ev k till ini po s).1.executed = true ∧
        ∃ o, (run c ev k till ini po s).1.obj = some o ∧
          (run c ev k till ini po s).1.hasFinished = o.clock.finished) ∨
      (∃ e, (run c ev k till ini po s).2 = .raised e) ∧
        (run c ev k till ini po s).1.executed = s.executed ∧
        (run c ev k till ini po s).1.hasFinished = s.hasFinished) := by
  unfold run
  cases ini with
  | false => exact runBody_spec k till po s
  | true =>
    simp only [if_true]
    have hI := inv_initObj (c := c) (s := s)
    obtain ⟨h1, h2, _⟩ := initObj_flags c s
    generalize initObj c s = r at hI h1 h2 ⊢
    obtain ⟨s1, _ | e⟩ := r
    · obtain ⟨hb, hc⟩ := runBody_spec (c := c) (ev := ev) k till po s1
      exact ⟨fun h => hb (hI h),
        hc.imp_right fun ⟨h3, h4, h5⟩ => ⟨h3, h4.trans h1, h5.trans h2⟩⟩
    · exact ⟨hI, .inr ⟨⟨_, rfl⟩, h1, h2⟩⟩

theorem step_getter {op : Op} (hg : op.isGetter = true) (s : SSt) : (step c ev op s).1 = s := by
  cases op with
  | run k till ini po => cases hg
  | _ => rfl

theorem inv_step (op : Op) {s : SSt} (h : Inv s) : Inv (step c ev op s).1 := by
  cases op with
  | run k till ini po => exact (run_spec k till ini po s).1 h
  | _ => exact h

theorem inv_runOps : ∀ (ops : List Op) {s : SSt}, Inv s → Inv (runOps c ev ops s).1
  | [], _, h => h
  | op :: ops, _, h => inv_runOps ops (inv_step op h)

theorem inv_session (ops : List Op) : Inv (session c ev ops).1 := inv_runOps ops inv_fresh


/-! ### The result flags after a `run_model` call that returns (`finished_flag_correct`) -/

theorem run_true {k : Int} {till ini po : Bool} {s s' : SSt}
    (h : run c ev k till ini po s = (s', .retTrue)) :
    s'.executed = true ∧ ∃ o, s'.obj = some o ∧ s'.hasFinished = o.clock.finished := by
  rcases (run_spec (c := c) (ev := ev) k till ini po s).2 with h1 | ⟨⟨e, he⟩, _⟩
  · rw [h] at h1; exact h1.2
  · rw [h] at he; cases he


theorem runOps_append (ops1 ops2 : List Op) (s : SSt) :
    runOps c ev (ops1 ++ ops2) s =
      ((runOps c ev ops2 (runOps c ev ops1 s).1).1,
       (runOps c ev ops1 s).2 ++ (runOps c ev ops2 (runOps c ev ops1 s).1).2) := by
  induction ops1 generalizing s with
  | nil => simp [runOps]
  | cons op ops ih => simp [runOps, ih]

theorem runOps_getters : ∀ (gs : List Op), (∀ g ∈ gs, g.isGetter = true) → ∀ (s : SSt),
    (runOps c ev gs s).1 = s
  | [], _, _ => rfl
  | g :: gs, h, s => by
    simp only [runOps]
    rw [step_getter (h g (by simp))]
    exact runOps_getters gs (fun g' hg' => h g' (by simp [hg'])) s

/-- Take any session prefix `pre` (any calls, failing or not,
with or without re-initialisation), then a `run_model` call that returns, then any number of
getter calls.  The object is then exactly the state `s'` that call left, and
`get_additional_information` reports finished **iff** the clock is finished, and
`get_simulation_results` returns the summary table iff finished is reported (else `False`). -/
theorem finished_flag_correct (pre gs : List Op) (hg : ∀ g ∈ gs, g.isGetter = true)
    (k : Int) (till ini po : Bool) {s' : SSt}
    (hrun : step c ev (.run k till ini po) (session c ev pre).1 = (s', .retTrue)) :
    (session c ev (pre ++ .run k till ini po :: gs)).1 = s' ∧
    ∃ o, s'.obj = some o ∧ getInfo s' = .info o.clock.finished ∧
      getResults s' =
        (if o.clock.finished then .summary (finalStats o.clock.summary) else .retFalse) := by
  constructor
  · unfold session at hrun ⊢
    rw [runOps_append]
    simp only [runOps, hrun]
    exact runOps_getters gs hg s'
  · obtain ⟨he, o, ho, hf⟩ := run_true (show run c ev k till ini po _ = _ from hrun)
    refine ⟨o, ho, ?_, ?_⟩
    · simp [getInfo, he, hf]
    · unfold getResults
      simp only [he, if_true, hf, ho]

/-- **Stale-flag freedom**: a `run_model(num_steps=k, initialize_model=True)` that returns with the
clock unfinished reports unfinished and gives no results — even if an earlier run of the same
object finished (any `s`). -/
theorem stale_flag_free {k : Int} {ini po : Bool} {s s' : SSt} {o : Obj}
    (h : run c ev k false ini po s = (s', .retTrue)) (ho : s'.obj = some o)
    (hu : o.clock.finished = false) :
    getInfo s' = .info false ∧ getResults s' = .retFalse := by
  obtain ⟨he, o2, ho2, hf⟩ := run_true h
  rw [ho] at ho2; cases ho2
  simp [getInfo, getResults, he, hf, hu]

/-- In **every** state of every session (also after calls that raised): a finished clock is
reported finished, its summary is what `get_simulation_results` returns and its tables are
DataFrames.  (The converse fails after a call that raised — see the example under *Non-vacuity*.) -/
theorem finished_clock_is_reported (ops : List Op) {o : Obj}
    (ho : (session c ev ops).1.obj = some o) (hf : o.clock.finished = true) :
    getInfo (session c ev ops).1 = .info true ∧
    getResults (session c ev ops).1 = .summary (finalStats o.clock.summary) ∧
    o.converted = true := by
  have hI := inv_session (c := c) (ev := ev) ops
  obtain ⟨hok, hfl⟩ := hI.fin o ho
  obtain ⟨h1, h2⟩ := hfl hf
  exact ⟨by simp [getInfo, h1, h2], by simp [getResults, h1, h2, ho], hok hf⟩

/-- `get_simulation_results` returns the summary table iff `get_additional_information` reports
finished (in every state of every session in which something has been run). -/
theorem results_iff_reported (ops : List Op) :
    (∃ rows, getResults (session c ev ops).1 = .summary rows) ↔
      getInfo (session c ev ops).1 = .info true := by
  have hI := inv_session (c := c) (ev := ev) ops
  generalize (session c ev ops).1 = s at hI
  unfold getResults getInfo
  cases he : s.executed with
  | false => simp
  | true =>
    have := hI.exec he
    cases ho : s.obj with
    | none => rw [ho] at this; cases this
    | some o => cases hf : s.hasFinished <;> simp

/-! ### The getters (`getters_total`) -/

theorem getter_not_true {op : Op} (hg : op.isGetter = true) (s : SSt) :
    (step c ev op s).2 ≠ .retTrue := by
  cases op with
  | run => simp [Op.isGetter] at hg
  | getResults =>
    simp only [step, getResults]
    repeat' split
    all_goals simp
  | getInfo => simp only [step, getInfo]; split <;> simp
  | _ =>
    simp only [step, getTable]
    repeat' split
    all_goals simp

theorem step_executed (op : Op) (s : SSt) :
    (step c ev op s).1.executed = true ↔ s.executed = true ∨ (step c ev op s).2 = .retTrue := by
  cases hg : op.isGetter with
  | true =>
    rw [step_getter hg]
    have := getter_not_true (c := c) (ev := ev) hg s
    simp [this]
  | false =>
    cases op with
    | run k till ini po =>
      simp only [step]
      rcases (run_spec (c := c) (ev := ev) k till ini po s).2 with ⟨h, h1, _⟩ | ⟨⟨e, h1⟩, h2, _⟩
      · simp [h1, h]
      · rw [h2, h1]; simp
    | _ => simp [Op.isGetter] at hg

theorem runOps_executed : ∀ (ops : List Op) (s : SSt),
    (runOps c ev ops s).1.executed = true ↔
      s.executed = true ∨ Obs.retTrue ∈ (runOps c ev ops s).2
  | [], s => by simp [runOps]
  | op :: ops, s => by
    simp only [runOps, List.mem_cons]
    rw [runOps_executed ops, step_executed]
    constructor
    · rintro ((h | h) | h)
      · exact Or.inl h
      · exact Or.inr (Or.inl h.symm)
      · exact Or.inr (Or.inr h)
    · rintro (h | h | h)
      · exact Or.inl (Or.inl h)
      · exact Or.inl (Or.inr h.symm)
      · exact Or.inr h

/-- In every session on a new object: `has_model_executed` holds iff
some `run_model` call so far has returned (`True` is among the observations; only `run_model`
produces it); from then on **no getter raises**, and until then **every getter raises the
`ValueError`** "You cannot get results without running the model". -/
theorem getters_total (ops : List Op) :
    ((session c ev ops).1.executed = true ↔ Obs.retTrue ∈ (session c ev ops).2) ∧
    (Obs.retTrue ∈ (session c ev ops).2 → ∀ g : Op, g.isGetter = true → ∀ e,
      (step c ev g (session c ev ops).1).2 ≠ .raised e) ∧
    (Obs.retTrue ∉ (session c ev ops).2 → ∀ g : Op, g.isGetter = true →
      (step c ev g (session c ev ops).1).2 = .raised .noRun) := by
  have hI := inv_session (c := c) (ev := ev) ops
  have hE : (session c ev ops).1.executed = true ↔ Obs.retTrue ∈ (session c ev ops).2 := by
    unfold session
    rw [runOps_executed]; simp [fresh]
  refine ⟨hE, ?_, ?_⟩
  · intro ht g hg e
    have he := hE.mpr ht
    have hs := hI.exec he
    generalize (session c ev ops).1 = s at he hs
    cases ho : s.obj with
    | none => rw [ho] at hs; cases hs
    | some o =>
      cases g with
      | run => simp [Op.isGetter] at hg
      | getResults => simp only [step, getResults, he, ho, if_true]; split <;> simp
      | getInfo => simp [step, getInfo, he]
      | _ => simp [step, getTable, he, ho]
  · intro ht g hg
    have he : (session c ev ops).1.executed = false := by
      cases h : (session c ev ops).1.executed with
      | false => rfl
      | true => exact absurd (hE.mp h) ht
    generalize (session c ev ops).1 = s at he
    cases g with
    | run => simp [Op.isGetter] at hg
    | getResults => simp [step, getResults, he]
    | getInfo => simp [step, getInfo, he]
    | _ => simp [step, getTable, he]

/-! ### The loops of `run_model` on a well-behaved object are the loops of the clock model -/

/-- the API state in which a sequence of returning `run_model` calls (no `process_outputs`)
leaves an object whose clock is `st` -/
def ofClock (st : St) : SSt :=
  { stepsAreFinished := false, executed := true, hasFinished := st.finished,
    obj := some { clock := st, converted := st.finished, desync := false } }

/-- The clock machine embeds in the API machine.  `objOf st` is the object that successful
`_perform_timestep`s without `process_outputs` leave around the clock `st` (the tables are DataFrames
exactly when the clock is finished); it is the object inside `ofClock st`, by `rfl`.  With
`saf = po = false` a successful step of the clock model is the `performP` step between such objects
(`performP_objOf`): `objOf` is a homomorphism on successful steps, hence on both loops
(`tillLoop_objOf`, `stepsLoop_objOf`). -/
def objOf (st : St) : Obj := { clock := st, converted := st.finished, desync := false }

theorem objOf_unfinished {st : St} (h : st.finished = false) :
    objOf st = { clock := st, converted := false, desync := false } := by
  unfold objOf; rw [h]

theorem performP_objOf {s s' : St} (h : perform c ev s = .ok s') :
    performP c ev false (objOf s) = (objOf s', none) := by
  have hf := unfinished_of_perform_ok h
  unfold perform solution at h
  simp only [hf, Bool.false_eq_true, if_false] at h
  cases hs : seasonInfo c s.season with
  | error e => rw [hs] at h; cases h
  | ok ph =>
    rw [hs] at h
    have h : updateTime c (checkFinished c (solCore ev s ph)) = .ok s' := h
    have hu := updateTimeP_spec c (checkFinished c (solCore ev s ph))
    rw [h] at hu
    unfold performP
    simp only [objOf, hf, Bool.false_eq_true, if_false, hs, hu, Bool.or_false]

theorem tillLoop_objOf : ∀ (f : Nat) {s s' : St}, runTillF c ev f s = .ok s' →
    tillLoop c ev false f (objOf s) = (objOf s', none)
  | 0, s, s', h => by
    unfold runTillF at h
    unfold tillLoop
    show (if s.finished then _ else _) = _
    split at h
    · cases h; rw [if_pos ‹_›]
    · cases h
  | f + 1, s, s', h => by
    rw [runTillF_succ] at h
    unfold tillLoop
    show (if s.finished then _ else _) = _
    split at h
    · cases h; rw [if_pos ‹_›]
    · obtain ⟨s1, hp, h⟩ := bind_ok_iff.1 h
      rw [if_neg ‹_›, performP_objOf hp]
      exact tillLoop_objOf f h

theorem stepsLoop_objOf : ∀ (k : Nat) {s s' : St}, s.finished = false →
    runSteps c ev k s = .ok s' →
    stepsLoop c ev false k false (some (objOf s)) =
      (false, some (objOf s'), if s'.finished then .finished else .exhausted)
  | 0, s, s', hf, h => by
    cases h
    rw [hf]; rfl
  | k + 1, s, s', _, h => by
    rw [runSteps_succ] at h
    obtain ⟨s1, hp, h⟩ := bind_ok_iff.1 h
    unfold stepsLoop
    simp only [Bool.false_and, Bool.or_false, performP_objOf hp]
    show (if s1.finished then _ else _) = _
    cases hf1 : s1.finished with
    | true =>
      rw [hf1, if_pos rfl] at h; cases h
      rw [if_pos rfl, hf1]; rfl
    | false =>
      rw [hf1, if_neg Bool.false_ne_true] at h
      rw [if_neg Bool.false_ne_true]
      exact stepsLoop_objOf k hf1 h

theorem run_till_init (hw : WF c) (ev : Ev) {s₀ : St} (hi : Clock.init c = .ok s₀) :
    ∃ sT, runTill c ev s₀ = .ok sT ∧ sT.finished = true ∧ Reach c ev sT ∧
      ∀ (k : Int) (po : Bool) (s : SSt), run c ev k true true po s = (ofClock sT, .retTrue) := by
  obtain ⟨sT, hT, hfT, hrT⟩ := runTill_ok hw ev hi
  refine ⟨sT, hT, hfT, hrT, fun k po s => ?_⟩
  have h0 := (live_init hw hi).notFin
  have hfuel : c.n ≤ fuel c := by
    unfold fuel
    have : c.n * (c.planting.length + 2) = c.n * c.planting.length + c.n * 2 := Nat.mul_add ..
    omega
  have hT' := runTillF_mono c.n s₀ sT hT (fuel c) hfuel
  have hl := tillLoop_objOf (fuel c) hT'
  rw [objOf_unfinished h0] at hl
  unfold run initObj
  simp only [if_true, hi, runBody, hl, ofClock, objOf, hfT]

/-! ### Step calls track the clock model -/

/-- `s` agrees with `ofClock st` in the three flags and in everything of the object except the
per-season scratch values `dap`, `crop_mature`, `crop_dead` (which a failed call on a finished
object keeps updating in place) -/
structure VisOf (s : SSt) (st : St) : Prop where
  saf : s.stepsAreFinished = false
  exec : s.executed = true
  fin : s.hasFinished = st.finished
  obj : ∃ o, s.obj = some o ∧ o.converted = st.finished ∧ o.desync = false ∧
    o.clock.t = st.t ∧ o.clock.season = st.season ∧ o.clock.harvestFlag = st.harvestFlag ∧
    o.clock.finished = st.finished ∧ o.clock.rowsRev = st.rowsRev ∧
    o.clock.summaryRev = st.summaryRev

theorem visOf_ofClock (st : St) : VisOf (ofClock st) st :=
  ⟨rfl, rfl, rfl, _, rfl, rfl, rfl, rfl, rfl, rfl, rfl, rfl, rfl⟩

/-- all getters return the same on `VisOf`-equal states: same tables (kind, rows), same summary,
same information -/
theorem visOf_getters {s : SSt} {st : St} (h : VisOf s st) {g : Op} (hg : g.isGetter = true) :
    (step c ev g s).2 = (step c ev g (ofClock st)).2 := by
  obtain ⟨h1, h2, h3, o, ho, h4, h5, h6, h7, h8, h9, h10, h11⟩ := h
  cases g with
  | run => simp [Op.isGetter] at hg
  | getResults =>
    simp only [step, getResults, h2, h3, ho, ofClock, St.summary, h11, if_true]
    by_cases hf : st.finished = true <;> simp [hf]
  | getInfo => simp [step, getInfo, h2, h3, ofClock]
  | _ => simp [step, getTable, h2, ho, ofClock, h4, h10]

/-- the exception of the daily table write on DataFrames -/
def tw (c : Cfg) : Obs := .raised (if c.n = 3 then .tableKey else .tableWrite)

theorem runBody_progress (hw : WF c) {st : St} (hr : Reach c ev st) (hf : st.finished = false)
    (k : Nat) (hk : 1 ≤ k) {s0 : SSt} (hs : s0.stepsAreFinished = false)
    (ho : s0.obj = some (objOf st)) :
    ∃ st', runModel c ev k st = .ok st' ∧ Reach c ev st' ∧
      runBody c ev k false false s0 = (ofClock st', .retTrue) := by
  obtain ⟨st', hm, hr'⟩ := runModel_ok_of_unfinished hw ev hr hf k hk
  refine ⟨st', hm, hr', ?_⟩
  have hl := stepsLoop_objOf k hf (runModel_ok hm).2
  have e : ¬ ((k : Int) < 1) := by omega
  unfold runBody
  simp only [Bool.false_eq_true, if_false, e, Int.toNat_natCast, hs, ho, hl]
  cases hf' : st'.finished <;> simp [ofClock, objOf, hf']

/-- **calls after termination** (`num_steps ≥ 1`, `initialize_model=False`): raise the table-write
exception and perform *one more partial* solution step: nothing observable changes — flags, clock,
tables, summary stay (`VisOf`) — only `dap` / `crop_mature` / `crop_dead` are updated in place. -/
theorem run_after_termination (hw : WF c) {st : St} (hr : Reach c ev st)
    (hf : st.finished = true) {s : SSt} (hv : VisOf s st) (k : Nat) (hk : 1 ≤ k) :
    (run c ev k false false false s).2 = tw c ∧ VisOf (run c ev k false false false s).1 st := by
  obtain ⟨h1, h2, h3, o, ho, h4, h5, h6, h7, h8, h9, h10, h11⟩ := hv
  obtain ⟨j, rfl⟩ : ∃ j, k = j + 1 := ⟨k - 1, by omega⟩
  have hsi : seasonInfo c o.clock.season = .ok (phOf c o.clock.season) := by
    rw [h7]; exact seasonInfo_eq hw.len_eq (good_of_reach hw hr).shi
  have hp := performP_converted (c := c) (ev := ev) false (by rw [h4, hf]) h5 hsi
  have e : ¬ (((j + 1 : Nat) : Int) < 1) := by omega
  unfold run runBody
  simp only [Bool.false_eq_true, if_false, e, Int.toNat_natCast, h1, ho]
  unfold stepsLoop
  simp only [Bool.false_and, Bool.or_false, hp]
  exact ⟨rfl, rfl, h2, h3, _, rfl, h4, h5, h6, h7, h8, h9, h10, h11⟩

/-- the calls of a partition: `run_model(num_steps=k, initialize_model=False)` -/
def stepCall (k : Nat) : Op := .run k false false false

/-- bookkeeping for a sequence of step calls: after `a` requested steps and `post` calls made
after termination the object tracks the clock model -/
structure Tracks (c : Cfg) (ev : Ev) (s₀ : St) (a post : Nat) (s : SSt) (st : St) : Prop where
  steps : runSteps c ev a s₀ = .ok st
  reach : Reach c ev st
  vis : VisOf s st
  exact : post = 0 → s = ofClock st
  late : 0 < post → st.finished = true

theorem tracks_step (hw : WF c) {s₀ : St} (hi : Clock.init c = .ok s₀) {a post : Nat} {s : SSt}
    {st : St} (h : Tracks c ev s₀ a post s st) (k : Nat) (hk : 1 ≤ k) :
    (st.finished = false ∧ post = 0 ∧ (step c ev (stepCall k) s).2 = .retTrue ∧
      ∃ st', Tracks c ev s₀ (a + k) post (step c ev (stepCall k) s).1 st') ∨
    (st.finished = true ∧ (step c ev (stepCall k) s).2 = tw c ∧
      Tracks c ev s₀ (a + k) (post + 1) (step c ev (stepCall k) s).1 st) := by
  obtain ⟨hst, hr, hv, hex, hl⟩ := h
  have h0 := (live_init hw hi).notFin
  cases hf : st.finished with
  | false =>
    left
    have hp0 : post = 0 := by
      cases post with
      | zero => rfl
      | succ p => have := hl (by omega); rw [hf] at this; cases this
    have hs := hex hp0
    subst hs
    obtain ⟨st', hm, hr', hb⟩ := runBody_progress (c := c) (ev := ev) hw hr hf k hk
      (s0 := ofClock st) rfl rfl
    have hrun : step c ev (stepCall k) (ofClock st) = (ofClock st', .retTrue) := by
      simp only [stepCall, step, run, Bool.false_eq_true, if_false]; exact hb
    refine ⟨rfl, hp0, by rw [hrun], st', ?_⟩
    rw [hrun]
    refine ⟨?_, hr', visOf_ofClock st', fun _ => rfl, fun hp => ?_⟩
    · rw [runSteps_add' hst hf]; exact (runModel_ok hm).2
    · omega
  | true =>
    right
    obtain ⟨h1, h2⟩ := run_after_termination (c := c) (ev := ev) hw hr hf hv k hk
    refine ⟨rfl, h1, ?_, hr, h2, fun hp => by omega, fun _ => hf⟩
    exact overshoot_stops k h0 hst hf

theorem tracks_calls (hw : WF c) {s₀ : St} (hi : Clock.init c = .ok s₀) :
    ∀ (ks : List Nat) (a post : Nat) (s : SSt) (st : St), Tracks c ev s₀ a post s st →
      (∀ k ∈ ks, 1 ≤ k) →
      ∃ m post' st', post ≤ post' ∧ (0 < post → m = 0) ∧
        Tracks c ev s₀ (a + ks.sum) post' (runOps c ev (ks.map stepCall) s).1 st' ∧
        (runOps c ev (ks.map stepCall) s).2 =
          List.replicate m .retTrue ++ List.replicate (post' - post) (tw c) := by
  intro ks
  induction ks with
  | nil =>
    intro a post s st h _
    exact ⟨0, post, st, Nat.le_refl _, fun _ => rfl, by simpa [runOps] using h, by simp [runOps]⟩
  | cons k ks ih =>
    intro a post s st h hks
    have hk := hks k (by simp)
    have hks' : ∀ k' ∈ ks, 1 ≤ k' := fun k' hk' => hks k' (by simp [hk'])
    simp only [List.map_cons, runOps, List.sum_cons]
    rcases tracks_step hw hi h k hk with ⟨hf, hp0, ho, st1, ht⟩ | ⟨hf, ho, ht⟩
    · obtain ⟨m, post', st', h1, h2, h3, h4⟩ := ih (a + k) post _ st1 ht hks'
      refine ⟨m + 1, post', st', h1, fun hp => by omega, by rw [← Nat.add_assoc]; exact h3, ?_⟩
      rw [ho, h4, List.replicate_succ]; rfl
    · obtain ⟨m, post', st', h1, h2, h3, h4⟩ := ih (a + k) (post + 1) _ st ht hks'
      have hm := h2 (by omega)
      subst hm
      refine ⟨0, post', st', by omega, fun _ => rfl, by rw [← Nat.add_assoc]; exact h3, ?_⟩
      rw [ho, h4]
      have : post' - post = (post' - (post + 1)) + 1 := by omega
      rw [this, List.replicate_succ]; rfl

/-! ### `__steps_are_finished` -/

/-- without `process_outputs` a call does not change `__steps_are_finished` -/
theorem stepsLoop_saf : ∀ (k : Nat) (saf : Bool) (o : Option Obj),
    (stepsLoop c ev false k saf o).1 = saf := by
  intro k
  induction k with
  | zero => intro saf o; rfl
  | succ k ih =>
    intro saf o
    unfold stepsLoop
    simp only [Bool.false_and, Bool.or_false]
    cases o with
    | none => rfl
    | some ob =>
      simp only
      rcases performP c ev saf ob with ⟨ob1, r⟩
      cases r with
      | some e => rfl
      | none =>
        simp only
        split
        · rfl
        · exact ih saf (some ob1)

/-! ### Termination from any reachable state (fuel `n`) -/

theorem till_exists (hw : WF c) (ev : Ev) {st : St} (hr : Reach c ev st) :
    ∃ sT, runTillF c ev c.n st = .ok sT ∧ sT.finished = true :=
  let ⟨r, h1, h2, _⟩ := runTill_total hw ev hr
  ⟨r, h1, h2⟩

/-! ### Non-vacuity: concrete sessions (`small`: 6-day window, one season, harvest on day 2;
`exCfg`/`exEv`: 40 days, three seasons, maturity on day 5, death on day 17) -/

/-- observations, the three flags, and `(t, model_is_finished, tables are DataFrames, rows written,
summary)` of the object -/
def view (r : SSt × List Obs) :
    List Obs × Bool × Bool × Bool × Option (Nat × Bool × Bool × Nat × List (Int × Nat)) :=
  (r.2, r.1.stepsAreFinished, r.1.executed, r.1.hasFinished,
   r.1.obj.map (fun o => (o.clock.t, o.clock.finished, o.converted, o.clock.rowsRev.length,
     o.clock.summary)))

example : WF small := by decide
example : WF exCfg := by decide

/-- two steps (unfinished: `False`, no results), then to the end (finished, summary) -/
example : view (session small noEv [.run 2 false true false, .getInfo, .getResults,
      .run 0 true false false, .getInfo, .getResults]) =
    ([.retTrue, .info false, .retFalse, .retTrue, .info true, .summary [(0, 2)]],
     false, true, true, some (2, true, true, 3, [(0, 2)])) := by rfl

/-- stale-flag freedom: a finished object, re-initialised and run for two steps, reports
unfinished and returns no results -/
example : view (session small noEv [.run 0 true true false, .getInfo,
      .run 2 false true false, .getInfo, .getResults]) =
    ([.retTrue, .info true, .retTrue, .info false, .retFalse],
     false, true, false, some (2, false, false, 2, [])) := by rfl

/-- `finished_flag_correct` instantiated on that session -/
example := finished_flag_correct (c := small) (ev := noEv)
  [.run 0 true true false, .getInfo] [.getInfo, .getResults] (by decide) 2 false true false
  (s' := (session small noEv [.run 0 true true false, .getInfo, .run 2 false true false]).1) rfl

/-- **the converse of `finished_clock_is_reported` fails after a call that raised**:
`run_model(num_steps=0)` re-initialises the finished object *before* it
raises `ValueError`; the object then still reports finished and `get_simulation_results` returns
the **empty** summary of the new `Output`, while the clock is back at day 0, unfinished. -/
example : view (session small noEv [.run 0 true true false, .run 0 false true false, .getInfo,
      .getResults]) =
    ([.retTrue, .raised .numSteps, .info true, .summary []],
     false, true, true, some (0, false, false, 0, [])) := by rfl

/-- C09: 2 + 5 steps reach the end (3 days), a third call raises; same rows/summary as one run -/
example : view (session small noEv [.run 2 false true false, stepCall 5, stepCall 1]) =
    ([.retTrue, .retTrue, .raised .tableWrite], false, true, true,
     some (2, true, true, 3, [(0, 2)])) := by rfl
example : view (session small noEv [.run 0 true true false]) =
    ([.retTrue], false, true, true, some (2, true, true, 3, [(0, 2)])) := by rfl

/-- C11: after `run_model(num_steps=1, process_outputs=True)` the re-run
`run_model(till_termination=True, initialize_model=True)` of the same object **succeeds** and
gives the state of a new object (`_initialize` clears `__steps_are_finished`; before repo commit
4f049e5 this session was `[True, raised tableWrite]`) -/
example : view (session small noEv [.run 1 false true true, .run 0 true true false]) =
    ([.retTrue, .retTrue], false, true, true, some (2, true, true, 3, [(0, 2)])) := by rfl
/-- … but **without** re-initialisation `process_outputs` leaves an object that cannot be
continued: the tables are DataFrames (hence `po = false` in `C09.api_partition_equals_one_run`) -/
example : view (session small noEv [.run 1 false true true, stepCall 1]) =
    ([.retTrue, .raised .tableWrite], true, true, false, some (1, false, true, 1, [])) := by rfl
/-- `_initialize` clears the flag *before* it can raise (one-day window: `IndexError`): the flag
set by the first call on the uninitialised object is gone -/
example : view (session oneDay noEv [.run 1 false false true]) =
    ([.raised .attr], true, false, false, none) := by rfl
example : view (session oneDay noEv [.run 1 false false true, .run 1 false true false]) =
    ([.raised .attr, .raised .index], false, false, false, none) := by rfl

/-- before any returning run every getter raises `ValueError`; `run_model(initialize_model=
False)` on a new object raises `AttributeError` and does not count as a run -/
example : view (session small noEv [.getInfo, .getFlux, .run 3 false false false,
      .run 0 true false false, .getResults]) =
    ([.raised .noRun, .raised .noRun, .raised .attr, .raised .attr, .raised .noRun],
     false, false, false, none) := by rfl
example := getters_total (c := small) (ev := noEv) [.run 2 false true false, .getInfo]

/-- a 12-step call crosses two harvests (day 5: maturity, jump to the planting day 15;
day 17: death, jump to day 30) and performs 12 days; the whole run has 18 -/
example : view (session exCfg exEv [.run 12 false true false]) =
    ([.retTrue], false, true, false, some (33, false, false, 12, [(0, 5), (1, 17)])) := by rfl
example : view (session exCfg exEv [.run 0 true true false]) =
    ([.retTrue], false, true, true, some (38, true, true, 18, [(0, 5), (1, 17)])) := by rfl

end Aqua.Session
