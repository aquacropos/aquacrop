import AquaVerif.Proofs.Infiltration
import AquaVerif.Proofs.Irrigation
import AquaVerif.Proofs.RainPartition
import AquaVerif.Model.Day
/-
Relational lemmas for property C20 — parameters of a switched-off feature have no effect, a
feature switched on at its neutral value behaves as off.  Every statement compares two calls of
the same model function; equalities are equalities of the complete results, errors included, up to
the ghost branch ids.

The `branch` output of `irrigation`, `infiltration` and `soil_evaporation` records which path of
the Python code was taken; it is a ghost of the model (no process reads it) and the only output
that two calls under indistinguishable parameters may disagree on.  A relational statement about
such calls compares `x.map noBranch` (§0); the day and the run inherit the erasers through the
trace (`FullTrace.noBranch`, `DayResult.noBranch`, `DayRec.view`).  `IrrOut.core` is the same
observation as a tuple, for the one-sided statements "if this call succeeds with depth 0, so does
the rain-fed call" (`irrigation_as_rainfed_of_zero`).
-/

set_option linter.unusedSectionVars false
namespace Aqua
variable {α : Type} [Field α] [LinearOrder α] [IsStrictOrderedRing α]

/-! ## 0. erasing the ghost branch ids -/

def EvapOut.noBranch (o : EvapOut α) : EvapOut α := { o with branch := 0 }

def InfOut.noBranch (o : InfOut α) : InfOut α := { o with branch := 0 }

def IrrOut.noBranch (o : IrrOut α) : IrrOut α := { o with branch := 0 }

def IrrOut.core (o : IrrOut α) : α × α × α × α := (o.depletion, o.taw, o.irrCum, o.irr)

def FullTrace.noBranch (X : FullTrace α) : FullTrace α :=
  { X with i := X.i.noBranch, f := X.f.noBranch, e := X.e.noBranch }

def DayResult.noBranch (r : DayResult α) : DayResult α := { r with trace := r.trace.noBranch }

/-! ## 1. `soil_evaporation`: mulches, wetted surface -/

/-- the four parameters that enter only the mulch / partial-wetting adjustment replaced -/
@[reducible] def EvapParams.withSurf (P : EvapParams α) (m : Bool) (f p w : α) : EvapParams α :=
  { P with mulches := m, fMulch := f, mulchPct := p, wetSurf := w }

section evap
variable (F : Fn α) (P : EvapParams α) (m : Bool) (f p w : α)

theorem evapReinit_withSurf (cells : List (Cell α)) (tsc : Nat) (dap : α) (s : EvapSurf α) :
    evapReinit F (P.withSurf m f p w) cells tsc dap s = evapReinit F P cells tsc dap s := rfl

theorem evapRefresh_withSurf (D : EvapDay α) (s : EvapSurf α) :
    evapRefresh (P.withSurf m f p w) D s = evapRefresh P D s := rfl

theorem esPotBase_withSurf (S : EvapState α) (D : EvapDay α) :
    esPotBase F (P.withSurf m f p w) S D = esPotBase F P S D := rfl

theorem pondEvap_withSurf (e pond : α) (s : EvapSurf α) :
    pondEvap (P.withSurf m f p w) e pond s = pondEvap P e pond s := rfl

theorem evapStage1_withSurf (cells : List (Cell α)) (s : EvapSurf α) (e a : α) :
    evapStage1 F (P.withSurf m f p w) cells s e a = evapStage1 F P cells s e a := rfl

theorem wRelOf_withSurf (ws : α) (x : EvapW α) :
    wRelOf (P.withSurf m f p w) ws x = wRelOf P ws x := rfl

theorem wCheckOf_withSurf (z : α) : wCheckOf (P.withSurf m f p w) z = wCheckOf P z := rfl

theorem krOf_withSurf (x : α) : krOf F (P.withSurf m f p w) x = krOf F P x := rfl

end evap

/-- the five parameters that enter only `evapRefresh` and `esPotAdjust` replaced
(`P.withSurf m f p w` is `P.withAdj m f p w P.irrMethod`) -/
@[reducible] def EvapParams.withAdj (P : EvapParams α) (m : Bool) (f p w : α) (im : Nat) :
    EvapParams α :=
  { P with mulches := m, fMulch := f, mulchPct := p, wetSurf := w, irrMethod := im }

section adj
variable (F : Fn α) (P : EvapParams α) (m : Bool) (f p w : α) (im : Nat)

theorem expandLoop_withAdj (ws : α) (cells : List (Cell α)) :
    ∀ (fuel : Nat) (z wr wc : α),
      expandLoop (P.withAdj m f p w im) ws cells fuel z wr wc =
        expandLoop P ws cells fuel z wr wc := by
  intro fuel
  induction fuel with
  | zero => intro z wr wc; rfl
  | succ n ih =>
    intro z wr wc
    show (if wr < wc ∧ z < P.zMax then
        (match evapLayerWater cells (z + 0.001) with
          | Except.error e => Except.error e
          | Except.ok x => expandLoop (P.withAdj m f p w im) ws cells n (z + 0.001)
              (wRelOf P ws x) (wCheckOf P (z + 0.001)))
        else Except.ok (z, wr)) = _
    simp only [ih]
    rfl

theorem stage2Loop_withAdj (ws edt : α) :
    ∀ (n : Nat) (st : SubSt α),
      stage2Loop F (P.withAdj m f p w im) ws edt n st = stage2Loop F P ws edt n st := by
  have step : ∀ st, stage2Step F (P.withAdj m f p w im) ws edt st = stage2Step F P ws edt st := by
    intro st
    unfold stage2Step
    simp only [expandLoop_withAdj]
    rfl
  intro n
  induction n with
  | zero => intro st; rfl
  | succ n ih =>
    intro st
    simp only [stage2Loop, step, ih]

/-- everything `soil_evaporation` does once the potential evaporation `(esPot, b2)` is known -/
def evapTail (F : Fn α) (P : EvapParams α) (S : EvapState α) (cells : List (Cell α))
    (s1 : EvapSurf α) (b01 : Nat) (esPot : α) (b2 : Nat) : Except String (EvapOut α) :=
  let (esAct0, pond, s2, b3) := pondEvap P esPot S.pond s1
  match evapStage1 F P cells s2 esPot esAct0 with
  | .error e => .error e
  | .ok g1 =>
    match evapStage2 F P g1 with
    | .error e => .error e
    | .ok g2 =>
      .ok { cells := g2.cells, epot := esPot, stage2 := g2.surf.stage2,
            wStage2 := g2.surf.wStage2, wSurf := g2.surf.wSurf, pond := pond,
            evapZ := g2.surf.evapZ, esAct := g2.esAct, esPot := esPot,
            negTake := g2.neg,
            branch := b01 + b2 + b3 + g2.branch + (if g2.neg then 8192 else 0) }

theorem soilEvaporation_eq_tail (S : EvapState α) (cells : List (Cell α)) (D : EvapDay α) :
    soilEvaporation F P S cells D =
      match evapReinit F P cells D.tsc S.dap
          { wSurf := S.wSurf, evapZ := S.evapZ, stage2 := S.stage2, wStage2 := S.wStage2 } with
      | .error e => .error e
      | .ok (s0, b0) =>
        match esPotBase F P S D with
        | .error e => .error e
        | .ok (e, b) =>
          evapTail F P S cells (evapRefresh P D s0).1 (b0 + (evapRefresh P D s0).2)
            (esPotAdjust P S D e).1 (b + (esPotAdjust P S D e).2) := by
  unfold soilEvaporation esPotential evapTail
  cases evapReinit F P cells D.tsc S.dap
      { wSurf := S.wSurf, evapZ := S.evapZ, stage2 := S.stage2, wStage2 := S.wStage2 } with
  | error e => rfl
  | ok sb =>
    obtain ⟨s0, b0⟩ := sb
    cases esPotBase F P S D with
    | error e => rfl
    | ok eb => rfl

theorem evapTail_withAdj (S : EvapState α) (cells : List (Cell α)) (s1 : EvapSurf α) (b01 : Nat)
    (e : α) (b2 : Nat) :
    evapTail F (P.withAdj m f p w im) S cells s1 b01 e b2 = evapTail F P S cells s1 b01 e b2 := by
  have e1 : ∀ e pond s, pondEvap (P.withAdj m f p w im) e pond s = pondEvap P e pond s :=
    fun _ _ _ => rfl
  have e2 : ∀ cells s e a, evapStage1 F (P.withAdj m f p w im) cells s e a =
      evapStage1 F P cells s e a := fun _ _ _ _ => rfl
  unfold evapTail evapStage2
  simp only [e1, e2, stage2Loop_withAdj]

/-- the ghost branch mask is the only place the branch id of the potential evaporation enters -/
theorem evapTail_noBranch (S : EvapState α) (cells : List (Cell α)) (s1 : EvapSurf α)
    (b01 b01' : Nat) (e : α) (b2 b2' : Nat) :
    (evapTail F P S cells s1 b01 e b2).map EvapOut.noBranch =
      (evapTail F P S cells s1 b01' e b2').map EvapOut.noBranch := by
  unfold evapTail
  simp only []
  cases evapStage1 F P cells (pondEvap P e S.pond s1).2.2.1 e (pondEvap P e S.pond s1).1 with
  | error x => rfl
  | ok g1 =>
    simp only []
    cases evapStage2 F P g1 with
    | error x => rfl
    | ok g2 => rfl

theorem soilEvaporation_withAdj (S : EvapState α) (cells : List (Cell α)) (D : EvapDay α)
    (hr : ∀ s, (evapRefresh (P.withAdj m f p w im) D s).1 = (evapRefresh P D s).1)
    (ha : ∀ e, (esPotAdjust (P.withAdj m f p w im) S D e).1 = (esPotAdjust P S D e).1) :
    (soilEvaporation F (P.withAdj m f p w im) S cells D).map EvapOut.noBranch =
      (soilEvaporation F P S cells D).map EvapOut.noBranch := by
  have e1 : ∀ cells tsc dap s, evapReinit F (P.withAdj m f p w im) cells tsc dap s =
      evapReinit F P cells tsc dap s := fun _ _ _ _ => rfl
  have e2 : esPotBase F (P.withAdj m f p w im) S D = esPotBase F P S D := rfl
  rw [soilEvaporation_eq_tail, soilEvaporation_eq_tail]
  simp only [e1, e2, evapTail_withAdj]
  cases evapReinit F P cells D.tsc S.dap
      { wSurf := S.wSurf, evapZ := S.evapZ, stage2 := S.stage2, wStage2 := S.wStage2 } with
  | error e => rfl
  | ok sb =>
    obtain ⟨s0, b0⟩ := sb
    cases esPotBase F P S D with
    | error e => rfl
    | ok eb =>
      obtain ⟨e, b⟩ := eb
      simp only [ha, hr]
      exact evapTail_noBranch F P S cells _ _ _ _ _ _

end adj

section evap
variable (F : Fn α) (P : EvapParams α) (m : Bool) (f p w : α)

theorem soilEvaporation_withSurf_of_adjust (S : EvapState α) (cells : List (Cell α))
    (D : EvapDay α)
    (h : ∀ e, esPotAdjust (P.withSurf m f p w) S D e = esPotAdjust P S D e) :
    soilEvaporation F (P.withSurf m f p w) S cells D = soilEvaporation F P S cells D := by
  have ht : ∀ S cells s1 b01 e b2, evapTail F (P.withSurf m f p w) S cells s1 b01 e b2 =
      evapTail F P S cells s1 b01 e b2 := evapTail_withAdj F P m f p w P.irrMethod
  rw [soilEvaporation_eq_tail, soilEvaporation_eq_tail]
  simp only [evapReinit_withSurf, esPotBase_withSurf, evapRefresh_withSurf, ht, h]

end evap

/-! ## 2. `rainfall_partition` and `infiltration`: bunds, curve-number adjustment, efficiency -/

section rain
variable (F : Fn α)

theorem rainPartition_bunds_off (p : α) (cells : List (Cell α)) (daySub : Nat) (srInhb : Bool)
    (zBund zBund' cnAdjPct soilCN : α) (adjCN : Bool) (zCN : α) :
    rainPartition F p cells daySub srInhb false zBund cnAdjPct soilCN adjCN zCN =
      rainPartition F p cells daySub srInhb false zBund' cnAdjPct soilCN adjCN zCN := by
  rw [rainPartition_eq, rainPartition_eq]
  exact if_congr (by simp) rfl rfl

theorem rainPartition_low_bund (p : α) (cells : List (Cell α)) (daySub : Nat) (srInhb : Bool)
    (zBund cnAdjPct soilCN : α) (adjCN : Bool) (zCN : α) (hz : zBund < 0.001) :
    rainPartition F p cells daySub srInhb true zBund cnAdjPct soilCN adjCN zCN =
      rainPartition F p cells daySub srInhb false zBund cnAdjPct soilCN adjCN zCN := by
  rw [rainPartition_eq, rainPartition_eq]
  exact if_congr (by simp [hz]) rfl rfl

theorem rainPartition_cn_inert (p : α) (cells : List (Cell α)) (daySub : Nat)
    (srInhb bunds : Bool) (zBund pct pct' soilCN : α) (adjCN : Bool) (zCN : α)
    (h : (srInhb = false → (bunds = false ∨ zBund < 0.001) → pct' = pct)) :
    rainPartition F p cells daySub srInhb bunds zBund pct' soilCN adjCN zCN =
      rainPartition F p cells daySub srInhb bunds zBund pct soilCN adjCN zCN := by
  by_cases hc : srInhb = false ∧ (bunds = false ∨ zBund < 0.001)
  · rw [h hc.1 hc.2]
  · rw [rainPartition_eq, rainPartition_eq, if_neg hc, if_neg hc]

/-- the call-site expression of `run_single_timestep.py` line 217:
`FieldMngt.curve_number_adj_pct if FieldMngt.curve_number_adj else 0`.  `fullDayTrace`
(`Model/Day.lean`) and `FmSim.rain` write the expression out; only statements of
`Properties/C20.lean` use this name. -/
def cnAdjArg (flag : Bool) (pct : α) : α := if flag then pct else 0

theorem infiltration_bunds_off (cells : List (Cell α)) (pond infl irr appEff zBund zBund' dp0 ro0 : α)
    (gs : Bool) :
    infiltration F cells pond infl irr appEff false zBund dp0 ro0 gs =
      infiltration F cells pond infl irr appEff false zBund' dp0 ro0 gs := by
  have hn : ∀ z : α, ¬ (false = true ∧ (0.001 : α) < z) := fun _ h => nomatch h.1
  unfold infiltration
  extract_lets I
  by_cases h0 : 0 ≤ I
  · rw [if_pos h0, if_pos h0, infSurface_noBunds _ _ _ _ _ (hn _),
      infSurface_noBunds _ _ _ _ _ (hn _)]
    cases noBunds (cells.head?.map (·.c.ksat)) pond I (if false then 8 else 6) with
    | error e => rfl
    | ok s =>
      simp only [infFinish, bundRestore_noBunds _ _ _ _ _ (hn _), Bool.false_eq_true, false_and,
        and_false, if_false]
  · rw [if_neg h0, if_neg h0]

theorem infiltration_low_bund (cells : List (Cell α))
    (pond infl irr appEff zBund dp0 ro0 : α) (gs : Bool) (hz : zBund ≤ 0.001) :
    (infiltration F cells pond infl irr appEff true zBund dp0 ro0 gs).map InfOut.noBranch
      = (infiltration F cells pond infl irr appEff false zBund dp0 ro0 gs).map InfOut.noBranch := by
  have hn : ∀ b : Bool, ¬ (b = true ∧ (0.001 : α) < zBund) := fun b h => not_lt.mpr hz h.2
  unfold infiltration
  extract_lets I
  by_cases h0 : 0 ≤ I
  · rw [if_pos h0, if_pos h0, infSurface_noBunds _ _ _ _ _ (hn _), infSurface_noBunds _ _ _ _ _ (hn _)]
    unfold noBunds
    cases cells.head?.map (·.c.ksat) with
    | none => rfl
    | some k =>
      by_cases h4 : k < I <;>
        simp only [h4, if_true, if_false, Except.map, InfOut.noBranch, infFinish,
          bundRestore_noBunds _ _ _ _ _ (hn _)]
  · rw [if_neg h0, if_neg h0]

theorem infiltration_appEff_inert (cells : List (Cell α))
    (pond infl irr appEff appEff' zBund dp0 ro0 : α) (bunds gs : Bool)
    (h : gs = false ∨ irr = 0 ∨ appEff' = appEff) :
    infiltration F cells pond infl irr appEff' bunds zBund dp0 ro0 gs =
      infiltration F cells pond infl irr appEff bunds zBund dp0 ro0 gs := by
  have e : infIntake infl irr appEff' gs = infIntake infl irr appEff gs := by
    rcases h with rfl | rfl | rfl
    · rfl
    · unfold infIntake; simp
    · rfl
  unfold infiltration
  simp only [e]

end rain

/-! ## 3. `irrigation`: parameters of the other strategies, neutral settings -/

section irr
variable (F : Fn α) (cells : List (Cell α)) (st : Nat) (irrCum ePot tPot zRoot : α) (dap : Nat)
  (zMin aer zTop : α) (gs : Bool) (rain runoff : α)

theorem irrFinish_congr {P P' : IrrParams α} (hs : P'.maxSeason = P.maxSeason)
    (dep taw c x : α) (br : Nat) : irrFinish P' dep taw c x br = irrFinish P dep taw c x br := by
  unfold irrFinish; rw [hs]

theorem irrigation_congr {P P' : IrrParams α} (sched sched' : Option α)
    (hm : P'.method = P.method) (hs : P'.maxSeason = P.maxSeason)
    (hd : ∀ stage dep taw, irrDemand P' stage dep taw dap sched' = irrDemand P stage dep taw dap sched) :
    irrigation F P' cells st irrCum ePot tPot zRoot dap sched' zMin aer zTop gs rain runoff =
      irrigation F P cells st irrCum ePot tPot zRoot dap sched zMin aer zTop gs rain runoff := by
  unfold irrigation
  cases gs
  · simp only [Bool.false_eq_true, if_false, irrFinish_congr hs]
  · simp only [if_true]
    cases rootZoneWater F cells zRoot zTop zMin aer with
    | none => rfl
    | some rz =>
      simp only [hd, hm, irrFinish_congr hs]

@[reducible] def IrrParams.rainfed (P : IrrParams α) : IrrParams α := { P with method := 0 }

theorem pmax0_pmin_nonpos (a b : α) (hb : b ≤ 0) : pmax 0 (pmin a b) = 0 := by
  rw [pmax_eq, pmin_eq]
  exact max_eq_left (le_trans (min_le_right _ _) hb)

theorem pmax0_pmin_left_nonpos (a b : α) (ha : a ≤ 0) : pmax 0 (pmin a b) = 0 := by
  rw [pmax_eq, pmin_eq]
  exact max_eq_left (le_trans (min_le_left _ _) ha)

/-- `hz` holds when the demand the strategy computes is non-positive, or when the seasonal cap is 0
and the counter non-negative -/
theorem irrigation_as_rainfed_of_zero {P : IrrParams α} (sched : Option α) {out : IrrOut α}
    (h : irrigation F P cells st irrCum ePot tPot zRoot dap sched zMin aer zTop gs rain runoff
      = .ok out)
    (hz : gs = true → out.irr = 0) :
    ∃ o0, irrigation F P.rainfed cells st irrCum ePot tPot zRoot dap sched zMin aer zTop gs rain
        runoff = .ok o0 ∧ o0.core = out.core ∧ out.irr = 0 := by
  cases gs with
  | false =>
    obtain ⟨o0, ho0, a1, a2, a3, a4⟩ := irrigation_offseason F P.rainfed cells st irrCum ePot tPot
      zRoot dap sched zMin aer zTop rain runoff
    obtain ⟨b1, b2, b3, b4⟩ := irr_offseason h
    exact ⟨o0, ho0, by simp [IrrOut.core, a1, a2, a3, a4, b1, b2, b3, b4], b1⟩
  | true =>
    have hz := hz rfl
    obtain ⟨rz, irr0, fired, hrz, hdep, htaw, _, hirr, hcum⟩ := irrigation_spec h
    have hp : pmax (0 : α) 0 = 0 := by rw [pmax_eq]; exact max_self _
    have hc : irrCap P.maxSeason irrCum (0 : α) = 0 := irrCap_zero _ _
    have hr : ∃ o0, irrigation F P.rainfed cells st irrCum ePot tPot zRoot dap sched zMin aer zTop
        true rain runoff = .ok o0 ∧ o0.depletion = irrDepletion rz ePot tPot zRoot zMin rain runoff ∧
        o0.taw = rz.tawRz ∧ o0.irrCum = irrCum + irrCap P.maxSeason irrCum (pmax 0 0) ∧
        o0.irr = irrCap P.maxSeason irrCum (pmax 0 0) := by
      unfold irrigation
      simp only [if_true, hrz, irrDemand]
      exact ⟨_, rfl, rfl, rfl, rfl, rfl⟩
    obtain ⟨o0, ho0, a1, a2, a3, a4⟩ := hr
    refine ⟨o0, ho0, ?_, hz⟩
    simp only [IrrOut.core, Prod.mk.injEq]
    refine ⟨by rw [a1, hdep], by rw [a2, htaw], ?_, ?_⟩
    · rw [a3, hp, hc, hcum, hz]
    · rw [a4, hp, hc, hz]

end irr

end Aqua

#print axioms Aqua.infiltration_low_bund
