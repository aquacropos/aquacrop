import AquaVerif.Proofs.RunLiftSum
import AquaVerif.Properties.C07
import AquaVerif.Proofs.Day
import AquaVerif.Proofs.Clock
import AquaVerif.Properties.C06
/-
Property C06 above the single processes: which summary rows exist (clock model), the whole day
(`full_day_*`) and every run of the run model (`run_*`).  The theorems about the seasonal
irrigation counter, `yieldStep` and `biomass_accumulation` on their own are in `Properties/C06.lean`,
which `Proofs/Day.lean` cites.  The clock-model theorems are for every well-formed clock
configuration (`WF`, resp. `Valid`), every oracle and every reachable state, as in
`Properties/C07.lean`.
-/

set_option linter.unusedSectionVars false
namespace Aqua.C06
open Aqua Aqua.Clock

/-! ### which summary rows exist (clock model) -/

section summary
variable {c : Cfg} {ev : Ev} {s : St}

/-- There is a summary row for season `k` exactly when some simulated day of season `k` met the
end-of-season condition (the season reached harvest). -/
theorem summary_row_iff_season_reached_harvest (hw : WF c) (hr : Reach c ev s) (k : Int) :
    (∃ t, (k, t) ∈ s.summary) ↔ ∃ r ∈ s.rows, r.season = k ∧ r.endc = true := by
  constructor
  · rintro ⟨t, h⟩
    obtain ⟨r, hr1, a, _, c1, _⟩ := (season_ends_first hw hr k t).mp h
    exact ⟨r, hr1, a, c1⟩
  · intro h
    obtain ⟨t, ht⟩ := exists_firstEnd k s.rows h
    exact ⟨t, (season_ends_first hw hr k t).mpr ht⟩

/-- Summary rows are in strictly increasing season order. -/
theorem summary_in_season_order (hw : WF c) (hr : Reach c ev s) :
    s.summary.Pairwise (fun a b => a.1 < b.1) := summary_sorted hw hr

/-- At most one summary row per season. -/
theorem summary_one_row_per_season (hw : WF c) (hr : Reach c ev s) {k : Int} {t1 t2 : Nat}
    (h1 : (k, t1) ∈ s.summary) (h2 : (k, t2) ∈ s.summary) : t1 = t2 := by
  obtain ⟨r1, hr1, a1, b1, c1, d1⟩ := (season_ends_first hw hr k t1).mp h1
  obtain ⟨r2, hr2, a2, b2, c2, d2⟩ := (season_ends_first hw hr k t2).mp h2
  have := d1 r2 hr2 a2 c2
  have := d2 r1 hr1 a1 c1
  omega

/-- A summary row is never overwritten: the `final_stats` table is exactly the list of writes. -/
theorem summary_never_overwritten (hw : WF c) (hr : Reach c ev s) :
    finalStats s.summary = s.summary := by
  unfold finalStats
  simpa using foldl_upsert_sorted s.summary [] (by simpa using summary_sorted hw hr)

/-- The harvest step recorded in the row of season `k` is the first simulated day of that season on
which the crop is mature or dead or the next day is the latest harvest date. -/
theorem harvest_step_is_first_end_condition_day (hw : WF c) (hr : Reach c ev s) (k : Int) (t : Nat) :
    (k, t) ∈ s.summary ↔ FirstEnd s.rows k t := C07.season_ends_on_first_end_condition hw hr k t

/-- Under `Valid` every season that has been left has its summary row (none is missing). -/
theorem every_completed_season_has_a_row (hv : Valid c) (hr : Reach c ev s) (k : Nat)
    (hk : (k : Int) < s.season) : ∃ t, ((k : Int), t) ∈ s.summary := season_harvested hv hr k hk

/-- After the summary row of season `k` has been written no later simulated day of that season is a
growing day (`growing_season = False`, `dap = 0`): the row closes the season. -/
theorem no_growing_day_after_summary_row (hw : WF c) (hr : Reach c ev s) {k : Int} {t : Nat}
    (h : (k, t) ∈ s.summary) :
    ∀ r ∈ s.rows, r.season = k → t < r.t → r.gs = false ∧ r.dap = 0 :=
  C07.no_growing_day_after_season_closed hw hr h

/-- A growing day lies strictly before its season's latest harvest date
(`t + 1 ≤ harvest[season]`). -/
theorem growing_day_before_latest_harvest_date (hw : WF c) (hr : Reach c ev s) :
    ∀ r ∈ s.rows, r.gs = true → (r.t : Int) + 1 ≤ c.hv r.season.toNat :=
  C07.growing_day_before_latest_harvest_date hw hr

end summary

/-! ### the rows the full day emits (`Model/Day.lean`, tied to `solution_single_time_step` by the `full_day` replay) -/

/-- **Full day.** The rows written on a day satisfy the yield identities and the biomass step, and
the state copies the reported values — no premise. -/
theorem full_day_yield_identities {α : Type} [Field α] [LinearOrder α] [IsStrictOrderedRing α]
    {F : Fn α} {T : TrigFn α} {P : DayParams α} {st : DayState' α} {D : DayIn' α} {r : DayResult α}
    (h : fullDay F T P st D = .ok r) :
    r.growth.yieldPot = (r.growth.biomassNS / 100) * r.growth.hi ∧
    (D.gs = true →
      r.growth.dryYield = (r.growth.biomass / 100) * r.growth.hiAdj ∧
      r.growth.freshYield = r.growth.dryYield / (P.cx.yldWC / 100) ∧
      r.growth.biomass = st.biomass +
        bioWPadj P.cx.bio (natNum r.growth.dap) r.state.delayedCds r.state.hiRef
          r.state.pctLagPhase * (r.flux.tr / D.et0) ∧
      r.growth.biomassNS = st.biomassNS +
        bioWPadj P.cx.bio (natNum r.growth.dap) r.state.delayedCds r.state.hiRef
          r.state.pctLagPhase * (r.water.trPotNS / D.et0)) ∧
    (r.state.yieldPot = r.growth.yieldPot ∧ r.state.dryYield = r.growth.dryYield ∧
      r.state.freshYield = r.growth.freshYield ∧ r.state.biomass = r.growth.biomass ∧
      r.state.biomassNS = r.growth.biomassNS ∧ r.state.hi = r.growth.hi ∧
      r.state.hiAdj = r.growth.hiAdj ∧ r.state.cc = r.growth.cc ∧ r.state.ccNS = r.growth.ccNS ∧
      r.state.zRoot = r.growth.zRoot) := fullDay_yields h

/-- **Full day.** A summary row is written exactly when the season's end condition holds and the
harvest flag is not yet set (the day sets it), and it repeats the daily values of that day:
dry, fresh and potential yield, the step, and the seasonal irrigation total. -/
theorem full_day_summary_row_repeats_harvest_day {α : Type} [Field α] [LinearOrder α]
    [IsStrictOrderedRing α] {F : Fn α} {T : TrigFn α} {P : DayParams α} {st : DayState' α}
    {D : DayIn' α} {r : DayResult α} (h : fullDay F T P st D = .ok r) :
    (r.summary.isSome = (r.endc && !st.harvestFlag)) ∧
    r.state.harvestFlag = (st.harvestFlag || r.endc) ∧
    r.endc = (decide (0 ≤ D.season) && (r.state.cropMature || r.state.cropDead || D.lastDay)) ∧
    (∀ s, r.summary = some s → s.season = D.season ∧ s.tsc = D.tsc ∧
      s.dryYield = r.growth.dryYield ∧ s.freshYield = r.growth.freshYield ∧
      s.yieldPot = r.growth.yieldPot ∧ s.irrTot = r.irrTot) := fullDay_summary h

/-- **Full day.** The seasonal irrigation total reported is yesterday's counter plus today's
irrigation column (surface irrigation, or net irrigation incl. pre-irrigation under method 4),
and zero outside a season (the induction step of
`run_seasonal_irrigation_is_sum_of_daily_column`). -/
theorem full_day_seasonal_total_step {α : Type} [Field α] [LinearOrder α] [IsStrictOrderedRing α]
    {F : Fn α} {T : TrigFn α} {P : DayParams α} {st : DayState' α} {D : DayIn' α} {r : DayResult α}
    (h : fullDay F T P st D = .ok r) :
    (D.gs = true → P.W.irr.method ≠ 4 →
      r.irrTot = r.state.irrCum ∧ r.irrTot = st.irrCum + r.flux.irrDay) ∧
    (D.gs = true → P.W.irr.method = 4 →
      r.irrTot = r.state.irrNetCum ∧ r.irrTot = st.irrNetCum + r.flux.irrDay) ∧
    (D.gs = false → r.irrTot = 0 ∧ r.flux.irrDay = 0) := fullDay_irrTot h

/-! ### every run (`Proofs/RunLiftSum.lean`) -/

section run
variable {α : Type} [Field α] [LinearOrder α] [IsStrictOrderedRing α]
  {F : Fn α} {T : TrigFn α} {cfg : RunCfg α} {s : RunState α}

/-- **Run level, seasonal irrigation.** For every row of the summary table of every reachable state
of every run, the seasonal irrigation `IrrTot` equals the sum of the daily irrigation column of the
`water_flux` table over the rows of that season up to (and including) the row's harvest step.
Premises: a `Valid` clock, the initial season flags cleared, both initial counters 0.
(The invariant `run_irrSum` itself; the sum over the whole season below adds that the rows of the
same season after the harvest step carry no irrigation, `run_no_growing_day_after_harvest`.) -/
theorem run_seasonal_irrigation_is_sum_of_daily_column (hv : Valid cfg.clock) (hi : InitOK cfg)
    (h0 : InitIrr0 cfg) (hr : RunReach F T cfg s) :
    ∀ x ∈ s.summaryTable,
      x.irrTot = ((s.fluxTable.filter
        (fun f => decide (f.season = x.season) && decide (f.tsc ≤ x.tsc))).map (·.irrDay)).sum := by
  intro x hx
  obtain ⟨d, hd, hdx⟩ := mem_summaryTable.mp hx
  rw [fluxTable_sum_of hr (fun k t => decide (k = x.season) && decide (t ≤ x.tsc))]
  exact (run_irrSum hv hi h0 hr).2 d hd x hdx

/-- **Run level, seasonal irrigation, whole season.** For every row of the summary table of every
reachable state of every run, the seasonal irrigation `IrrTot` equals the sum of the daily
irrigation column of the `water_flux` table over **all** rows of that season (with the off-season
simulated: including the fallow days between the harvest and the next planting date, which carry
the same season counter).  Premises: a `Valid` clock, the initial season flags cleared, both
initial counters 0. -/
theorem run_seasonal_irrigation_is_sum_over_whole_season (hv : Valid cfg.clock) (hi : InitOK cfg)
    (h0 : InitIrr0 cfg) (hr : RunReach F T cfg s) :
    ∀ x ∈ s.summaryTable,
      x.irrTot = ((s.fluxTable.filter (fun f => decide (f.season = x.season))).map
        (·.irrDay)).sum :=
  run_summary_irrigation hv hi h0 hr

/-- **Run level.** After a season's summary row has been written no later recorded day of that
season is a growing-season day: `growing_season = False`, `IrrDay = 0`, `dap = 0` (both tables),
no transpiration, canopy cover, biomass or yield — nothing that happens after the harvest is
missing from the summary.  Premises: a well-formed clock, the initial season flags cleared. -/
theorem run_no_growing_day_after_harvest (hw : WF cfg.clock) (hi : InitOK cfg)
    (hr : RunReach F T cfg s) :
    ∀ x ∈ s.summaryTable, ∀ d ∈ s.daysRev, d.D.season = x.season → x.tsc < d.D.tsc →
      d.D.gs = false ∧ d.r.flux.irrDay = 0 ∧ d.r.flux.dap = 0 ∧ d.r.growth.dap = 0 ∧
        d.r.flux.tr = 0 ∧ d.r.growth.cc = 0 ∧ d.r.growth.biomass = 0 ∧ d.r.growth.dryYield = 0 ∧
        d.r.growth.freshYield = 0 ∧ d.r.storage.gs = false :=
  Aqua.run_no_growing_day_after_harvest hw hi hr

/-- … in terms of the rows of the `water_flux` table. -/
theorem run_no_irrigation_after_harvest (hw : WF cfg.clock) (hi : InitOK cfg)
    (hr : RunReach F T cfg s) :
    ∀ x ∈ s.summaryTable, ∀ f ∈ s.fluxTable, f.season = x.season → x.tsc < f.tsc →
      f.irrDay = 0 ∧ f.dap = 0 ∧ f.tr = 0 := by
  intro x hx f hf hs ht
  obtain ⟨d, hd, rfl⟩ := mem_fluxTable.mp hf
  obtain ⟨e1, e2, _⟩ := fullDay_row_keys (run_days hr d hd)
  obtain ⟨_, a, b, _, c, _⟩ :=
    Aqua.run_no_growing_day_after_harvest hw hi hr x hx d hd (by rw [← e2]; exact hs)
      (by rw [← e1]; exact ht)
  exact ⟨a, b, c⟩

/-- **Run level, yields.** Every summary row repeats the yields of the `crop_growth` row of its harvest
step, and that is the only `crop_growth` row with that step.  Premises: a well-formed clock, the
initial season flags cleared. -/
theorem run_summary_row_repeats_harvest_day (hw : WF cfg.clock) (hi : InitOK cfg)
    (hr : RunReach F T cfg s) :
    ∀ x ∈ s.summaryTable,
      (∃ g ∈ s.growthTable, g.season = x.season ∧ g.tsc = x.tsc ∧ x.dryYield = g.dryYield ∧
        x.freshYield = g.freshYield ∧ x.yieldPot = g.yieldPot) ∧
      (∀ g ∈ s.growthTable, g.tsc = x.tsc → g.season = x.season ∧ x.dryYield = g.dryYield ∧
        x.freshYield = g.freshYield ∧ x.yieldPot = g.yieldPot) :=
  fun x hx => ⟨run_summary_yields hr x hx, run_summary_yields_unique hw hi hr x hx⟩

/-- **Run level, rows.** The summary rows are in strictly increasing season order (at most one per
season); a season has a row with step `t` exactly when `t` is the first recorded day of that season
on which the end-of-season condition held.  Premises: a well-formed clock, the initial season flags
cleared. -/
theorem run_one_row_per_season_in_order (hw : WF cfg.clock) (hi : InitOK cfg)
    (hr : RunReach F T cfg s) :
    (s.summaryTable.map (·.season)).Pairwise (· < ·) ∧
    ∀ (k : Int) (t : Nat), (∃ x ∈ s.summaryTable, x.season = k ∧ x.tsc = t) ↔
      ∃ d ∈ s.daysRev, d.D.season = k ∧ d.D.tsc = t ∧ d.r.endc = true ∧
        ∀ d' ∈ s.daysRev, d'.D.season = k → d'.r.endc = true → t ≤ d'.D.tsc :=
  ⟨run_summary_rows hw hi hr, run_summary_iff hw hi hr⟩

/-- **Run level, rows.** Under a `Valid` clock (and the initial season flags cleared) every season
that has been left has its row, written at the latest on the day before the season's latest harvest
date. -/
theorem run_every_completed_season_has_a_row (hv : Valid cfg.clock) (hi : InitOK cfg)
    (hr : RunReach F T cfg s) :
    (∀ k : Nat, (k : Int) < s.season → ∃ x ∈ s.summaryTable, x.season = k) ∧
    (∀ x ∈ s.summaryTable, (x.tsc : Int) + 1 ≤ cfg.clock.hv x.season.toNat) := by
  obtain ⟨ev, hre, _⟩ := run_refines_clock hv.wf hi hr
  constructor
  · intro k hk
    obtain ⟨t, ht⟩ := season_harvested hv hre k hk
    rw [clockOf_summary] at ht
    obtain ⟨x, hx, e⟩ := List.mem_map.mp ht
    exact ⟨x, hx, (Prod.mk.inj e).1⟩
  · intro x hx
    have : (x.season, x.tsc) ∈ s.clockOf.summary := by
      rw [clockOf_summary]; exact List.mem_map_of_mem hx
    exact harvest_by_latest_date hv hre this

/-- **Run level.** The daily identities on every recorded day of every run — no premise. -/
theorem run_daily_yield_identities (hr : RunReach F T cfg s) :
    ∀ d ∈ s.daysRev,
      d.r.growth.yieldPot = (d.r.growth.biomassNS / 100) * d.r.growth.hi ∧
      (d.D.gs = true →
        d.r.growth.dryYield = (d.r.growth.biomass / 100) * d.r.growth.hiAdj ∧
        d.r.growth.freshYield = d.r.growth.dryYield / (d.P.cx.yldWC / 100) ∧
        d.r.growth.biomass = d.st.biomass +
          bioWPadj d.P.cx.bio (natNum d.r.growth.dap) d.r.state.delayedCds d.r.state.hiRef
            d.r.state.pctLagPhase * (d.r.flux.tr / d.D.et0) ∧
        d.r.growth.biomassNS = d.st.biomassNS +
          bioWPadj d.P.cx.bio (natNum d.r.growth.dap) d.r.state.delayedCds d.r.state.hiRef
            d.r.state.pctLagPhase * (d.r.water.trPotNS / d.D.et0)) ∧
      (d.D.gs = false → d.r.growth.dryYield = 0 ∧ d.r.growth.freshYield = 0 ∧
        d.r.growth.yieldPot = 0 ∧ d.r.growth.biomass = 0 ∧ d.r.flux.irrDay = 0) ∧
      (d.r.state.yieldPot = d.r.growth.yieldPot ∧ d.r.state.dryYield = d.r.growth.dryYield ∧
        d.r.state.freshYield = d.r.growth.freshYield ∧ d.r.state.biomass = d.r.growth.biomass ∧
        d.r.state.biomassNS = d.r.growth.biomassNS) := by
  intro d hd
  have hday := run_days hr d hd
  obtain ⟨a, b, c1, c2, c3, c4, c5, _⟩ := fullDay_yields hday
  refine ⟨a, b, fun hg => ?_, c1, c2, c3, c4, c5⟩
  obtain ⟨⟨_, _, f3, _⟩, ⟨_, _, _, _, _, _, g7, _, _, _, g11, g12, g13⟩, _⟩ :=
    fullDay_offseason_zero hday hg
  exact ⟨g11, g12, g13, g7, f3⟩

end run

end Aqua.C06
