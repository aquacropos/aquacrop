import AquaVerif.Model.HIref
import AquaVerif.Model.HarvestIndex
import AquaVerif.Model.HIinit
import AquaVerif.Proofs.Basic
import AquaVerif.Proofs.Response
/-
Lemmas about the harvest-index chain (property C05): `HIref_current_day`, `harvest_index` with
its `HIadj_*` helpers, and the initialisation loops `calculate_HIGC` / `calculate_HI_linear`.

All statements are for an arbitrary linearly ordered field `α`.  Laws assumed about the
non-algebraic functions, always as explicit hypotheses:
* `ExpOrdLaws F` (from `Proofs/Response.lean`: `exp > 0`, `exp 0 = 1`, strictly monotone) — for
  the logistic build-up curve;
* `SinLaw T` (`-1 ≤ sin x ≤ 1`) — for the pre-anthesis adjustment;
* `PowNonneg F` (`0 ≤ x → 0 ≤ x ** y`) — for the post-anthesis adjustment;
* `ExpAddLaw F` and `ExpLinLaw F` (`1 + x ≤ exp x`) — only for the termination of the
  `calculate_HIGC` loop.
-/

set_option linter.unusedSectionVars false
namespace Aqua
variable {α : Type} [Field α] [LinearOrder α] [IsStrictOrderedRing α]

/-! ## 1. Off season -/

theorem hiref_offseason (F : Fn α) (c : HiCrop α) (s : HiRefIn α) :
    hiRefCurrentDay F c s false =
      { hiRef := 0, yieldForm := s.yieldForm, pctLagPhase := s.pctLagPhase, hiFinal := s.hiFinal } := by
  simp [hiRefCurrentDay]

theorem hi_offseason (F : Fn α) (T : TrigFn α) (cells : List (Cell α)) (zTop : α) (c : HiCrop α)
    (k : HiStressCrop α) (s : HiState α) (et0 tmax tmin : α) :
    harvestIndex F T cells zTop c k s et0 tmax tmin false = .ok { s with hi := 0, hiAdj := 0 } := by
  simp [harvestIndex]

/-! ## 2. The reference harvest index: caps, the lag-phase percentage -/

theorem hiRefLimit_cases (c : HiCrop α) (h : α) :
    hiRefLimit c h = c.hi0 ∨
    (h ≤ c.hi0 ∧ h ≤ c.hiIni + 0.004 ∧ hiRefLimit c h = 0) ∨
    (h ≤ c.hi0 ∧ c.hiIni + 0.004 < h ∧ 0.004 ≤ c.hi0 - h ∧ hiRefLimit c h = h) := by
  unfold hiRefLimit
  split_ifs with h1 h2 h3
  · exact Or.inl rfl
  · exact Or.inr (Or.inl ⟨not_lt.mp h1, h2, rfl⟩)
  · exact Or.inl rfl
  · exact Or.inr (Or.inr ⟨not_lt.mp h1, not_le.mp h2, not_lt.mp h3, rfl⟩)

theorem hiRefLimit_le_hi0 (c : HiCrop α) (h : α) (h0 : 0 ≤ c.hi0) : hiRefLimit c h ≤ c.hi0 := by
  rcases hiRefLimit_cases c h with e | ⟨_, _, e⟩ | ⟨h1, _, _, e⟩ <;> rw [e]
  exacts [h0, h1]

theorem hiRefLimit_nonneg (c : HiCrop α) (h : α) (h0 : 0 ≤ c.hi0) (hini : -0.004 ≤ c.hiIni) :
    0 ≤ hiRefLimit c h := by
  rcases hiRefLimit_cases c h with e | ⟨_, _, e⟩ | ⟨_, h2, _, e⟩ <;> rw [e]
  · exact h0
  · exact (neg_le_iff_add_nonneg.mp hini).trans h2.le

theorem hiRefLimit_mono (c : HiCrop α) {x y : α} (hxy : x ≤ y) (h0 : 0 ≤ c.hi0)
    (hini : -0.004 ≤ c.hiIni) : hiRefLimit c x ≤ hiRefLimit c y := by
  rcases hiRefLimit_cases c y with e | ⟨y1, y2, e⟩ | ⟨y1, y2, y3, e⟩ <;> rw [e]
  · exact hiRefLimit_le_hi0 c x h0
  · -- `x` takes the same branch
    rw [hiRefLimit, if_neg (not_lt.mpr (hxy.trans y1)), if_pos (hxy.trans y2)]
  · rw [hiRefLimit, if_neg (not_lt.mpr (hxy.trans y1))]
    split_ifs with a b
    · exact (neg_le_iff_add_nonneg.mp hini).trans y2.le
    · exact absurd (y3.trans (sub_le_sub_left hxy _)) (not_le.mpr b)
    · exact hxy

/-- in season, once the build-up has started, the returned value is the limited curve value
capped by `HIfinal`: the "inadequate photosynthesis" block (which assigns only the local copy
of `HIfinal`) has **no effect** on the result — the canopy arguments are irrelevant. -/
theorem hiref_eq (F : Fn α) (c : HiCrop α) (s : HiRefIn α) (h0 : 0 ≤ c.hi0)
    (ht : 0 < hiTime c s.dap s.delayedCDs) :
    (hiRefCurrentDay F c s true).hiRef =
      min (hiRefLimit c (hiRefRaw F c (hiTime c s.dap s.delayedCDs) (s.hiRef, s.pctLagPhase)).1)
        s.hiFinal := by
  have hle := hiRefLimit_le_hi0 c
    (hiRefRaw F c (hiTime c s.dap s.delayedCDs) (s.hiRef, s.pctLagPhase)).1 h0
  simp only [hiRefCurrentDay, if_true, not_le.mpr ht, if_false]
  by_cases hc : hiFinalAdjCond c s.hiFinal (hiTime c s.dap s.delayedCDs) s.cc s.ccxW
  · have heq : s.hiFinal = c.hi0 := le_antisymm hc.1.1 hc.1.2
    simp only [hc, if_true, lt_irrefl, if_false]
    rw [heq]; exact (min_eq_left hle).symm
  · simp only [hc, if_false]
    split_ifs with h1
    · exact (min_eq_right h1.le).symm
    · exact (min_eq_left (not_lt.mp h1)).symm

theorem hiref_eq_zero (F : Fn α) (c : HiCrop α) (s : HiRefIn α)
    (ht : hiTime c s.dap s.delayedCDs ≤ 0) : (hiRefCurrentDay F c s true).hiRef = 0 := by
  simp [hiRefCurrentDay, ht]

theorem hiref_zero_or_min (F : Fn α) (c : HiCrop α) (s : HiRefIn α) (gs : Bool) (h0 : 0 ≤ c.hi0) :
    (hiRefCurrentDay F c s gs).hiRef = 0 ∨ (hiRefCurrentDay F c s gs).hiRef =
      min (hiRefLimit c (hiRefRaw F c (hiTime c s.dap s.delayedCDs) (s.hiRef, s.pctLagPhase)).1)
        s.hiFinal := by
  cases gs
  · exact Or.inl (by rw [hiref_offseason])
  · by_cases ht : 0 < hiTime c s.dap s.delayedCDs
    · exact Or.inr (hiref_eq F c s h0 ht)
    · exact Or.inl (hiref_eq_zero F c s (not_lt.mp ht))

theorem hiref_nonneg (F : Fn α) (c : HiCrop α) (s : HiRefIn α) (gs : Bool) (h0 : 0 ≤ c.hi0)
    (hini : -0.004 ≤ c.hiIni) (hf : 0 ≤ s.hiFinal) : 0 ≤ (hiRefCurrentDay F c s gs).hiRef := by
  rcases hiref_zero_or_min F c s gs h0 with e | e <;> rw [e]
  exact le_min (hiRefLimit_nonneg c _ h0 hini) hf

/-! ### the logistic build-up curve -/

theorem hiLogistic_den_pos {F : Fn α} (hF : ExpOrdLaws F) {hiIni hi0 : α} (g t : α)
    (h1 : 0 < hiIni) (h2 : hiIni < hi0) :
    0 < hiIni + (hi0 - hiIni) * F.exp ((-g) * t) :=
  add_pos h1 (mul_pos (sub_pos.mpr h2) (hF.exp_pos _))

theorem hiLogistic_lt_hi0 {F : Fn α} (hF : ExpOrdLaws F) {hiIni hi0 : α} (g t : α)
    (h1 : 0 < hiIni) (h2 : hiIni < hi0) : hiLogistic F hiIni hi0 g t < hi0 := by
  unfold hiLogistic
  rw [div_lt_iff₀ (hiLogistic_den_pos hF g t h1 h2)]
  have := mul_pos (h1.trans h2) (mul_pos (sub_pos.mpr h2) (hF.exp_pos ((-g) * t)))
  linarith

theorem hiLogistic_pos {F : Fn α} (hF : ExpOrdLaws F) {hiIni hi0 : α} (g t : α)
    (h1 : 0 < hiIni) (h2 : hiIni < hi0) : 0 < hiLogistic F hiIni hi0 g t :=
  div_pos (mul_pos h1 (h1.trans h2)) (hiLogistic_den_pos hF g t h1 h2)

theorem hiLogistic_at_zero {F : Fn α} (hF : ExpOrdLaws F) {hiIni hi0 : α} (g : α)
    (h1 : 0 < hiIni) (h2 : hiIni < hi0) : hiLogistic F hiIni hi0 g 0 = hiIni := by
  unfold hiLogistic
  rw [mul_zero, hF.exp_zero, mul_one, add_sub_cancel, mul_div_assoc, div_self (h1.trans h2).ne',
    mul_one]

/-- the curve depends on `HIGC · t` only, and grows with it -/
theorem hiLogistic_le_of_mul_le {F : Fn α} (hF : ExpOrdLaws F) {hiIni hi0 g g' t t' : α}
    (h1 : 0 < hiIni) (h2 : hiIni < hi0) (h : g * t ≤ g' * t') :
    hiLogistic F hiIni hi0 g t ≤ hiLogistic F hiIni hi0 g' t' := by
  have he : F.exp ((-g') * t') ≤ F.exp ((-g) * t) := by
    rw [neg_mul, neg_mul]; exact hF.exp_le (neg_le_neg h)
  exact div_le_div_of_nonneg_left (mul_pos h1 (h1.trans h2)).le (hiLogistic_den_pos hF g' t' h1 h2)
    (add_le_add le_rfl (mul_le_mul_of_nonneg_left he (sub_pos.mpr h2).le))

theorem hiLogistic_mono {F : Fn α} (hF : ExpOrdLaws F) {hiIni hi0 g t t' : α}
    (h1 : 0 < hiIni) (h2 : hiIni < hi0) (hg : 0 ≤ g) (htt : t ≤ t') :
    hiLogistic F hiIni hi0 g t ≤ hiLogistic F hiIni hi0 g t' :=
  hiLogistic_le_of_mul_le hF h1 h2 (mul_le_mul_of_nonneg_left htt hg)

theorem hiLogistic_mono_g {F : Fn α} (hF : ExpOrdLaws F) {hiIni hi0 g g' t : α}
    (h1 : 0 < hiIni) (h2 : hiIni < hi0) (ht : 0 ≤ t) (hgg : g ≤ g') :
    hiLogistic F hiIni hi0 g t ≤ hiLogistic F hiIni hi0 g' t :=
  hiLogistic_le_of_mul_le hF h1 h2 (mul_le_mul_of_nonneg_right hgg ht)

/-- well-formed harvest-index build-up parameters (hold for all built-in crops after
initialisation, see `corr_harvest_index.py`) -/
structure HiCrop.BuildUp (c : HiCrop α) : Prop where
  type123 : c.cropType = 1 ∨ c.cropType = 2 ∨ c.cropType = 3
  ini_pos : 0 < c.hiIni
  ini_lt : c.hiIni < c.hi0
  gc_nn : 0 ≤ c.hiGC
  lin_nn : 0 ≤ c.dHILinear

theorem HiCrop.BuildUp.hi0_nonneg {c : HiCrop α} (hb : c.BuildUp) : 0 ≤ c.hi0 :=
  (hb.ini_pos.trans hb.ini_lt).le

theorem HiCrop.BuildUp.ini_ge {c : HiCrop α} (hb : c.BuildUp) : -0.004 ≤ c.hiIni :=
  (neg_nonpos.mpr (by norm_num)).trans hb.ini_pos.le

/-- leafy and root/tuber crops: the logistic curve, snapped to `HI0` from `0.9799·HI0` on -/
theorem hiRefRaw_type12 (F : Fn α) (c : HiCrop α) (h12 : c.cropType = 1 ∨ c.cropType = 2)
    (hit : α) (old : α × α) :
    (hiRefRaw F c hit old).1 =
      if 0.9799 * c.hi0 ≤ hiLogistic F c.hiIni c.hi0 c.hiGC hit then c.hi0
      else hiLogistic F c.hiIni c.hi0 c.hiGC hit := by
  rw [hiRefRaw, if_pos h12]

/-- fruit/grain crops: the logistic curve up to `tLinSwitch`, continued linearly -/
theorem hiRefRaw_type3 (F : Fn α) (c : HiCrop α) (h3 : c.cropType = 3) (hit : α) (old : α × α) :
    (hiRefRaw F c hit old).1 =
      if hit < c.tLinSwitch then hiLogistic F c.hiIni c.hi0 c.hiGC hit
      else hiLogistic F c.hiIni c.hi0 c.hiGC c.tLinSwitch + c.dHILinear * (hit - c.tLinSwitch) := by
  rw [hiRefRaw, h3, if_neg (by decide), if_pos rfl]
  split_ifs <;> rfl

/-- for leafy and root/tuber crops the curve value never exceeds `HI0`: the limiter's first
test (`> HI0`) is dead for them -/
theorem hiRefRaw_le_hi0_of_type12 {F : Fn α} (hF : ExpOrdLaws F) (c : HiCrop α) (hb : c.BuildUp)
    (h12 : c.cropType = 1 ∨ c.cropType = 2) (hit : α) (old : α × α) :
    (hiRefRaw F c hit old).1 ≤ c.hi0 := by
  rw [hiRefRaw_type12 F c h12]
  split_ifs
  · exact le_rfl
  · exact (hiLogistic_lt_hi0 hF _ _ hb.ini_pos hb.ini_lt).le

/-- snapping to `top` from a threshold on keeps a function below `top` monotone -/
theorem snap_mono {k a b top : α} (hab : a ≤ b) (hb : b ≤ top) :
    (if k ≤ a then top else a) ≤ (if k ≤ b then top else b) := by
  by_cases h : k ≤ b
  · rw [if_pos h]
    split_ifs
    exacts [le_rfl, hab.trans hb]
  · rw [if_neg h, if_neg fun h' => h (h'.trans hab)]
    exact hab

/-- a monotone function continued from `s` on by a line of slope `d ≥ 0` is monotone -/
theorem linCont_mono {f : α → α} (hf : ∀ {a b}, a ≤ b → f a ≤ f b) {s d a b : α} (hd : 0 ≤ d)
    (hab : a ≤ b) :
    (if a < s then f a else f s + d * (a - s)) ≤ (if b < s then f b else f s + d * (b - s)) := by
  by_cases hb : b < s
  · rw [if_pos hb, if_pos (hab.trans_lt hb)]
    exact hf hab
  · rw [if_neg hb]
    split_ifs with ha
    · exact (hf ha.le).trans (le_add_of_nonneg_right (mul_nonneg hd (sub_nonneg.mpr (not_lt.mp hb))))
    · exact add_le_add le_rfl (mul_le_mul_of_nonneg_left (sub_le_sub_right hab s) hd)

theorem hiRefRaw_mono {F : Fn α} (hF : ExpOrdLaws F) (c : HiCrop α) (hb : c.BuildUp)
    {hit hit' : α} (old old' : α × α) (h : hit ≤ hit') :
    (hiRefRaw F c hit old).1 ≤ (hiRefRaw F c hit' old').1 := by
  have hm := fun {a b : α} (hab : a ≤ b) => hiLogistic_mono hF hb.ini_pos hb.ini_lt hb.gc_nn hab
  obtain h12 | h3 := or_assoc.mpr hb.type123
  · rw [hiRefRaw_type12 F c h12, hiRefRaw_type12 F c h12]
    exact snap_mono (hm h) (hiLogistic_lt_hi0 hF _ _ hb.ini_pos hb.ini_lt).le
  · rw [hiRefRaw_type3 F c h3, hiRefRaw_type3 F c h3]
    exact linCont_mono hm hb.lin_nn h

theorem hiRefRaw_lag_range (F : Fn α) (c : HiCrop α) {hit : α} (old : α × α)
    (ht3 : c.cropType = 1 ∨ c.cropType = 2 ∨ c.cropType = 3) (ht : 0 < hit) :
    0 ≤ (hiRefRaw F c hit old).2 ∧ (hiRefRaw F c hit old).2 ≤ 100 := by
  have h100 : (0 : α) ≤ 100 ∧ (100 : α) ≤ 100 := ⟨by norm_num, le_refl _⟩
  unfold hiRefRaw
  by_cases h12 : c.cropType = 1 ∨ c.cropType = 2
  · rw [if_pos h12]; exact h100
  · rw [if_neg h12, if_pos (ht3.resolve_left (fun h => h12 (Or.inl h))
      |>.resolve_left (fun h => h12 (Or.inr h)))]
    by_cases hl : hit < c.tLinSwitch
    · rw [if_pos hl]
      have hsw : 0 < c.tLinSwitch := lt_trans ht hl
      exact ⟨mul_nonneg h100.1 (div_nonneg ht.le hsw.le),
        mul_le_of_le_one_right h100.1 ((div_le_one hsw).mpr hl.le)⟩
    · rw [if_neg hl]; exact h100

theorem hiref_pos_facts (F : Fn α) (c : HiCrop α) (s : HiRefIn α)
    (ht3 : c.cropType = 1 ∨ c.cropType = 2 ∨ c.cropType = 3)
    (hpos : 0 < (hiRefCurrentDay F c s true).hiRef) :
    0 < hiTime c s.dap s.delayedCDs ∧ 0 ≤ (hiRefCurrentDay F c s true).pctLagPhase ∧
      (hiRefCurrentDay F c s true).pctLagPhase ≤ 100 := by
  by_cases ht : 0 < hiTime c s.dap s.delayedCDs
  · have e : (hiRefCurrentDay F c s true).pctLagPhase =
        (hiRefRaw F c (hiTime c s.dap s.delayedCDs) (s.hiRef, s.pctLagPhase)).2 := by
      simp only [hiRefCurrentDay, if_true, not_le.mpr ht, if_false]
    rw [e]
    exact ⟨ht, hiRefRaw_lag_range F c _ ht3 ht⟩
  · rw [hiref_eq_zero F c s (not_lt.mp ht)] at hpos
    exact absurd hpos (lt_irrefl _)

/-! ## 3. The cap by `HIfinal`

`C05.reference_hi_never_decreases` has the premises that `HIt` and `HIfinal` do not decrease
between the two calls (with a smaller `HIfinal` the cap below can lower the result).  Within a
season both hold: `HIt = dap − delayed_cds − HIstartCD − 1` never decreases (`dap` advances by one
per day, `delayed_cds` by at most one) and `HIfinal` is constant: it is initialised to `HI0` and
`HIref_current_day` cannot change it (its fourth return value is commented out). -/

theorem hiref_le_of_hifinal_small (F : Fn α) (c : HiCrop α) (s' : HiRefIn α) (h0 : 0 ≤ c.hi0)
    (hf : 0 ≤ s'.hiFinal) : (hiRefCurrentDay F c s' true).hiRef ≤ s'.hiFinal := by
  -- the cap by `HIfinal` is the code's last statement
  rcases hiref_zero_or_min F c s' true h0 with e | e <;> rw [e]
  exacts [hf, min_le_right _ _]

/-! ## 4. `harvest_index`: what is stored, the cap on the stress multiplier -/

theorem hiMult_le (c : HiCrop α) (a b : α) : hiMult c a b ≤ 1 + c.dHI0 / 100 := by
  unfold hiMult; simp only; split_ifs with h
  · exact le_rfl
  · exact not_lt.mp h

theorem hiMult_nonneg (c : HiCrop α) {a b : α} (hab : 0 ≤ a * b) (hcap : 0 ≤ 1 + c.dHI0 / 100) :
    0 ≤ hiMult c a b := by
  unfold hiMult; simp only; split_ifs with h
  · exact hcap
  · exact hab

/-- what the yield-formation block stores: `harvest_index = hi_ref` and
`harvest_index_adj = HImult · min(hi_ref, HImax)` for some `HImax` -/
theorem hiYieldFormation_spec {F : Fn α} {T : TrigFn α} {c : HiCrop α} {s o : HiState α} {hit : α}
    {kw : Ksw α} {polH polC : α} (h : hiYieldFormation F T c s hit kw polH polC = .ok o) :
    o.hi = s.hiRef ∧ ∃ hiMax, o.hiAdj = hiMult c o.fPre o.fPost * min s.hiRef hiMax := by
  unfold hiYieldFormation at h
  simp only at h
  split at h
  · exact absurd h (by simp)
  · rename_i s1 hiMax heq
    simp only [Except.ok.injEq] at h
    subst h
    refine ⟨rfl, hiMax, ?_⟩
    by_cases hh : s.hiRef ≤ hiMax
    · simp only [hh, if_true, min_eq_left hh]
    · simp only [hh, if_false, min_eq_right (not_le.mp hh).le]

theorem hiCore_ok {F : Fn α} {T : TrigFn α} {c : HiCrop α} {s o : HiState α} {kw : Ksw α}
    {polH polC : α} (h : hiCore F T c s kw polH polC = .ok o) :
    (s.yieldForm ∧ 0 ≤ hiTime c s.dap s.delayedCDs) ∧
      (hiYieldFormation F T c s (hiTime c s.dap s.delayedCDs) kw polH polC = .ok o ∨
        c.cropType = 1 ∧ o = { s with hi := s.hiRef, hiAdj := s.hiRef }) ∨
    ¬ (s.yieldForm ∧ 0 ≤ hiTime c s.dap s.delayedCDs) ∧ o = s := by
  unfold hiCore at h
  simp only at h
  split_ifs at h with h1 h2 h3
  · exact Or.inl ⟨h1, Or.inl h⟩
  · exact Or.inl ⟨h1, Or.inr ⟨h3, (Except.ok.inj h).symm⟩⟩
  · exact Or.inr ⟨h1, (Except.ok.inj h).symm⟩

/-! ### `harvest_index` itself -/

theorem harvestIndex_ok_inseason {F : Fn α} {T : TrigFn α} {cells : List (Cell α)} {zTop : α}
    {c : HiCrop α} {k : HiStressCrop α} {s o : HiState α} {et0 tmax tmin : α}
    (h : harvestIndex F T cells zTop c k s et0 tmax tmin true = .ok o) :
    ∃ r polH polC, rootZoneWater F cells s.zRoot zTop k.zMin k.aer = some r ∧
      hiCore F T c s (hiWaterStress F k r s.tEarlySen et0) polH polC = .ok o := by
  unfold harvestIndex at h
  simp only [if_true] at h
  split at h
  · exact absurd h (by simp)
  · rename_i r hr
    split at h
    · exact absurd h (by simp)
    · rename_i polH polC _
      exact ⟨r, polH, polC, hr, h⟩

theorem hiWaterStress_eq (F : Fn α) (k : HiStressCrop α) (r : RZ α) (tEarlySen et0 : α) :
    ∃ dr taw, hiWaterStress F k r tEarlySen et0 =
      waterStress F k.pUp k.pLo k.fshapeW k.etAdj k.beta tEarlySen dr taw et0 true := by
  unfold hiWaterStress
  split_ifs
  · exact ⟨_, _, rfl⟩
  · exact ⟨_, _, rfl⟩

theorem hi_stored {F : Fn α} {T : TrigFn α} {cells : List (Cell α)} {zTop : α}
    {c : HiCrop α} {k : HiStressCrop α} {s o : HiState α} {et0 tmax tmin : α} {gs : Bool}
    (h : harvestIndex F T cells zTop c k s et0 tmax tmin gs = .ok o) :
    o.hi = if gs then (if s.yieldForm ∧ 0 ≤ hiTime c s.dap s.delayedCDs then s.hiRef else s.hi)
           else 0 := by
  cases gs
  · rw [hi_offseason] at h; cases h; rfl
  · obtain ⟨r, polH, polC, _, hc⟩ := harvestIndex_ok_inseason h
    rw [if_pos rfl]
    rcases hiCore_ok hc with ⟨h1, h2 | ⟨_, rfl⟩⟩ | ⟨h1, rfl⟩
    · rw [if_pos h1]; exact (hiYieldFormation_spec h2).1
    · rw [if_pos h1]
    · rw [if_neg h1]

theorem hi_le_hi0 {F : Fn α} {T : TrigFn α} {cells : List (Cell α)} {zTop : α}
    {c : HiCrop α} {k : HiStressCrop α} {s o : HiState α} {et0 tmax tmin : α} {gs : Bool}
    (h : harvestIndex F T cells zTop c k s et0 tmax tmin gs = .ok o) (h0 : 0 ≤ c.hi0)
    (hprev : s.hi ≤ c.hi0) (href : s.hiRef ≤ c.hi0) : o.hi ≤ c.hi0 := by
  rw [hi_stored h]
  split_ifs <;> assumption

/-! ### `0 ≤ f_pre · f_post` (the premise of `hiMult_nonneg`): the invariant `HiState.NN`, under the
laws `SinLaw` and `PowNonneg` -/

structure SinLaw (T : TrigFn α) : Prop where
  sin_ge : ∀ x, -1 ≤ T.sin x
  sin_le : ∀ x, T.sin x ≤ 1

structure PowNonneg (F : Fn α) : Prop where
  pow_nonneg : ∀ x y, 0 ≤ x → 0 ≤ F.pow x y

theorem hiPre_term {T : TrigFn α} (hT : SinLaw T) (x : α) {d : α} (hd : 0 < d) :
    1 ≤ 1 + (1 + T.sin x) / 2 * (d / 100) ∧
      1 + (1 + T.sin x) / 2 * (d / 100) ≤ 1 + max d 0 / 100 := by
  have hd' : 0 ≤ d / 100 := div_nonneg hd.le (by norm_num)
  have w0 : 0 ≤ (1 + T.sin x) / 2 := div_nonneg (neg_le_iff_add_nonneg'.mp (hT.sin_ge x)) zero_le_two
  have w1 : (1 + T.sin x) / 2 ≤ 1 :=
    (div_le_one zero_lt_two).mpr ((add_le_add le_rfl (hT.sin_le x)).trans_eq one_add_one_eq_two)
  rw [max_eq_left hd.le]
  exact ⟨le_add_of_nonneg_right (mul_nonneg w0 hd'), add_le_add le_rfl (mul_le_of_le_one_left hd' w1)⟩

theorem hiAdjPreAnthesis_range {T : TrigFn α} (hT : SinLaw T) (F : Fn α) (b bNS cc d : α) :
    (hiAdjPreAnthesis F T b bNS cc d = 0 ∨ 1 ≤ hiAdjPreAnthesis F T b bNS cc d) ∧
      hiAdjPreAnthesis F T b bNS cc d ≤ 1 + max d 0 / 100 := by
  have hmax : (0 : α) ≤ max d 0 / 100 := div_nonneg (le_max_right _ _) (by norm_num)
  -- the canopy test in front of a factor `f ∈ [1, M]`
  have gate : ∀ f : α, 1 ≤ f ∧ f ≤ 1 + max d 0 / 100 →
      ((if cc ≤ 0.01 then 0 else f) = 0 ∨ 1 ≤ (if cc ≤ 0.01 then 0 else f)) ∧
        (if cc ≤ 0.01 then 0 else f) ≤ 1 + max d 0 / 100 := by
    intro f hf
    by_cases hc : cc ≤ 0.01
    · rw [if_pos hc]; exact ⟨Or.inl rfl, add_nonneg zero_le_one hmax⟩
    · rw [if_neg hc]; exact ⟨Or.inr hf.1, hf.2⟩
  unfold hiAdjPreAnthesis
  simp only
  refine gate _ ?_
  split_ifs with h2 h3 h4
  · exact hiPre_term hT _ h2
  · exact hiPre_term hT _ h2
  · exact ⟨le_rfl, le_add_of_nonneg_right hmax⟩
  · exact ⟨le_rfl, le_add_of_nonneg_right hmax⟩

theorem postUpp_nonneg (c : HiCrop α) {d dayCor sCor1 fPre cc up kswExp : α} (hday : 0 < dayCor)
    (hexp : kswExp ≤ 1) (h1 : 0 ≤ sCor1) (h3 : 0 ≤ up) :
    0 ≤ (postUpp c d dayCor sCor1 fPre cc up kswExp).1 ∧
      0 ≤ (postUpp c d dayCor sCor1 fPre cc up kswExp).2 := by
  unfold postUpp
  simp only
  split_ifs with h
  · obtain ⟨_, ht, _, _, ha⟩ := h
    have e2 : 0 ≤ sCor1 + (1 + (1 - kswExp) / c.aHI) / (c.canopyDevEndCD - c.hiStartCD) :=
      add_nonneg h1 (div_nonneg
        (add_nonneg zero_le_one (div_nonneg (sub_nonneg.mpr hexp) ha.le)) ht.le)
    exact ⟨e2, mul_nonneg (div_nonneg ht.le hday.le) e2⟩
  · exact ⟨h1, h3⟩

theorem postDwn_nonneg {F : Fn α} (hP : PowNonneg F) (c : HiCrop α) (hb : 0 < c.bHI → 1 ≤ c.bHI)
    {d dayCor sCor2 fPre cc dwn kswSto : α} (hday : 0 < dayCor) (hs0 : 0 ≤ kswSto)
    (h2 : 0 ≤ sCor2) (h4 : 0 ≤ dwn) :
    0 ≤ (postDwn F c d dayCor sCor2 fPre cc dwn kswSto).1 ∧
      0 ≤ (postDwn F c d dayCor sCor2 fPre cc dwn kswSto).2 := by
  unfold postDwn
  simp only
  split_ifs with h
  · obtain ⟨_, ht, _, _, hbp⟩ := h
    -- `1 - Ksw_sto ≤ 1 ≤ b_HI`
    have e0 : (1 - kswSto) / c.bHI ≤ 1 :=
      (div_le_one hbp).mpr (((sub_le_self_iff 1).mpr hs0).trans (hb hbp))
    have e2 : 0 ≤ sCor2 + F.pow kswSto 0.1 * (1 - (1 - kswSto) / c.bHI) / c.yldFormCD :=
      add_nonneg h2 (div_nonneg (mul_nonneg (hP.pow_nonneg _ _ hs0) (sub_nonneg.mpr e0)) ht.le)
    exact ⟨e2, mul_nonneg (div_nonneg ht.le hday.le) e2⟩
  · exact ⟨h2, h4⟩

theorem postTotal_nonneg {tmax1 tmax2 up dwn : α} (ht1 : 0 ≤ tmax1) (ht2 : 0 ≤ tmax2)
    (hu : 0 ≤ up) (hd : 0 ≤ dwn) : 0 ≤ postTotal tmax1 tmax2 up dwn := by
  unfold postTotal
  by_cases h1 : hiIsZero tmax1 ∧ hiIsZero tmax2
  · rw [if_pos h1]; exact zero_le_one
  rw [if_neg h1]
  by_cases h2 : hiIsZero tmax2
  · rw [if_pos h2]; exact hu
  rw [if_neg h2]
  by_cases h3 : hiIsZero tmax1
  · rw [if_pos h3]; exact hd
  rw [if_neg h3]
  by_cases h4 : tmax1 ≤ tmax2
  · rw [if_pos h4]
    exact mul_nonneg hd (div_nonneg (add_nonneg (mul_nonneg ht1 hu) (sub_nonneg.mpr h4)) ht2)
  · rw [if_neg h4]
    exact mul_nonneg hu
      (div_nonneg (add_nonneg (mul_nonneg ht2 hd) (sub_nonneg.mpr (le_of_not_ge h4))) ht1)

structure HiState.NN (s : HiState α) : Prop where
  fPre : 0 ≤ s.fPre
  fPost : 0 ≤ s.fPost
  sCor1 : 0 ≤ s.sCor1
  sCor2 : 0 ≤ s.sCor2
  upp : 0 ≤ s.fpostUpp
  dwn : 0 ≤ s.fpostDwn

/-- `NN` speaks of six fields only: it passes to any state that agrees on them -/
theorem HiState.NN.congr {s s' : HiState α} (hs : s.NN)
    (e : (s'.fPre, s'.fPost, s'.sCor1, s'.sCor2, s'.fpostUpp, s'.fpostDwn) =
      (s.fPre, s.fPost, s.sCor1, s.sCor2, s.fpostUpp, s.fpostDwn)) : s'.NN := by
  simp only [Prod.mk.injEq] at e
  obtain ⟨e1, e2, e3, e4, e5, e6⟩ := e
  exact ⟨e1 ▸ hs.fPre, e2 ▸ hs.fPost, e3 ▸ hs.sCor1, e4 ▸ hs.sCor2, e5 ▸ hs.upp, e6 ▸ hs.dwn⟩

/-- crop premises of the post-anthesis adjustment (hold for all built-in crops: `b_HI` is either
switched off, `-9`, or `≥ 1`) -/
structure HiCrop.PostOK (c : HiCrop α) : Prop where
  tmax1 : c.hiStartCD ≤ c.canopyDevEndCD
  tmax2 : 0 ≤ c.yldFormCD
  bHI : 0 < c.bHI → 1 ≤ c.bHI

theorem hiPreStep_nn {T : TrigFn α} (hT : SinLaw T) (F : Fn α) (c : HiCrop α) {s : HiState α}
    (hs : s.NN) : (hiPreStep F T c s).NN ∧ (hiPreStep F T c s).dap = s.dap ∧
      (hiPreStep F T c s).delayedCDs = s.delayedCDs := by
  unfold hiPreStep
  split_ifs
  · exact ⟨hs, rfl, rfl⟩
  · have h0 : 0 ≤ hiAdjPreAnthesis F T s.biomass s.biomassNS s.cc c.dHIpre :=
      (hiAdjPreAnthesis_range hT F _ _ _ _).1.elim (fun h => h.ge) zero_le_one.trans
    exact ⟨⟨h0, hs.fPost, hs.sCor1, hs.sCor2, hs.upp, hs.dwn⟩, rfl, rfl⟩

theorem hiPolStep_nn {F : Fn α} {c : HiCrop α} {s s' : HiState α} {hit kswPol polH polC hiMax : α}
    (h : hiPolStep F c s hit kswPol polH polC = .ok (s', hiMax)) (hs : s.NN) :
    s'.NN ∧ s'.dap = s.dap ∧ s'.delayedCDs = s.delayedCDs := by
  unfold hiPolStep at h
  split_ifs at h
  · split at h
    · exact absurd h (by simp)
    · obtain ⟨rfl, _⟩ := Prod.mk.inj (Except.ok.inj h)
      exact ⟨hs.congr rfl, rfl, rfl⟩
  all_goals
    obtain ⟨rfl, _⟩ := Prod.mk.inj (Except.ok.inj h)
    exact ⟨hs, rfl, rfl⟩

theorem hiPostStep_nn {F : Fn α} (hP : PowNonneg F) {c : HiCrop α} (hc : c.PostOK) {s : HiState α}
    {hit kswExp kswSto : α} (hhit : hit = hiTime c s.dap s.delayedCDs) (hexp : kswExp ≤ 1)
    (hs0 : 0 ≤ kswSto) (hs : s.NN) : (hiPostStep F c s hit kswExp kswSto).NN := by
  unfold hiPostStep
  split_ifs with hpos
  · have hday : 0 < s.dap - s.delayedCDs - 1 - c.hiStartCD := by
      rw [hhit, hiTime, sub_right_comm _ c.hiStartCD] at hpos; exact hpos
    have hu := postUpp_nonneg c (d := s.dap - s.delayedCDs) (fPre := s.fPre) (cc := s.cc) hday hexp
      hs.sCor1 hs.upp
    have hd := postDwn_nonneg hP c hc.bHI (d := s.dap - s.delayedCDs) (fPre := s.fPre) (cc := s.cc)
      hday hs0 hs.sCor2 hs.dwn
    exact ⟨hs.fPre, postTotal_nonneg (sub_nonneg.mpr hc.tmax1) hc.tmax2 hu.2 hd.2,
      hu.1, hd.1, hu.2, hd.2⟩
  · exact hs

theorem hiYieldFormation_nn {F : Fn α} {T : TrigFn α} (hT : SinLaw T) (hP : PowNonneg F)
    {c : HiCrop α} (hc : c.PostOK) {s o : HiState α} {kw : Ksw α} {polH polC : α}
    (h : hiYieldFormation F T c s (hiTime c s.dap s.delayedCDs) kw polH polC = .ok o)
    (hexp : kw.exp ≤ 1) (hs0 : 0 ≤ kw.sto) (hs : s.NN) : o.NN := by
  unfold hiYieldFormation at h
  simp only at h
  split at h
  · exact absurd h (by simp)
  · rename_i s2 hiMax heq
    obtain ⟨h1, e3, e4⟩ := hiPreStep_nn hT F c hs
    obtain ⟨h2, e1, e2⟩ := hiPolStep_nn heq h1
    have h3 := hiPostStep_nn hP hc (s := s2) (hit := hiTime c s.dap s.delayedCDs)
      (by rw [e1, e2, e3, e4]) hexp hs0 h2
    obtain rfl := Except.ok.inj h
    exact h3.congr rfl

/-! ## 5. The initialisation loops

### generic facts about `whileFuel` -/

theorem whileFuel_spec {σ : Type} (cond : σ → Bool) (step : σ → σ) :
    ∀ (fuel : ℕ) (s s' : σ), whileFuel cond step fuel s = some s' →
      ∃ n, n ≤ fuel ∧ s' = step^[n] s ∧ cond s' = false ∧ ∀ m, m < n → cond (step^[m] s) = true := by
  intro fuel
  induction fuel with
  | zero =>
    intro s s' h
    unfold whileFuel at h
    split_ifs at h with hc
    simp only [Option.some.injEq] at h; subst h
    exact ⟨0, le_rfl, rfl, by simpa using hc, fun m hm => absurd hm (Nat.not_lt_zero m)⟩
  | succ k ih =>
    intro s s' h
    unfold whileFuel at h
    split_ifs at h with hc
    · obtain ⟨n, hn, e, hex, hall⟩ := ih (step s) s' h
      refine ⟨n + 1, Nat.succ_le_succ hn, by rw [Function.iterate_succ_apply]; exact e, hex, ?_⟩
      intro m hm
      cases m with
      | zero => exact hc
      | succ m => rw [Function.iterate_succ_apply]; exact hall m (Nat.lt_of_succ_lt_succ hm)
    · simp only [Option.some.injEq] at h; subst h
      exact ⟨0, Nat.zero_le _, rfl, by simpa using hc, fun m hm => absurd hm (Nat.not_lt_zero m)⟩

theorem whileFuel_isSome {σ : Type} (cond : σ → Bool) (step : σ → σ) :
    ∀ (fuel : ℕ) (s : σ), (∃ n, n ≤ fuel ∧ cond (step^[n] s) = false) →
      (whileFuel cond step fuel s).isSome = true := by
  intro fuel
  induction fuel with
  | zero =>
    intro s ⟨n, hn, hc⟩
    have : n = 0 := Nat.le_zero.mp hn
    subst this
    unfold whileFuel
    simp only [Function.iterate_zero, id_eq] at hc
    simp [hc]
  | succ k ih =>
    intro s ⟨n, hn, hc⟩
    unfold whileFuel
    by_cases hs : cond s = true
    · simp only [hs, if_true]
      cases n with
      | zero => simp only [Function.iterate_zero, id_eq] at hc; rw [hs] at hc; exact absurd hc (by simp)
      | succ n =>
        exact ih (step s) ⟨n, Nat.le_of_succ_le_succ hn, by rwa [Function.iterate_succ_apply] at hc⟩
    · simp [hs]

/-! ### `calculate_HI_linear` -/

def hiLinIter (F : Fn α) (tmax hiIni hi0 hiGC : α) (n : ℕ) : HiLinSt α :=
  (hiLinStep F tmax hiIni hi0 hiGC)^[n] { ti := 0, hiEst := 0, hiPrev := hiIni }

theorem hiLinIter_succ (F : Fn α) (tmax hiIni hi0 hiGC : α) (n : ℕ) :
    hiLinIter F tmax hiIni hi0 hiGC (n + 1) =
      hiLinStep F tmax hiIni hi0 hiGC (hiLinIter F tmax hiIni hi0 hiGC n) := by
  unfold hiLinIter; rw [Function.iterate_succ_apply']

theorem hiLinIter_ti (F : Fn α) (tmax hiIni hi0 hiGC : α) (n : ℕ) :
    (hiLinIter F tmax hiIni hi0 hiGC n).ti = (n : α) := by
  induction n with
  | zero => simp [hiLinIter]
  | succ n ih => rw [hiLinIter_succ]; simp only [hiLinStep, ih]; push_cast; ring

/-- explicit loop state after `n + 1` iterations: `HIprev` is the logistic curve at day `n + 1`,
`HIest` its linear extrapolation to the end of yield formation with the last daily increment -/
theorem hiLinIter_explicit (F : Fn α) (tmax hiIni hi0 hiGC : α) (n : ℕ) :
    (hiLinIter F tmax hiIni hi0 hiGC (n + 1)).hiPrev = hiLogistic F hiIni hi0 hiGC ((n : α) + 1) ∧
    (hiLinIter F tmax hiIni hi0 hiGC (n + 1)).hiEst =
      hiLogistic F hiIni hi0 hiGC ((n : α) + 1) + (tmax - ((n : α) + 1)) *
        (hiLogistic F hiIni hi0 hiGC ((n : α) + 1) - (hiLinIter F tmax hiIni hi0 hiGC n).hiPrev) := by
  rw [hiLinIter_succ]
  simp only [hiLinStep, hiLinIter_ti]
  exact ⟨trivial, trivial⟩

/-- `⌈YldFormCD⌉` iterations always suffice: `ti` reaches `tmax` -/
theorem calculateHILinear_isSome (F : Fn α) (fuel : ℕ) (yldFormCD hiIni hi0 hiGC : α)
    (hfuel : yldFormCD ≤ (fuel : α)) :
    (calculateHILinear F fuel yldFormCD hiIni hi0 hiGC).isSome = true := by
  have h := whileFuel_isSome (hiLinCond yldFormCD hi0) (hiLinStep F yldFormCD hiIni hi0 hiGC) fuel
    { ti := 0, hiEst := 0, hiPrev := hiIni } ⟨fuel, le_rfl, by
      have := hiLinIter_ti F yldFormCD hiIni hi0 hiGC fuel
      unfold hiLinIter at this
      simp only [hiLinCond, this, decide_eq_false_iff_not, not_and, not_lt]
      intro _; exact hfuel⟩
  obtain ⟨st, hst⟩ := Option.isSome_iff_exists.mp h
  rw [calculateHILinear, hst]; rfl

/-- what `calculate_HI_linear` computes: with `n` the first iteration count at which the
loop condition fails — i.e. the first day `n` such that the extrapolated final index exceeds
`HI0`, or `n ≥ YldFormCD` —  `tLinSwitch = n − 1` and
`dHILinear = (HI0 − logistic(tLinSwitch)) / (YldFormCD − tLinSwitch)` (logistic := 0 for
`tLinSwitch ≤ 0`). -/
theorem calculateHILinear_spec (F : Fn α) (fuel : ℕ) (yldFormCD hiIni hi0 hiGC ts d : α)
    (h : calculateHILinear F fuel yldFormCD hiIni hi0 hiGC = some (ts, d)) :
    ∃ n : ℕ, n ≤ fuel ∧ ts = (n : α) - 1 ∧
      ¬ ((hiLinIter F yldFormCD hiIni hi0 hiGC n).hiEst ≤ hi0 ∧ (n : α) < yldFormCD) ∧
      (∀ m, m < n → (hiLinIter F yldFormCD hiIni hi0 hiGC m).hiEst ≤ hi0 ∧ (m : α) < yldFormCD) ∧
      d = (hi0 - (if 0 < ts then hiLogistic F hiIni hi0 hiGC ts else 0)) / (yldFormCD - ts) := by
  unfold calculateHILinear at h
  split at h
  · exact absurd h (by simp)
  · rename_i st hst
    obtain ⟨n, hn, e, hex, hall⟩ := whileFuel_spec _ _ _ _ _ hst
    have e' : st = hiLinIter F yldFormCD hiIni hi0 hiGC n := e
    simp only [Option.some.injEq, Prod.mk.injEq] at h
    obtain ⟨h1, h2⟩ := h
    have hti : st.ti = (n : α) := by rw [e', hiLinIter_ti]
    refine ⟨n, hn, by rw [← h1, hti], ?_, ?_, ?_⟩
    · have := hex
      simp only [hiLinCond, decide_eq_false_iff_not] at this
      rwa [e', hiLinIter_ti] at this
    · intro m hm
      have := hall m hm
      simp only [hiLinCond, decide_eq_true_eq] at this
      have e2 : (hiLinStep F yldFormCD hiIni hi0 hiGC)^[m] { ti := 0, hiEst := 0, hiPrev := hiIni } =
        hiLinIter F yldFormCD hiIni hi0 hiGC m := rfl
      rwa [e2, hiLinIter_ti] at this
    · rw [← h2, ← h1]

/-- `calculate_HI_linear` stops at a `tSwitch` below `YldFormCD` (or at `−1`), where the logistic
curve is still below `HI0`: the slope of the linear phase is non-negative -/
theorem calculateHILinear_nonneg {F : Fn α} (hF : ExpOrdLaws F) {fuel : Nat}
    {y hiIni hi0 g t d : α} (h1 : 0 < hiIni) (h2 : hiIni < hi0) (hy : 0 ≤ y)
    (h : calculateHILinear F fuel y hiIni hi0 g = some (t, d)) : 0 ≤ d := by
  obtain ⟨m, _, ets, _, hall, ed⟩ := calculateHILinear_spec F fuel y hiIni hi0 g t d h
  have hden : 0 < y - t := by
    rw [ets]
    cases m with
    | zero =>
      rw [Nat.cast_zero, zero_sub, sub_neg_eq_add]
      exact add_pos_of_nonneg_of_pos hy one_pos
    | succ m =>
      rw [Nat.cast_succ, add_sub_cancel_right]
      exact sub_pos.mpr (hall m m.lt_succ_self).2
  rw [ed]
  refine div_nonneg ?_ hden.le
  by_cases ht : 0 < t
  · rw [if_pos ht]; exact sub_nonneg.mpr (hiLogistic_lt_hi0 hF g t h1 h2).le
  · rw [if_neg ht, sub_zero]; exact (h1.trans h2).le

/-! ### `calculate_HIGC`; its termination under the law `ExpLinLaw` -/

structure ExpLinLaw (F : Fn α) : Prop where
  add_one_le : ∀ x, 1 + x ≤ F.exp x

def higcIter (F : Fn α) (tHI hi0 hiIni : α) (n : ℕ) : α × α :=
  (higcStep F tHI hi0 hiIni)^[n] (0.001, 0)

theorem higcIter_succ (F : Fn α) (tHI hi0 hiIni : α) (n : ℕ) :
    higcIter F tHI hi0 hiIni (n + 1) = higcStep F tHI hi0 hiIni (higcIter F tHI hi0 hiIni n) := by
  unfold higcIter; rw [Function.iterate_succ_apply']

theorem higcIter_fst (F : Fn α) (tHI hi0 hiIni : α) (n : ℕ) :
    (higcIter F tHI hi0 hiIni n).1 = 0.001 + (n : α) * 0.001 := by
  induction n with
  | zero => simp [higcIter]
  | succ n ih => rw [higcIter_succ]; simp only [higcStep, ih]; push_cast; ring

theorem higcIter_snd (F : Fn α) (tHI hi0 hiIni : α) (n : ℕ) :
    (higcIter F tHI hi0 hiIni (n + 1)).2 =
      hiLogistic F hiIni hi0 (0.001 + ((n : α) + 1) * 0.001) tHI := by
  rw [higcIter_succ]; simp only [higcStep, higcIter_fst]
  congr 1; ring

/-- what `calculate_HIGC` computes: `HIGC = 0.001·(n+1)` where `n ≥ 1` is the first iteration
count such that the logistic curve with that coefficient exceeds `0.98·HI0` at the end of yield
formation.  (The final `if HIest >= HI0: HIGC -= 0.001` is dead for `0 < HIini < HI0`.) -/
theorem calculateHIGC_spec {F : Fn α} (hF : ExpOrdLaws F) (fuel : ℕ) (tHI hi0 hiIni g : α)
    (h1 : 0 < hiIni) (h2 : hiIni < hi0)
    (h : calculateHIGC F fuel tHI hi0 hiIni = some g) :
    ∃ n : ℕ, n + 1 ≤ fuel ∧ g = 0.001 + ((n : α) + 1) * 0.001 ∧
      0.98 * hi0 < hiLogistic F hiIni hi0 g tHI ∧
      ∀ m : ℕ, m < n →
        hiLogistic F hiIni hi0 (0.001 + ((m : α) + 1) * 0.001) tHI ≤ 0.98 * hi0 := by
  unfold calculateHIGC at h
  split at h
  · exact absurd h (by simp)
  · rename_i higc hiest hst
    obtain ⟨n, hn, e, hex, hall⟩ := whileFuel_spec _ _ _ _ _ hst
    have e' : (higc, hiest) = higcIter F tHI hi0 hiIni n := e
    have hpos : 0 < hi0 := lt_trans h1 h2
    cases n with
    | zero =>
      -- the loop body runs at least once: initially `HIest = 0 ≤ 0.98·HI0`
      simp only [higcIter, Function.iterate_zero, id_eq, Prod.mk.injEq] at e'
      simp only [higcCond, decide_eq_false_iff_not, not_le] at hex
      rw [e'.2] at hex
      have : (0 : α) ≤ 0.98 * hi0 := by positivity
      exact absurd hex (not_lt.mpr this)
    | succ n =>
      have e1 : higc = 0.001 + ((n : α) + 1) * 0.001 := by
        have := congrArg Prod.fst e'; simp only at this
        rw [this, higcIter_fst]; push_cast; ring
      have e2 : hiest = hiLogistic F hiIni hi0 (0.001 + ((n : α) + 1) * 0.001) tHI := by
        have := congrArg Prod.snd e'; simp only at this
        rw [this, higcIter_snd]
      have hlt : hiest < hi0 := by rw [e2]; exact hiLogistic_lt_hi0 hF _ _ h1 h2
      simp only [not_le.mpr hlt, if_false, Option.some.injEq] at h
      subst h
      refine ⟨n, hn, e1, ?_, ?_⟩
      · simp only [higcCond, decide_eq_false_iff_not, not_le] at hex
        rw [e1, ← e2]; exact hex
      · intro m hm
        have := hall (m + 1) (Nat.succ_lt_succ hm)
        have e3 : (higcStep F tHI hi0 hiIni)^[m + 1] (0.001, 0) = higcIter F tHI hi0 hiIni (m + 1) := rfl
        simp only [higcCond, decide_eq_true_eq] at this
        rwa [e3, higcIter_snd] at this

/-- whatever `calculate_HIGC` returns is `0.001·(n + 2)` for some `n` -/
theorem calculateHIGC_nonneg {F : Fn α} (hF : ExpOrdLaws F) {fuel : Nat} {y hi0 hiIni g : α}
    (h1 : 0 < hiIni) (h2 : hiIni < hi0) (h : calculateHIGC F fuel y hi0 hiIni = some g) : 0 ≤ g := by
  obtain ⟨n, _, e, _⟩ := calculateHIGC_spec hF fuel y hi0 hiIni g h1 h2 h
  rw [e]
  exact add_nonneg (by norm_num)
    (mul_nonneg (add_nonneg (Nat.cast_nonneg n) zero_le_one) (by norm_num))

theorem hiLogistic_gt_of_large {F : Fn α} (hF : ExpOrdLaws F) (hA : ExpAddLaw F) (hL : ExpLinLaw F)
    {hiIni hi0 g t : α} (h1 : 0 < hiIni) (h2 : hiIni < hi0)
    (hbig : 49 * (hi0 - hiIni) < hiIni * (1 + g * t)) :
    0.98 * hi0 < hiLogistic F hiIni hi0 g t := by
  have hepos := hF.exp_pos ((-g) * t)
  -- `exp(-x)·(1 + x) ≤ exp(-x)·exp(x) = 1`
  have he : (1 + g * t) * F.exp ((-g) * t) ≤ 1 := by
    rw [neg_mul, hA.exp_neg hF, ← div_eq_mul_inv, div_le_one (hF.exp_pos _)]
    exact hL.add_one_le (g * t)
  have key : 49 * (hi0 - hiIni) * F.exp ((-g) * t) < hiIni :=
    calc 49 * (hi0 - hiIni) * F.exp ((-g) * t)
        < hiIni * (1 + g * t) * F.exp ((-g) * t) := mul_lt_mul_of_pos_right hbig hepos
      _ = hiIni * ((1 + g * t) * F.exp ((-g) * t)) := mul_assoc _ _ _
      _ ≤ hiIni := mul_le_of_le_one_right h1.le he
  -- dividing the claim by `HI0`, it reads `0.98·(HIini + (HI0 − HIini)·e) < HIini`, which is `key/50`
  have key' : 0.98 * (hiIni + (hi0 - hiIni) * F.exp ((-g) * t)) < hiIni := by linarith
  unfold hiLogistic
  rw [lt_div_iff₀ (hiLogistic_den_pos hF g t h1 h2), mul_right_comm]
  exact mul_lt_mul_of_pos_right key' (h1.trans h2)

/-- termination of `calculate_HIGC`: the fuel suffices as soon as
`49·(HI0 − HIini) < HIini·(1 + 0.001·(fuel+1)·YldFormCD)`; in particular some fuel suffices for
every `YldFormCD > 0` in an Archimedean field.  For `YldFormCD ≤ 0` the curve value stays
`≤ HIini` and the Python loop never ends (`calculateHIGC_none_of_nonpos`). -/
theorem calculateHIGC_isSome {F : Fn α} (hF : ExpOrdLaws F) (hA : ExpAddLaw F) (hL : ExpLinLaw F)
    (fuel : ℕ) (tHI hi0 hiIni : α) (h1 : 0 < hiIni) (h2 : hiIni < hi0) (hfuel : 0 < fuel)
    (hbig : 49 * (hi0 - hiIni) < hiIni * (1 + (0.001 + (fuel : α) * 0.001) * tHI)) :
    (calculateHIGC F fuel tHI hi0 hiIni).isSome = true := by
  obtain ⟨k, rfl⟩ : ∃ k, fuel = k + 1 := ⟨fuel - 1, by omega⟩
  have h := whileFuel_isSome (higcCond hi0) (higcStep F tHI hi0 hiIni) (k + 1) (0.001, 0)
    ⟨k + 1, le_rfl, by
      have e3 : (higcStep F tHI hi0 hiIni)^[k + 1] (0.001, 0) = higcIter F tHI hi0 hiIni (k + 1) := rfl
      rw [e3]
      simp only [higcCond, higcIter_snd, decide_eq_false_iff_not, not_le]
      apply hiLogistic_gt_of_large hF hA hL h1 h2
      push_cast at hbig
      exact hbig⟩
  obtain ⟨⟨higc, hiest⟩, hst⟩ := Option.isSome_iff_exists.mp h
  rw [calculateHIGC, hst]; rfl

/-- for a non-positive length of the yield-formation period the curve never gets above `HIini`,
whatever the coefficient `≥ 0`, so the `while` loop of `calculate_HIGC` cannot terminate when
`HIini ≤ 0.98·HI0`: the model's loop runs out of any fuel (the driver answers `E:fuel`) -/
theorem calculateHIGC_none_of_nonpos {F : Fn α} (hF : ExpOrdLaws F) (fuel : ℕ) (tHI hi0 hiIni : α)
    (h1 : 0 < hiIni) (h2 : hiIni ≤ 0.98 * hi0) (ht : tHI ≤ 0) :
    calculateHIGC F fuel tHI hi0 hiIni = none := by
  have hlt : hiIni < hi0 := by linarith
  cases hc : calculateHIGC F fuel tHI hi0 hiIni with
  | none => rfl
  | some g =>
    obtain ⟨n, _, e, hgt, _⟩ := calculateHIGC_spec hF fuel tHI hi0 hiIni g h1 hlt hc
    have hg : 0 ≤ g := by rw [e]; positivity
    have hle : hiLogistic F hiIni hi0 g tHI ≤ hiIni :=
      (hiLogistic_mono hF h1 hlt hg ht).trans_eq (hiLogistic_at_zero hF g h1 hlt)
    exact absurd (hgt.trans_le hle) (not_lt.mpr h2)

end Aqua
