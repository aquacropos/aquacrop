import AquaVerif.Properties.C05
import AquaVerif.Proofs.HarvestIndex
import AquaVerif.Proofs.RealInstance
import Mathlib.Analysis.SpecialFunctions.Trigonometric.Basic
/-
Non-vacuity of the law structures and premises of `Proofs/HarvestIndex.lean`: the real
`sin`, `exp` and power (`Real.rpow`) satisfy `SinLaw`, `ExpLinLaw`, `PowNonneg`; the built-in
Wheat crop (values of a model initialised at Tunis, see `corr_harvest_index.py`) satisfies
`HiCrop.BuildUp` and `HiCrop.PostOK`; the main lemmas instantiated at the reals.
-/

namespace Aqua.HarvestIndexReal
open Aqua Aqua.Response

noncomputable def realTrig : TrigFn ℝ := { sin := Real.sin, pi := Real.pi }

theorem sinLaw_real : SinLaw realTrig := ⟨Real.neg_one_le_sin, Real.sin_le_one⟩

theorem expLinLaw_real : ExpLinLaw realFn :=
  ⟨fun x => by have := Real.add_one_le_exp x; show 1 + x ≤ Real.exp x; linarith⟩

theorem powNonneg_real : PowNonneg realFn := ⟨fun _ y hx => realFn_pow_nonneg hx y⟩

/-- Wheat (calendar-day crop) after initialisation -/
noncomputable def wheat : HiCrop ℝ :=
  { cropType := 3, hiStartCD := 127, hiEndCD := 194, yldFormCD := 67, floweringCD := 15,
    canopyDevEndCD := 134, hi0 := 0.48, hiIni := 0.01, hiGC := 0.116, tLinSwitch := 20,
    dHILinear := 0.008395, dHIpre := 5, aHI := 10, bHI := 7, dHI0 := 15, exc := 100, ccMin := 0.05 }

example : wheat.BuildUp :=
  ⟨Or.inr (Or.inr rfl), by norm_num [wheat], by norm_num [wheat], by norm_num [wheat],
    by norm_num [wheat]⟩

example : wheat.PostOK := ⟨by norm_num [wheat], by norm_num [wheat], fun _ => by norm_num [wheat]⟩

theorem hiref_mono_real (c : HiCrop ℝ) (hb : c.BuildUp) (s s' : HiRefIn ℝ)
    (ht : s.dap - s.delayedCDs ≤ s'.dap - s'.delayedCDs) (hfin : s.hiFinal ≤ s'.hiFinal)
    (hf0 : 0 ≤ s.hiFinal) :
    (hiRefCurrentDay realFn c s true).hiRef ≤ (hiRefCurrentDay realFn c s' true).hiRef :=
  C05.reference_hi_never_decreases expOrdLaws_real c hb s s' ht hfin hf0

/-- `calculate_HIGC` terminates for Wheat's values within the driver's fuel -/
example : (calculateHIGC realFn 1000000 67 0.48 0.01).isSome = true :=
  calculateHIGC_isSome expOrdLaws_real expAddLaw_real expLinLaw_real 1000000 67 0.48 0.01
    (by norm_num) (by norm_num) (by norm_num) (by norm_num)

/-- `calculate_HI_linear` terminates within `YldFormCD` iterations -/
example : (calculateHILinear realFn 67 67 0.01 0.48 0.116).isSome = true :=
  calculateHILinear_isSome realFn 67 67 0.01 0.48 0.116 (by norm_num)

/-- C05 for `harvest_index` at the reals; the water-stress premise is on the raw crop
parameters (`p_up i ≤ p_lo i ≤ 1`, `0 ≤ beta ≤ 100`, non-zero shape factors) and `et0 ≥ 0`. -/
theorem harvestIndex_c05_real {cells : List (Cell ℝ)} {zTop : ℝ} {c : HiCrop ℝ} (hc : c.PostOK)
    {k : HiStressCrop ℝ} {s o : HiState ℝ} {et0 tmax tmin : ℝ} {gs : Bool}
    (h : harvestIndex realFn realTrig cells zTop c k s et0 tmax tmin gs = .ok o)
    (hp : ∀ i, k.pUp i ≤ k.pLo i) (hp1 : ∀ i, k.pLo i ≤ 1) (het0 : 0 ≤ et0)
    (hb0 : 0 ≤ k.beta) (hb1 : k.beta ≤ 100)
    (hf : ∀ i : Fin 4, i.val < 3 → k.fshapeW i ≠ 0)
    (h0 : 0 ≤ c.hi0) (hcap : 0 ≤ 1 + c.dHI0 / 100) (hleafy : c.cropType = 1 → 0 ≤ c.dHI0)
    (href : 0 ≤ s.hiRef) (href' : s.hiRef ≤ c.hi0)
    (hs : s.NN) (hprev : s.hi ≤ c.hi0) (inv : s.hiAdj ≤ (1 + c.dHI0 / 100) * s.hi) :
    o.NN ∧ o.hi ≤ c.hi0 ∧ o.hiAdj ≤ (1 + c.dHI0 / 100) * o.hi ∧
      o.hiAdj ≤ (1 + c.dHI0 / 100) * c.hi0 :=
  C05.adjusted_hi_within_allowed_increase expOrdLaws_real sinLaw_real powNonneg_real hc h
    (wsOrdered_real k.pUp k.pLo k.etAdj k.beta s.tEarlySen et0 true hp hp1 het0 hb0 hb1) hf h0 hcap
    hleafy href href' hs hprev inv

end Aqua.HarvestIndexReal
