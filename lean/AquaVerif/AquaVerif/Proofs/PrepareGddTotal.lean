import AquaVerif.Proofs.PrepareGdd
/-
Totality and error classification of the `SwitchGDD == 1` branch of
`compute_crop_calendar` (`calendarInitCDSwitch` of `Model/PrepareGdd.lean`), read off
`calendarInitCDSwitch_eq` / `_unbound` of `Proofs/PrepareGdd.lean`.

A. `calendarInitCDSwitch_ok_iff`: the whole entry point returns iff `GDDmethod ∈ {1,2,3}`, the
   `season` column exists, no row of the window is unlabelled, and every calendar-day index is a
   valid position in every season present (lengths counted on the ORIGINAL rows: `seasonLenT`).
B. `calendarInitCDSwitch_error` (+ `_unbound_iff`, `_key_iff`, `_index_iff`): the three errors and
   the condition of each.

No law of `F` is assumed; `toInt` is arbitrary.
-/

set_option linter.unusedSectionVars false
namespace Aqua
variable {α : Type} [Field α] [LinearOrder α] [IsStrictOrderedRing α]

/-! ## A. totality of the entry point -/

/-- number of rows of season `k` in the ORIGINAL window (label, MinTemp, MaxTemp) -/
def seasonLenT (rows : List (Option Nat × α × α)) (k : Nat) : Nat :=
  (rows.filter (fun r => decide (r.1 = some k))).length

theorem calendarInitCDSwitch_ok_iff (F : Fn α) (toInt : α → Int) (c : CalCDIn α) (gddMethod : Nat)
    (tbase tupp : α) (hasCol : Bool) (sumFun : Nat) (oldYF oldFD : α)
    (rows : List (Option Nat × α × α)) :
    (∃ r, calendarInitCDSwitch F toInt c gddMethod tbase tupp hasCol sumFun oldYF oldFD rows
        = .ok r) ↔
      (gddMethod = 1 ∨ gddMethod = 2 ∨ gddMethod = 3) ∧ hasCol = true ∧
      (∀ r ∈ rows, r.1 ≠ none) ∧
      (∀ k, some k ∈ rows.map (·.1) →
        StagesInRange toInt c.cropType (switchStagesIn F c) (seasonLenT rows k)) := by
  cases hm : GddMethod.ofNat? gddMethod with
  | none =>
    rw [calendarInitCDSwitch_unbound hm]
    exact ⟨fun ⟨_, h⟩ => (nomatch h), fun h => absurd h.1 (GddMethod.ofNat?_eq_none_iff.mp hm)⟩
  | some m =>
    -- `switchRows` keeps the labels, hence the seasons and their lengths
    have hrows : (∀ q ∈ switchRows m tbase tupp rows, q.1 ≠ none) ↔ ∀ r ∈ rows, r.1 ≠ none :=
      List.forall_mem_map
    have hlab : (switchRows m tbase tupp rows).map (·.1) = rows.map (·.1) := by
      simp [switchRows, List.map_map, Function.comp_def]
    have hlen : ∀ k, seasonLen (switchRows m tbase tupp rows) k = seasonLenT rows k := fun k => by
      simp [seasonLen, seasonGdd, switchRows, seasonLenT, List.filter_map, Function.comp_def]
    rw [calendarInitCDSwitch_eq hm, exceptMap_isOk, prepareGdd_ok_iff, hlab, hrows]
    simp only [hlen, GddMethod.of_ofNat?_eq_some hm, true_and]

/-! ## B. errors -/

theorem calendarInitCDSwitch_error {F : Fn α} {toInt : α → Int} {c : CalCDIn α}
    {gddMethod : Nat} {tbase tupp : α} {hasCol : Bool} {sumFun : Nat} {oldYF oldFD : α}
    {rows : List (Option Nat × α × α)} {e : String}
    (h : calendarInitCDSwitch F toInt c gddMethod tbase tupp hasCol sumFun oldYF oldFD rows
      = .error e) :
    (e = "E:unbound" ∧ ¬ (gddMethod = 1 ∨ gddMethod = 2 ∨ gddMethod = 3)) ∨
    (e = "E:key" ∧ (gddMethod = 1 ∨ gddMethod = 2 ∨ gddMethod = 3) ∧ hasCol = false) ∨
    (e = "E:index" ∧ (gddMethod = 1 ∨ gddMethod = 2 ∨ gddMethod = 3) ∧ hasCol = true) := by
  cases hm : GddMethod.ofNat? gddMethod with
  | none =>
    rw [calendarInitCDSwitch_unbound hm] at h
    exact Or.inl ⟨(Except.error.inj h).symm, GddMethod.ofNat?_eq_none_iff.mp hm⟩
  | some m =>
    have hyes := GddMethod.of_ofNat?_eq_some hm
    rw [calendarInitCDSwitch_eq hm, exceptMap_eq_error] at h
    rcases prepareGdd_error h with ⟨h1, h2⟩ | ⟨h1, h2⟩
    · exact Or.inr (Or.inl ⟨h1, hyes, h2⟩)
    · exact Or.inr (Or.inr ⟨h1, hyes, h2⟩)

theorem calendarInitCDSwitch_error' {F : Fn α} {toInt : α → Int} {c : CalCDIn α}
    {gddMethod : Nat} {tbase tupp : α} {hasCol : Bool} {sumFun : Nat} {oldYF oldFD : α}
    {rows : List (Option Nat × α × α)} {e : String}
    (h : calendarInitCDSwitch F toInt c gddMethod tbase tupp hasCol sumFun oldYF oldFD rows
      = .error e) : e = "E:unbound" ∨ e = "E:key" ∨ e = "E:index" :=
  (calendarInitCDSwitch_error h).imp And.left (Or.imp And.left And.left)

theorem calendarInitCDSwitch_unbound_iff (F : Fn α) (toInt : α → Int) (c : CalCDIn α)
    (gddMethod : Nat) (tbase tupp : α) (hasCol : Bool) (sumFun : Nat) (oldYF oldFD : α)
    (rows : List (Option Nat × α × α)) :
    calendarInitCDSwitch F toInt c gddMethod tbase tupp hasCol sumFun oldYF oldFD rows
        = .error "E:unbound" ↔ ¬ (gddMethod = 1 ∨ gddMethod = 2 ∨ gddMethod = 3) := by
  constructor
  · intro h
    rcases calendarInitCDSwitch_error h with ⟨_, h2⟩ | ⟨h1, _⟩ | ⟨h1, _⟩
    · exact h2
    · exact absurd h1 (by decide)
    · exact absurd h1 (by decide)
  · exact fun hno => calendarInitCDSwitch_unbound (GddMethod.ofNat?_eq_none_iff.mpr hno)

theorem calendarInitCDSwitch_key_iff (F : Fn α) (toInt : α → Int) (c : CalCDIn α)
    (gddMethod : Nat) (tbase tupp : α) (hasCol : Bool) (sumFun : Nat) (oldYF oldFD : α)
    (rows : List (Option Nat × α × α)) :
    calendarInitCDSwitch F toInt c gddMethod tbase tupp hasCol sumFun oldYF oldFD rows
        = .error "E:key" ↔ (gddMethod = 1 ∨ gddMethod = 2 ∨ gddMethod = 3) ∧ hasCol = false := by
  constructor
  · intro h
    rcases calendarInitCDSwitch_error h with ⟨h1, _⟩ | ⟨_, h2⟩ | ⟨h1, _⟩
    · exact absurd h1 (by decide)
    · exact h2
    · exact absurd h1 (by decide)
  · rintro ⟨hyes, rfl⟩
    obtain ⟨m, hm⟩ := Option.isSome_iff_exists.mp ((GddMethod.ofNat?_isSome_iff gddMethod).mpr hyes)
    rw [calendarInitCDSwitch_eq hm]
    rfl

theorem calendarInitCDSwitch_index_iff (F : Fn α) (toInt : α → Int) (c : CalCDIn α)
    (gddMethod : Nat) (tbase tupp : α) (hasCol : Bool) (sumFun : Nat) (oldYF oldFD : α)
    (rows : List (Option Nat × α × α)) :
    calendarInitCDSwitch F toInt c gddMethod tbase tupp hasCol sumFun oldYF oldFD rows
        = .error "E:index" ↔
      (gddMethod = 1 ∨ gddMethod = 2 ∨ gddMethod = 3) ∧ hasCol = true ∧
      ¬ ((∀ r ∈ rows, r.1 ≠ none) ∧
        (∀ k, some k ∈ rows.map (·.1) →
          StagesInRange toInt c.cropType (switchStagesIn F c) (seasonLenT rows k))) := by
  have hok := calendarInitCDSwitch_ok_iff F toInt c gddMethod tbase tupp hasCol sumFun oldYF oldFD
    rows
  constructor
  · intro h
    rcases calendarInitCDSwitch_error h with ⟨h1, _⟩ | ⟨h1, _⟩ | ⟨_, h2, h3⟩
    · exact absurd h1 (by decide)
    · exact absurd h1 (by decide)
    · refine ⟨h2, h3, fun hc => ?_⟩
      obtain ⟨r, hr⟩ := hok.mpr ⟨h2, h3, hc⟩
      rw [h] at hr; cases hr
  · rintro ⟨h1, h2, h3⟩
    cases hr : calendarInitCDSwitch F toInt c gddMethod tbase tupp hasCol sumFun oldYF oldFD
      rows with
    | ok r => exact absurd (hok.mp ⟨r, hr⟩).2.2 h3
    | error e =>
      rcases calendarInitCDSwitch_error hr with ⟨_, h4⟩ | ⟨_, _, h4⟩ | ⟨h4, _⟩
      · exact absurd h1 h4
      · rw [h2] at h4; cases h4
      · rw [h4]

#print axioms calendarInitCDSwitch_ok_iff
#print axioms calendarInitCDSwitch_error
#print axioms calendarInitCDSwitch_error'
#print axioms calendarInitCDSwitch_unbound_iff
#print axioms calendarInitCDSwitch_key_iff
#print axioms calendarInitCDSwitch_index_iff

end Aqua
