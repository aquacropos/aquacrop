import AquaVerif.Model.Num
/-
Models of `aquacrop/solution/water_stress.py` and `aquacrop/solution/aeration_stress.py`.
-/

namespace Aqua
section
variable {α : Type} [Add α] [Sub α] [Mul α] [Div α] [Neg α] [LT α] [LE α]
  [DecidableLT α] [DecidableLE α] [OfScientific α] [OfNat α 0] [OfNat α 1] [OfNat α 3] [OfNat α 5]
  [OfNat α 9] [OfNat α 10] [OfNat α 100]

/-- ET0 adjustment of a depletion threshold: `p + (0.04 * (5 - et0)) * log10(10 - 9 * p)` -/
def etAdjust (F : Fn α) (p et0 : α) : α :=
  p + (0.04 * (5 - et0)) * (F.log10 (10 - 9 * p))

/-- clip to `[0,1]` as `np.minimum(np.maximum(p, 0), 1)` -/
def clip01 (p : α) : α :=
  let a := if p < 0 then 0 else p      -- np.maximum(p, 0)
  if 1 < a then 1 else a               -- np.minimum(a, 1)

/-- relative depletion for one threshold pair -/
def drel (pUp pLo dr taw : α) : α :=
  if dr ≤ pUp * taw then 0
  else if dr < pLo * taw then 1 - ((pLo - (dr / taw)) / (pLo - pUp))
  else 1

/-- `1 - (exp(d·f) - 1)/(exp(f) - 1)` -/
def ksShape (F : Fn α) (d f : α) : α :=
  1 - ((F.exp (d * f) - 1) / (F.exp f - 1))

structure Ksw (α : Type) where
  exp : α
  sto : α
  sen : α
  pol : α
  stoLin : α

/-- `water_stress(p_up[4], p_lo[4], ETadj, beta, fshape_w[4], tEarlySen, Dr, taw, et0, beta_flag)`.
`pUp i`, `pLo i`, `fsh i` for `i = 0..3`. -/
def waterStress (F : Fn α) (pUp pLo fsh : Fin 4 → α) (etAdj : Bool) (betaPct : α)
    (tEarlySen dr taw et0 : α) (betaFlag : Bool) : Ksw α :=
  -- ET0 adjustment applies to the first three thresholds only
  let up (i : Fin 4) : α := if etAdj ∧ i.val < 3 then etAdjust F (pUp i) et0 else pUp i
  let lo (i : Fin 4) : α := if etAdj ∧ i.val < 3 then etAdjust F (pLo i) et0 else pLo i
  let up2 : α := if betaFlag ∧ 0 < tEarlySen then up 2 * (1 - betaPct / 100) else up 2
  let upC (i : Fin 4) : α := clip01 (if i.val = 2 then up2 else up i)
  let loC (i : Fin 4) : α := clip01 (lo i)
  let d (i : Fin 4) : α := drel (upC i) (loC i) dr taw
  { exp := ksShape F (d 0) (fsh 0)
    sto := ksShape F (d 1) (fsh 1)
    sen := ksShape F (d 2) (fsh 2)
    pol := 1 - d 3
    stoLin := 1 - d 1 }

/-- `aeration_stress(aer_days, LagAer, thRZ)` → `(Ksa_Aer, aer_days')`. -/
def aerationStress (aerDays lagAer thAct thS thAer : α) : α × α :=
  if thAer < thAct then
    let ksa :=
      if aerDays < lagAer then
        let stress := 1 - ((thS - thAct) / (thS - thAer))
        1 - ((aerDays / 3) * stress)
      else (thS - thAct) / (thS - thAer)
    let a := aerDays + 1
    (ksa, if lagAer < a then lagAer else a)
  else (1, 0)

end
end Aqua
