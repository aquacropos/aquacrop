import AquaVerif.Proofs.Run
/-
**Stepping (property C09) on the full run model** (`Model/Run.lean`).
The loops of `runModel F T cfg`, with the biophysics inside, are instances of the generic loops of
`Proofs/Steps.lean` (`runStepsR_eq`, `runModelR_eq` in `Proofs/Run.lean`; `runCallsR_eq`), so the statements there
hold for every configuration, no premise; `Properties/C09Run.lean` reads them off.

What the model does (and the Python: the daily tables are DataFrames once the run has finished, the
table write of the next `solution_single_time_step` raises):

* inside one call, the loop stops at termination: a step count that overshoots the end gives the
  state at termination (`Steps.overshoot`);
* a *further call* on a finished state is **not** the identity: it raises (`Steps.model_finished`:
  `E:finished`, or `E:numsteps` for `k < 1`).  Hence
  `runModel (a + b) s = runModel a s >>= runModel b` holds exactly when the first call does not
  finish the run (`runModelR_add'`); in general the second call is skipped when the first one
  finished (`runModelR_add`).
* **`runCallsR_eq_one`**: any sequence of calls with positive step counts that succeeds equals one
  call with the sum; conversely (`Steps.calls_of_one`) one call with `k` steps that leaves the run
  unfinished can be cut into any list of positive step counts summing to `k`.
-/

set_option linter.unusedSectionVars false
namespace Aqua
open Aqua.Clock
variable {α : Type} [Field α] [LinearOrder α] [IsStrictOrderedRing α]
variable {F : Fn α} {T : TrigFn α} {cfg : RunCfg α}

theorem runModelR_add {a b : Nat} (ha : 1 ≤ a) (hb : 1 ≤ b) (s : RunState α) :
    runModel F T cfg (a + b) s =
      (runModel F T cfg a s).bind
        (fun s1 => if s1.finished then .ok s1 else runModel F T cfg b s1) := by
  simp only [runModelR_eq]; exact Steps.model_add hstepR ha hb s

theorem runModelR_add' {a b : Nat} (hb : 1 ≤ b) {s s1 : RunState α}
    (h1 : runModel F T cfg a s = .ok s1) (hf : s1.finished = false) :
    runModel F T cfg (a + b) s = (runModel F T cfg a s).bind (runModel F T cfg b) := by
  have h1' := h1
  rw [runModelR_eq] at h1'
  rw [runModelR_add (Steps.model_ok hstepR h1').1 hb, h1]
  simp [Except.bind, hf]

/-- a sequence of `run_model(num_steps = k)` calls -/
def runCallsR (F : Fn α) (T : TrigFn α) (cfg : RunCfg α) : List Nat → RunState α →
    Except String (RunState α)
  | [], s => .ok s
  | k :: ks, s => (runModel F T cfg k s).bind (runCallsR F T cfg ks)

theorem runCallsR_eq : ∀ (ks : List Nat) (s : RunState α),
    runCallsR F T cfg ks s =
      Steps.calls (performR F T cfg) RunState.finished "E:numsteps" ks s
  | [], _ => rfl
  | k :: ks, s => by
    show (runModel F T cfg k s).bind _ = (Steps.model _ _ _ k s).bind _
    rw [runModelR_eq]
    congr 1; funext s'
    exact runCallsR_eq ks s'

theorem runCallsR_eq_one : ∀ (ks : List Nat) {s r : RunState α}, ks ≠ [] →
    runCallsR F T cfg ks s = .ok r → runModel F T cfg ks.sum s = .ok r := by
  intro ks s r hne h
  rw [runCallsR_eq] at h; rw [runModelR_eq]
  exact Steps.calls_eq_one hstepR ks hne h

end Aqua

#print axioms Aqua.runModelR_add
#print axioms Aqua.runModelR_add'
#print axioms Aqua.runCallsR_eq_one
