import AquaVerif.Model.Profile
/-
Model of the soil-profile builder (property C18):

  * `aquacrop/entities/soil.py`        : `Soil.__init__`, `create_df`, `add_layer`, `fill_nan`,
                                         `add_capillary_rise_params`
  * `initialize/read_model_parameters` : lines 44–56 (`fill_nan` + the deepening `while` loop)
  * `initialize/create_soil_profile`   : copy of the data-frame columns into `SoilProfile`
  * `initialize/compute_variables`     : lines 47–77 (`rew`, `cn` from `Ksat`)

Geometry is kept in **integer centimetres** (`Nat`): `fill_nan` rounds every `dz` to two decimals
and `dzsum = cumsum(dz).round(2)`, so on inputs that are whole centimetres the float arrays are
exactly `cm/100` (checked bit for bit by the tie).  Conversion to metres (`toMetres`) is the only
place where the number type `α` enters the geometry.

Faithfully reproduced oddities of the implementation (all visible in the output):

  * `create_df` computes `zBot`, `z_top`, `zMid` once; `fill_nan` recomputes only `dzsum`, `zSoil`,
    `nComp`.  After the deepening loop has changed `dz`, the three columns are **stale**.
    `GComp.zMid2` is the stale value the implementation keeps, `GComp.mid2` the geometric one.
  * (fixed in repo commit b09df61) the deepening loop had no exit when no compartment was thinner
    than 25 cm; now the bottom compartment is thickened in that case.
  * comparisons of the later layers (`thickness + last >= dzsum`) are raw float comparisons; the
    model is parametric in the comparison (`ge2`), instantiated with the float comparison in the
    driver and with the exact comparison on centimetres in the proofs.
  * a layer that captures no compartment does not consume a layer number
    (`num_layers = len(profile.dropna().Layer.unique())`).
-/

namespace Aqua

/-! ### Geometry (integer centimetres) -/

/-- geometry of one compartment in cm.  `zBot`, `zTop` are the values `create_df` computed from
the *initial* thicknesses (never refreshed); `dz`, `dzsum` are current. -/
structure GComp where
  dz    : Nat
  dzsum : Nat
  zBot  : Nat
  zTop  : Nat
deriving Repr, DecidableEq

/-- twice the mid-depth **as the implementation stores it** (`zMid = (z_top + zBot)/2`), half-cm. -/
def GComp.zMid2 (g : GComp) : Nat := g.zTop + g.zBot
/-- twice the geometrically correct mid-depth `dzsum − dz/2`, half-cm. -/
def GComp.mid2 (g : GComp) : Nat := 2 * g.dzsum - g.dz

/-- `create_df`: `dzsum = cumsum(dz)`, `zBot = dzsum`, `z_top = zBot − dz`. -/
def buildGeoFrom : Nat → List Nat → List GComp
  | _, [] => []
  | acc, d :: ds =>
    { dz := d, dzsum := acc + d, zBot := acc + d, zTop := acc + d - d } :: buildGeoFrom (acc + d) ds

def buildGeometry (dzCm : List Nat) : List GComp := buildGeoFrom 0 dzCm

/-- `fill_nan` after `dz` changed: new `dz`, `dzsum = cumsum(dz)`; `zBot`, `zTop` untouched. -/
def refreshFrom : Nat → List GComp → List Nat → List GComp
  | acc, g :: gs, d :: ds =>
    { dz := d, dzsum := acc + d, zBot := g.zBot, zTop := g.zTop } :: refreshFrom (acc + d) gs ds
  | _, _, _ => []

def sumNat : List Nat → Nat
  | [] => 0
  | d :: ds => d + sumNat ds

/-! ### Deepening loop -/

/-- one pass of `for i in reversed(index): if dz[i] < 0.25: dz[i] += 0.1; break`:
the **last** entry below 25 cm is raised by 10 cm; `none` when the `for` ends without `break`. -/
def bumpLast : List Nat → Option (List Nat)
  | [] => none
  | d :: ds =>
    match bumpLast ds with
    | some ds' => some (d :: ds')
    | none => if d < 25 then some ((d + 10) :: ds) else none

/-- the `else:` branch of the `for` (no compartment below 25 cm): the **bottom** compartment is
raised by 10 cm.  `none` on an empty profile (`index[-1]` raises `IndexError`). -/
def bumpBottom : List Nat → Option (List Nat)
  | [] => none
  | [d] => some [d + 10]
  | d :: ds => (bumpBottom ds).map (d :: ·)

/-- one iteration of the `while` body. -/
def deepenStep (dz : List Nat) : Option (List Nat) :=
  match bumpLast dz with
  | some dz' => some dz'
  | none => bumpBottom dz

/-- `while zSoil < Zmax + 0.1: …`.  `more zSoil` is the loop condition (a float comparison in the
implementation, see `moreOf`).  Returns the final thicknesses and the number of steps (ghost).
Every step adds 10 cm, so the loop ends as soon as `more` turns false; `E:fuel` is returned when
the fuel runs out first (never with the fuel of lemma `deepen_terminates`).
(Before repo commit b09df61 the `for` had no `else:`: with no compartment below 25 cm the `while`
never ended.) -/
def deepen (more : Nat → Bool) : Nat → List Nat → Nat → Except String (List Nat × Nat)
  | fuel, dz, k =>
    if more (sumNat dz) then
      match fuel with
      | 0 => .error "E:fuel"
      | fuel + 1 =>
        match deepenStep dz with
        | none => .error "E:index"
        | some dz' => deepen more fuel dz' (k + 1)
    else .ok (dz, k)

/-! ### Layer assignment -/

/-- state of one row of the `Layer` column: `none` = NaN, `some (layer number, index of the
`add_layer` call that captured the row)`. -/
abbrev Asg := Option (Nat × Nat)

def dedup : List Nat → List Nat
  | [] => []
  | x :: xs => if (dedup xs).contains x then dedup xs else x :: dedup xs

/-- `len(profile.dropna().Layer.unique())` -/
def numAssigned (col : List Asg) : Nat :=
  (dedup (col.filterMap (fun a => a.map Prod.fst))).length

/-- `profile[profile.Layer == k].dzsum.values[-1]` (`none` = `IndexError`). -/
def lastOf (k : Nat) : List Asg → List Nat → Option Nat
  | a :: as, s :: ss =>
    match lastOf k as ss with
    | some r => some r
    | none => match a with
      | some (l, _) => if l = k then some s else none
      | none => none
  | _, _ => none

def zipAsg (f : Nat → Asg → Asg) : List Nat → List Asg → List Asg
  | s :: ss, a :: as => f s a :: zipAsg f ss as
  | _, _ => []

/-- one `add_layer` call (layer-number column only).  `τ` is the type of thicknesses,
`ge1 t s` is `round(t,2) >= round(s,2)`, `ge2 t last s` is `t + last >= s`. -/
def addLayer {τ : Type} (ge1 : τ → Nat → Bool) (ge2 : τ → Nat → Nat → Bool)
    (dzsum : List Nat) (col : List Asg) (call : Nat) (t : τ) : Except String (List Asg) :=
  let nl := numAssigned col + 1
  if nl = 1 then
    .ok (zipAsg (fun s a => if ge1 t s then some (1, call) else a) dzsum col)
  else
    match lastOf (nl - 1) col dzsum with
    | none => .error "E:index"
    | some last =>
      .ok (zipAsg (fun s a => if ge2 t last s && a.isNone then some (nl, call) else a) dzsum col)

def addLayers {τ : Type} (ge1 : τ → Nat → Bool) (ge2 : τ → Nat → Nat → Bool)
    (dzsum : List Nat) : List Asg → Nat → List τ → Except String (List Asg)
  | col, _, [] => .ok col
  | col, call, t :: ts =>
    match addLayer ge1 ge2 dzsum col call t with
    | .error e => .error e
    | .ok col' => addLayers ge1 ge2 dzsum col' (call + 1) ts

/-- `DataFrame.ffill()` on the layer column. -/
def ffillFrom : Asg → List Asg → List Asg
  | _, [] => []
  | prev, a :: as =>
    match a with
    | some x => some x :: ffillFrom (some x) as
    | none => prev :: ffillFrom prev as

/-- `Layer.astype(int)`: raises when a NaN is left (rows above the first assigned one, or no
layer at all). -/
def allSome : List Asg → Except String (List (Nat × Nat))
  | [] => .ok []
  | none :: _ => .error "E:nanlayer"
  | some x :: as =>
    match allSome as with
    | .error e => .error e
    | .ok r => .ok (x :: r)

/-- all `add_layer` calls followed by `fill_nan`: per compartment (layer number, call index). -/
def assignLayersG {τ : Type} (ge1 : τ → Nat → Bool) (ge2 : τ → Nat → Nat → Bool)
    (dzsum : List Nat) (thick : List τ) : Except String (List (Nat × Nat)) :=
  match addLayers ge1 ge2 dzsum (dzsum.map (fun _ => none)) 0 thick with
  | .error e => .error e
  | .ok col => allSome (ffillFrom none col)

/-- exact comparisons on whole centimetres -/
def natGe1 (t s : Nat) : Bool := decide (s ≤ t)
def natGe2 (t last s : Nat) : Bool := decide (s ≤ t + last)

/-- the layer number of every compartment, thicknesses in whole centimetres. -/
def assignLayers (dzsumCm : List Nat) (thickCm : List Nat) : Except String (List Nat) :=
  match assignLayersG natGe1 natGe2 dzsumCm thickCm with
  | .error e => .error e
  | .ok r => .ok (r.map Prod.fst)

/-! ### Hydraulic values -/

section
variable {α : Type} [Add α] [Sub α] [Mul α] [Div α] [Neg α] [LT α] [LE α]
  [DecidableLT α] [DecidableLE α] [OfScientific α] [NatCast α] [OfNat α 0] [OfNat α 1]
  [OfNat α 2] [OfNat α 4] [OfNat α 8] [OfNat α 9] [OfNat α 46] [OfNat α 61] [OfNat α 72]
  [OfNat α 77] [OfNat α 750] [OfNat α 36] [OfNat α 347] [OfNat α 864] [OfNat α 100] [OfNat α 1000]
  [OfNat α 10000] [OfNat α 100000]

/-- arguments of one `add_layer` call -/
structure LayerSpec (α τ : Type) where
  thick : τ
  wp    : α
  fc    : α
  s     : α
  ksat  : α
  pen   : α

/-- `tau = round(0.0866*Ksat**0.35, 2)` clipped to [0,1] (Python floats: `F.pyRound2`). -/
def tauOf (F : Fn α) (ksat : α) : α :=
  let t := F.pyRound2 (0.0866 * F.pow ksat 0.35)
  if 1 < t then 1 else if t < 0 then 0 else t

/-- cm → m -/
def cmToM (n : Nat) : α := (n : α) / 100

/-- the float columns of one compartment as the implementation computes them:
`z_top = zBot − dz₀` and `zMid = (z_top + zBot)/2` in the number type, where `dz₀` is the
*initial* thickness (`g.zBot − g.zTop` in cm). -/
structure GeoM (α : Type) where
  dz    : α
  dzsum : α
  zBot  : α
  zTop  : α
  zMid  : α

def toMetres (g : GComp) : GeoM α :=
  let zb : α := cmToM g.zBot
  let zt : α := zb - cmToM (g.zBot - g.zTop)
  { dz := cmToM g.dz, dzsum := cmToM g.dzsum, zBot := zb, zTop := zt, zMid := (zt + zb) / 2 }

/-- Kahan-compensated running sum, as `pandas` `group_mean` does (`(sum, compensation)`). -/
def kahan : α → α → List α → α
  | s, _, [] => s
  | s, c, v :: vs =>
    let y := v - c
    let t := s + y
    let c' := t - s - y
    kahan t (if c' ≤ c' then c' else 0) vs

/-- `groupby("Layer").mean()` for one group -/
def kmean (xs : List α) : α := kahan 0 0 xs / (xs.length : α)

/-- the values of column `f` in the group of layer `l` -/
def layerVals (l : Nat) (f : Comp α → α) (cs : List (Comp α)) : List α :=
  (cs.filter (fun c => c.layer == l)).map f

def layerMean (l : Nat) (f : Comp α → α) (cs : List (Comp α)) : α := kmean (layerVals l f cs)

/-- `add_capillary_rise_params` for one layer, from the layer means; `none` = a failed
`assert aCR != 0` / `assert bCR != 0`. -/
def crParams (F : Fn α) (thwp thfc ths ksat : α) : Option (α × α) :=
  let aSandy := -0.3112 - ksat / 100000
  let bSandy := -1.4936 + 0.2416 * F.log ksat
  let aLoamy := -0.4986 + 9 * ksat / 100000
  let bLoamy := -2.1320 + 0.4778 * F.log ksat
  let aSC := -0.5677 - 4 * ksat / 100000
  let bSC := -3.7189 + 0.5922 * F.log ksat
  let aSilt := -0.6366 + 8 * ksat / 10000
  let bSilt := -1.9165 + 0.7063 * F.log ksat
  let ab : α × α :=
    if ths ≤ 0.55 then
      if 0.20 ≤ thwp then
        if 0.49 ≤ ths ∧ 0.40 ≤ thfc then (aSilt, bSilt) else (aSC, bSC)
      else
        if thfc < 0.23 then (aSandy, bSandy)
        else if 0.16 < thwp ∧ ksat < 100 then (aSC, bSC)
        else if thwp < 0.06 ∧ thfc < 0.28 ∧ 750 < ksat then (aSandy, bSandy)
        else (aLoamy, bLoamy)
    else (aSilt, bSilt)
  if (ab.1 ≤ 0 ∧ 0 ≤ ab.1) ∨ (ab.2 ≤ 0 ∧ 0 ≤ ab.2) then none else some ab

/-- write `aCR`, `bCR` of every layer present (`for layer in hydf.index.unique()`); each
compartment receives the parameters of its own layer. -/
def addCR (F : Fn α) (all : List (Comp α)) : List (Comp α) → Option (List (Comp α))
  | [] => some []
  | c :: cs =>
    match crParams F (layerMean c.layer (·.thWP) all) (layerMean c.layer (·.thFC) all)
        (layerMean c.layer (·.thS) all) (layerMean c.layer (·.ksat) all) with
    | none => none
    | some (a, b) =>
      match addCR F all cs with
      | none => none
      | some r => some ({ c with aCR := a, bCR := b } :: r)

/-- `compute_variables`: readily evaporable water. -/
def rewOf (F : Fn α) (adjRew : Bool) (rew fc0 dry0 zSurf : α) : α :=
  if adjRew = false then F.round2 (1000 * (fc0 - dry0) * zSurf) else rew

/-- `compute_variables`: curve number from `Ksat` of the top compartment; `none` = `assert ksat > 0`
fails. -/
def cnOf (calcCN : Bool) (cn ksat : α) : Option α :=
  if calcCN then
    if 864 < ksat then some 46
    else if 347 < ksat then some 61
    else if 36 < ksat then some 72
    else if 0 < ksat then some 77
    else none
  else some cn

/-- everything the builder produces -/
structure SoilOut (α : Type) where
  geo    : List GComp            -- final geometry, cm (with the stale `zBot`/`zTop`)
  geoM   : List (GeoM α)         -- the float columns
  comps  : List (Comp α)         -- profile rows (dz, dzsum, zMid as in `geoM`)
  call   : List Nat              -- which `add_layer` call captured each compartment (ghost)
  zSoil  : Nat                   -- cm
  steps  : Nat                   -- deepening steps (ghost)
  rew    : α
  cn     : α
  zTopS  : α                     -- `Soil.z_top = max(z_top, dz[0])`

def nthSpec {τ : Type} : List (LayerSpec α τ) → Nat → Option (LayerSpec α τ)
  | [], _ => none
  | x :: _, 0 => some x
  | _ :: xs, n + 1 => nthSpec xs n

def mkComps {τ : Type} (F : Fn α) (specs : List (LayerSpec α τ)) :
    List GComp → List (Nat × Nat) → Except String (List (Comp α))
  | g :: gs, (l, k) :: ls =>
    match nthSpec specs k with
    | none => .error "E:index"
    | some sp =>
      match mkComps F specs gs ls with
      | .error e => .error e
      | .ok r =>
        let m : GeoM α := toMetres g
        .ok ({ dz := m.dz, dzsum := m.dzsum, zMid := m.zMid, thS := sp.s, thFC := sp.fc,
               thWP := sp.wp, thDry := sp.wp / 2, tau := tauOf F sp.ksat, ksat := sp.ksat,
               pen := sp.pen, aCR := 0, bCR := 0, layer := l } :: r)
  | _, _ => .ok []

/-- `Soil(...)` + `add_layer…` + `read_model_parameters` (fill_nan, deepening) +
`compute_variables` (capillary-rise parameters, rew, cn) + `create_soil_profile`.
`more` is the deepening loop condition on the soil depth in cm (`moreOf Zmax`), `fuel` bounds the
number of deepening steps (`Zmax[cm]/10 + 5` always suffices, lemma `C18.deepen_terminates_just_below_zmax`). -/
def soilProfile {τ : Type} (F : Fn α) (ge1 : τ → Nat → Bool) (ge2 : τ → Nat → Nat → Bool)
    (more : Nat → Bool) (fuel : Nat) (dzCm : List Nat) (specs : List (LayerSpec α τ))
    (waterTable adjRew calcCN : Bool) (rew zSurf cn zTopArg : α) : Except String (SoilOut α) :=
  match dzCm with
  | [] => .error "E:index"                       -- `dz[0]` in `Soil.__init__`
  | d0 :: _ =>
    let geo0 := buildGeometry dzCm
    match assignLayersG ge1 ge2 (geo0.map (·.dzsum)) (specs.map (·.thick)) with
    | .error e => .error e
    | .ok lay =>
      match deepen more fuel dzCm 0 with
      | .error e => .error e
      | .ok (dz', k) =>
        let geo := refreshFrom 0 geo0 dz'
        match mkComps F specs geo lay with
        | .error e => .error e
        | .ok comps0 =>
          let comps? : Option (List (Comp α)) :=
            if waterTable then addCR F comps0 comps0 else some comps0
          match comps? with
          | none => .error "E:assert"
          | some comps =>
            match comps with
            | [] => .error "E:index"
            | c0 :: _ =>
              match cnOf calcCN cn c0.ksat with
              | none => .error "E:assert"
              | some cn' =>
                .ok { geo := geo, geoM := geo.map toMetres, comps := comps,
                      call := lay.map Prod.snd, zSoil := sumNat dz', steps := k,
                      rew := rewOf F adjRew rew c0.thFC c0.thDry zSurf, cn := cn',
                      zTopS := pmax zTopArg (cmToM d0) }

/-- the loop condition `zSoil < Zmax + 0.1` on a soil depth in whole centimetres. -/
def moreOf (zmax : α) (zSoilCm : Nat) : Bool := decide (cmToM zSoilCm < zmax + 0.1)

end
end Aqua
