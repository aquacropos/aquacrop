import AquaVerif.Properties.C02
/-
Property C04 — fluxes are non-negative and actual never exceeds potential.

What is modelled: the water processes and their composition `waterDay` (see
`Properties/C01.lean`).  What is quantified over: an arbitrary linearly ordered field, every `Fn`,
profile, parameter record, state, day input and `CropDay`; statements are about successful calls.

Premises that cannot be dropped, and why (each is explicit in the statement):

* `EsPot ≥ 0` needs `EsPotPre` / `DayEsPre`: `Kex, ET0 ≥ 0`, mulch reduction `≤ 1`, wetted
  fraction `≥ 0`, and — the substantive one — the micro-advection-adjusted canopy cover
  `CCadj ≤ 1` in season while the withered-canopy branch is off.  `CCadj` is produced by the
  canopy step, outside `waterDay`, so it is an argument here (`run_flux_closed` has `0 ≤ EsPot`
  from premises on the configuration).  The converse
  `espot_negative_when_adjusted_cover_exceeds_one` is about the function: with `CCadj > 1` the
  potential rate is negative.  The modelled canopy step does not hand over such a value: `microAdv`
  caps `1.72c − c² + 0.3c³`, which exceeds 1 for `c > 0.967`, at 1, as the source does (repo
  commit f2023fd).
* `0 ≤ Es ≤ EsPot` then needs only `0 ≤ EsPot`.
* `Tr ≤ TrPot` needs `0 ≤ TrPot` (at day level `Kcb` after ageing/CO₂ and `CCadj` are
  arguments; `run_flux_closed` has `0 ≤ TrPot` on every simulated day); `0 ≤ Tr` needs in addition the
  premises under which every sink is non-negative (`DayTrPre`, see `Properties/C03.lean`) and the
  integrality of `LagAer` (`LagAerIntegral`).
* `IrrNet ≥ −2·ε·comp_sto` where `ε` bounds the 2-decimal rounding inside `root_zone_water`
  (`ε = 0.005` for real rounding, i.e. 0.01 mm per compartment): the refill trigger compares
  rounded sums, the refill adds exact ones.  Needs both roundings of the root depth to agree.
* deep percolation `≥ 0` needs the invariant on the incoming profile (`DayPre`) and `1 ≤ exp x`
  for `x ≥ 0`; capillary rise `≥ 0` needs `0 < exp x`.
Here: the theorems about each process and about one day (`waterDay`); the theorems along a run
and about the full day are in `Properties/C04Run.lean`.
-/

set_option linter.unusedSectionVars false
namespace Aqua.C04
open Aqua
variable {α : Type} [Field α] [LinearOrder α] [IsStrictOrderedRing α]

/-! ### the processes -/

/-- Irrigation depth is never negative — no premise on the parameters. -/
theorem irr_nonneg {F : Fn α} {P : IrrParams α} {cells : List (Cell α)} {st : Nat}
    {irrCum ePot tPot zRoot : α} {dap : Nat} {sched : Option α} {zMin aer zTop rain runoff : α}
    {gs : Bool} {out : IrrOut α}
    (h : irrigation F P cells st irrCum ePot tPot zRoot dap sched zMin aer zTop gs rain runoff
      = .ok out) : 0 ≤ out.irr :=
  Aqua.irr_nonneg h

/-- Runoff of the rain partition is never negative (non-negative rain; curve number in `(0,100]`
where the SCS split runs; law `x ** 2 = x · x` for the `term ** 2` of the SCS formula), and neither
is the total runoff after `infiltration` has run on it (non-negative ponding, `Ksat ≥ 0`). -/
theorem runoff_nonneg {F : Fn α} (hF : PowSqLaw F) {p : α} {cells : List (Cell α)} {daySub : Nat}
    {srInhb bunds : Bool} {zBund pct soilCN zCN : α} {adjCN : Bool} {r : RainOut α}
    (h : rainPartition F p cells daySub srInhb bunds zBund pct soilCN adjCN zCN = some r)
    (hp : 0 ≤ p)
    (hcn : (srInhb = false ∧ (bunds = false ∨ zBund < 0.001)) → 0 < r.cn ∧ r.cn ≤ 100)
    {cells' : List (Cell α)} {pond irr appEff dp0 : α} {gs : Bool} {out : InfOut α}
    (h' : infiltration F cells' pond r.infl irr appEff bunds zBund dp0 r.runoff gs = .ok out)
    (hpond : 0 ≤ pond) (hk : ∀ c ∈ cells', 0 ≤ c.c.ksat) :
    0 ≤ r.runoff ∧ 0 ≤ out.runoffTot := by
  have h1 := (rainPartition_bounds hF h hp hcn).1
  exact ⟨h1, h1.trans (sub_nonneg.mp (C02.runoff_nonneg h' hpond hk))⟩

/-- Deep percolation of drainage is never negative, and neither is the total after `infiltration`
has run on the drained profile (premises: `1 ≤ exp x` for `x ≥ 0`, `DrainPre`). -/
theorem deepperc_nonneg (F : Fn α) (E : ExpLaws F) (cells : List (Cell α))
    (h : ∀ x ∈ cells, DrainPre x)
    {pond infl irr appEff zBund ro0 : α} {bunds gs : Bool} {out : InfOut α}
    (h' : infiltration F (drainage F cells).cells pond infl irr appEff bunds zBund
      (drainage F cells).deepPerc ro0 gs = .ok out) :
    0 ≤ (drainage F cells).deepPerc ∧ 0 ≤ out.deepPerc := by
  have h1 := drainage_deepPerc_nonneg F E cells h
  have hinv := Aqua.drainage_inv F E cells h
  have hfl := drainage_flux_le_ksat F cells (fun x hx => (h x hx).inv.wf.ksat_nn)
  have h2 := infiltration_deepPerc_nonneg h' (fun c hc => ⟨(hinv c hc).wf, hfl c hc⟩)
  exact ⟨h1, h1.trans (sub_nonneg.mp h2)⟩

/-- Capillary rise is never negative (premises: `0 < exp x`, positive thicknesses). -/
theorem cr_nonneg (F : Fn α) (hE : GwExpLaws F) (cells : List (Cell α)) (nLayer : Nat)
    (fshape zGW : α) (wt : Nat) (r : CROut α) (hdz : ∀ x ∈ cells, 0 < x.c.dz)
    (h : capillaryRise F cells nLayer fshape zGW wt = .ok r) : 0 ≤ r.crTot :=
  ((capillaryRise_spec F cells nLayer fshape zGW wt r h).2.2.2 hE hdz).1

/-- Groundwater inflow is never negative (thicknesses `≥ 0`). -/
theorem gwin_nonneg (cells : List (Cell α)) (wt : Bool) (zGW : α) (r : List (Cell α) × α)
    (hdz : ∀ x ∈ cells, 0 ≤ x.c.dz) (h : groundwaterInflow cells wt zGW = some r) : 0 ≤ r.2 :=
  (groundwaterInflow_spec cells wt zGW r h).2.2.1 hdz

/-- Potential soil evaporation is non-negative **under `EsPotPre`** (in particular `CCadj ≤ 1`
in season while the withered-canopy branch is off). -/
theorem espot_nonneg (F : Fn α) (P : EvapParams α) (S : EvapState α) (cells : List (Cell α))
    (D : EvapDay α) (out : EvapOut α) (h : soilEvaporation F P S cells D = .ok out)
    (hdz : ∀ x ∈ cells, 0 < x.c.dz) (pre : EsPotPre P S D) : 0 ≤ out.esPot :=
  soilEvap_esPot_nonneg F P S cells D out h pre

/-- Converse of `espot_nonneg`, about the function `soil_evaporation` alone: an adjusted canopy
cover above 1 (in season, before senescence, no mulch, no premature senescence, no irrigation,
positive `Kex` and `ET0`) makes the potential soil evaporation strictly negative.  The modelled
canopy step caps `CCadj` at 1 and so does not produce this input. -/
theorem espot_negative_when_adjusted_cover_exceeds_one (F : Fn α) (P : EvapParams α)
    (S : EvapState α) (cells : List (Cell α)) (D : EvapDay α) (out : EvapOut α)
    (h : soilEvaporation F P S cells D = .ok out) (hdz : ∀ x ∈ cells, 0 < x.c.dz)
    (hg : D.growingSeason = true) (hsen : ¬ SenActive P S (tAdjOf P S))
    (hpm : S.prematSenes = false) (hmu : P.mulches = false) (hirr : D.irr ≤ 0)
    (hk : 0 < P.kex) (he : 0 < D.et0) (hcc : 1 < S.ccAdj) : out.esPot < 0 := by
  obtain ⟨b, hb⟩ := ((soilEvap_cases F P S cells D).2 out h).2.2.2.1
  exact esPotential_neg_of_ccAdj_gt_one F P S D _ b hb hg hsen hpm hmu hirr hk he hcc

/-- Actual soil evaporation lies between 0 and the potential, given `0 ≤ EsPot`. -/
theorem es_bounds (F : Fn α) (P : EvapParams α) (S : EvapState α) (cells : List (Cell α))
    (D : EvapDay α) (out : EvapOut α) (h : soilEvaporation F P S cells D = .ok out)
    (hdz : ∀ x ∈ cells, 0 < x.c.dz) (hpot : 0 ≤ out.esPot) :
    0 ≤ out.esAct ∧ out.esAct ≤ out.esPot :=
  ⟨soilEvap_esAct_nonneg F P S cells D out h hpot,
   soilEvap_esAct_le_esPot F P S cells D out h hpot⟩

/-- Actual transpiration never exceeds potential transpiration, given `0 ≤ TrPot` (no law about
`exp`, `log`, `pow` or rounding is needed). -/
theorem tr_le_trpot {F : Fn α} {cells : List (Cell α)} {nComp : Nat} {zTop : α}
    {crop : TrCrop α} {m : Nat} {smt : α} {st : TrState α} {et0 cur ref gdd : α} {gs : Bool}
    {out : TrOut α} (hdz : ∀ x ∈ cells, 0 < x.c.dz) (hds : 0 ≤ st.daySubmerged)
    (h : transpiration F cells nComp zTop crop m smt st et0 cur ref gs gdd = .ok out)
    (hp : 0 ≤ out.trPot0) : out.trAct ≤ out.trPot0 := by
  rcases transp_cases h with ⟨-, rfl⟩ |
    ⟨pot, sf, rz, ni, ex, tpr, cst, -, hsf, -, rfl, -, -, hex, -, rfl⟩
  · exact le_refl _
  · simp only [trFinish] at hp ⊢
    obtain ⟨s1, s2, -⟩ := trSurface_bounds hsf hds hp
    have b2 := (trExtractLoop_extracted _ _ _ _ _ _ _ _ hex).le
      (forall_of_map_eq (·.c) ((trSurface_spec hsf).1 (·.c) fun _ _ => rfl) (fun c => 0 < c.dz) hdz)
    have hk := trKs_le_one (F := F) crop (rz := rz) st.tEarlySen st.aerDays et0
    have hrzp : max 0 (trPotRzOf m sf.trPot (trKs F crop rz st.tEarlySen st.aerDays et0).1)
        ≤ sf.trPot := by
      apply max_le s1
      unfold trPotRzOf
      split_ifs
      · exact mul_le_of_le_one_right s1 hk
      · exact le_refl _
    linarith

/-- Actual transpiration is non-negative, given `0 ≤ TrPot` and the premises under which every
sink is non-negative. -/
theorem tr_nonneg {F : Fn α} {cells : List (Cell α)} {nComp : Nat} {zTop : α}
    {crop : TrCrop α} {m : Nat} {smt : α} {st : TrState α} {et0 cur ref gdd : α} {gs : Bool}
    {out : TrOut α} (hgeo : TrGeom 0 cells) (haer : ∀ x ∈ cells, 0 ≤ x.aer)
    (hsxT : 0 ≤ crop.sxTop) (hsxB : 0 ≤ crop.sxBot) (hrc : 0 ≤ st.rCor)
    (hrd : 0 < trRootdepth F crop st) (hds : 0 ≤ st.daySubmerged)
    (hint : st.daySubmerged < crop.lagAer → st.daySubmerged + 1 ≤ crop.lagAer)
    (h : transpiration F cells nComp zTop crop m smt st et0 cur ref gs gdd = .ok out)
    (hp : 0 ≤ out.trPot0) : 0 ≤ out.trAct :=
  transp_trAct_nonneg hgeo haer hsxT hsxB hrc hrd hds hint h hp

/-- The net-irrigation requirement is at least `−2·ε·comp_sto`, `ε` a bound on the 2-decimal
rounding of the root-zone bookkeeping (premises: both roundings of the root depth agree, idealised
geometry, positive rooting depth, in net-irrigation mode `0 ≤ NetIrrSMT ≤ 100` and layer-consistent
`th_wp`, `th_fc`; see the header). -/
theorem irrnet_lower {F : Fn α} {cells : List (Cell α)} {nComp : Nat} {zTop : α}
    {crop : TrCrop α} {m : Nat} {smt : α} {st : TrState α} {et0 cur ref gdd : α} {gs : Bool}
    {out : TrOut α} (wp fc : Nat → α) (ε : α) (hε : ∀ v, |F.round2 v - v| ≤ ε)
    (hround : F.round2 (pmax st.zRoot crop.zMin) = F.pyRound2 (pmax st.zRoot crop.zMin))
    (hgeo : TrGeom 0 cells) (hrd : 0 < trRootdepth F crop st) (hn : cells.length ≤ nComp)
    (hnet : m = 4 → 0 ≤ smt ∧ smt ≤ 100 ∧ TrLayersOK wp fc 0 cells)
    (h : transpiration F cells nComp zTop crop m smt st et0 cur ref gs gdd = .ok out) :
    -(2 * ε * out.compSto) ≤ out.irrNet :=
  transp_irrNet_lower wp fc ε hε hround hgeo hrd hn hnet h

/-- Outside a growing season transpiration, potential transpiration and net irrigation are zero,
and so is the irrigation depth (with the seasonal counter reset). -/
theorem offseason_zero {F : Fn α} {cells : List (Cell α)} {nComp : Nat} {zTop : α}
    {crop : TrCrop α} {m : Nat} {smt : α} {st : TrState α} {et0 cur ref gdd : α} {out : TrOut α}
    (h : transpiration F cells nComp zTop crop m smt st et0 cur ref false gdd = .ok out)
    {P : IrrParams α} {cells' : List (Cell α)} {stage : Nat} {irrCum ePot tPot zRoot : α}
    {dap : Nat} {sched : Option α} {zMin aer rain runoff : α} {io : IrrOut α}
    (h' : irrigation F P cells' stage irrCum ePot tPot zRoot dap sched zMin aer zTop false rain
      runoff = .ok io) :
    out.trAct = 0 ∧ out.trPot0 = 0 ∧ out.irrNet = 0 ∧ io.irr = 0 ∧ io.irrCum = 0 := by
  obtain rfl := Except.ok.inj (transpiration_offseason.symm.trans h)
  obtain ⟨i1, i2, _, _⟩ := irr_offseason h'
  exact ⟨rfl, rfl, rfl, i1, i2⟩

/-! ### the whole day -/

variable {F : Fn α} {W : WaterParams α} {fm : FieldMngt α} {C : CropDay α}
  {cells : List (Cell α)} {S : DayState α} {D : DayIn α} {out : DayOut α}

/-- The day's irrigation depth is never negative; hence the row's irrigation column is
non-negative whenever it reports it (every mode but net irrigation); rainfed and net-irrigation
modes apply nothing at the surface. -/
theorem day_irr_nonneg (h : waterDay F W fm C cells S D = .ok out) :
    0 ≤ out.irr ∧ (W.irr.method ≠ 4 → 0 ≤ out.irrDay) ∧
      (W.irr.method = 0 ∨ W.irr.method = 4 → out.irr = 0) := by
  obtain ⟨T, hs, rfl⟩ := waterDay_ok h
  have h0 := irr_nonneg hs.hi
  refine ⟨h0, fun hm => ?_, fun hm => ?_⟩
  · simp only [dayOutOf, hm, if_false]
    split_ifs
    · exact h0
    · exact le_refl _
  · rcases hm with hm | hm
    · exact irr_rainfed hs.hi hm
    · exact irr_net hs.hi hm

/-- Reported runoff is never negative (`DayPre`, non-negative rain, curve number in `(0,100]`). -/
theorem day_runoff_nonneg (h : waterDay F W fm C cells S D = .ok out) (hP : DayPre F W cells S)
    (hrain : 0 ≤ D.rain) (hcn : ScsRuns fm → 0 < out.cn ∧ out.cn ≤ 100) : 0 ≤ out.runoff :=
  (C02.day_runoff_bounds h hP hrain hcn).1

/-- Reported deep percolation (drainage + infiltration) is never negative (`DayPre`). -/
theorem day_deepperc_nonneg (h : waterDay F W fm C cells S D = .ok out)
    (hP : DayPre F W cells S) : 0 ≤ out.deepPerc := by
  obtain ⟨T, hs, rfl⟩ := waterDay_ok h
  have hm := day_mid hs hP
  have := infiltration_deepPerc_nonneg hs.hf
    (fun c hc => ⟨(hm.d_inv c hc).wf, hm.d_flux c hc⟩)
  exact le_trans hm.d_dp (sub_nonneg.1 this)

/-- Reported capillary rise is never negative (`0 < exp x`, positive thicknesses). -/
theorem day_cr_nonneg (h : waterDay F W fm C cells S D = .ok out) (hE : GwExpLaws F)
    (hdz : ∀ x ∈ cells, 0 < x.c.dz) : 0 ≤ out.cr := by
  obtain ⟨T, hs, rfl⟩ := waterDay_ok h
  have hf := ((day_comps hs).dz hdz).f
  exact ((capillaryRise_spec F _ _ _ _ _ _ hs.hc).2.2.2 hE hf).1

/-- Reported groundwater inflow is never negative (positive thicknesses). -/
theorem day_gwin_nonneg (h : waterDay F W fm C cells S D = .ok out)
    (hdz : ∀ x ∈ cells, 0 < x.c.dz) : 0 ≤ out.gwIn := by
  obtain ⟨T, hs, rfl⟩ := waterDay_ok h
  have ht := ((day_comps hs).dz hdz).t
  exact (groundwaterInflow_spec _ _ _ _ hs.hw).2.2.1 fun x hx => (ht x hx).le

/-- Under `DayEsPre` (the day's form of `EsPotPre`, on inputs only) potential soil evaporation is
non-negative and actual soil evaporation lies between 0 and it. -/
theorem day_es_bounds (h : waterDay F W fm C cells S D = .ok out)
    (hdz : ∀ x ∈ cells, 0 < x.c.dz) (hp : DayEsPre W fm C D) :
    0 ≤ out.esPot ∧ 0 ≤ out.es ∧ out.es ≤ out.esPot := by
  obtain ⟨T, hs, rfl⟩ := waterDay_ok h
  have e1 := soilEvap_esPot_nonneg _ _ _ _ _ _ hs.he (hp.toEsPotPre _ _ _)
  exact ⟨e1, soilEvap_esAct_nonneg _ _ _ _ _ _ hs.he e1, soilEvap_esAct_le_esPot _ _ _ _ _ _ hs.he e1⟩

/-- … and whenever the reported `EsPot` is non-negative, `0 ≤ Es ≤ EsPot` — no other premise than
positive thicknesses. -/
theorem day_es_bounds_of_espot_nonneg (h : waterDay F W fm C cells S D = .ok out)
    (hdz : ∀ x ∈ cells, 0 < x.c.dz) (hp : 0 ≤ out.esPot) : 0 ≤ out.es ∧ out.es ≤ out.esPot := by
  obtain ⟨T, hs, rfl⟩ := waterDay_ok h
  exact ⟨soilEvap_esAct_nonneg _ _ _ _ _ _ hs.he hp,
    soilEvap_esAct_le_esPot _ _ _ _ _ _ hs.he hp⟩

/-- Whenever the reported `TrPot` is non-negative, actual transpiration does not exceed it; and it
is non-negative under `DayTrPre` and an integral `LagAer`. -/
theorem day_tr_bounds (h : waterDay F W fm C cells S D = .ok out)
    (hdz : ∀ x ∈ cells, 0 < x.c.dz) (hp : 0 ≤ out.trPot) :
    out.tr ≤ out.trPot ∧
      (∀ wp fc : Nat → α, DayTrPre F W C cells wp fc → LagAerIntegral W → 0 ≤ out.tr) := by
  obtain ⟨T, hs, rfl⟩ := waterDay_ok h
  refine ⟨tr_le_trpot ((day_comps hs).dz hdz).e (natNum_nonneg _) hs.ht hp,
    fun wp fc hT hl => ?_⟩
  obtain ⟨e_geo, e_aer, _⟩ := day_trPre hs hT
  exact transp_trAct_nonneg (F := F)
    (st := dayTrState C S T.e.pond T.r.daySub T.i.depletion T.i.taw) e_geo e_aer hT.sxTop hT.sxBot
    hT.rCor hT.rd (natNum_nonneg _) (hl _) hs.ht hp

/-- The day's net-irrigation requirement is at least `−2·ε·comp_sto` (see the header). -/
theorem day_irrnet_lower (h : waterDay F W fm C cells S D = .ok out)
    (hdz : ∀ x ∈ cells, 0 < x.c.dz) (wp fc : Nat → α) (hT : DayTrPre F W C cells wp fc)
    (hsmt : W.irr.method = 4 → 0 ≤ W.netIrrSMT ∧ W.netIrrSMT ≤ 100)
    (ε : α) (hε : ∀ v, |F.round2 v - v| ≤ ε)
    (hround : F.round2 (pmax C.zRoot W.crop.tr.zMin) = F.pyRound2 (pmax C.zRoot W.crop.tr.zMin))
    (hn : cells.length ≤ W.soil.nComp) : -(2 * ε * out.compSto) ≤ out.irrNet := by
  obtain ⟨T, hs, rfl⟩ := waterDay_ok h
  obtain ⟨e_geo, _, e_lay⟩ := day_trPre hs hT
  have hlen : T.e.cells.length = cells.length := by
    simpa using congrArg List.length (day_comps hs).e
  exact transp_irrNet_lower (F := F)
    (st := dayTrState C S T.e.pond T.r.daySub T.i.depletion T.i.taw) wp fc ε hε hround e_geo hT.rd
    (by rw [hlen]; exact hn) (fun hm => ⟨(hsmt hm).1, (hsmt hm).2, e_lay hm⟩) hs.ht

/-- **Outside a growing season** the day's transpiration, potential transpiration and irrigation
(row column, applied depth, net requirement, pre-irrigation) are all zero — no premise. -/
theorem day_offseason_zero (h : waterDay F W fm C cells S D = .ok out) (hg : D.gs = false) :
    out.tr = 0 ∧ out.trPot = 0 ∧ out.irrDay = 0 ∧ out.irr = 0 ∧ out.irrNet = 0 ∧
      out.preIrr = 0 := by
  obtain ⟨T, hs, rfl⟩ := waterDay_ok h
  have ht := hs.ht
  have hi := hs.hi
  have hp := hs.hp
  rw [hg] at ht hi hp
  have et := Except.ok.inj (transpiration_offseason.symm.trans ht)
  have hp' : T.p = (T.g.cells, 0) :=
    Option.some.inj (hp.symm.trans (preIrrigationR_inactive _ _ _ _ _ _ _ _ (Or.inl rfl)))
  simp only [dayOutOf, hg]
  rw [← et]
  exact ⟨rfl, rfl, by simp, (irr_offseason hi).1, rfl, by rw [hp']⟩

/-! ### non-vacuity -/

/-- the concrete day of `Proofs/WaterDay.lean` satisfies `DayEsPre`; its evaporation, transpiration
and potential transpiration are strictly positive (computed: `DayExample.runs`) -/
example : ∃ out, waterDay DayExample.Fq DayExample.Wq DayExample.fmq DayExample.Cq
      DayExample.cellsq DayExample.Sq DayExample.Dq = .ok out ∧
    0 < out.es ∧ out.es ≤ out.esPot ∧ 0 < out.tr ∧ out.tr ≤ out.trPot ∧ 0 ≤ out.cr := by
  obtain ⟨out, h, _, _, _, _, hes, htr, _, _, hpot⟩ := DayExample.runs
  have hdz : ∀ x ∈ DayExample.cellsq, 0 < x.c.dz :=
    fun x hx => (DayExample.cells_pre x hx).inv.wf.dz_pos
  have he := day_es_bounds h hdz DayExample.dayEsPre
  have hp : 0 ≤ out.trPot := hpot.le
  exact ⟨out, h, hes, he.2.2, htr, (day_tr_bounds h hdz hp).1,
    day_cr_nonneg h DayExample.Fq_gw.1 hdz⟩

end Aqua.C04
