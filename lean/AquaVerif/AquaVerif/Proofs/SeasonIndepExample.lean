import AquaVerif.Proofs.SeasonIndep

/-
Non-vacuity of `Proofs/SeasonIndep.lean` over `ℚ`: the configuration of `Proofs/Run.lean`
(`RunExample.cfgq`: four compartments, water table, constant-depth irrigation) extended to **two
seasons** with the off-season skipped — planting on days 0 and 4, latest harvest days 3 and 9,
window of 8 days — and *different weather in the two seasons*.

* `pre2 : SeasonPre cfg2 1 cfg2.init` — every premise of `season_independent` holds for season 1;
* `runsB` / `run2` / `reach2`: six `_perform_timestep`s succeed (three days of season 0, the jump
  to day 4, three days of season 1), the run finishes, season 1 has three day records; the run is
  evaluated once and what other examples compare with (`Run2`) is recorded;
* `season1_is_fresh_run`: `season_independent` applied to that state — the fresh run has three day
  records paired with those of season 1 and is finished;
* `freshB` / `fresh_run_computed`: cross-check by computation — the fresh configuration run for
  three steps gives flux rows equal to those of season 1 up to the two labels.
-/

set_option linter.unusedSectionVars false
namespace Aqua
namespace SeasonIndepExample
open Aqua.Clock DayExample FullDayExample RunExample

/-- `cfgq` with two seasons and season-dependent weather, before fixing the initial state -/
def cfg0 : RunCfg ℚ :=
  { cfgq with
    clock := { n := 8, planting := [0, 4], harvest := [3, 9], offSeason := false, season0 := 0 }
    weather := fun t => { tmin := 15, tmax := 25, rain := if t < 4 then 20 else 2, et0 := 5 } }

/-- the two-season configuration; its initial state object is a reset state -/
def cfg2 : RunCfg ℚ := { cfg0 with init := resetState cfg0 cropq' cfgq.init }

theorem valid2 : Valid cfg2.clock := by decide

theorem pre2 : SeasonPre cfg2 1 cfg2.init :=
  { valid := valid2
    hk := by decide
    initOK := ⟨rfl, rfl, rfl, rfl⟩
    off := rfl
    offW := rfl
    dz := by
      intro x hx
      simp only [cfg2, cfg0, cfgq, resetState, resetStateCore, stq, cellsq, setTh, List.map_cons,
        List.map_nil, Bool.false_eq_true, if_false, List.mem_cons, List.not_mem_nil, or_false] at hx
      rcases hx with rfl | rfl | rfl | rfl <;> norm_num [cq]
    thini := by decide
    ct := Or.inr (Or.inr rfl)
    fresh := rfl
    reset := Or.inl (by norm_num) }

/-- the `water_flux` rows of season 1 (`tsc`, `dap`, `wr`, `infl`) -/
def rows1a : List (Nat × Nat × ℚ × ℚ) := [(4, 1, 101 / 2, 11), (5, 2, 56, 11), (6, 3, 123 / 2, 11)]
/-- … (`runoff`, `cr`, `es`, `tr`) -/
def rows1b : List (ℚ × ℚ × ℚ × ℚ) :=
  [(0, 729 / 2329, 11 / 2, 0), (0, 1639521 / 5424241, 11 / 2, 0),
   (0, 3687282729 / 12633057289, 11 / 2, 0)]
/-- (`tsc`, `infl`, `es`) of all six days -/
def rows2 : List (Nat × ℚ × ℚ) :=
  [(0, 99613499 / 3688380, 11 / 2), (1, 99613499 / 3688380, 11 / 2),
   (2, 99613499 / 3688380, 11 / 2), (4, 11, 11 / 2), (5, 11, 11 / 2), (6, 11, 11 / 2)]

/-- what is recorded of the final state of the six-step run of `cfg2`: 3 days of season 0, the
jump to the second planting date, 3 days of season 1; some `water_flux` columns are written out
for the comparisons with other runs -/
def Run2 (s : RunState ℚ) : Prop :=
  s.finished = true ∧ s.season = 1 ∧
  (s.daysRev.map (·.D.tsc)) = [6, 5, 4, 2, 1, 0] ∧
  (s.daysRev.map (·.D.season)) = [1, 1, 1, 0, 0, 0] ∧
  (s.daysRev.map (·.D.gs)) = [true, true, true, true, true, true] ∧
  s.summaryTable.length = 1 ∧ (seasonRecs 1 s.daysRev).length = 3 ∧
  (s.fluxTable.filter (fun x => decide (x.season = 0))).map (·.infl) ≠
    (s.fluxTable.filter (fun x => decide (x.season = 1))).map (·.infl) ∧
  (s.fluxTable.filter (fun x => decide (x.season = 1))).map
    (fun x => (x.tsc, x.dap, x.wr, x.infl)) = rows1a ∧
  (s.fluxTable.filter (fun x => decide (x.season = 1))).map
    (fun x => (x.runoff, x.cr, x.es, x.tr)) = rows1b ∧
  s.fluxTable.map (fun x => (x.tsc, x.infl, x.es)) = rows2

instance (s : RunState ℚ) : Decidable (Run2 s) := by unfold Run2; infer_instance

/-- the run of `cfg2`, evaluated once -/
theorem runsB :
    okAnd (runInit cfg2) (fun s0 => okAnd (runStepsR Fq Tq cfg2 6 s0) fun s => decide (Run2 s)) =
      true := by
  decide +kernel

theorem run2 : ∃ s0 s, runInit cfg2 = .ok s0 ∧ runStepsR Fq Tq cfg2 6 s0 = .ok s ∧ Run2 s := by
  obtain ⟨s0, h0, h⟩ := okAnd_iff.mp runsB
  obtain ⟨s, h1, h⟩ := okAnd_iff.mp h
  exact ⟨s0, s, h0, h1, of_decide_eq_true h⟩

theorem reach2 : ∃ s, RunReach Fq Tq cfg2 s ∧ s.finished = true ∧ s.season = 1 ∧
    (seasonRecs 1 s.daysRev).length = 3 := by
  obtain ⟨s0, s, h0, h1, hf, hs, _, _, _, _, hl, _⟩ := run2
  exact ⟨s, runReach_runSteps 6 (RunReach.init h0) h1, hf, hs, hl⟩

/-- **`season_independent` applies**: season 1 of the two-season run is, record for record, the
(finished) run of the fresh configuration started on day 4 -/
theorem season1_is_fresh_run : ∃ s s1, RunReach Fq Tq cfg2 s ∧
    RunReach Fq Tq (freshCfg cfg2 1) s1 ∧ s1.finished = true ∧ s1.daysRev.length = 3 ∧
    List.Forall₂ (RecSh 1 4 1) (seasonRecs 1 s.daysRev) s1.daysRev := by
  obtain ⟨s, hr, hf, hs, hl⟩ := reach2
  obtain ⟨s1, hr1, hF, hfin⟩ := season_independent pre2 hr
  refine ⟨s, s1, hr, hr1, hfin (Or.inr ⟨hs, hf⟩), ?_, hF⟩
  rw [← hF.length_eq]; exact hl

theorem freshB :
    okAnd (runInit (freshCfg cfg2 1)) (fun t0 =>
      okAnd (runStepsR Fq Tq (freshCfg cfg2 1) 3 t0) fun s1 =>
        decide (s1.finished = true ∧
          s1.fluxTable.map (fun x => (x.tsc + 4, x.dap, x.wr, x.infl)) = rows1a ∧
          s1.fluxTable.map (fun x => (x.runoff, x.cr, x.es, x.tr)) = rows1b)) = true := by
  decide +kernel

/-- cross-check by computation: the fresh configuration, run for three steps, finishes and its
`water_flux` rows are those of season 1 of the two-season run up to the two clock labels -/
theorem fresh_run_computed :
    (match runInit cfg2, runInit (freshCfg cfg2 1) with
     | .ok s0, .ok t0 =>
       match runStepsR Fq Tq cfg2 6 s0, runStepsR Fq Tq (freshCfg cfg2 1) 3 t0 with
       | .ok s, .ok s1 =>
         decide (s1.finished = true ∧
           (s.fluxTable.filter (fun x => decide (x.season = 1))).map
               (fun x => (x.tsc, x.dap, x.wr, x.infl)) =
             s1.fluxTable.map (fun x => (x.tsc + 4, x.dap, x.wr, x.infl)) ∧
           (s.fluxTable.filter (fun x => decide (x.season = 1))).map
               (fun x => (x.runoff, x.cr, x.es, x.tr)) =
             s1.fluxTable.map (fun x => (x.runoff, x.cr, x.es, x.tr)) ∧
           (s.fluxTable.filter (fun x => decide (x.season = 0))).map (·.infl) ≠
             (s.fluxTable.filter (fun x => decide (x.season = 1))).map (·.infl))
       | _, _ => false
     | _, _ => false) = true := by
  obtain ⟨s0, s, h0, h1, _, _, _, _, _, _, _, hne, ha, hb, _⟩ := run2
  obtain ⟨t0, g0, h⟩ := okAnd_iff.mp freshB
  obtain ⟨s1, g1, h⟩ := okAnd_iff.mp h
  obtain ⟨hf, ha', hb'⟩ := of_decide_eq_true h
  rw [h0, g0]
  simp only
  rw [h1, g1]
  exact decide_eq_true ⟨hf, ha.trans ha'.symm, hb.trans hb'.symm, hne⟩

end SeasonIndepExample
end Aqua

#print axioms Aqua.SeasonIndepExample.pre2
#print axioms Aqua.SeasonIndepExample.season1_is_fresh_run
#print axioms Aqua.SeasonIndepExample.fresh_run_computed
