import AquaVerif.Model.PrepareGdd
import AquaVerif.Proofs.CropCalendar
import AquaVerif.Proofs.NpSum

/-
Lemmas about the `SwitchGDD` conversion (`Model/PrepareGdd.lean`).

A. `uniqLabels`, `iloc`: characterisations.
B. **totality** of `prepareGdd` (`prepareGdd_ok_iff`): success iff the `season` column exists, no
   row is unlabelled (NaN) and every season present has every calendar-day index in range; its two
   errors (`prepareGdd_error`).
C. per season: every entry is the look-up at the stage's calendar-day index, `YieldFormation` is a
   calendar-day length (`seasonStages_spec`); with non-negative daily growing degrees the entries
   keep the order of the calendar-day indexes (`seasonStages_mono`).
D. `np.mean` (`gddNpMean`) is the arithmetic mean; what `prepare_gdd` stores (`prepareGdd_val`).
   (That mean and median keep pointwise order, and with it the order of the converted calendar for
   any number of seasons, is in `Proofs/PrepareGddOrder.lean`.)
E. single season: converted value = cumulative growing degrees at the calendar-day index
   (`prepareGdd_single_season`).
F. the entry point: once the method is known it is `prepare_gdd` followed by a total computation
   (`calendarInitCDSwitch_eq`, `switchFinish`: `YldForm`, `FloweringCD` are not among the
   attributes written, `CalendarType = 2`).

No law of `F` (exp/log/pow/round) is assumed anywhere in this file; `toInt` is arbitrary.
-/

set_option linter.unusedSectionVars false
namespace Aqua
variable {α : Type} [Field α] [LinearOrder α] [IsStrictOrderedRing α]

/-! ## A. labels and positional indexing -/

theorem mem_uniqLabels (l : List (Option Nat)) (y : Option Nat) : y ∈ uniqLabels l ↔ y ∈ l := by
  induction l with
  | nil => simp [uniqLabels]
  | cons x xs ih =>
    simp only [uniqLabels, List.mem_cons, List.mem_filter, ih, decide_eq_true_eq]
    constructor
    · rintro (h | ⟨h, _⟩)
      · exact Or.inl h
      · exact Or.inr h
    · rintro (h | h)
      · exact Or.inl h
      · by_cases hy : y = x
        · exact Or.inl hy
        · exact Or.inr ⟨h, hy⟩

/-- a Python position `i` is valid for a sequence of length `n` -/
def InRange (i : Int) (n : Nat) : Prop := (0 ≤ i ∧ i.toNat < n) ∨ (i < 0 ∧ i.natAbs ≤ n)

theorem iloc_isSome_iff {β : Type} (l : List β) (i : Int) : (iloc l i).isSome ↔ InRange i l.length := by
  unfold iloc InRange
  by_cases h : 0 ≤ i
  · simp only [h, if_true, true_and]
    have : ¬ i < 0 := not_lt.mpr h
    simp only [this, false_and, or_false]
    constructor
    · intro hs
      by_contra hn
      rw [List.getElem?_eq_none (not_lt.mp hn)] at hs
      simp at hs
    · intro hl
      rw [List.getElem?_eq_getElem hl]; simp
  · have hneg : i < 0 := not_le.mp h
    simp only [h, if_false, false_and, false_or, hneg, true_and]
    by_cases h2 : i.natAbs ≤ l.length
    · simp only [h2, if_true, iff_true]
      have hpos : 0 < i.natAbs := Int.natAbs_pos.mpr (ne_of_lt hneg)
      have : l.length - i.natAbs < l.length := by omega
      rw [List.getElem?_eq_getElem this]; simp
    · simp [h2]

theorem iloc_nil {β : Type} (i : Int) : iloc ([] : List β) i = none := by
  simp [iloc]

theorem iloc_of_nonneg {β : Type} {l : List β} {i : Int} (h : 0 ≤ i) : iloc l i = l[i.toNat]? := by
  simp [iloc, h]

/-! ## B. totality -/

/-- all calendar-day indexes `prepare_gdd` uses are valid positions in a season of `n` rows -/
def StagesInRange (toInt : α → Int) (cropType : Nat) (s : GddStagesIn α) (n : Nat) : Prop :=
  InRange (toInt s.emergenceCD) n ∧ InRange (toInt s.canopy10PctCD) n ∧
  InRange (toInt s.maxRootingCD) n ∧ InRange (toInt s.maxCanopyCD) n ∧
  InRange (toInt s.canopyDevEndCD) n ∧ InRange (toInt s.senescenceCD) n ∧
  InRange (toInt s.maturityCD) n ∧ InRange (toInt s.hiStartCD) n ∧ InRange (toInt s.hiEndCD) n ∧
  (cropType = 3 → InRange (toInt s.floweringEndCD) n)

theorem isSome_bind_iff {β γ : Type} {o : Option β} {f : β → Option γ} {p : Prop}
    (h : ∀ b, (f b).isSome ↔ p) : (o.bind f).isSome ↔ o.isSome ∧ p := by
  cases o <;> simp [h]

theorem seasonStages_isSome_iff (toInt : α → Int) (cropType : Nat) (s : GddStagesIn α)
    (cum : List α) :
    (seasonStages toInt cropType s cum).isSome ↔ StagesInRange toInt cropType s cum.length := by
  unfold StagesInRange
  simp only [← iloc_isSome_iff]
  unfold seasonStages
  -- one conjunct per look-up
  iterate 9 refine isSome_bind_iff fun _ => ?_
  by_cases h3 : cropType = 3
  · rw [if_pos h3, isSome_bind_iff (p := True) fun _ => by simp]
    simp [h3]
  · simp [h3]

section seasons
variable {toInt : α → Int} {cropType : Nat} {s : GddStagesIn α} {rows : List (Option Nat × α)}

theorem allSeasons_cons_eq_some {k : Option Nat} {ks : List (Option Nat)}
    {vs : List (GddStages α)} :
    allSeasons toInt cropType s rows (k :: ks) = some vs ↔
      ∃ v ws, seasonStages toInt cropType s (cumsum (seasonGdd rows k)) = some v ∧
        allSeasons toInt cropType s rows ks = some ws ∧ vs = v :: ws := by
  rw [allSeasons]
  cases seasonStages toInt cropType s (cumsum (seasonGdd rows k)) <;>
    cases allSeasons toInt cropType s rows ks <;> simp [eq_comm]

theorem allSeasons_mem {ks : List (Option Nat)} {vs : List (GddStages α)}
    (h : allSeasons toInt cropType s rows ks = some vs) :
    ∀ v ∈ vs, ∃ k ∈ ks, seasonStages toInt cropType s (cumsum (seasonGdd rows k)) = some v := by
  induction ks generalizing vs with
  | nil => cases h; simp
  | cons k ks ih =>
    obtain ⟨v, ws, h1, h2, rfl⟩ := allSeasons_cons_eq_some.mp h
    intro w hw
    rcases List.mem_cons.mp hw with rfl | hw
    · exact ⟨k, List.mem_cons_self, h1⟩
    · obtain ⟨k', hk', hs⟩ := ih h2 w hw
      exact ⟨k', List.mem_cons_of_mem _ hk', hs⟩

end seasons

theorem allSeasons_isSome_iff (toInt : α → Int) (cropType : Nat) (s : GddStagesIn α)
    (rows : List (Option Nat × α)) (ks : List (Option Nat)) :
    (allSeasons toInt cropType s rows ks).isSome ↔
      ∀ k ∈ ks, (seasonStages toInt cropType s (cumsum (seasonGdd rows k))).isSome := by
  induction ks with
  | nil => simp [allSeasons]
  | cons k ks ih =>
    rw [List.forall_mem_cons, ← ih, allSeasons]
    cases seasonStages toInt cropType s (cumsum (seasonGdd rows k)) <;>
      cases allSeasons toInt cropType s rows ks <;> simp

/-- number of rows of season `k` among the rows `prepare_gdd` receives (label, daily growing degrees);
`seasonLenT` of `Proofs/PrepareGddTotal.lean` counts them in the window the entry point receives -/
def seasonLen (rows : List (Option Nat × α)) (k : Nat) : Nat :=
  (seasonGdd rows (some k)).length

theorem prepareGdd_error {toInt : α → Int} {cropType : Nat} {hasCol : Bool} {sumFun : Nat}
    {s : GddStagesIn α} {old : GddStages α} {rows : List (Option Nat × α)} {e : String}
    (h : prepareGdd toInt cropType hasCol sumFun s old rows = .error e) :
    (e = "E:key" ∧ hasCol = false) ∨ (e = "E:index" ∧ hasCol = true) := by
  unfold prepareGdd at h
  cases hasCol with
  | false => exact Or.inl ⟨(Except.error.inj h).symm, rfl⟩
  | true =>
    simp only [Bool.not_true, Bool.false_eq_true, if_false] at h
    split at h
    · exact Or.inr ⟨(Except.error.inj h).symm, rfl⟩
    · cases h

/-- **totality of `prepare_gdd`**: it returns iff the `season` column exists, no row of the window
is left unlabelled (an unlabelled row makes an empty "NaN season", whose first look-up raises
`IndexError`) and every calendar-day index is a valid position in every season present. -/
theorem prepareGdd_ok_iff (toInt : α → Int) (cropType : Nat) (hasCol : Bool) (sumFun : Nat)
    (s : GddStagesIn α) (old : GddStages α) (rows : List (Option Nat × α)) :
    (∃ g, prepareGdd toInt cropType hasCol sumFun s old rows = .ok g) ↔
      hasCol = true ∧ (∀ r ∈ rows, r.1 ≠ none) ∧
      (∀ k, some k ∈ rows.map (·.1) → StagesInRange toInt cropType s (seasonLen rows k)) := by
  have hok : (∃ g, prepareGdd toInt cropType hasCol sumFun s old rows = .ok g) ↔ hasCol = true ∧
      (allSeasons toInt cropType s rows (uniqLabels (rows.map (·.1)))).isSome := by
    unfold prepareGdd
    cases hasCol
    · simp
    · cases allSeasons toInt cropType s rows (uniqLabels (rows.map (·.1))) <;> simp
  rw [hok, allSeasons_isSome_iff]
  simp only [mem_uniqLabels, seasonStages_isSome_iff, cumsum_length]
  refine and_congr_right fun _ => ⟨fun h => ⟨fun r hr hn => ?_, fun k hk => h (some k) hk⟩, ?_⟩
  · -- the "NaN season" is empty: position `int(EmergenceCD)` is out of range
    have h0 : InRange (toInt s.emergenceCD) 0 := (h none (hn ▸ List.mem_map_of_mem hr)).1
    have := (iloc_isSome_iff ([] : List α) _).mpr h0
    rw [iloc_nil] at this
    cases this
  · rintro ⟨hn, hk⟩ (_ | k) hmem
    · obtain ⟨r, hr, hr1⟩ := List.mem_map.mp hmem
      exact absurd hr1 (hn r hr)
    · exact hk k hmem

/-! ## C. per-season order -/

/-- the nine stages whose value is a cumulative-sum look-up -/
inductive Stage where
  | emergence | canopy10Pct | maxRooting | maxCanopy | canopyDevEnd | senescence | maturity
  | hiStart | hiEnd
  deriving DecidableEq, Repr

/-- calendar-day value of a stage -/
def Stage.cd (s : GddStagesIn α) : Stage → α
  | .emergence => s.emergenceCD | .canopy10Pct => s.canopy10PctCD | .maxRooting => s.maxRootingCD
  | .maxCanopy => s.maxCanopyCD | .canopyDevEnd => s.canopyDevEndCD
  | .senescence => s.senescenceCD | .maturity => s.maturityCD | .hiStart => s.hiStartCD
  | .hiEnd => s.hiEndCD

/-- thermal value of a stage -/
def Stage.val (g : GddStages α) : Stage → α
  | .emergence => g.emergence | .canopy10Pct => g.canopy10Pct | .maxRooting => g.maxRooting
  | .maxCanopy => g.maxCanopy | .canopyDevEnd => g.canopyDevEnd
  | .senescence => g.senescence | .maturity => g.maturity | .hiStart => g.hiStart
  | .hiEnd => g.hiEnd

theorem seasonStages_spec {toInt : α → Int} {cropType : Nat} {s : GddStagesIn α} {cum : List α}
    {v : GddStages α} (h : seasonStages toInt cropType s cum = some v) :
    (∀ a : Stage, iloc cum (toInt (a.cd s)) = some (a.val v)) ∧
      v.yieldFormation = s.hiEnd - s.hiStart := by
  unfold seasonStages at h
  obtain ⟨e, he, h⟩ := Option.bind_eq_some_iff.mp h
  obtain ⟨c10, hc10, h⟩ := Option.bind_eq_some_iff.mp h
  obtain ⟨mr, hmr, h⟩ := Option.bind_eq_some_iff.mp h
  obtain ⟨mc, hmc, h⟩ := Option.bind_eq_some_iff.mp h
  obtain ⟨cde, hcde, h⟩ := Option.bind_eq_some_iff.mp h
  obtain ⟨sen, hsen, h⟩ := Option.bind_eq_some_iff.mp h
  obtain ⟨mat, hmat, h⟩ := Option.bind_eq_some_iff.mp h
  obtain ⟨his, hhis, h⟩ := Option.bind_eq_some_iff.mp h
  obtain ⟨hie, hhie, h⟩ := Option.bind_eq_some_iff.mp h
  have hv : ∃ fe fd, v =
      { emergence := e, canopy10Pct := c10, maxRooting := mr, maxCanopy := mc,
        canopyDevEnd := cde, senescence := sen, maturity := mat, hiStart := his, hiEnd := hie,
        yieldFormation := s.hiEnd - s.hiStart, floweringEnd := fe, floweringDuration := fd } := by
    split at h
    · obtain ⟨fe, _, h⟩ := Option.bind_eq_some_iff.mp h
      exact ⟨_, _, (Option.some.inj h).symm⟩
    · exact ⟨_, _, (Option.some.inj h).symm⟩
  obtain ⟨fe, fd, rfl⟩ := hv
  refine ⟨fun a => ?_, rfl⟩
  cases a
  exacts [he, hc10, hmr, hmc, hcde, hsen, hmat, hhis, hhie]

/-- the per-season entries of `YieldFormation` are all the calendar-day length `HIend − HIstart`
read from the crop (not a thermal quantity) -/
theorem seasonStages_yieldFormation {toInt : α → Int} {cropType : Nat} {s : GddStagesIn α}
    {cum : List α} {v : GddStages α} (h : seasonStages toInt cropType s cum = some v) :
    v.yieldFormation = s.hiEnd - s.hiStart :=
  (seasonStages_spec h).2

theorem iloc_mono {l : List α} (hl : l.Pairwise (· ≤ ·)) {i j : Int} (hi : 0 ≤ i) (hij : i ≤ j)
    {x y : α} (hx : iloc l i = some x) (hy : iloc l j = some y) : x ≤ y := by
  rw [iloc_of_nonneg hi] at hx
  rw [iloc_of_nonneg (le_trans hi hij)] at hy
  obtain ⟨h1, rfl⟩ := List.getElem?_eq_some_iff.mp hx
  obtain ⟨h2, rfl⟩ := List.getElem?_eq_some_iff.mp hy
  have hle : i.toNat ≤ j.toNat := Int.toNat_le_toNat hij
  rcases Nat.lt_or_eq_of_le hle with hlt | heq
  · exact (List.pairwise_iff_getElem.mp hl) _ _ h1 h2 hlt
  · simp [heq]

theorem seasonStages_mono {toInt : α → Int} {cropType : Nat} {s : GddStagesIn α} {gdd : List α}
    {v : GddStages α} (hg : ∀ x ∈ gdd, 0 ≤ x)
    (h : seasonStages toInt cropType s (cumsum gdd) = some v) {a b : Stage}
    (ha : 0 ≤ toInt (a.cd s)) (hab : toInt (a.cd s) ≤ toInt (b.cd s)) : a.val v ≤ b.val v :=
  iloc_mono (cumsum_pairwise hg) ha hab ((seasonStages_spec h).1 a) ((seasonStages_spec h).1 b)

theorem seasonGdd_nonneg {rows : List (Option Nat × α)} (hg : ∀ r ∈ rows, 0 ≤ r.2)
    (k : Option Nat) : ∀ x ∈ seasonGdd rows k, 0 ≤ x := by
  cases k with
  | none => simp [seasonGdd]
  | some k =>
    intro x hx
    simp only [seasonGdd, List.mem_map, List.mem_filter] at hx
    obtain ⟨r, ⟨hr, _⟩, rfl⟩ := hx
    exact hg r hr

/-! ## D. summarising -/

theorem gddNpMean_eq' (l : List α) : gddNpMean l = l.sum / (l.length : α) := by
  simp [gddNpMean, npSum_eq_sum]

theorem summarise_singleton {sumFun : Nat} (hsf : sumFun = 0 ∨ sumFun = 1) (old x : α) :
    summarise sumFun old [x] = x := by
  have hm : gddNpMean [x] = x := by simp [gddNpMean_eq']
  rcases hsf with rfl | rfl
  · exact hm
  · simp [summarise, gddNpMedian, sortAsc, insertAsc, hm]

theorem prepareGdd_val {toInt : α → Int} {cropType : Nat} {hasCol : Bool} {sumFun : Nat}
    {s : GddStagesIn α} {old g : GddStages α} {rows : List (Option Nat × α)}
    (h : prepareGdd toInt cropType hasCol sumFun s old rows = .ok g) :
    ∃ vs, allSeasons toInt cropType s rows (uniqLabels (rows.map (·.1))) = some vs ∧
      ∀ a : Stage, a.val g = summarise sumFun (a.val old) (vs.map a.val) := by
  unfold prepareGdd at h
  split at h
  · cases h
  · split at h
    · cases h
    · rename_i vs hall
      refine ⟨vs, hall, fun a => ?_⟩
      cases h
      cases a <;> rfl

/-! ## E. a single season -/

theorem prepareGdd_single_season {toInt : α → Int} {cropType : Nat} {hasCol : Bool} {sumFun : Nat}
    {s : GddStagesIn α} {old g : GddStages α} {rows : List (Option Nat × α)} {k : Option Nat}
    (h : prepareGdd toInt cropType hasCol sumFun s old rows = .ok g)
    (hk : uniqLabels (rows.map (·.1)) = [k]) (hsf : sumFun = 0 ∨ sumFun = 1) (a : Stage) :
    iloc (cumsum (seasonGdd rows k)) (toInt (a.cd s)) = some (a.val g) := by
  obtain ⟨vs, hall, hv⟩ := prepareGdd_val h
  rw [hk] at hall
  obtain ⟨v, ws, h1, h2, rfl⟩ := allSeasons_cons_eq_some.mp hall
  cases h2
  rw [hv a, (seasonStages_spec h1).1 a, List.map_singleton, summarise_singleton hsf]

/-! ## F. the entry point -/

/-- the calendar-day indexes the `SwitchGDD` branch hands to `prepare_gdd` -/
def switchStagesIn (F : Fn α) (c : CalCDIn α) : GddStagesIn α :=
  let o := noSwitchOut F c
  { emergenceCD := c.emergenceCD, canopy10PctCD := o.canopy10PctCD,
    maxRootingCD := c.maxRootingCD, maxCanopyCD := o.maxCanopyCD,
    canopyDevEndCD := o.canopyDevEndCD, senescenceCD := c.senescenceCD,
    maturityCD := c.maturityCD, hiStartCD := c.hiStartCD, hiEndCD := o.hiEndCD,
    floweringEndCD := o.floweringEndCD, hiStart := o.hiStart, hiEnd := o.hiEnd }

/-- the previous attribute values the branch hands to `prepare_gdd` -/
def switchOld (F : Fn α) (c : CalCDIn α) (oldYF oldFD : α) : GddStages α :=
  let o := noSwitchOut F c
  { emergence := o.emergence, canopy10Pct := o.canopy10Pct, maxRooting := o.maxRooting,
    maxCanopy := o.maxCanopy, canopyDevEnd := o.canopyDevEnd, senescence := o.senescence,
    maturity := o.maturity, hiStart := o.hiStart, hiEnd := o.hiEnd,
    yieldFormation := oldYF, floweringEnd := o.floweringEnd, floweringDuration := oldFD }

/-- the rows the branch hands to `prepare_gdd` -/
def switchRows (m : GddMethod) (tbase tupp : α) (rows : List (Option Nat × α × α)) :
    List (Option Nat × α) :=
  rows.map (fun r => (r.1, gddDayInit m tbase tupp r.2.1 r.2.2))

/-- what the branch makes of the converted attributes `g`: thermal `CGC` and `CDC`, and the mode-1
record with the converted attributes written over it -/
def switchFinish (F : Fn α) (c : CalCDIn α) (g : GddStages α) : CalSwitchOut α :=
  let cgc := F.log (((0.98 * c.ccx - c.ccx) * c.cc0) / (-0.25 * F.pow c.ccx 2)) /
             (-(g.maxCanopy - g.emergence))
  let tCD := c.maturityCD - c.senescenceCD
  let tCD := if tCD ≤ 0 then 1 else tCD
  let cci := c.ccx * (1 - 0.05 * (F.exp (((3.33 * c.cdcCD) / (c.ccx + 2.29)) * tCD) - 1))
  let cci := if cci < 0 then 0 else cci
  let tGDD := g.maturity - g.senescence
  let tGDD := if tGDD ≤ 0 then 5 else tGDD
  let cdc := ((c.ccx + 2.29) * F.log ((((cci / c.ccx) - 1) / (-0.05)) + 1)) / (3.33 * tGDD)
  { cal := { noSwitchOut F c with
               emergence := g.emergence, canopy10Pct := g.canopy10Pct,
               maxRooting := g.maxRooting, maxCanopy := g.maxCanopy,
               canopyDevEnd := g.canopyDevEnd, senescence := g.senescence,
               maturity := g.maturity, hiStart := g.hiStart, hiEnd := g.hiEnd,
               floweringEnd := g.floweringEnd, cdc := cdc, cgc := cgc },
    yieldFormation := g.yieldFormation, floweringDuration := g.floweringDuration,
    calendarType := 2 }

section entry
variable {F : Fn α} {toInt : α → Int} {c : CalCDIn α} {gddMethod : Nat} {tbase tupp : α}
  {hasCol : Bool} {sumFun : Nat} {oldYF oldFD : α} {rows : List (Option Nat × α × α)}
  {r : CalSwitchOut α}

theorem calendarInitCDSwitch_unbound (hm : GddMethod.ofNat? gddMethod = none) :
    calendarInitCDSwitch F toInt c gddMethod tbase tupp hasCol sumFun oldYF oldFD rows
      = .error "E:unbound" := by
  unfold calendarInitCDSwitch
  simp only [calendarInitCD_noSwitch_ok, hm]

theorem calendarInitCDSwitch_eq {m : GddMethod} (hm : GddMethod.ofNat? gddMethod = some m) :
    calendarInitCDSwitch F toInt c gddMethod tbase tupp hasCol sumFun oldYF oldFD rows =
      (prepareGdd toInt c.cropType hasCol sumFun (switchStagesIn F c) (switchOld F c oldYF oldFD)
        (switchRows m tbase tupp rows)).map (switchFinish F c) := by
  unfold calendarInitCDSwitch
  simp only [calendarInitCD_noSwitch_ok, hm]
  -- the model spells out the records `switchStagesIn`, `switchOld` and the rows `switchRows`
  split
  · next e he => exact (congrArg (Except.map (switchFinish F c)) he).symm
  · next g hg => exact (congrArg (Except.map (switchFinish F c)) hg).symm

theorem calendarInitCDSwitch_ok
    (h : calendarInitCDSwitch F toInt c gddMethod tbase tupp hasCol sumFun oldYF oldFD rows = .ok r) :
    ∃ m g, GddMethod.ofNat? gddMethod = some m ∧
      prepareGdd toInt c.cropType hasCol sumFun (switchStagesIn F c) (switchOld F c oldYF oldFD)
        (switchRows m tbase tupp rows) = .ok g ∧ switchFinish F c g = r := by
  cases hm : GddMethod.ofNat? gddMethod with
  | none => rw [calendarInitCDSwitch_unbound hm] at h; cases h
  | some m =>
    rw [calendarInitCDSwitch_eq hm] at h
    obtain ⟨g, hg, hr⟩ := exceptMap_eq_ok.mp h
    exact ⟨m, g, rfl, hg, hr⟩

end entry

/-! ## non-vacuity -/

/-- two seasons of three days, non-negative daily degrees and indexes (the hypotheses of
`prepareGdd_mean_mono'`, `Proofs/PrepareGddOrder.lean`): the call succeeds -/
example :
    ∃ g, prepareGdd (α := ℚ) (fun x => x.num / (x.den : Int)) 1 true 0
      { emergenceCD := 0, canopy10PctCD := 1, maxRootingCD := 1, maxCanopyCD := 2,
        canopyDevEndCD := 2, senescenceCD := 2, maturityCD := 2, hiStartCD := 1, hiEndCD := 2,
        floweringEndCD := 0, hiStart := 1, hiEnd := 2 }
      { emergence := 0, canopy10Pct := 0, maxRooting := 0, maxCanopy := 0, canopyDevEnd := 0,
        senescence := 0, maturity := 0, hiStart := 0, hiEnd := 0, yieldFormation := 0,
        floweringEnd := 0, floweringDuration := 0 }
      [(some 1, 1), (some 1, 2), (some 1, 3), (some 2, 2), (some 2, 0), (some 2, 4)] = .ok g ∧
      g.emergence = 3 / 2 ∧ g.maturity = 6 ∧ g.yieldFormation = 1 := by
  refine ⟨_, rfl, ?_, ?_, ?_⟩ <;> decide +kernel

#print axioms prepareGdd_ok_iff
#print axioms gddNpMean_eq'
#print axioms seasonStages_mono
#print axioms prepareGdd_single_season
#print axioms seasonStages_yieldFormation

end Aqua
