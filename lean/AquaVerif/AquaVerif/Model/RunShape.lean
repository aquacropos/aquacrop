/-
The *shape* of a whole run as `core.py` drives it, abstracted from the biophysics:

  * `runDays`  — the day loop: a state is threaded through a day function that receives the
                 weather record of that day only (`_weather_data_current_timestep`);
  * `bindTable` / `clip` — how a weather table is bound to the five variables the time-step
                 code reads: by column *name*, row by *date*.

Everything is polymorphic; no numbers are involved.  Properties C14 (no look-ahead) and C15
(binding by date and by column name) are theorems about these shapes; the correspondence of the
shapes with the implementation is what the perturbation / transformed-table differential runs
check (`harness/aqv/diffs.py`, `c14`, `c15`).
-/

namespace Aqua.RunShape

/-- the day loop: one output row per day, the state threaded from day to day -/
def runDays {σ ω ρ : Type} (step : σ → ω → σ × ρ) : σ → List ω → List ρ
  | _, [] => []
  | s, w :: ws => (step s w).2 :: runDays step (step s w).1 ws

/-- the state after the loop -/
def finalState {σ ω ρ : Type} (step : σ → ω → σ × ρ) : σ → List ω → σ
  | s, [] => s
  | s, w :: ws => finalState step (step s w).1 ws

/-- clip a dated weather series to the simulation window `[lo, hi]` (read_weather_inputs) -/
def clip {ω : Type} (lo hi : Int) (ws : List (Int × ω)) : List (Int × ω) :=
  ws.filter (fun p => decide (lo ≤ p.1) && decide (p.1 ≤ hi))

/-- a weather table: named columns, each a list of cells -/
structure Table (κ : Type) where
  cols : List (String × List κ)

/-- look a column up by name (first match, as pandas column selection with unique names) -/
def Table.col {κ : Type} (t : Table κ) (name : String) : Option (List κ) :=
  (t.cols.find? (fun c => c.1 == name)).map (·.2)

/-- the five variables of one day, bound by column name, in the order the time-step code reads
them (`core._initialize`: `weather_df[["MinTemp","MaxTemp","Precipitation","ReferenceET","Date"]]`) -/
def required : List String := ["MinTemp", "MaxTemp", "Precipitation", "ReferenceET", "Date"]

def bindTable {κ : Type} (t : Table κ) : Option (List (List κ)) := do
  let a ← t.col "MinTemp"
  let b ← t.col "MaxTemp"
  let c ← t.col "Precipitation"
  let d ← t.col "ReferenceET"
  let e ← t.col "Date"
  pure [a, b, c, d, e]

/-- re-indexing: a table whose rows are addressed through an arbitrary index (a permutation of
row labels) denotes the same dated records; binding never consults the index -/
def reindex {κ ι : Type} (t : Table κ) (_index : List ι) : Table κ := t

end Aqua.RunShape
