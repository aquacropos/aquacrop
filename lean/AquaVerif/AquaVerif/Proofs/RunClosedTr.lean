import AquaVerif.Proofs.RunClosed

/-
**`0 ≤ TrPot` on every simulated day of every run**, from premises on
the configuration only — which discharges the `trPot0` field of the residual `ResidualE` of
`Proofs/RunClosed.lean`.  This file has the day (`RunStep.trPot_nonneg`: `0 ≤ TrPot`, and the
invariant `RunInvT` behind it is preserved) and the bound on the days after planting that comes
from the clock (`RunStep.dap_bound`); the induction along the run is `run_crop_closed`
(`Proofs/RunClosedRw.lean`).

`TrPot = [Kcb_aged·(CO2 factor)]·CC*·ET0·(dying-canopy factor)·KsCold`.  Sign of each factor:
* `CC* ≥ 0`: `CC* = min(1, 1.72c − c² + 0.3c³)` of a cover `c ∈ [0, CCx]`, `CCx ≤ 1`
  (`fullDay_canopy_facts`; needs the canopy envelope at the start of the day);
* `ET0 > 0`: `WeatherOK`;
* dying-canopy factor `(CC/CCxW)^a_Tr ≥ 0`: `PowNonneg`;
* `KsCold ≥ 0`: premise `TrCropOK.ksCold` on the crop's cold-stress curve and `F`
  (`ksCold_of_no_cold_stress`: nothing to show for `TrColdStress = 0`);
* CO2 factor `1 − 0.05·(cur − ref)/(550 − ref) ≥ 0`: premise `CfgTrOK.co2`;
* `Kcb_aged = Kcb − (age − 5)·fage/100·CCxW ≥ 0`: needs `CCxW ∈ [0, CCx]` (an invariant, proved
  through every block of `canopy_cover`: `ccSeason_ccxW`) and a bound `age ≤ A` on the days since
  maximum canopy — from the invariant `age_days ≤ A`, `delayed_cds ≥ 0` and the length of the
  season, which comes from the clock (`run_refines_clock`, `Live.dapI`: in a growing season
  `dap + planting = t ≤ harvest`): premise `CfgTrOK.age`, and `(A − 5)·fage/100·CCx ≤ Kcb`.
-/

set_option linter.unusedSectionVars false
namespace Aqua
open Aqua.Clock
variable {α : Type} [Field α] [LinearOrder α] [IsStrictOrderedRing α]

/-! ## 1. the sign of the potential transpiration -/

theorem trDyingAdj_nonneg {F : Fn α} (hP : PowNonneg F) {tr cc ccxw aTr : α} (h : 0 ≤ tr) :
    0 ≤ trDyingAdj F tr cc ccxw aTr := by
  unfold trDyingAdj
  split_ifs with h1 h2
  · have h3 : (0 : α) < 0.001 := by norm_num
    exact mul_nonneg h (hP.pow_nonneg _ _ (div_nonneg (lt_trans h3 h2.2).le (lt_trans h3 h2.1).le))
  · exact h
  · exact h

theorem ksCold_of_no_cold_stress {F : Fn α} {crop : TrCrop α} (h : crop.trColdStress = 0) :
    ∀ gdd k, trKsCold F crop.trColdStress crop.gddUp crop.gddLo gdd = some k → 0 ≤ k := by
  intro gdd k hk
  rw [h] at hk
  simp only [trKsCold, Option.some.injEq] at hk
  rw [← hk]; exact zero_le_one

/-! ## 2. `ccx_w`, `CC*` and the delay counter through a day -/

section canopy
variable {F : Fn α} {T : TrigFn α} {P : DayParams α} {st : DayState' α} {D : DayIn' α}
  {r : DayResult α}

theorem fullDay_canopy_facts (h : fullDay F T P st D = .ok r) (hg : D.gs = true)
    (hc : CcCropPre F P) (hP : PowNonneg F) (hS : PowSqLaw F) (hi : CcInv P.cx.cc st)
    (hx1 : P.cx.cc.ccx ≤ 1)
    (hw0 : 0 ≤ st.ccxW) (hw1 : st.ccxW ≤ P.cx.cc.ccx) :
    0 ≤ r.crop.ccAdj ∧ 0 ≤ r.crop.ccxW ∧ r.crop.ccxW ≤ P.cx.cc.ccx ∧
      r.state.ccxW = r.crop.ccxW := by
  obtain ⟨c1, c2, _, _, c5, c6⟩ := fullDay_counters h
  obtain ⟨X, hs, rfl⟩ := fullDay_ok' h
  have hcc := hs.hcc
  rw [hg] at hcc
  obtain ⟨hp, hpre, hx⟩ := hs.ccPre hg hc hi
  obtain ⟨r0, r1, _, _⟩ := cc_range hc.exp hp hpre hx hcc
  have hadj := (ccadj_nonneg (F := F) hS ⟨fun x hx => hP.pow_nonneg x 3 hx⟩ hcc).1 r0
    (le_trans r1 hx1)
  obtain ⟨dr, taw, dt, t, _, e⟩ := canopyCover_season hcc
  have hw : 0 ≤ X.cc.ccxW ∧ X.cc.ccxW ≤ P.cx.cc.ccx := by
    rcases ccSeason_ccxW F P.cx.cc (ccStateOf st X.tc X.rd X.ge) dr taw D.et0 dt t with e' | e'
    · rw [e, e']; exact ⟨hw0, hw1⟩
    · rw [← e] at e'
      rw [e']; exact ⟨r0, r1⟩
  exact ⟨hadj, hw.1, hw.2, rfl⟩

theorem fullDay_delayedCds_nonneg (h : fullDay F T P st D = .ok r) (h0 : 0 ≤ st.delayedCds) :
    0 ≤ r.state.delayedCds ∧ r.crop.delayedCds = r.state.delayedCds := by
  have hoff := fullDay_offseason_zero h
  obtain ⟨X, hs, rfl⟩ := fullDay_ok' h
  cases hg : D.gs with
  | false =>
    obtain ⟨_, _, ⟨_, e, _⟩⟩ := hoff hg
    exact ⟨by rw [e], rfl⟩
  | true =>
    have hge := hs.hge
    rw [hg] at hge
    exact ⟨h0.trans (germination_delay_step hge).1.1, rfl⟩

end canopy

/-! ## 3. the premises on the configuration, the invariant, the day -/

/-- what a crop record has to satisfy for `0 ≤ TrPot`, for the age bound `A` -/
structure TrCropOK (F : Fn α) (c : CropParams α) (A : α) : Prop where
  kcb : 0 ≤ c.cw.tr.kcb
  fage : 0 ≤ c.cw.tr.fage
  /-- the crop coefficient survives `A` days of canopy ageing at full cover -/
  aged : (A - 5) * (c.cw.tr.fage / 100) * c.cx.cc.ccx ≤ c.cw.tr.kcb
  ccx1 : c.cx.cc.ccx ≤ 1
  ksCold : ∀ gdd k,
    trKsCold F c.cw.tr.trColdStress c.cw.tr.gddUp c.cw.tr.gddLo gdd = some k → 0 ≤ k

theorem trCropOK_fallowAdjust {F : Fn α} {p : CropParams α} {A : α} (h : TrCropOK F p A) :
    TrCropOK F (fallowAdjust p) A :=
  { kcb := h.kcb, fage := h.fage, aged := h.aged, ccx1 := h.ccx1, ksCold := h.ksCold }

/-- premises on the configuration for `0 ≤ TrPot`, beyond `CfgOK` -/
structure CfgTrOK (F : Fn α) (cfg : RunCfg α) (A : α) : Prop where
  wf : WF cfg.clock
  initOK : InitOK cfg
  crop : ∀ season : Int, TrCropOK F (cropOf cfg season) A
  /-- the season is at most `A` days longer than the time to maximum canopy -/
  age : ∀ (k dap : Nat), (dap : Int) ≤ cfg.clock.hv k - cfg.clock.pl k + 1 →
    natNum dap - (cfg.seasonCrop k).cw.tr.maxCanopyCD ≤ A
  co2 : ∀ season : Int, cfg.W0.co2Ref < cfg.co2Cur season →
    0 ≤ 1 - 0.05 * ((cfg.co2Cur season - cfg.W0.co2Ref) / (550 - cfg.W0.co2Ref))
  A0 : 0 ≤ A
  ageDays0 : cfg.init.ageDays ≤ A
  delayed0 : 0 ≤ cfg.init.delayedCds
  ccxW0 : 0 ≤ cfg.init.ccxW
  ccxW1 : cfg.init.ccxW ≤ (cropOf cfg cfg.clock.season0).cx.cc.ccx

/-- the invariant behind `0 ≤ TrPot` -/
structure RunInvT (cfg : RunCfg α) (A : α) (s : RunState α) : Prop where
  age : s.day.ageDays ≤ A
  dcd : 0 ≤ s.day.delayedCds
  ccxW0 : 0 ≤ s.day.ccxW
  ccxW1 : s.day.ccxW ≤ (cropOf cfg s.season).cx.cc.ccx

section clock
variable {F : Fn α} {T : TrigFn α} {cfg : RunCfg α} {s s' : RunState α} {d : DayRec α}

/-- the clock bounds the days after planting: a growing-season day of a run lies in a season
`k ≥ 0`, and since the latest harvest date is not a growing day (repository commit d260679) its
`dap` is at most `harvest k − planting k` -/
theorem RunStep.dap_bound (hs : RunStep F T cfg s d s') (hw : WF cfg.clock) (hi : InitOK cfg)
    (hr : RunReach F T cfg s) (hg : d.D.gs = true) :
    0 ≤ s.season ∧
      ((s.day.dap + 1 : Nat) : Int) ≤ cfg.clock.hv s.season.toNat - cfg.clock.pl s.season.toNat := by
  obtain ⟨ph, hph, hD⟩ := hs.D
  have hL := run_live hw hi hr hs.live
  have hshi : s.season < cfg.clock.nSeasons := hL.shi
  rw [seasonInfo_eq hw.len_eq hshi] at hph
  have hgd : gsOfDay (phOf cfg.clock s.season) s.t s.day.cropMature s.day.cropDead = true := by
    rw [Except.ok.inj hph, ← hg, hD]; rfl
  unfold phOf gsOfDay at hgd
  by_cases h0 : s.season ≥ 0
  · rw [if_pos h0] at hgd
    simp only [Bool.and_eq_true, decide_eq_true_eq, Bool.not_eq_eq_eq_not, Bool.not_true] at hgd
    obtain ⟨⟨⟨_, b2⟩, b3⟩, b4⟩ := hgd
    have hdap : s.day.dap + cfg.clock.pl s.season.toNat = s.t := hL.dapI h0 b3 b4 (Int.le_of_lt b2)
    exact ⟨h0, by omega⟩
  · rw [if_neg h0] at hgd
    cases hgd

theorem run_dap_bound_harvest (hw : WF cfg.clock) (hi : InitOK cfg) (hr : RunReach F T cfg s)
    (hp : performR F T cfg s = .ok s') {d : DayRec α} (hdl : s'.daysRev = d :: s.daysRev)
    (hg : d.D.gs = true) :
    0 ≤ s.season ∧
      ((s.day.dap + 1 : Nat) : Int) ≤ cfg.clock.hv s.season.toNat - cfg.clock.pl s.season.toNat := by
  obtain ⟨d0, hs⟩ := performR_step hp
  cases (List.cons.inj (hs.days.symm.trans hdl)).1
  exact hs.dap_bound hw hi hr hg

end clock

section dayT
variable {F : Fn α} {T : TrigFn α} {cfg : RunCfg α} {s s' : RunState α} {d : DayRec α} {A : α}

theorem RunStep.trPot_nonneg (hd : RunStep F T cfg s d s') (hr : RunReach F T cfg s)
    (hC : CfgOK F T cfg) (hT : CfgTrOK F cfg A) (hW : WeatherOK F cfg)
    (hE : CcInv (paramsOf cfg s.season false).cx.cc s.day) (hN : RunInvT cfg A s) :
    0 ≤ d.r.flux.trPot ∧ d.r.state.ageDays ≤ A ∧ 0 ≤ d.r.state.delayedCds ∧
      0 ≤ d.r.state.ccxW ∧ d.r.state.ccxW ≤ (cropOf cfg s.season).cx.cc.ccx := by
  have hc := hC.crop s.season
  have ht := hT.crop s.season
  have hdc0 : 0 ≤ d.st.delayedCds := by rw [hd.st]; exact hN.dcd
  obtain ⟨hdc, edc⟩ := fullDay_delayedCds_nonneg hd.day hdc0
  obtain ⟨X, hs, e⟩ := fullDay_ok' hd.day
  have hht : transpiration F X.e.cells d.P.W.soil.nComp d.P.W.soil.zTop d.P.W.crop.tr
      d.P.W.irr.method d.P.W.netIrrSMT
      (dayTrState (X.cropDay d.P d.st) d.st.water X.e.pond X.r.daySub X.i.depletion X.i.taw)
      d.D.et0 d.P.W.co2Cur d.P.W.co2Ref d.D.gs (X.cropDay d.P d.st).gdd = .ok X.t := hs.water.ht
  cases hg : d.D.gs with
  | false =>
    obtain ⟨⟨_, e2, _⟩, _, ⟨_, _, _, _, _, _, _, e8, _⟩⟩ := fullDay_offseason_zero hd.day hg
    rw [hg] at hht
    have hage : d.r.state.ageDays = d.st.ageDays := by
      rw [e]
      show X.t.st.ageDays = _
      rw [← Except.ok.inj (transpiration_offseason.symm.trans hht)]; rfl
    refine ⟨by rw [e2], by rw [hage, hd.st]; exact hN.age, hdc, by rw [e8], ?_⟩
    rw [e8]; exact hc.ccx0
  | true =>
    obtain ⟨h0, hb⟩ := hd.dap_bound hT.wf hT.initOK hr hg
    have hcrop : cropOf cfg s.season = cfg.seasonCrop s.season.toNat := by
      unfold cropOf; rw [if_pos h0]
    have hPcx : d.P.cx = (cropOf cfg s.season).cx := by rw [hd.P]; rfl
    have hPW : d.P.W.crop = (cropOf cfg s.season).cw := by rw [hd.P]; rfl
    obtain ⟨f1, f2, f3, f4⟩ := fullDay_canopy_facts hd.day hg
      (by rw [hd.P]; exact ⟨hC.fn.expOrd, hc.ccx0, hc.temp, hc.ccStep⟩) hC.fn.powNN
      hC.fn.powSq (by rw [hd.st, hPcx]; exact hE) (by rw [hPcx]; exact ht.ccx1)
      (by rw [hd.st]; exact hN.ccxW0) (by rw [hd.st, hPcx]; exact hN.ccxW1)
    have hdapX : X.tc.dap = d.st.dap + 1 := by
      have : d.r.growth.dap = X.tc.dap := by rw [e]; rfl
      rw [← this]; exact ((fullDay_counters hd.day).2.2.2.2.1 hg).1
    -- the reported potential and the new canopy age are those of `trPotential`
    rw [hg] at hht
    rcases transp_cases hht with ⟨hf, -⟩ |
      ⟨pot, sf, rz, ni, ex, tpr, cst, hpot, -, -, -, -, -, -, -, eX⟩
    · cases hf
    have ep : X.t.trPot0 = pot.trPot0 := by rw [eX]; rfl
    have ea : X.t.st.ageDays = pot.age := by rw [eX]; rfl
    obtain ⟨kcb, kc, eage, hk, hkc, e0⟩ := trPotential_ok hpot
    have hcropX : d.r.crop = X.cropDay d.P d.st := by rw [e]; rfl
    -- the canopy age: the clock bounds `dap`, the invariant the age carried over
    have hage : pot.age ≤ A := by
      rw [eage]
      split_ifs
      · show natNum X.tc.dap - (X.cropDay d.P d.st).delayedCds - d.P.W.crop.tr.maxCanopyCD ≤ A
        rw [← hcropX, edc, hdapX, hd.st, hPW, hcrop]
        exact (sub_le_sub_right (sub_le_self _ hdc) _).trans
          (hT.age s.season.toNat (s.day.dap + 1) (by omega))
      · show d.st.ageDays ≤ A
        rw [hd.st]; exact hN.age
    have h1 : 0 ≤ trKcbAged d.P.W.crop.tr.kcb d.P.W.crop.tr.fage pot.age d.r.crop.ccxW := by
      rw [hPW]
      exact trKcbAged_nonneg ht.kcb ht.fage ht.aged hage f2 (by rw [← hPcx]; exact f3)
    have h2 : 0 ≤ kcb := trCo2Adj_nonneg (by rw [← hcropX]; exact h1)
      (by rw [hd.P]; exact hT.co2 s.season) hk
    have p0 : 0 ≤ pot.trPot0 := by
      rw [e0]
      exact mul_nonneg (trDyingAdj_nonneg hC.fn.powNN (mul_nonneg (mul_nonneg h2
        (by rw [← hcropX]; exact f1)) (by rw [hd.toCfg.et0]; exact (hW.et0 _).le)))
        (by rw [hPW] at hkc; exact ht.ksCold _ _ hkc)
    refine ⟨?_, ?_, hdc, by rw [f4]; exact f2, by rw [f4, ← hPcx]; exact f3⟩
    · rw [e]
      show 0 ≤ X.t.trPot0
      rw [ep]; exact p0
    · rw [e]
      show X.t.st.ageDays ≤ A
      rw [ea]; exact hage

end dayT

end Aqua

#print axioms Aqua.RunStep.trPot_nonneg
