import AquaVerif.Proofs.WaterDay
/-
Property C01 — the daily soil-water balance closes (mass conservation).

What is modelled: the nine water processes (`Model/PreIrrigation.lean`, `Drainage`,
`RainPartition`, `Irrigation`, `Infiltration`, `CapillaryRise`, `SoilEvaporation`,
`Transpiration`, `GroundwaterInflow`, plus `GroundwaterTable`) and their composition `waterDay`
(`Model/WaterDay.lean`) in the order and with the data flow of `solution_single_time_step`.
`storage cells = Σ 1000·thᵢ·dzᵢ` (mm).

What is quantified over: an arbitrary linearly ordered field `α`, every `F : Fn α` (exp, log,
pow, roundings — constrained only where a law is named), every profile `cells`, every parameter
record, every state, every day input and — for the day theorems — **every** `CropDay α`, i.e.
whatever root development, germination, growth stage and canopy cover hand to the water
processes.  Each statement is about a *successful* call (where Python raises, the model returns an
error and nothing is claimed).

Water the Python silently drops is the ghost `lost` of drainage / infiltration: every balance is
first stated as an exact identity *with* the ghost, then the ghost is shown to be zero under the
named premises.  `crAdded` is the water capillary rise really adds; the reported `CR` differs
from it by at most the 4-decimal rounding of the room, `dzFill · 1000 / 20000` mm.

Premise records used below (defined in `Proofs/WaterDay.lean`, `Proofs/Drainage.lean`):
`DrainPre x` = `Cell.Inv x` (`th_dry ≤ th ≤ th_s`, `th_fc ≤ th_fc_adj ≤ th_s`, well-formed
compartment) ∧ `0 ≤ dzsum` ∧ `th_fc < th_s`;
`DayPre F W cells S` = `ExpLaws F` (`1 ≤ exp x` for `x ≥ 0`) ∧ `PowSqLaw F` (`x ** 2 = x · x`,
`Proofs/PowSq.lean`: the Python computes the adjusted field capacity above a water table and the
SCS runoff with `** 2`, i.e. C `pow`, and the model writes `F.pow · 2` there) ∧
`∀ x ∈ cells, DrainPre x` ∧ `0 ≤ S.pond` ∧ (net-irrigation mode → `0 ≤ NetIrrSMT ≤ 100`).

The day theorems take the state as an argument; carry-over of `th`/ponding between days
(`update_time`, `reset_initial_conditions`) is the run-level `stored_water_carried_over`
(`Properties/C01Run.lean`).
Here: the theorems about each process and about one day (`waterDay`); the theorems along a run
are in `Properties/C01Run.lean`.
-/

set_option linter.unusedSectionVars false
namespace Aqua.C01
open Aqua
variable {α : Type} [Field α] [LinearOrder α] [IsStrictOrderedRing α]

/-! ### one balance per process -/

/-- Pre-irrigation: storage afterwards = storage before + `PreIrr` (either rounding of the root
depth). -/
theorem pre_irrigation_closes (F : Fn α) (npRound : Bool) (cells : List (Cell α)) (gs : Bool)
    (m : Nat) (dap : Int) (zRoot zMin smt : α) (r : List (Cell α) × α)
    (h : preIrrigationT F npRound cells gs m dap zRoot zMin smt = some r) :
    storage r.1 = storage cells + r.2 :=
  (preIrrigationR_spec _ cells gs m dap zRoot zMin smt r h).2.1

/-- Drainage, exact: final storage + deep percolation + water dropped at the soil surface =
initial storage (needs only non-zero thicknesses). -/
theorem drainage_closes_with_lost (F : Fn α) (cells : List (Cell α))
    (hdz : ∀ x ∈ cells, x.c.dz ≠ 0) :
    storage (drainage F cells).cells + (drainage F cells).deepPerc + (drainage F cells).lost
      = storage cells :=
  drainage_balance F cells hdz

/-- Drainage under the invariant: nothing is dropped, so final storage + deep percolation =
initial storage.  Premises: `1 ≤ exp x` for `x ≥ 0`, and `DrainPre` for every compartment. -/
theorem drainage_closes (F : Fn α) (E : ExpLaws F) (cells : List (Cell α))
    (h : ∀ x ∈ cells, DrainPre x) :
    storage (drainage F cells).cells + (drainage F cells).deepPerc = storage cells ∧
      (drainage F cells).lost = 0 :=
  ⟨drainage_balance_inv F E cells h, drainage_lost_zero F E cells h⟩

/-- Infiltration, exact: soil water + ponded water change by the reported infiltration minus
this process's deep percolation, minus the ghost `lost`. -/
theorem infiltration_closes_with_lost {F : Fn α} {cells : List (Cell α)}
    {pond infl irr appEff zBund dp0 ro0 : α} {bunds gs : Bool} {out : InfOut α}
    (h : infiltration F cells pond infl irr appEff bunds zBund dp0 ro0 gs = .ok out)
    (hdz : ∀ c ∈ cells, 0 < c.c.dz) :
    storage out.cells + out.pond + (out.deepPerc - dp0)
      = storage cells + pond + out.infl - out.lost :=
  infiltration_balance_lost h hdz

/-- Infiltration with non-negative incoming ponding and `Ksat ≥ 0`: nothing is dropped. -/
theorem infiltration_closes {F : Fn α} {cells : List (Cell α)}
    {pond infl irr appEff zBund dp0 ro0 : α} {bunds gs : Bool} {out : InfOut α}
    (h : infiltration F cells pond infl irr appEff bunds zBund dp0 ro0 gs = .ok out)
    (hdz : ∀ c ∈ cells, 0 < c.c.dz) (hp : 0 ≤ pond) (hk : ∀ c ∈ cells, 0 ≤ c.c.ksat) :
    storage out.cells + out.pond + (out.deepPerc - dp0) = storage cells + pond + out.infl ∧
      out.lost = 0 :=
  ⟨infiltration_balance h hdz hp hk, infiltration_lost_eq_zero h hp hk⟩

/-- Capillary rise: storage afterwards = storage before + the water really added, and the
reported rise differs from it by at most `dzFill·1000/20000` (premise: 4-decimal rounding is
within half a unit of the last place). -/
theorem capillary_rise_closes (F : Fn α) (hR : GwRoundLaws F) (cells : List (Cell α))
    (nLayer : Nat) (fshape zGW : α) (wt : Nat) (r : CROut α) (hdz : ∀ x ∈ cells, 0 ≤ x.c.dz)
    (h : capillaryRise F cells nLayer fshape zGW wt = .ok r) :
    storage r.cells = storage cells + r.crAdded ∧ 0 ≤ r.dzFill ∧
      |r.crTot - r.crAdded| ≤ r.dzFill * 1000 * (1 / 20000) :=
  ⟨(capillaryRise_spec F cells nLayer fshape zGW wt r h).2.1,
   (capillaryRise_spec F cells nLayer fshape zGW wt r h).2.2.1 hR hdz⟩

/-- Soil evaporation: what leaves the soil and the ponded layer is exactly `EsAct`. -/
theorem evaporation_closes (F : Fn α) (P : EvapParams α) (S : EvapState α) (cells : List (Cell α))
    (D : EvapDay α) (out : EvapOut α) (h : soilEvaporation F P S cells D = .ok out)
    (hdz : ∀ x ∈ cells, 0 < x.c.dz) :
    storage out.cells + out.pond + out.esAct = storage cells + S.pond :=
  soilEvap_balance F P S cells D out h hdz

/-- Transpiration: what leaves the ponded water and the compartments is `TrAct`, what enters the
compartments is the net irrigation `IrrNet`. -/
theorem transpiration_closes {F : Fn α} {cells : List (Cell α)} {nComp : Nat} {zTop : α}
    {crop : TrCrop α} {m : Nat} {smt : α} {st : TrState α} {et0 cur ref gdd : α} {gs : Bool}
    {out : TrOut α} (hdz : ∀ x ∈ cells, 0 < x.c.dz)
    (h : transpiration F cells nComp zTop crop m smt st et0 cur ref gs gdd = .ok out) :
    storage out.cells + out.st.pond + out.trAct = storage cells + st.pond + out.irrNet := by
  rcases transp_cases h with ⟨-, rfl⟩ |
    ⟨pot, sf, rz, ni, ex, tpr, cst, -, hsf, -, -, -, -, hex, hni, rfl⟩
  · simp
  · obtain ⟨f1, b1⟩ := trSurface_spec hsf
    have hE := trExtractLoop_extracted _ _ _ _ _ _ _ _ hex
    have fE := hE.frame (·.c) (fun _ _ => rfl) fun _ _ => rfl
    have b2 := hE.bal
    have b3 := (trNetIrr_spec hni).2 (forall_of_map_eq (·.c) (fE.trans (f1 (·.c) fun _ _ => rfl))
      (fun c => c.dz ≠ 0) (fun x hx => (hdz x hx).ne'))
    have s1 := tr_storage_eq_of_aer_only f1
    simp only [trFinish]
    linear_combination b3 + b2 + s1 + b1

/-- Groundwater inflow: storage afterwards = storage before + `GwIn`. -/
theorem groundwater_inflow_closes (cells : List (Cell α)) (wt : Bool) (zGW : α)
    (r : List (Cell α) × α) (h : groundwaterInflow cells wt zGW = some r) :
    storage r.1 = storage cells + r.2 :=
  (groundwaterInflow_spec cells wt zGW r h).2.1

/-- The groundwater check (step 1) leaves the total stored water unchanged. -/
theorem groundwater_check_keeps_storage (F : Fn α) (cells : List (Cell α)) (wt : Nat) (zGW : α)
    (r : GwtOut α) (h : checkGroundwaterTable F cells wt zGW = some r) :
    storage r.cells = storage cells :=
  storage_eq_of_forall₂ (checkGroundwaterTable_frame F cells wt zGW r h)
    (fun _ _ hxy => ⟨hxy.1, hxy.2.1⟩)

/-! ### the whole day -/

variable {F : Fn α} {W : WaterParams α} {fm : FieldMngt α} {C : CropDay α}
  {cells : List (Cell α)} {S : DayState α} {D : DayIn α} {out : DayOut α}

/-- Day balance, unconditional variant (only positive thicknesses): the change of soil storage
plus ponding equals infiltration + pre-irrigation + net irrigation + capillary rise really added +
groundwater inflow − deep percolation − evaporation − transpiration − the two `lost` ghosts. -/
theorem day_closes_with_lost (h : waterDay F W fm C cells S D = .ok out)
    (hdz : ∀ x ∈ cells, 0 < x.c.dz) :
    storage out.cells + out.pond =
      storage cells + S.pond + out.infl + out.preIrr + out.irrNet + out.crAdded + out.gwIn
        - out.deepPerc - out.es - out.tr - out.drainLost - out.inflLost := by
  obtain ⟨T, hs, rfl⟩ := waterDay_ok h
  have hc := day_comps hs
  obtain ⟨zp, zd, _, zc, ze, _⟩ := hc.dz hdz
  have bg : storage T.g.cells = storage cells :=
    storage_eq_of_forall₂ (checkGroundwaterTable_frame F cells _ _ _ hs.hg)
      (fun x y h => ⟨h.1, h.2.1⟩)
  have bp := pre_irrigation_closes F _ _ _ _ _ _ _ _ _ hs.hp
  have bd := drainage_balance F T.p.1 (fun x hx => (zp x hx).ne')
  rw [← hs.hd] at bd
  have bf := infiltration_balance_lost hs.hf zd
  have bc := (capillaryRise_spec F _ _ _ _ _ _ hs.hc).2.1
  have be := soilEvap_balance _ _ _ _ _ _ hs.he zc
  have bt := transpiration_closes ze hs.ht
  have bw := (groundwaterInflow_spec _ _ _ _ hs.hw).2.1
  simp only [dayEvapState, dayTrState] at be bt
  show storage T.w.1 + T.t.st.pond =
    storage cells + S.pond + T.f.infl + T.p.2 + T.t.irrNet + T.c.crAdded + T.w.2
      - T.f.deepPerc - T.e.esAct - T.t.trAct - T.d.lost - T.f.lost
  linear_combination bg + bp + bd + bf + bc + be + bt + bw

/-- Under `DayPre` (incoming cells within limits, non-negative ponding, `1 ≤ exp x` for `x ≥ 0`,
net-irrigation threshold in `[0,100]`) neither drainage nor infiltration drops water. -/
theorem day_nothing_lost (h : waterDay F W fm C cells S D = .ok out) (hP : DayPre F W cells S) :
    out.drainLost = 0 ∧ out.inflLost = 0 := by
  obtain ⟨T, hs, rfl⟩ := waterDay_ok h
  have hm := day_mid hs hP
  exact ⟨hm.d_lost, hm.f_lost⟩

/-- **The daily balance closes**: under `DayPre`, for every `CropDay`, the change in stored soil
water plus ponded water equals reported infiltration + pre-irrigation + net irrigation +
capillary rise (as added) + groundwater inflow − reported deep percolation − soil evaporation −
transpiration. -/
theorem day_closes (h : waterDay F W fm C cells S D = .ok out) (hP : DayPre F W cells S) :
    storage out.cells + out.pond =
      storage cells + S.pond + out.infl + out.preIrr + out.irrNet + out.crAdded + out.gwIn
        - out.deepPerc - out.es - out.tr := by
  have hb := day_closes_with_lost h hP.dz
  obtain ⟨l1, l2⟩ := day_nothing_lost h hP
  rw [l1, l2, sub_zero, sub_zero] at hb
  exact hb

/-- The reported capillary rise differs from the water actually added by at most
`dzFill·1000/20000` mm, i.e. 0.05 mm per metre of `dzFill ≥ 0`, the model's ghost for the thickness
(m) of the compartments filled to their adjusted field capacity (premises: the law of 4-decimal
rounding, positive thicknesses). -/
theorem day_capillary_rise_reported (h : waterDay F W fm C cells S D = .ok out)
    (hR : GwRoundLaws F) (hdz : ∀ x ∈ cells, 0 < x.c.dz) :
    0 ≤ out.dzFill ∧ |out.cr - out.crAdded| ≤ out.dzFill * 1000 * (1 / 20000) := by
  obtain ⟨T, hs, rfl⟩ := waterDay_ok h
  have hf := ((day_comps hs).dz hdz).f
  exact (capillaryRise_spec F _ _ _ _ _ _ hs.hc).2.2.1 hR fun x hx => (hf x hx).le

/-- In net-irrigation mode the row's irrigation column is `IrrNet + PreIrr`, otherwise (in
season) the applied depth `Irr`; off season it is 0 — so the balance can be read off the row. -/
theorem day_row_irrigation (h : waterDay F W fm C cells S D = .ok out) :
    out.irrDay = if D.gs then (if W.irr.method = 4 then out.irrNet + out.preIrr else out.irr)
      else 0 := by
  obtain ⟨T, _, rfl⟩ := waterDay_ok h
  rfl

/-! ### non-vacuity -/

/-- the concrete day of `Proofs/WaterDay.lean` (rain 20 mm, irrigation 10 mm, water table at 1 m,
all fluxes positive) satisfies `DayPre`, so its balance closes -/
example : ∃ out, waterDay DayExample.Fq DayExample.Wq DayExample.fmq DayExample.Cq
      DayExample.cellsq DayExample.Sq DayExample.Dq = .ok out ∧ 0 < out.infl ∧ 0 < out.cr ∧
    storage out.cells + out.pond =
      storage DayExample.cellsq + DayExample.Sq.pond + out.infl + out.preIrr + out.irrNet
        + out.crAdded + out.gwIn - out.deepPerc - out.es - out.tr := by
  obtain ⟨out, h, _, hcr, hinfl, _⟩ := DayExample.runs
  exact ⟨out, h, hinfl, hcr, day_closes h DayExample.dayPre⟩

end Aqua.C01
