import AquaVerif.Proofs.Run
import AquaVerif.Proofs.Seasons
import AquaVerif.Proofs.SeasonIndepDay

/-
Property C08 as a theorem about the run model (`Model/Run.lean`): **season `k` of a multi-season
run with the off-season skipped is the first season of the run started on that season's planting
date** (`season_independent`), and nothing of an earlier season leaks into it (`C08.no_state_leaks_into_later_season`).

Classification of the fields of `DayState'` at a season start (off-season skipped).
`resetState_stEq` is the machine-checked form of the table: the reset of *any* two states with the
same compartments (and, without a water table, the same `th_fc_Adj`) agree on every live field —
so every field is reset, invariant along the run, or dead; `fullDay_congr_dead` proves "dead".

| field(s) | class | why |
|---|---|---|
| `cells.c` (geometry, hydraulic properties) | live, equal by construction | never written (`run_cellsInv`, `run_comps`) |
| `cells.th` | live, reset | `np.copy(thini)` (premise: `thini` covers the profile) |
| `cells.aer` (`aer_days_comp`) | live, reset | zeros |
| `cells.fcAdj` (`th_fc_Adj`), no water table | live, equal by construction | never written without a table (`fullDay_fcAdj`) |
| `cells.fcAdj`, water table | dead | step 1 reassigns every element (`checkGroundwaterTable_clr`) |
| `cells.flux` (`FluxOut`, a local of the Python day) | dead every day | `drainage` reassigns it before any read (`drainage_clr`) |
| `pond` | live, reset | `min(bund_water, z_bund)` / 0 |
| `daySubmerged irrCum ePot tPot ageDaysNS ageDays aerDays irrNetCum dap gddCum delayedCds delayedGdds pctLagPhase tEarlySen` | live, reset | 0 |
| `trRatio rCor fPre fPost fpostDwn fpostUpp` | live, reset | 1 |
| `growthStage germination protectedSeed prematSenes cropDead cropMature harvestFlag preAdj` | live, reset | 0 / false |
| `cc ccNS ccAdj ccAdjNS ccxAct ccxActNS ccxW ccxWNS ccxEarlySen ccPrev biomass biomassNS hi hiAdj fPol sCor1 sCor2 dryYield freshYield` | live, reset | 0 |
| `cc0Adj`, `hiFinal` | live, reset | `CC0`, `HI0` of the season's crop |
| `wSurf evapZ stage2 wStage2` | dead on the first day | `soil_evaporation` re-initialises on `dap == 1 and not sim_off_season` (`soilEvaporation_reinit`; premise `offW`) |
| `zRoot` | dead on the first day | `root_development` restarts from `Zmin` on `dap == 1` (`rootDevelopment_day1`) |
| `yieldForm` | dead in the growing season | recomputed by `HIref_current_day` |
| `hiRef` | dead in the growing season **for `CropType ∈ {1,2,3}`** | recomputed; an unknown crop type keeps the stored value (`C08.hi_ref_leaks_only_for_unknown_crop_type`; premise `ct`) |
| `depletion taw zGW wtInSoil yieldPot` | dead | the day never reads them |

Day-level ingredients: `Proofs/SeasonIndepDay.lean` (`StEq`, `fullDay_congr_dead`,
`fullDay_relabel`); clock-level ingredients: `Proofs/Seasons.lean` (`Sim`, `step_shift`,
`sim_at_season_start`).
-/

set_option linter.unusedSectionVars false
namespace Aqua
open Aqua.Clock
variable {α : Type} [Field α] [LinearOrder α] [IsStrictOrderedRing α]

/-! ## 1. the fresh configuration for season `k` -/

/-- the configuration of the run started on the planting date of season `k` of `cfg`, with the
state object `init'` that run's `_initialize` leaves.

* clock: `Clock.single` — the window starts on planting date `k` (same end date), one planting
  date (index 0), the latest harvest date of season `k`, `season_counter = 0`;
* weather, water-table depth and irrigation schedule: the rows from planting date `k` on (the
  Python tables are indexed by `time_step_counter`);
* season crops: those of the seasons `k, k+1, …`, *as the reset leaves them in the multi-season
  run* — for season `k` that is what `compute_variables` / `compute_crop_calendar` of the fresh run
  compute (`Properties/C08.lean`: `fco2_reset_eq_init`, `later_season_calendar_is_fresh_calendar`,
  under their premises); `CO2.current_concentration` of season `k`;
* soil, field management, irrigation management, fallow records, `bund_water`, `thini`: unchanged. -/
def freshCfgI (cfg : RunCfg α) (k : Nat) (init' : DayState' α) : RunCfg α :=
  { cfg with
    clock := single cfg.clock k
    irr := { cfg.irr with sched := fun t => cfg.irr.sched (t + cfg.clock.pl k) }
    fallowIrr := { cfg.fallowIrr with sched := fun t => cfg.fallowIrr.sched (t + cfg.clock.pl k) }
    seasonCrop := fun i => cfg.seasonCrop (k + i)
    co2Cur := fun i => cfg.co2Cur (i + (k : Int))
    weather := fun t => cfg.weather (t + cfg.clock.pl k)
    zgw := fun t => cfg.zgw (t + cfg.clock.pl k)
    init := init' }

/-- … with the same initial state object as the multi-season run (the case of a multi-season run
that itself starts on its first planting date, same `CC0`/`HI0` in season `k`) -/
def freshCfg (cfg : RunCfg α) (k : Nat) : RunCfg α := freshCfgI cfg k cfg.init

/-- **the premise on the initial state of the fresh run**: on the live fields it is what
`reset_initial_conditions` makes of the multi-season run's initial state for the crop of season
`k`.  Spelled out (`FreshInit.of_fields` below): `th = thini`,
`aer_days_comp = 0`, `surface_storage = min(bund_water, z_bund)` (bunds higher than 0.001 mm) or 0,
`cc0_adj = CC0`, `HIfinal = HI0` of that crop, every other reset field at its reset constant, same
compartments, and — without a water table — the same `th_fc_Adj`. -/
def FreshInit (cfg : RunCfg α) (k : Nat) (init' : DayState' α) : Prop :=
  StEq cfg.W0.waterTable (resetState cfg (cfg.seasonCrop k) cfg.init) init'

/-! ## 2. frame of the profile along a run: compartments and (without a table) `th_fc_Adj` -/

section frame
variable {F : Fn α} {T : TrigFn α} {P : DayParams α} {st : DayState' α} {D : DayIn' α}
  {r : DayResult α}

theorem fullDay_fcAdj (h : fullDay F T P st D = .ok r)
    (hwt : P.W.waterTable ≠ 1) : r.state.cells.map (·.fcAdj) = st.cells.map (·.fcAdj) := by
  obtain ⟨hs, er⟩ := fullDay_ok h
  have hg := hs.water.hg
  rw [checkGroundwaterTable_no_table _ _ _ _ hwt] at hg
  rw [er]
  show r.trace.water.w.1.map (·.fcAdj) = st.cells.map (·.fcAdj)
  rw [(day_fcAdj hs.water).2, ← Option.some.inj hg]

end frame

structure CellsInv (cfg : RunCfg α) (st : DayState' α) : Prop where
  comps : st.cells.map (·.c) = cfg.init.cells.map (·.c)
  fcAdj : cfg.W0.waterTable ≠ 1 → st.cells.map (·.fcAdj) = cfg.init.cells.map (·.fcAdj)

theorem resetState_cellsInv (cfg : RunCfg α) (crop : CropParams α) {st : DayState' α}
    (h : CellsInv cfg st) : CellsInv cfg (resetState cfg crop st) :=
  ⟨(resetState_comps cfg crop st).trans h.comps, fun hwt =>
    (resetState_map (·.fcAdj) (fun _ _ => rfl) (fun _ _ => rfl) cfg crop st).trans (h.fcAdj hwt)⟩

section frameRun
variable {F : Fn α} {T : TrigFn α} {cfg : RunCfg α} {s s' : RunState α}

theorem paramsOf_simOffSeason (cfg : RunCfg α) (season : Int) (gs : Bool) :
    (paramsOf cfg season gs).W.simOffSeason = cfg.W0.simOffSeason := rfl

theorem run_cellsInv (hr : RunReach F T cfg s) :
    CellsInv cfg s.day ∧ ∀ d ∈ s.daysRev, CellsInv cfg d.r.state :=
  run_ind_season (H := fun _ => True) (I := fun _ st => CellsInv cfg st)
    (R := fun d => CellsInv cfg d.r.state) ⟨rfl, fun _ => rfl⟩
    (fun {s s' d} _ _ hs hI _ => by
      have h : CellsInv cfg d.r.state :=
        ⟨by rw [fullDay_comps hs.day]; exact hI.comps, fun hwt => by
          rw [fullDay_fcAdj hs.day (by rw [hs.P]; exact hwt)]; exact hI.fcAdj hwt⟩
      exact ⟨h, h⟩)
    (fun _ _ h => resetState_cellsInv cfg _ h) hr (fun _ _ => trivial)

end frameRun

/-! ## 3. the reset state depends on the state it resets only through dead fields -/

theorem setTh_clrA_congr (wt : Nat) : ∀ (xs ys : List (Cell α)) (vs : List α),
    xs.map (·.c) = ys.map (·.c) → (wt ≠ 1 → xs.map (·.fcAdj) = ys.map (·.fcAdj)) →
    xs.length ≤ vs.length →
    (setTh (xs.map (fun x => { x with aer := 0 })) vs).map (Cell.clrA wt) =
      (setTh (ys.map (fun x => { x with aer := 0 })) vs).map (Cell.clrA wt)
  | [], [], _, _, _, _ => rfl
  | [], _ :: _, _, h, _, _ => by simp at h
  | _ :: _, [], _, h, _, _ => by simp at h
  | x :: xs, y :: ys, [], _, _, hl => by simp at hl
  | x :: xs, y :: ys, v :: vs, hc, hf, hl => by
    simp only [List.map_cons, List.cons.injEq] at hc
    have hf' : wt ≠ 1 → x.fcAdj = y.fcAdj ∧ xs.map (·.fcAdj) = ys.map (·.fcAdj) := by
      intro h
      have := hf h
      simpa only [List.map_cons, List.cons.injEq] using this
    simp only [List.map_cons, setTh, List.cons.injEq]
    constructor
    · unfold Cell.clrA
      simp only [Cell.mk.injEq, and_true, true_and]
      refine ⟨hc.1, ?_⟩
      by_cases h : wt = 1
      · rw [if_pos h, if_pos h]
      · rw [if_neg h, if_neg h]; exact (hf' h).1
    · exact setTh_clrA_congr wt xs ys vs hc.2 (fun h => (hf' h).2) (by simpa using hl)

theorem resetState_stEq {cfg : RunCfg α} (crop : CropParams α) {X Y : DayState' α}
    (hoff : cfg.clock.offSeason = false) (hX : CellsInv cfg X) (hY : CellsInv cfg Y)
    (hlen : cfg.init.cells.length ≤ cfg.thini.length) :
    StEq cfg.W0.waterTable (resetState cfg crop X) (resetState cfg crop Y) := by
  have hc : X.cells.map (·.c) = Y.cells.map (·.c) := hX.comps.trans hY.comps.symm
  have hf : cfg.W0.waterTable ≠ 1 → X.cells.map (·.fcAdj) = Y.cells.map (·.fcAdj) :=
    fun h => (hX.fcAdj h).trans (hY.fcAdj h).symm
  have hl : X.cells.length ≤ cfg.thini.length := by
    have := congrArg List.length hX.comps
    simp only [List.length_map] at this
    omega
  have := setTh_clrA_congr cfg.W0.waterTable X.cells Y.cells cfg.thini hc hf hl
  unfold StEq DayState'.live resetState resetStateCore
  simp only [hoff, Bool.false_eq_true, if_false]
  rw [this]

/-! ## 5. the day of the fresh run is the day of the multi-season run, relabelled -/

section align
variable {cfg : RunCfg α} {k : Nat} {init' : DayState' α}

theorem paramsOf_fresh (cfg : RunCfg α) (k : Nat) (init' : DayState' α) (gs : Bool) :
    paramsOf (freshCfgI cfg k init') 0 gs = paramsOf cfg (k : Int) gs := by
  unfold paramsOf cropOf freshCfgI
  have h0 : (0 : Int) ≤ (k : Int) := by omega
  simp only [le_refl, if_true, h0, Int.toNat_zero, Int.toNat_natCast, Nat.add_zero, zero_add]

theorem gsOfDay_shift (p : Nat) (h : Int) (t1 : Nat) (m d : Bool) :
    gsOfDay (some (0, h - (p : Int))) t1 m d = gsOfDay (some (p, h)) (t1 + p) m d := by
  unfold gsOfDay
  simp only
  congr 3
  · simp only [decide_eq_decide]; constructor <;> intro <;> omega
  · simp only [decide_eq_decide]; constructor <;> intro <;> push_cast at * <;> omega

theorem lastDayOf_shift (p : Nat) (h : Int) (t1 : Nat) :
    lastDayOf (some (0, h - (p : Int))) t1 = lastDayOf (some (p, h)) (t1 + p) := by
  unfold lastDayOf
  simp only [decide_eq_decide]
  constructor <;> intro <;> push_cast at * <;> omega

theorem dayInOf_fresh (cfg : RunCfg α) (k : Nat) (init' : DayState' α) {s s1 : RunState α}
    (ht : s.t = s1.t + cfg.clock.pl k) (hs : s.season = (k : Int)) (hs1 : s1.season = 0)
    (hm : s.day.cropMature = s1.day.cropMature) (hd : s.day.cropDead = s1.day.cropDead) :
    dayInOf (freshCfgI cfg k init') s1 (some (0, cfg.clock.hv k - (cfg.clock.pl k : Int))) =
      (dayInOf cfg s (some (cfg.clock.pl k, cfg.clock.hv k))).relabel s1.t 0 := by
  have h0 : (0 : Int) ≤ (k : Int) := by omega
  unfold dayInOf DayIn'.relabel freshCfgI
  simp only [hs, hs1, ht, hm, hd, gsOfDay_shift, lastDayOf_shift, le_refl, if_true, h0]

end align

/-! ## 6. one day of season `k` in both runs -/

/-- two day records that agree up to the clock labels: same parameters, start states that agree on
the live fields, the same inputs and — up to `time_step_counter` / `season_counter` in the rows and
the stale `FluxOut` in the ghost trace — the same result (state after the day, `water_storage`,
`water_flux`, `crop_growth` rows, summary row, every ghost) -/
structure RecSh (wt p k : Nat) (d d1 : DayRec α) : Prop where
  P : d.P = d1.P
  st : StEq wt d.st d1.st
  D : d.D = d1.D.relabel (d1.D.tsc + p) (k : Int)
  r : d.r.noFlux = (d1.r.relabel (d1.D.tsc + p) (k : Int)).noFlux

/-- simulation relation between the multi-season run inside season `k` and the fresh run: the
clock relation `Clock.Sim`, and the same state object — on the first day of the season only up to
the dead fields -/
structure SimR (cfg : RunCfg α) (k : Nat) (s s1 : RunState α) : Prop where
  clk : Sim cfg.clock k s.clockOf s1.clockOf
  day : (s.day = s1.day ∧ 0 < s1.t) ∨
    (StEq cfg.W0.waterTable s.day s1.day ∧ s.day.dap = 0 ∧ s.day.cropMature = false ∧
      s.day.cropDead = false ∧ s1.t = 0)

/-- the harvest-index crop type of a season's crop is one of the three the package knows -/
def HiTypeOK (c : CropParams α) : Prop :=
  c.cx.hi.cropType = 1 ∨ c.cx.hi.cropType = 2 ∨ c.cx.hi.cropType = 3

section step
variable {F : Fn α} {T : TrigFn α} {cfg : RunCfg α} {k : Nat} {init' : DayState' α}
  {s s' s1 : RunState α}

theorem paramsOf_cropType (cfg : RunCfg α) (k : Nat) (gs : Bool) :
    (paramsOf cfg (k : Int) gs).cx.hi.cropType = (cfg.seasonCrop k).cx.hi.cropType := by
  have h0 : (0 : Int) ≤ (k : Int) := by omega
  unfold paramsOf cropOf
  simp only [h0, if_true, Int.toNat_natCast]

theorem step_season (hv : Valid cfg.clock) (hoff : cfg.clock.offSeason = false)
    (hoffW : cfg.W0.simOffSeason = false) (hct : HiTypeOK (cfg.seasonCrop k))
    (hS : SimR cfg k s s1) (hp : performR F T cfg s = .ok s') :
    ∃ s1', performR F T (freshCfgI cfg k init') s1 = .ok s1' ∧
      (∃ d d1, s'.daysRev = d :: s.daysRev ∧ s1'.daysRev = d1 :: s1.daysRev ∧
        d.D.season = (k : Int) ∧ RecSh cfg.W0.waterTable (cfg.clock.pl k) k d d1) ∧
      ((s'.season = (k : Int) ∧ s'.finished = false ∧ SimR cfg k s' s1') ∨
        (((k : Int) < s'.season ∨ (s'.season = (k : Int) ∧ s'.finished = true)) ∧
          s1'.finished = true)) := by
  have hw := hv.wf
  have hC := hS.clk
  have hse : s.season = (k : Int) := hC.season
  have hse1 : s1.season = 0 := hC.season1
  have htt : s.t = s1.t + cfg.clock.pl k := hC.t
  have hk : k < cfg.clock.planting.length := by
    have := hC.live.shi
    rw [nSeasons_eq] at this
    have e : s.clockOf.season = (k : Int) := hC.season
    omega
  have hw1 := wf_single hw hk
  obtain ⟨⟨P, st, D, r⟩, hs⟩ := performR_step hp
  obtain ⟨ph, hph, hD⟩ := hs.D
  obtain rfl : st = s.day := hs.st
  obtain rfl : P = paramsOf cfg s.season D.gs := hs.P
  have hD : D = dayInOf cfg s ph := hD
  have hr := hs.day
  have hcaseM : (s'.season = s.season ∧ s'.day = r.state) ∨ (s'.season = s.season + 1 ∧
      s'.day = resetState cfg (cfg.seasonCrop s'.season.toNat) r.state) := hs.next
  -- the dates of the season in both runs
  have ephs : ph = some (cfg.clock.pl k, cfg.clock.hv k) := by
    have h1 := seasonInfo_eq hw.len_eq (season := s.season) hC.live.shi
    rw [h1] at hph
    have := Except.ok.inj hph
    rw [← this, hse]
    unfold phOf
    simp
  subst ephs
  have hph1 : seasonInfo (freshCfgI cfg k init').clock s1.season =
      .ok (some (0, cfg.clock.hv k - (cfg.clock.pl k : Int))) := by
    have h1 := seasonInfo_eq hw1.len_eq (season := s1.season) hC.live1.shi
    show seasonInfo (single cfg.clock k) s1.season = _
    rw [h1, hse1]
    rfl
  -- parameters and inputs of the day of the fresh run: those of `D`, relabelled
  have eP : ∀ g, paramsOf (freshCfgI cfg k init') s1.season g = paramsOf cfg s.season g := by
    intro g; rw [hse1, hse]; exact paramsOf_fresh cfg k init' g
  have eD : dayInOf (freshCfgI cfg k init') s1 (some (0, cfg.clock.hv k - (cfg.clock.pl k : Int))) =
      D.relabel s1.t 0 := by
    rw [hD]; exact dayInOf_fresh cfg k init' htt hse hse1 hC.mature hC.dead
  have hDt : D.tsc = s.t := by rw [hD]; rfl
  have hDs : D.season = (k : Int) := by rw [hD]; exact hse
  have hst0 : StEq cfg.W0.waterTable s.day s1.day := by
    rcases hS.day with ⟨e, _⟩ | ⟨he, _⟩
    · rw [e]; exact StEq.refl _ _
    · exact he
  -- the same day from the state of the fresh run: same result, and relabelling is allowed
  obtain ⟨r', hr', en, ht'⟩ : ∃ r', fullDay F T (paramsOf cfg s.season D.gs) s1.day D = .ok r' ∧
      r'.noFlux = r.noFlux ∧ ((D.tsc = 0 ↔ s1.t = 0) ∨
        (((natNum r'.trace.tc.dap : α) ≤ 1 ∧ 1 ≤ (natNum r'.trace.tc.dap : α)) ∧
          cfg.W0.simOffSeason = false)) := by
    rcases hS.day with ⟨e, hpos⟩ | ⟨_, hdap, hm, hd, ht0⟩
    · rw [← e]
      exact ⟨r, hr, rfl, Or.inl (by rw [hDt]; constructor <;> intro <;> omega)⟩
    · have hgs : D.gs = true := by
        have hlt := hv.pl_lt_hv hk
        rw [hD]
        show gsOfDay (some (cfg.clock.pl k, cfg.clock.hv k)) s.t s.day.cropMature s.day.cropDead = true
        rw [hm, hd, htt, ht0]
        unfold gsOfDay
        simp only [Bool.not_false, Bool.and_true, Bool.and_eq_true, decide_eq_true_eq]
        constructor <;> push_cast <;> omega
      have hfd : FirstDay (paramsOf cfg s.season D.gs) s.day D :=
        ⟨hgs, hdap, hoffW, by rw [hse, paramsOf_cropType]; exact hct⟩
      obtain ⟨r', hr', en, _⟩ := fullDay_congr_dead hr hst0 hfd
      have hdap1 : s1.day.dap = 0 := by
        have e2 : s.day.dap = s1.day.dap := hC.dap
        rw [← e2]; exact hdap
      have htc := dayCounters_dap (fullDay_ok hr').1.htc hgs
      rw [hdap1] at htc
      exact ⟨r', hr', en, Or.inr ⟨by rw [htc]; exact (natNum_succ_eq_one_iff 0).2 rfl, hoffW⟩⟩
  -- … and its relabelled form `r1` is the day of the fresh run
  have hr1 := fullDay_relabel hr' s1.t 0 (by rw [hDs]; constructor <;> intro <;> omega) ht'
  obtain ⟨r1, er1⟩ : ∃ r1, r1 = r'.relabel s1.t 0 := ⟨_, rfl⟩
  rw [← er1] at hr1
  have hrel : r.noFlux = (r1.relabel (s1.t + cfg.clock.pl k) (k : Int)).noFlux := by
    have := fullDay_relabel_self hr'
    rw [hDt, hDs, htt] at this
    rw [er1, relabel_relabel, this, en]
  have hst1 : r1.state = r.state := (congrArg DayResult.state hrel).symm
  have htc1 : r1.trace.tc = r.trace.tc := (congrArg (fun x => x.trace.tc) hrel).symm
  -- the clock step of the multi-season run and its image
  obtain ⟨ev, hev⟩ : ∃ ev : Ev, ev s.t = DayRec.events ⟨paramsOf cfg s.season D.gs, s.day, D, r⟩ :=
    ⟨fun _ => _, rfl⟩
  have hnext : k + 1 < cfg.clock.planting.length →
      cfg.clock.hv k ≤ (cfg.clock.pl (k + 1) : Int) := hv.hv_le_next
  obtain ⟨c1', hq, _, _, hcase⟩ := step_shift hw hk hoff hnext hC (hs.clock ev hev)
  obtain ⟨s1', hp1, hcl1, hdays1, hcase1⟩ :=
    performR_of_clock (cfg := freshCfgI cfg k init') (r := r1) hC.live1.notFin hph1
      (by rw [eD, eP]; exact hr1)
      (by rw [eD, eP]; unfold shiftEv; rw [← htt, hev, htc1, hst1]; rfl) hq
  rw [eD, eP] at hdays1
  refine ⟨s1', hp1, ⟨_, _, hs.days, hdays1, hDs, ⟨rfl, hst0, ?_, hrel⟩⟩, ?_⟩
  · show D = D.relabel (s1.t + cfg.clock.pl k) (k : Int)
    rw [← htt, ← hDt, ← hDs]
    rfl
  · -- the next states
    rcases hcase with ⟨hfin, hsk, hSim⟩ | ⟨hx, hfin1⟩
    · left
      have hsk' : s'.season = (k : Int) := hsk
      refine ⟨hsk', hfin, ⟨by rw [hcl1]; exact hSim, Or.inl ⟨?_, ?_⟩⟩⟩
      · have e1 : s'.day = r.state := by
          rcases hcaseM with ⟨_, e⟩ | ⟨e, _⟩
          · exact e
          · rw [hse] at e; omega
        have e2 : s1'.day = r1.state := by
          have h0 : s1'.clockOf.season = 0 := by rw [hcl1]; exact hSim.season1
          have h0 : s1'.season = 0 := h0
          rcases hcase1 with ⟨_, e⟩ | ⟨e, _⟩
          · exact e
          · rw [hse1] at e; omega
        rw [e1, e2, hst1]
      · -- the fresh run has written a row, so its clock is past day 0
        have hmem : DayRec.clockRow
            ⟨paramsOf cfg s.season D.gs, s1.day, D.relabel s1.t 0, r1⟩ ∈ c1'.rowsRev := by
          rw [← hcl1]
          show _ ∈ s1'.daysRev.map DayRec.clockRow
          rw [hdays1]
          exact List.mem_cons_self
        have := (hSim.live1.rowsB _ hmem).1
        have e3 : c1'.t = s1'.t := by rw [← hcl1]; rfl
        rw [e3] at this
        exact Nat.lt_of_le_of_lt (Nat.zero_le _) this
    · have : s1'.clockOf.finished = true := by rw [hcl1]; exact hfin1
      refine Or.inr ⟨?_, this⟩
      rcases hx with a | a
      · rcases hcaseM with ⟨e, _⟩ | ⟨e, _⟩
        · exact Or.inr ⟨by rw [e, hse], a⟩
        · exact Or.inl (by rw [e, hse]; omega)
      · have a' : s'.season = (k : Int) + 1 := a
        exact Or.inl (by rw [a']; omega)

end step

/-! ## 7. `season_independent` -/

/-- the day records of season `k` (newest first, like `daysRev`) -/
def seasonRecs (k : Int) (l : List (DayRec α)) : List (DayRec α) :=
  l.filter (fun d => decide (d.D.season = k))

structure SeasonPre (cfg : RunCfg α) (k : Nat) (init' : DayState' α) : Prop where
  /-- the clock configuration is what the date set-up produces (`Proofs/ClockCalendar.lean`) -/
  valid : Valid cfg.clock
  /-- season `k` exists -/
  hk : k < cfg.clock.planting.length
  /-- the state object `_initialize` leaves has its season flags cleared -/
  initOK : InitOK cfg
  /-- the off-season is not simulated … -/
  off : cfg.clock.offSeason = false
  /-- … and the copy of `sim_off_season` that `soil_evaporation` reads says so too -/
  offW : cfg.W0.simOffSeason = false
  /-- compartments have positive thickness (no proof reads this premise) -/
  dz : ∀ x ∈ cfg.init.cells, 0 < x.c.dz
  /-- `thini` has a value for every compartment (`np.copy(thini)` replaces the whole array) -/
  thini : cfg.init.cells.length ≤ cfg.thini.length
  /-- the crop of season `k` has a known harvest-index crop type -/
  ct : HiTypeOK (cfg.seasonCrop k)
  /-- the fresh run's initial state is the reset state on the live fields -/
  fresh : FreshInit cfg k init'
  /-- season `k` starts with a `reset_initial_conditions` (it is not a first season that starts
  on the first simulated day — for that one `freshCfg cfg 0 = cfg` up to the clock) -/
  reset : 0 < k ∨ cfg.clock.season0 ≠ 0

theorem FreshInit.flags {cfg : RunCfg α} {k : Nat} {init' : DayState' α} (h : FreshInit cfg k init') :
    init'.dap = 0 ∧ init'.cropMature = false ∧ init'.cropDead = false ∧
      init'.harvestFlag = false := by
  have h1 := congrArg DayState'.dap h
  have h2 := congrArg DayState'.cropMature h
  have h3 := congrArg DayState'.cropDead h
  have h4 := congrArg DayState'.harvestFlag h
  exact ⟨h1.symm, h2.symm, h3.symm, h4.symm⟩

section main
variable {F : Fn α} {T : TrigFn α} {cfg : RunCfg α} {k : Nat} {init' : DayState' α}
  {s s' : RunState α}

theorem runInit_fresh (hP : SeasonPre cfg k init') :
    runInit (freshCfgI cfg k init') =
      .ok { t := 0, season := 0, finished := false, day := init', daysRev := [] } := by
  unfold runInit
  show (match Clock.init (single cfg.clock k) with
    | .error e => Except.error e.toString
    | .ok c => Except.ok ({ t := c.t, season := c.season, finished := c.finished, day := init',
                            daysRev := [] } : RunState α)) = _
  rw [init_single hP.valid.wf hP.hk]
  rfl

theorem seasonRecs_cons_ne {k : Int} {d : DayRec α} {l : List (DayRec α)} (h : d.D.season ≠ k) :
    seasonRecs k (d :: l) = seasonRecs k l := by
  unfold seasonRecs
  rw [List.filter_cons_of_neg]
  simpa using h

theorem seasonRecs_cons_eq {k : Int} {d : DayRec α} {l : List (DayRec α)} (h : d.D.season = k) :
    seasonRecs k (d :: l) = d :: seasonRecs k l := by
  unfold seasonRecs
  rw [List.filter_cons_of_pos]
  simpa using h

/-- the phases of the multi-season run relative to season `k`, with the matching state of the
fresh run -/
def Phase (cfg : RunCfg α) (k : Nat) (init' : DayState' α) (s s1 : RunState α) : Prop :=
  (s.season < (k : Int) ∧
      s1 = { t := 0, season := 0, finished := false, day := init', daysRev := [] }) ∨
  (s.season = (k : Int) ∧ s.finished = false ∧ SimR cfg k s s1) ∨
  (((k : Int) < s.season ∨ (s.season = (k : Int) ∧ s.finished = true)) ∧ s1.finished = true)

theorem season_sim (hP : SeasonPre cfg k init') (hr : RunReach F T cfg s) :
    ∃ s1, RunReach F T (freshCfgI cfg k init') s1 ∧
      List.Forall₂ (RecSh cfg.W0.waterTable (cfg.clock.pl k) k)
        (seasonRecs (k : Int) s.daysRev) s1.daysRev ∧
      Phase cfg k init' s s1 := by
  have hv := hP.valid
  have hw := hv.wf
  induction hr with
  | init h0 =>
    rw [(runInit_ok h0).1]
    refine ⟨_, RunReach.init (runInit_fresh hP), List.Forall₂.nil, Or.inl ⟨?_, rfl⟩⟩
    show cfg.clock.season0 < (k : Int)
    rcases hw.season0_cases with ⟨e, _⟩ | ⟨e, _⟩
    · rcases hP.reset with h | h
      · rw [e]; omega
      · exact absurd e h
    · rw [e]; omega
  | @step s s' hr hp ih =>
    obtain ⟨s1, hr1, hF, hph⟩ := ih
    obtain ⟨d, hs⟩ := performR_step hp
    rcases hph with ⟨hlt, hs1⟩ | ⟨hsk, hsf, hS⟩ | ⟨hx, hf1⟩
    · -- before season `k`
      have hne : d.D.season ≠ (k : Int) := by rw [hs.season]; omega
      have hrec : seasonRecs (k : Int) s'.daysRev = seasonRecs (k : Int) s.daysRev := by
        rw [hs.days, seasonRecs_cons_ne hne]
      by_cases hlt' : s'.season < (k : Int)
      · exact ⟨s1, hr1, by rw [hrec]; exact hF, Or.inl ⟨hlt', hs1⟩⟩
      · -- the step enters season `k`
        obtain ⟨hsk, hday⟩ : s'.season = (k : Int) ∧
            s'.day = resetState cfg (cfg.seasonCrop s'.season.toNat) d.r.state := by
          rcases hs.next with ⟨e, _⟩ | ⟨e, e'⟩
          · omega
          · exact ⟨by omega, e'⟩
        have etn : s'.season.toNat = k := by rw [hsk]; simp
        have hr' : RunReach F T cfg s' := RunReach.step hr hp
        obtain ⟨ev, hre', hev'⟩ := run_refines_clock hw hP.initOK hr'
        have hreS : Reach cfg.clock ev s.clockOf :=
          runReach_clock hP.initOK hr ev
            (fun d' hd' => hev' d' (by rw [hs.days]; exact List.mem_cons_of_mem _ hd'))
        have hperf : perform cfg.clock ev s.clockOf = .ok s'.clockOf :=
          hs.clock ev (by rw [← hs.tsc]; exact hev' d (by rw [hs.days]; exact List.mem_cons_self))
        have hne' : s'.clockOf.season ≠ s.clockOf.season := by
          show s'.season ≠ s.season
          omega
        obtain ⟨_, _, htpl, hf'⟩ := season_change_resets hw hreS hperf hne'
        have htpl' : s'.clockOf.t = cfg.clock.pl k := by
          rw [htpl]; exact congrArg cfg.clock.pl etn
        have hSim := sim_at_season_start hv hre' hf' hsk htpl'
        obtain ⟨f1, f2, f3, f4⟩ := hP.fresh.flags
        have hclk1 : s1.clockOf = freshSt := by
          rw [hs1]
          unfold RunState.clockOf freshSt
          simp only [f1, f2, f3, f4, List.map_nil, List.filterMap_nil]
        have hci : CellsInv cfg d.r.state :=
          (run_cellsInv (RunReach.step hr hp)).2 d
            (by rw [hs.days]; exact List.mem_cons_self)
        have hst : StEq cfg.W0.waterTable s'.day s1.day := by
          rw [hday, hs1, etn]
          exact (resetState_stEq _ hP.off hci ⟨rfl, fun _ => rfl⟩ hP.thini).trans hP.fresh
        refine ⟨s1, hr1, by rw [hrec]; exact hF, Or.inr (Or.inl ⟨hsk, hf', ?_⟩)⟩
        refine ⟨by rw [hclk1]; exact hSim, Or.inr ⟨hst, ?_, ?_, ?_, by rw [hs1]⟩⟩
        · rw [hday]; rfl
        · rw [hday]; rfl
        · rw [hday]; rfl
    · -- inside season `k`
      obtain ⟨s1', hp1, ⟨d', d1, hd', hd1, hdk, hrec⟩, hnext⟩ :=
        step_season (init' := init') hv hP.off hP.offW hP.ct hS hp
      refine ⟨s1', RunReach.step hr1 hp1, ?_, ?_⟩
      · rw [hd', hd1, seasonRecs_cons_eq hdk]
        exact List.Forall₂.cons hrec hF
      · exact Or.inr hnext
    · -- after season `k`
      have hgt : (k : Int) < s.season := by
        rcases hx with h | ⟨_, h⟩
        · exact h
        · rw [hs.live] at h; cases h
      have hne : d.D.season ≠ (k : Int) := by rw [hs.season]; omega
      refine ⟨s1, hr1, by rw [hs.days, seasonRecs_cons_ne hne]; exact hF, Or.inr (Or.inr ⟨Or.inl ?_, hf1⟩)⟩
      rcases hs.next with ⟨e, _⟩ | ⟨e, _⟩ <;> omega

theorem season_independent (hP : SeasonPre cfg k init') (hr : RunReach F T cfg s) :
    ∃ s1, RunReach F T (freshCfgI cfg k init') s1 ∧
      List.Forall₂ (RecSh cfg.W0.waterTable (cfg.clock.pl k) k)
        (seasonRecs (k : Int) s.daysRev) s1.daysRev ∧
      (((k : Int) < s.season ∨ (s.season = (k : Int) ∧ s.finished = true)) →
        s1.finished = true) := by
  obtain ⟨s1, h1, h2, h3⟩ := season_sim hP hr
  refine ⟨s1, h1, h2, fun hx => ?_⟩
  rcases h3 with ⟨hlt, _⟩ | ⟨hsk, hsf, _⟩ | ⟨_, hf⟩
  · rcases hx with h | ⟨h, _⟩ <;> omega
  · rcases hx with h | ⟨_, h⟩
    · omega
    · rw [hsf] at h; cases h
  · exact hf

/-- `season_independent` for the fresh configuration that keeps the multi-season run's own initial
state object (`freshCfg`): the premise `FreshInit cfg k cfg.init` then says that resetting the
initial state for the crop of season `k` changes no live field. -/
theorem season_independent_same_init (hP : SeasonPre cfg k cfg.init) (hr : RunReach F T cfg s) :
    ∃ s1, RunReach F T (freshCfg cfg k) s1 ∧
      List.Forall₂ (RecSh cfg.W0.waterTable (cfg.clock.pl k) k)
        (seasonRecs (k : Int) s.daysRev) s1.daysRev ∧
      (((k : Int) < s.season ∨ (s.season = (k : Int) ∧ s.finished = true)) →
        s1.finished = true) :=
  season_independent hP hr

end main

/-! ## 8. the premise on the initial state, spelled out -/

/-- what `FreshInit` asks of the initial state object `i` of the fresh run, field by field (every
live field of `DayState'`): the profile is `thini` over the multi-season run's compartments with
cleared aeration counters (`FluxOut` free, `th_fc_Adj` free under a water table), the surface
storage is the reset value, the counters, flags and factors are the reset constants
(= the defaults of `InitialCondition.__init__`), `cc0_adj = CC0` and `HIfinal = HI0` of the crop -/
structure FreshFields (cfg : RunCfg α) (crop : CropParams α) (i : DayState' α) : Prop where
  cells : CellsEq cfg.W0.waterTable
    (setTh (cfg.init.cells.map (fun x => { x with aer := 0 })) cfg.thini) i.cells
  pond : i.pond = resetPond cfg
  zero : i.ageDays = 0 ∧ i.ageDaysNS = 0 ∧ i.aerDays = 0 ∧ i.irrCum = 0 ∧ i.delayedGdds = 0 ∧
    i.delayedCds = 0 ∧ i.pctLagPhase = 0 ∧ i.tEarlySen = 0 ∧ i.gddCum = 0 ∧ i.daySubmerged = 0 ∧
    i.irrNetCum = 0 ∧ i.dap = 0 ∧ i.ePot = 0 ∧ i.tPot = 0
  flags : i.preAdj = false ∧ i.cropMature = false ∧ i.cropDead = false ∧ i.germination = false ∧
    i.prematSenes = false ∧ i.harvestFlag = false ∧ i.protectedSeed = false
  ones : i.fPre = 1 ∧ i.fPost = 1 ∧ i.fpostDwn = 1 ∧ i.fpostUpp = 1 ∧ i.trRatio = 1 ∧ i.rCor = 1
  hi : i.fPol = 0 ∧ i.sCor1 = 0 ∧ i.sCor2 = 0 ∧ i.growthStage = 0 ∧ i.hi = 0 ∧ i.hiAdj = 0
  canopy : i.cc = 0 ∧ i.ccAdj = 0 ∧ i.ccNS = 0 ∧ i.ccAdjNS = 0 ∧ i.ccxAct = 0 ∧ i.ccxActNS = 0 ∧
    i.ccxW = 0 ∧ i.ccxWNS = 0 ∧ i.ccxEarlySen = 0 ∧ i.ccPrev = 0
  bio : i.biomass = 0 ∧ i.biomassNS = 0 ∧ i.dryYield = 0 ∧ i.freshYield = 0
  crop : i.cc0Adj = crop.cx.cc.cc0 ∧ i.hiFinal = crop.cx.hi.hi0

theorem FreshInit.of_fields {cfg : RunCfg α} {k : Nat} {i : DayState' α}
    (hoff : cfg.clock.offSeason = false) (h : FreshFields cfg (cfg.seasonCrop k) i) :
    FreshInit cfg k i := by
  obtain ⟨hc, hp, hz, hfl, ho, hh, hcan, hb, hcr⟩ := h
  cases i
  simp only at hc hp hz hfl ho hh hcan hb hcr
  obtain ⟨rfl, rfl, rfl, rfl, rfl, rfl, rfl, rfl, rfl, rfl, rfl, rfl, rfl, rfl⟩ := hz
  obtain ⟨rfl, rfl, rfl, rfl, rfl, rfl, rfl⟩ := hfl
  obtain ⟨rfl, rfl, rfl, rfl, rfl, rfl⟩ := ho
  obtain ⟨rfl, rfl, rfl, rfl, rfl, rfl⟩ := hh
  obtain ⟨rfl, rfl, rfl, rfl, rfl, rfl, rfl, rfl, rfl, rfl⟩ := hcan
  obtain ⟨rfl, rfl, rfl, rfl⟩ := hb
  obtain ⟨rfl, rfl⟩ := hcr
  subst hp
  unfold FreshInit StEq DayState'.live resetState resetStateCore
  unfold CellsEq at hc
  simp only [hoff, Bool.false_eq_true, if_false, hc]

theorem freshInit_reset (cfg : RunCfg α) (k : Nat) :
    FreshInit cfg k (resetState cfg (cfg.seasonCrop k) cfg.init) := StEq.refl _ _

/-! ## 9. the rows -/

theorem RecSh.state {wt p k : Nat} {d d1 : DayRec α} (h : RecSh wt p k d d1) :
    d.r.state = d1.r.state := by
  have := congrArg DayResult.state h.r; exact this
theorem RecSh.flux {wt p k : Nat} {d d1 : DayRec α} (h : RecSh wt p k d d1) :
    d.r.flux = { d1.r.flux with tsc := d1.D.tsc + p, season := (k : Int) } := by
  have := congrArg DayResult.flux h.r; exact this
theorem RecSh.growth {wt p k : Nat} {d d1 : DayRec α} (h : RecSh wt p k d d1) :
    d.r.growth = { d1.r.growth with tsc := d1.D.tsc + p, season := (k : Int) } := by
  have := congrArg DayResult.growth h.r; exact this
theorem RecSh.storage {wt p k : Nat} {d d1 : DayRec α} (h : RecSh wt p k d d1) :
    d.r.storage = { d1.r.storage with tsc := d1.D.tsc + p } := by
  have := congrArg DayResult.storage h.r; exact this
theorem RecSh.summary {wt p k : Nat} {d d1 : DayRec α} (h : RecSh wt p k d d1) :
    d.r.summary = d1.r.summary.map (fun x => { x with season := (k : Int), tsc := d1.D.tsc + p }) := by
  have := congrArg DayResult.summary h.r; exact this
theorem RecSh.water {wt p k : Nat} {d d1 : DayRec α} (h : RecSh wt p k d d1) :
    d.r.water = d1.r.water ∧ d.r.crop = d1.r.crop ∧ d.r.irrTot = d1.r.irrTot ∧
      d.r.endc = d1.r.endc := by
  have h1 := congrArg DayResult.water h.r
  have h2 := congrArg DayResult.crop h.r
  have h3 := congrArg DayResult.irrTot h.r
  have h4 := congrArg DayResult.endc h.r
  exact ⟨h1, h2, h3, h4⟩

/-! ## 10. season `k` of two runs whose forcing differs only before it -/

/-- two day records with the same parameters, inputs, live start state and result -/
structure RecSame (wt : Nat) (d d2 : DayRec α) : Prop where
  P : d.P = d2.P
  st : StEq wt d.st d2.st
  D : d.D = d2.D
  r : d.r.noFlux = d2.r.noFlux

theorem RecSh.same {wt p k : Nat} {d d2 d1 : DayRec α} (h : RecSh wt p k d d1)
    (h2 : RecSh wt p k d2 d1) : RecSame wt d d2 :=
  ⟨h.P.trans h2.P.symm, h.st.trans h2.st.symm, h.D.trans h2.D.symm, h.r.trans h2.r.symm⟩

section noleak
variable {F : Fn α} {T : TrigFn α} {cfg : RunCfg α} {k : Nat} {init' : DayState' α}
  {s s2 : RunState α}

theorem freshCfgI_withForcing {w2 : Nat → Weather α} {z2 : Nat → α}
    (hw2 : ∀ t, cfg.clock.pl k ≤ t → w2 t = cfg.weather t)
    (hz2 : ∀ t, cfg.clock.pl k ≤ t → z2 t = cfg.zgw t) :
    freshCfgI (withForcing cfg w2 z2) k init' = freshCfgI cfg k init' := by
  have e1 : (fun t => w2 (t + cfg.clock.pl k)) = fun t => cfg.weather (t + cfg.clock.pl k) :=
    funext (fun t => hw2 _ (by omega))
  have e2 : (fun t => z2 (t + cfg.clock.pl k)) = fun t => cfg.zgw (t + cfg.clock.pl k) :=
    funext (fun t => hz2 _ (by omega))
  unfold freshCfgI withForcing
  simp only [e1, e2]

theorem SeasonPre.withForcing (hP : SeasonPre cfg k init') (w2 : Nat → Weather α) (z2 : Nat → α) :
    SeasonPre (withForcing cfg w2 z2) k init' :=
  { hP with initOK := ⟨hP.initOK.dap, hP.initOK.mature, hP.initOK.dead, hP.initOK.flag⟩ }

/-- `C08.no_state_leaks_into_later_season` for two runs that have both completed season `k` -/
theorem no_leak_completed {w2 : Nat → Weather α} {z2 : Nat → α} (hP : SeasonPre cfg k init')
    (hw2 : ∀ t, cfg.clock.pl k ≤ t → w2 t = cfg.weather t)
    (hz2 : ∀ t, cfg.clock.pl k ≤ t → z2 t = cfg.zgw t)
    (hr : RunReach F T cfg s) (hr2 : RunReach F T (withForcing cfg w2 z2) s2)
    (hdone : (k : Int) < s.season ∨ (s.season = (k : Int) ∧ s.finished = true))
    (hdone2 : (k : Int) < s2.season ∨ (s2.season = (k : Int) ∧ s2.finished = true)) :
    List.Forall₂ (RecSame cfg.W0.waterTable) (seasonRecs (k : Int) s.daysRev)
      (seasonRecs (k : Int) s2.daysRev) := by
  obtain ⟨s1, hr1, hF, hf⟩ := season_independent hP hr
  obtain ⟨s1', hr1', hF', hf'⟩ := season_independent (hP.withForcing w2 z2) hr2
  rw [freshCfgI_withForcing hw2 hz2] at hr1'
  have e := reach_unique_of_finished hr1 hr1' (hf hdone) (hf' hdone2)
  subst e
  exact forall₂_join (fun a b c h h' => h.same h') hF hF'

end noleak

end Aqua

#print axioms Aqua.resetState_stEq
#print axioms Aqua.step_season
#print axioms Aqua.season_independent
#print axioms Aqua.season_independent_same_init
#print axioms Aqua.FreshInit.of_fields
#print axioms Aqua.no_leak_completed
