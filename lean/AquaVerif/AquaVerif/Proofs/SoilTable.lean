import AquaVerif.Generated.SoilTable
/-
What the proofs ask of a row of the table of built-in soils (`Generated.builtinLayersGen`) beyond the
generated obligation `LayerOK` (`Generated.builtinLayersGen_ok`).  A file of its own because the
generated table imports `Proofs/SoilBuild.lean`, and both the light `Properties/C18.lean` and the heavy
`Proofs/CatalogueSoil.lean` (which imports the run theorems) use the obligation.
-/

namespace Aqua
open Aqua.Generated

/-- the prime: in addition to `LayerOK`, not a variant of it.  `th_fc < th_s` strictly (`DrainPre`), and
a conductivity at which neither capillary-rise formula gives `aCR = 0` (`crA_loamy_zero_iff`,
`crA_silty_zero_iff`) -/
def LayerOK' (l : BLayer) : Prop := l.fc < l.s ∧ l.ksat ≠ 5540 ∧ l.ksat ≠ 795.75

instance (l : BLayer) : Decidable (LayerOK' l) := by unfold LayerOK'; infer_instance

theorem builtinLayersGen_ok' : ∀ l ∈ builtinLayersGen, LayerOK' l := by
  decide +kernel

end Aqua

#print axioms Aqua.builtinLayersGen_ok'
