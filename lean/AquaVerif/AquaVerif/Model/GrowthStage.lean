import AquaVerif.Model.Num
/-
Model of `aquacrop/solution/growth_stage.py`: growth stage 1…4 from the (delay-adjusted) time
since planting, used only to select the soil-moisture threshold of irrigation method 1.
Off season the stage is the dummy value 0.

`CalendarType` other than 1/2 leaves `tAdj` unbound (`UnboundLocalError`) → `none`.
The last Python branch is `elif tAdj > Senescence` (not `else`): when no comparison holds
(only possible with NaN) the stage keeps its previous value — mirrored by the `old` argument.
-/

namespace Aqua
section
variable {α : Type} [Add α] [Sub α] [Mul α] [Div α] [Neg α] [LT α] [LE α]
  [DecidableLT α] [DecidableLE α]

/-- the three thresholds: `Canopy10Pct`, `MaxCanopy`, `Senescence` -/
def stageOf (tAdj canopy10 maxCanopy senescence : α) (old : Nat) : Nat :=
  if tAdj ≤ canopy10 then 1
  else if tAdj ≤ maxCanopy then 2
  else if tAdj ≤ senescence then 3
  else if senescence < tAdj then 4
  else old

/-- `growth_stage(Crop, NewCond, growing_season)` → new `NewCond.growth_stage`. -/
def growthStage (calType : Nat) (dap delayedCds gddCum delayedGdds : α)
    (canopy10 maxCanopy senescence : α) (gs : Bool) (old : Nat) : Option Nat :=
  if gs then
    if calType = 1 then some (stageOf (dap - delayedCds) canopy10 maxCanopy senescence old)
    else if calType = 2 then some (stageOf (gddCum - delayedGdds) canopy10 maxCanopy senescence old)
    else none
  else some 0

end
end Aqua
