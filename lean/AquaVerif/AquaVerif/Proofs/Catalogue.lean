import AquaVerif.Model.CropResp
import AquaVerif.Proofs.RealInstance
/-
`RealPremises c`: the premises of the real-number theorems about the response functions, for a crop
record of rationals cast to `ℝ`.  They follow from the decidable predicate `ResponseOK`
(`Model/CropResp.lean`): `C17.catalogue_premises_imply`.
-/

namespace Aqua
open Aqua.Response

structure RealPremises (c : CropResp) : Prop where
  thr_ord : ∀ i : Fin 4, ((c.pUp i : ℚ) : ℝ) ≤ ((c.pLo i : ℚ) : ℝ)
  thr_le_one : ∀ i : Fin 4, ((c.pLo i : ℚ) : ℝ) ≤ 1
  shape_ne : ∀ i : Fin 4, i.val < 3 → ((c.fshapeW i : ℚ) : ℝ) ≠ 0
  tbase_le : ((c.tbase : ℚ) : ℝ) ≤ ((c.tupp : ℚ) : ℝ)
  cc0_pos : (0 : ℝ) < ((c.cc0 : ℚ) : ℝ)
  ccx_pos : (0 : ℝ) < ((c.ccx : ℚ) : ℝ)
  ccx_le : ((c.ccx : ℚ) : ℝ) ≤ 1
  cgc_pos : (0 : ℝ) < ((c.cgc : ℚ) : ℝ)
  cdc_nn : (0 : ℝ) ≤ ((c.cdc : ℚ) : ℝ)
  beta_nn : (0 : ℝ) ≤ ((c.beta : ℚ) : ℝ)
  beta_le : ((c.beta : ℚ) : ℝ) ≤ 100
  fshapeB_nn : (0 : ℝ) ≤ ((c.fshapeB : ℚ) : ℝ)
  co2 : CO2Params (369.41 : ℝ) ((c.bsted : ℚ) : ℝ) ((c.bface : ℚ) : ℝ) ((c.fsink : ℚ) : ℝ)

end Aqua
