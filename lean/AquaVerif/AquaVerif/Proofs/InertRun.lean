import AquaVerif.Proofs.InertRunRel
/-
**Property C20 as a relational theorem about `runModel`**.

`RunState.view` is what a run shows: the clock position, the state object and, for every simulated
day, the state it started from, its forcing (without the schedule entry, which is a parameter),
and the complete `DayResult` — the three table rows, the new state, the summary row, the ghost
records and the trace of all process outputs — without the three ghost branch ids.  The parameter
records `DayRec.P` of the two runs necessarily differ and are not part of the view.

* `RunSim F T Inv cfg cfg'`: what two configurations have to share — everything except the two
  irrigation records and the two field-management records, which must be indistinguishable in the
  sense of `IrrSim` / `FmSim` on every state satisfying the run invariant `Inv`
  (the fallow irrigation record is **not constrained at all**: it is used only before the first
  season, where no day is a growing-season day — `irrSim_offseason`);
* `performR_sim`, **`run_sim`**: the views of the two runs coincide for every
  number of steps, error outcomes included; `reach_sim`: the same for `RunReach`;
* `InertEq cfg cfg'` — the explicit list of inert parameters with their guards — and
  **`run_inert`**; `C20.day_inert` is the day-level statement;
* `view_tables`: equal views have equal `water_storage`, `water_flux`, `crop_growth` tables,
  summary table, final state and clock.
-/

set_option linter.unusedSectionVars false
namespace Aqua
open Aqua.Clock
variable {α : Type} [Field α] [LinearOrder α] [IsStrictOrderedRing α]

/-! ## 1. what a run shows -/

/-- one simulated day without the parameter record, the schedule entry and the ghost branch ids -/
def DayRec.view (d : DayRec α) : DayState' α × DayIn' α × DayResult α :=
  (d.st, { d.D with sched := none }, d.r.noBranch)

structure RunView (α : Type) where
  t : Nat
  season : Int
  finished : Bool
  day : DayState' α
  daysRev : List (DayState' α × DayIn' α × DayResult α)

def RunState.view (s : RunState α) : RunView α :=
  { t := s.t, season := s.season, finished := s.finished, day := s.day,
    daysRev := s.daysRev.map DayRec.view }

theorem DayResult.noBranch_state (r : DayResult α) : r.noBranch.state = r.state := rfl

theorem clockRow_view (d : DayRec α) :
    d.clockRow = { t := d.view.2.1.tsc, season := d.view.2.1.season, dap := d.view.2.2.state.dap,
                   gs := d.view.2.1.gs, mature := d.view.2.2.state.cropMature,
                   dead := d.view.2.2.state.cropDead, endc := d.view.2.2.endc } := rfl

theorem clockSummary_view (d : DayRec α) :
    d.clockSummary = d.view.2.2.summary.map (fun x => (x.season, x.tsc)) := rfl

theorem view_fields {s s' : RunState α} (h : s'.view = s.view) :
    s'.t = s.t ∧ s'.season = s.season ∧ s'.finished = s.finished ∧ s'.day = s.day ∧
      s'.daysRev.map DayRec.view = s.daysRev.map DayRec.view :=
  ⟨congrArg RunView.t h, congrArg RunView.season h, congrArg RunView.finished h,
    congrArg RunView.day h, congrArg RunView.daysRev h⟩

theorem clockOf_of_view {s s' : RunState α} (h : s'.view = s.view) : s'.clockOf = s.clockOf := by
  obtain ⟨h1, h2, h3, h4, h5⟩ := view_fields h
  unfold RunState.clockOf
  rw [h1, h2, h3, h4,
    map_eq_of_map_eq (fun d d' hd => by rw [clockRow_view, clockRow_view, hd]) h5,
    filterMap_eq_of_map_eq (fun d d' hd => by rw [clockSummary_view, clockSummary_view, hd]) h5]

theorem view_tables {s s' : RunState α} (h : s'.view = s.view) :
    s'.storageTable = s.storageTable ∧ s'.fluxTable = s.fluxTable ∧
    s'.growthTable = s.growthTable ∧ s'.summaryTable = s.summaryTable ∧
    s'.day = s.day ∧ s'.t = s.t ∧ s'.season = s.season ∧ s'.finished = s.finished := by
  obtain ⟨h1, h2, h3, h4, h5⟩ := view_fields h
  have h6 : s'.daysRev.reverse.map DayRec.view = s.daysRev.reverse.map DayRec.view := by
    rw [List.map_reverse, List.map_reverse, h5]
  exact ⟨map_eq_of_map_eq (fun _ _ hd => congrArg (·.2.2.storage) hd) h6,
    map_eq_of_map_eq (fun _ _ hd => congrArg (·.2.2.flux) hd) h6,
    map_eq_of_map_eq (fun _ _ hd => congrArg (·.2.2.growth) hd) h6,
    filterMap_eq_of_map_eq (fun _ _ hd => congrArg (·.2.2.summary) hd) h6, h4, h1, h2, h3⟩

/-! ## 2. two configurations the run cannot tell apart -/

/-- what `cfg` and `cfg'` share.  `Inv` is an invariant of the state object along the runs of
`cfg` (trivial for the inert parameters; `0 ≤ irr_cum`, `growth_stage ≤ 4` for the neutral
irrigation settings). -/
structure RunSim (F : Fn α) (T : TrigFn α) (Inv : DayState' α → Prop) (cfg cfg' : RunCfg α) :
    Prop where
  clock : cfg'.clock = cfg.clock
  waterTable : cfg'.W0.waterTable = cfg.W0.waterTable
  soil : cfg'.W0.soil = cfg.W0.soil
  evapTimeSteps : cfg'.W0.evapTimeSteps = cfg.W0.evapTimeSteps
  simOffSeason : cfg'.W0.simOffSeason = cfg.W0.simOffSeason
  co2Ref : cfg'.W0.co2Ref = cfg.W0.co2Ref
  zGerm : cfg'.zGerm = cfg.zGerm
  seasonCrop : ∀ n, cfg'.seasonCrop n = cfg.seasonCrop n
  /-- `Aer`, `Zmin` of the fallow filler crop are overwritten -/
  fallowCrop : fallowAdjust cfg'.fallowCrop = fallowAdjust cfg.fallowCrop
  co2Cur : ∀ k, cfg'.co2Cur k = cfg.co2Cur k
  weather : ∀ t, cfg'.weather t = cfg.weather t
  /-- the water-table series is read only with a water table -/
  zgw : cfg.W0.waterTable = 1 → ∀ t, cfg'.zgw t = cfg.zgw t
  /-- `thini` and the initial bund water are restored only when the off-season is skipped -/
  thini : cfg.clock.offSeason = false → cfg'.thini = cfg.thini
  pond0 : cfg.clock.offSeason = false → resetPond cfg' = resetPond cfg
  irr : ∀ st t gs, Inv st →
    IrrSim F gs st.growthStage st.irrCum cfg.irr.irr cfg.irr.netIrrSMT cfg.irr.wetSurf
      (cfg.irr.sched t) cfg'.irr.irr cfg'.irr.netIrrSMT cfg'.irr.wetSurf (cfg'.irr.sched t)
  fm : FmSim F cfg.fm cfg'.fm
  fallowFm : FmSim F cfg.fallowFm cfg'.fallowFm
  invDay : ∀ season gs st D r, Inv st → fullDay F T (paramsOf cfg season gs) st D = .ok r →
    Inv r.state
  invReset : ∀ crop st, Inv st → Inv (resetState cfg crop st)

section sim
variable {F : Fn α} {T : TrigFn α} {Inv : DayState' α → Prop} {cfg cfg' : RunCfg α}

theorem RunSim.cropOf (h : RunSim F T Inv cfg cfg') (season : Int) :
    cropOf cfg' season = cropOf cfg season := by
  unfold Aqua.cropOf
  rw [h.seasonCrop, h.fallowCrop]

theorem RunSim.paramsOf (h : RunSim F T Inv cfg cfg') (season : Int) (gs : Bool) :
    paramsOf cfg' season gs =
      (paramsOf cfg season gs).withMgmt (irrSetOf cfg' season).irr (irrSetOf cfg' season).netIrrSMT
        (irrSetOf cfg' season).wetSurf (if gs then cfg'.fm else cfg'.fallowFm) := by
  unfold Aqua.paramsOf irrSetOf
  simp only [h.cropOf, h.waterTable, h.soil, h.evapTimeSteps, h.simOffSeason, h.co2Ref, h.zGerm,
    h.co2Cur]

theorem RunSim.dayInOf (h : RunSim F T Inv cfg cfg') {s s' : RunState α} (hv : s'.view = s.view)
    (ph : Option (Nat × Int)) :
    dayInOf cfg' s' ph = { dayInOf cfg s ph with sched := (irrSetOf cfg' s.season).sched s.t } := by
  obtain ⟨h1, h2, _, h4, _⟩ := view_fields hv
  rw [← dayInOf_congr ph h.waterTable (h.weather _) (fun hw => h.zgw hw _)]
  unfold Aqua.dayInOf
  rw [h1, h2, h4]

theorem RunSim.resetState (h : RunSim F T Inv cfg cfg') (crop : CropParams α) (st : DayState' α) :
    resetState cfg' crop st = resetState cfg crop st := by
  unfold Aqua.resetState
  rw [h.clock]
  cases ho : cfg.clock.offSeason with
  | true => rfl
  | false => rw [h.thini ho, h.pond0 ho]

theorem RunSim.fmSim (h : RunSim F T Inv cfg cfg') (gs : Bool) :
    FmSim F (if gs then cfg.fm else cfg.fallowFm) (if gs then cfg'.fm else cfg'.fallowFm) := by
  cases gs
  · exact h.fallowFm
  · exact h.fm

theorem RunSim.irrSim (h : RunSim F T Inv cfg cfg') {s : RunState α} {ph : Option (Nat × Int)}
    (hph : seasonInfo cfg.clock s.season = .ok ph) (hI : Inv s.day) :
    IrrSim F (Aqua.dayInOf cfg s ph).gs s.day.growthStage s.day.irrCum
      (irrSetOf cfg s.season).irr (irrSetOf cfg s.season).netIrrSMT (irrSetOf cfg s.season).wetSurf
      ((irrSetOf cfg s.season).sched s.t)
      (irrSetOf cfg' s.season).irr (irrSetOf cfg' s.season).netIrrSMT
      (irrSetOf cfg' s.season).wetSurf ((irrSetOf cfg' s.season).sched s.t) := by
  by_cases h0 : 0 ≤ s.season
  · rw [irrSetOf_of_nonneg (cfg := cfg) h0, irrSetOf_of_nonneg (cfg := cfg') h0]
    exact h.irr s.day s.t _ hI
  · have hnone : ph = none := by
      have := seasonInfo_isSome hph
      rw [decide_eq_false h0] at this
      exact Option.isNone_iff_eq_none.mp (Option.isSome_eq_false_iff.mp this)
    rw [hnone]
    exact irrSim_offseason

theorem finish_sim (h : RunSim F T Inv cfg cfg') {s s' : RunState α} (hv : s'.view = s.view) :
    (updateTimeR cfg' (checkFinishedR cfg' s')).map RunState.view =
      (updateTimeR cfg (checkFinishedR cfg s)).map RunState.view := by
  have hc : s'.clockOf = s.clockOf := clockOf_of_view hv
  have hv2 : (checkFinishedR cfg' s').view = (checkFinishedR cfg s).view := by
    obtain ⟨h1, h2, _, h4, h5⟩ := view_fields hv
    unfold checkFinishedR RunState.view
    simp only [h.clock, hc, h1, h2, h4, h5]
  have hc2 : (checkFinishedR cfg' s').clockOf = (checkFinishedR cfg s).clockOf :=
    clockOf_of_view hv2
  generalize checkFinishedR cfg' s' = u' at hv2 hc2 ⊢
  generalize checkFinishedR cfg s = u at hv2 hc2 ⊢
  unfold updateTimeR
  rw [h.clock, hc2]
  obtain ⟨_, h2, h3, h4, h5⟩ := view_fields hv2
  cases updateTime cfg.clock u.clockOf with
  | error e => rfl
  | ok c' =>
    simp only [h2]
    by_cases hs : c'.season = u.season
    · simp only [if_pos hs, Except.map, RunState.view, h3, h4, h5]
    · simp only [if_neg hs, Except.map, RunState.view, h3, h4, h5, h.resetState, h.seasonCrop]

theorem performR_sim (h : RunSim F T Inv cfg cfg') {s s' : RunState α} (hv : s'.view = s.view)
    (hI : Inv s.day) :
    Steps.Rel (fun s s' : RunState α => s'.view = s.view ∧ Inv s.day) (performR F T cfg s)
      (performR F T cfg' s') := by
  obtain ⟨h1, h2, h3, h4, h5⟩ := view_fields hv
  refine Steps.Rel.of_map_eq ?_ ?_
  · unfold performR
    rw [h3, h.clock, h2]
    by_cases hf : s.finished = true
    · rw [if_pos hf, if_pos hf]
    rw [if_neg hf, if_neg hf]
    cases hph : seasonInfo cfg.clock s.season with
    | error e => rfl
    | ok ph =>
      simp only []
      have hD := h.dayInOf hv ph
      have hsim : (fullDay F T (paramsOf cfg' s'.season (dayInOf cfg' s' ph).gs) s'.day
            (dayInOf cfg' s' ph)).map DayResult.noBranch =
          (fullDay F T (paramsOf cfg s.season (dayInOf cfg s ph).gs) s.day
            (dayInOf cfg s ph)).map DayResult.noBranch := by
        rw [hD, h2, h4, h.paramsOf]
        exact fullDay_of_sims (h.irrSim hph hI) (h.fmSim _)
      unfold solution
      simp only []
      rcases except_map_eq hsim with ⟨e, hr', hr⟩ | ⟨r, r', hr', hr, hrr⟩
      · rw [hr', hr]
      · rw [hr', hr]
        simp only []
        apply finish_sim h
        have hst : r'.state = r.state := (congrArg DayResult.state hrr :)
        unfold RunState.view
        simp only [List.map_cons, RunView.mk.injEq, List.cons.injEq, h1, h2, h3, h5, hst,
          and_true, true_and]
        unfold DayRec.view
        simp only [hrr, h4, hD]
  · intro s1 hs1
    obtain ⟨d, hs⟩ := performR_step hs1
    have hd := hs.day
    rw [hs.P, hs.st] at hd
    have hI2 : Inv d.r.state := h.invDay _ _ _ _ _ hI hd
    rcases hs.next with ⟨_, e⟩ | ⟨_, e⟩
    · rw [e]; exact hI2
    · rw [e]; exact h.invReset _ _ hI2

theorem run_sim (h : RunSim F T Inv cfg cfg') (k : Nat) {s : RunState α} (hI : Inv s.day) :
    (runModel F T cfg' k s).map RunState.view = (runModel F T cfg k s).map RunState.view := by
  rw [runModelR_eq, runModelR_eq]
  exact (Steps.Sim.model ⟨fun hR => performR_sim h hR.1 hR.2,
    fun hR => congrArg RunView.finished hR.1⟩ _ k ⟨rfl, hI⟩).map_eq fun _ _ hR => hR.1

theorem reach_sim (h : RunSim F T Inv cfg cfg') (hinit : cfg'.init = cfg.init)
    (hI0 : Inv cfg.init) {s : RunState α} (hr : RunReach F T cfg s) :
    Inv s.day ∧ ∃ s', RunReach F T cfg' s' ∧ s'.view = s.view := by
  obtain ⟨s', hr', hv, hI⟩ := hr.sim (R := fun s s' => s'.view = s.view ∧ Inv s.day)
    (by rw [runInit_congr h.clock hinit]
        exact Steps.Rel.of_map_eq rfl fun a h0 => by rw [(runInit_ok h0).1]; exact hI0)
    (fun hR => performR_sim h hR.1 hR.2)
  exact ⟨hI, s', hr', hv⟩

end sim

/-! ## 3. the inert parameters -/

/-- **inert parameters of an irrigation record** (`IrrMngt` with its schedule): `IrrInert`
(`Proofs/InertRunRel.lean`, where each guard is explained) with the whole schedule in place of the
day's entry -/
structure IrrSetInert (I I' : IrrSet α) : Prop where
  method : I'.irr.method = I.irr.method
  smt : I.irr.method = 1 → I'.irr.smt = I.irr.smt
  interval : I.irr.method = 2 → I'.irr.interval = I.irr.interval
  sched : I.irr.method = 3 → ∀ t, I'.sched t = I.sched t
  depth : I.irr.method = 5 → I'.irr.depth = I.irr.depth
  netIrrSMT : I.irr.method = 4 → I'.netIrrSMT = I.netIrrSMT
  appEff : I.irr.method ≠ 0 → I.irr.method ≠ 4 → I'.irr.appEff = I.irr.appEff
  maxIrr : I.irr.method ≠ 0 → I.irr.method ≠ 4 → I'.irr.maxIrr = I.irr.maxIrr
  maxSeason : I.irr.method ≠ 0 → I.irr.method ≠ 4 → I'.irr.maxSeason = I.irr.maxSeason
  wetSurf : I.irr.method ≠ 0 → I.irr.method ≠ 4 → I'.wetSurf = I.wetSurf

theorem IrrSetInert.day {I I' : IrrSet α} (h : IrrSetInert I I') (t : Nat) :
    IrrInert I.irr I.netIrrSMT I.wetSurf (I.sched t) I'.irr I'.netIrrSMT I'.wetSurf (I'.sched t) :=
  ⟨h.method, h.smt, h.interval, fun h3 => h.sched h3 t, h.depth, h.netIrrSMT, h.appEff, h.maxIrr,
   h.maxSeason, h.wetSurf⟩

/-- **`InertEq cfg cfg'`: the two configurations agree everywhere except on parameters that are
inert under `cfg`'s own switches.**

Free (not constrained at all): the whole fallow irrigation record `fallowIrr` (used only before
the first season, when no day is a growing-season day); `Aer` and `Zmin` of the fallow filler crop
(overwritten); the fields `crop`, `irr`, `netIrrSMT`, `wetSurf`, `co2Cur` of `W0` (overwritten per
day).  Guarded: see `IrrSetInert`, `FmInert`, and the fields `zgw`, `thini`, `bundWater` below.
`init` is shared: what `read_model_initial_conditions` makes of `bund_water`, `z_bund` and the
initial water contents is not analysed here. -/
structure InertEq (cfg cfg' : RunCfg α) : Prop where
  clock : cfg'.clock = cfg.clock
  waterTable : cfg'.W0.waterTable = cfg.W0.waterTable
  soil : cfg'.W0.soil = cfg.W0.soil
  evapTimeSteps : cfg'.W0.evapTimeSteps = cfg.W0.evapTimeSteps
  simOffSeason : cfg'.W0.simOffSeason = cfg.W0.simOffSeason
  co2Ref : cfg'.W0.co2Ref = cfg.W0.co2Ref
  zGerm : cfg'.zGerm = cfg.zGerm
  seasonCrop : ∀ n, cfg'.seasonCrop n = cfg.seasonCrop n
  fallowCrop : fallowAdjust cfg'.fallowCrop = fallowAdjust cfg.fallowCrop
  co2Cur : ∀ k, cfg'.co2Cur k = cfg.co2Cur k
  weather : ∀ t, cfg'.weather t = cfg.weather t
  init : cfg'.init = cfg.init
  /-- the water-table series: only with a water table -/
  zgw : cfg.W0.waterTable = 1 → ∀ t, cfg'.zgw t = cfg.zgw t
  /-- `thini` at a season start: only when the off-season is not simulated -/
  thini : cfg.clock.offSeason = false → cfg'.thini = cfg.thini
  /-- `bund_water` at a season start: only when the off-season is not simulated and with bunds
  higher than 0.001 mm (its use by `read_model_initial_conditions` is part of `init`) -/
  bundWater : cfg.clock.offSeason = false → cfg.fm.bunds = true → 0.001 < cfg.fm.zBund →
    cfg'.bundWater = cfg.bundWater
  irr : IrrSetInert cfg.irr cfg'.irr
  fm : FmInert cfg.fm cfg'.fm
  fallowFm : FmInert cfg.fallowFm cfg'.fallowFm

section inert
variable {F : Fn α} {T : TrigFn α} {cfg cfg' : RunCfg α}

theorem resetPond_of_fmSim (hF : FmSim F cfg.fm cfg'.fm)
    (hb : cfg.fm.bunds = true → 0.001 < cfg.fm.zBund → cfg'.bundWater = cfg.bundWater) :
    resetPond cfg' = resetPond cfg := by
  unfold resetPond
  rw [hF.pond0]
  unfold resetPondOf
  by_cases hc : cfg.fm.bunds = true ∧ 0.001 < cfg.fm.zBund
  · rw [if_pos hc, if_pos hc, hb hc.1 hc.2]
  · rw [if_neg hc, if_neg hc]

theorem InertEq.runSim (h : InertEq cfg cfg') : RunSim F T (fun _ => True) cfg cfg' :=
  { clock := h.clock, waterTable := h.waterTable, soil := h.soil,
    evapTimeSteps := h.evapTimeSteps, simOffSeason := h.simOffSeason, co2Ref := h.co2Ref,
    zGerm := h.zGerm, seasonCrop := h.seasonCrop, fallowCrop := h.fallowCrop, co2Cur := h.co2Cur,
    weather := h.weather, zgw := h.zgw, thini := h.thini,
    pond0 := fun ho => resetPond_of_fmSim (F := F) (fmSim_of_inert F h.fm) (h.bundWater ho),
    irr := fun _ t gs _ => irrSim_of_inert F gs _ _ (h.irr.day t),
    fm := fmSim_of_inert F h.fm, fallowFm := fmSim_of_inert F h.fallowFm,
    invDay := fun _ _ _ _ _ _ _ => trivial, invReset := fun _ _ _ => trivial }

theorem run_inert (h : InertEq cfg cfg') (k : Nat) (s : RunState α) :
    (runModel F T cfg' k s).map RunState.view = (runModel F T cfg k s).map RunState.view :=
  run_sim (h.runSim (F := F) (T := T)) k trivial

theorem runInit_inert (h : InertEq cfg cfg') : runInit cfg' = runInit cfg :=
  runInit_congr h.clock h.init

theorem reach_inert (h : InertEq cfg cfg') {s : RunState α} (hr : RunReach F T cfg s) :
    ∃ s', RunReach F T cfg' s' ∧ s'.view = s.view :=
  (reach_sim (h.runSim (F := F) (T := T)) h.init trivial hr).2

theorem run_inert_tables (h : InertEq cfg cfg') {k : Nat} {s r : RunState α}
    (hr : runModel F T cfg k s = .ok r) :
    ∃ r', runModel F T cfg' k s = .ok r' ∧
      r'.storageTable = r.storageTable ∧ r'.fluxTable = r.fluxTable ∧
      r'.growthTable = r.growthTable ∧ r'.summaryTable = r.summaryTable ∧
      r'.day = r.day ∧ r'.t = r.t ∧ r'.season = r.season ∧ r'.finished = r.finished := by
  have := run_inert (F := F) (T := T) h k s
  rw [hr] at this
  obtain ⟨r', hr', hv⟩ := except_map_eq_ok this
  exact ⟨r', hr', view_tables hv⟩

theorem run_inert_error (h : InertEq cfg cfg') {k : Nat} {s : RunState α} {e : String}
    (hr : runModel F T cfg k s = .error e) : runModel F T cfg' k s = .error e := by
  have := run_inert (F := F) (T := T) h k s
  rw [hr] at this
  rcases except_map_eq this with ⟨e', hr', h0⟩ | ⟨_, _, _, h0, _⟩
  · cases h0; exact hr'
  · cases h0

end inert

/-! ## 4. the premise of the day-level statement `C20.day_inert` -/

/-- the day-level version of `InertEq`: everything but the management records is shared; the
irrigation record (with the day's schedule entry) is constrained in the growing season only -/
structure DayInert (P P' : DayParams α) (D D' : DayIn' α) : Prop where
  cx : P'.cx = P.cx
  zGerm : P'.zGerm = P.zGerm
  waterTable : P'.W.waterTable = P.W.waterTable
  soil : P'.W.soil = P.W.soil
  crop : P'.W.crop = P.W.crop
  evapTimeSteps : P'.W.evapTimeSteps = P.W.evapTimeSteps
  simOffSeason : P'.W.simOffSeason = P.W.simOffSeason
  co2Cur : P'.W.co2Cur = P.W.co2Cur
  co2Ref : P'.W.co2Ref = P.W.co2Ref
  day : D' = { D with sched := D'.sched }
  irr : D.gs = true → IrrInert P.W.irr P.W.netIrrSMT P.W.wetSurf D.sched
    P'.W.irr P'.W.netIrrSMT P'.W.wetSurf D'.sched
  fm : FmInert P.fm P'.fm

end Aqua
