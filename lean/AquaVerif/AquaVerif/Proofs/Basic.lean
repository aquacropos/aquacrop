import AquaVerif.Model.Profile
import AquaVerif.Proofs.ListBasic
import Mathlib.Algebra.Order.Field.Basic
import Mathlib.Tactic.Ring
import Mathlib.Tactic.FieldSimp
import Mathlib.Tactic.Linarith
import Mathlib.Tactic.LinearCombination
import Mathlib.Tactic.Positivity
import Mathlib.Tactic.NormNum
import Mathlib.Tactic.NormNum.OfScientific
/-
Shared facts for the proof files over the ordered field: the model's `pmax`/`pmin` and hand-written
conditionals are the lattice `max`/`min`, lists related element by element (`List.Forall₂`),
well-formedness predicates for compartments and cells, insertion sort by a key (`insertKey`),
storage, convex combinations.  What needs core Lean only (`Except`, `ite_ind`, `Sat`, `okAnd`,
filters) is in `Proofs/ListBasic.lean`.  The Mathlib tactics imported above (`ring`,
`field_simp`, `linear_combination`, `positivity`, `norm_num`) are not used here: the proof files
over the field get them through this file.

All proofs are carried out for an arbitrary linearly ordered field `α`.
-/

set_option linter.unusedSectionVars false
namespace Aqua
variable {α : Type} [Field α] [LinearOrder α] [IsStrictOrderedRing α]

theorem pmax_eq (a b : α) : pmax a b = max a b := by
  unfold pmax; split
  · rename_i h; exact (max_eq_right (le_of_lt h)).symm
  · rename_i h; exact (max_eq_left (not_lt.mp h)).symm

theorem pmin_eq (a b : α) : pmin a b = min a b := by
  unfold pmin; split
  · rename_i h; exact (min_eq_right (le_of_lt h)).symm
  · rename_i h; exact (min_eq_left (not_lt.mp h)).symm

/-- the Python `a if a < b else b` -/
theorem ite_lt_eq_min (a b : α) : (if a < b then a else b) = min a b :=
  (pmin_eq b a).trans (min_comm b a)

/-- the Python `0 if x < 0 else x` (`np.maximum(x, 0)`) -/
theorem ite_lt_zero_eq_max (x : α) : (if x < 0 then 0 else x) = max x 0 :=
  (pmax_eq x 0).symm ▸ rfl

theorem pmin_le_left (a b : α) : pmin a b ≤ a := pmin_eq a b ▸ min_le_left a b

theorem le_pmax_left (a b : α) : a ≤ pmax a b := pmax_eq a b ▸ le_max_left a b

theorem pmax_le {a b c : α} (h1 : a ≤ c) (h2 : b ≤ c) : pmax a b ≤ c := pmax_eq a b ▸ max_le h1 h2

theorem pmax_self (a : α) : pmax a a = a := (pmax_eq a a).trans (max_self a)

/-- Well-formed compartment: the hydraulic ordering the soil builder guarantees (C18). -/
structure Comp.WF (c : Comp α) : Prop where
  dz_pos   : 0 < c.dz
  dry_pos  : 0 ≤ c.thDry
  dry_wp   : c.thDry ≤ c.thWP
  wp_fc    : c.thWP < c.thFC
  fc_s     : c.thFC ≤ c.thS
  tau_nn   : 0 ≤ c.tau
  tau_le   : c.tau ≤ 1
  ksat_nn  : 0 ≤ c.ksat

/-- Cell state within physical limits (the invariant of C03) with a consistent adjusted
field capacity (C19). -/
structure Cell.Inv (x : Cell α) : Prop where
  wf     : x.c.WF
  th_lo  : x.c.thDry ≤ x.th
  th_hi  : x.th ≤ x.c.thS
  fc_lo  : x.c.thFC ≤ x.fcAdj
  fc_hi  : x.fcAdj ≤ x.c.thS

/-! ### lists related element by element

`List.Forall₂ R xs ys` is how the process lemmas say what a pass over the cells (or a second run over
the days) does; equality of two lists under a map `f` is the instance `R y x := f y = f x`
(`forall₂_of_map_eq`). -/

section forall₂
variable {β γ δ : Type} {R : β → γ → Prop}

theorem forall₂_mem_right {xs : List β} {ys : List γ} (h : List.Forall₂ R xs ys) {y : γ}
    (hy : y ∈ ys) : ∃ x ∈ xs, R x y := by
  induction h with
  | nil => cases hy
  | cons hr _ ih =>
    rcases List.mem_cons.mp hy with rfl | hy'
    · exact ⟨_, List.mem_cons_self, hr⟩
    · obtain ⟨x, hx, hR⟩ := ih hy'
      exact ⟨x, List.mem_cons_of_mem _ hx, hR⟩

theorem forall₂_mem_left {xs : List β} {ys : List γ} (h : List.Forall₂ R xs ys) {x : β}
    (hx : x ∈ xs) : ∃ y ∈ ys, R x y :=
  forall₂_mem_right h.flip hx

theorem forall_of_forall₂ {xs : List β} {ys : List γ} (h : List.Forall₂ R xs ys) {P : β → Prop}
    {Q : γ → Prop} (hR : ∀ x y, R x y → P x → Q y) (hP : ∀ x ∈ xs, P x) : ∀ y ∈ ys, Q y :=
  fun y hy => let ⟨x, hx, r⟩ := forall₂_mem_right h hy; hR x y r (hP x hx)

theorem forall₂_and_right {Q : γ → Prop} {l : List β} {l1 : List γ} (h : List.Forall₂ R l l1)
    (hq : ∀ b ∈ l1, Q b) : List.Forall₂ (fun a b => R a b ∧ Q b) l l1 := by
  induction h with
  | nil => exact .nil
  | cons hr _ ih =>
    rw [List.forall_mem_cons] at hq
    exact .cons ⟨hr, hq.1⟩ (ih hq.2)

theorem forall₂_join {S : β → β → Prop} (hRS : ∀ a b c, R a c → R b c → S a b) :
    ∀ {l l2 : List β} {l1 : List γ}, List.Forall₂ R l l1 → List.Forall₂ R l2 l1 → List.Forall₂ S l l2
  | _, _, _, .nil, .nil => .nil
  | _, _, _, .cons h t, .cons h' t' => .cons (hRS _ _ _ h h') (forall₂_join hRS t t')

theorem forall₂_map_eq {f : β → δ} {g : γ → δ} (hfg : ∀ a b, R a b → f a = g b) {l : List β}
    {l1 : List γ} (h : List.Forall₂ R l l1) : l.map f = l1.map g := by
  induction h with
  | nil => rfl
  | cons hr _ ih => rw [List.map_cons, List.map_cons, hfg _ _ hr, ih]

theorem forall₂_filterMap_eq {f : β → Option δ} {g : γ → Option δ} (hfg : ∀ a b, R a b → f a = g b)
    {l : List β} {l1 : List γ} (h : List.Forall₂ R l l1) : l.filterMap f = l1.filterMap g := by
  induction h with
  | nil => rfl
  | cons hr _ ih => rw [List.filterMap_cons, List.filterMap_cons, hfg _ _ hr, ih]

theorem forall₂_getLast? : ∀ {l : List β} {l1 : List γ},
    List.Forall₂ R l l1 → ∀ {d : β}, l.getLast? = some d → ∃ d1, l1.getLast? = some d1 ∧ R d d1
  | _, _, .nil, _, h => by cases h
  | _, _, .cons (a := a) (b := b) h .nil, d, hd => by
    rw [List.getLast?_singleton, Option.some.injEq] at hd
    subst hd
    exact ⟨b, List.getLast?_singleton, h⟩
  | _, _, .cons h (.cons h' t), d, hd => by
    rw [List.getLast?_cons_cons] at hd
    obtain ⟨d1, e, hR⟩ := forall₂_getLast? (.cons h' t) hd
    exact ⟨d1, by rw [List.getLast?_cons_cons]; exact e, hR⟩

theorem map_eq_of_forall₂ {R : β → β → Prop} {xs ys : List β}
    (h : List.Forall₂ R xs ys) (k : β → δ) (hR : ∀ x y, R x y → k y = k x) : ys.map k = xs.map k :=
  (forall₂_map_eq (fun x y r => (hR x y r).symm) h).symm

theorem forall₂_of_map_eq {f : β → δ} {ys xs : List β} (h : ys.map f = xs.map f) :
    List.Forall₂ (fun y x => f y = f x) ys xs :=
  List.forall₂_map_right_iff.1 (List.forall₂_map_left_iff.1 (by rw [List.forall₂_eq_eq_eq]; exact h))

theorem exists_mem_of_map_eq {f : β → δ} {ys xs : List β} (h : ys.map f = xs.map f) :
    ∀ y ∈ ys, ∃ x ∈ xs, f x = f y := fun _ hy =>
  let ⟨x, hx, e⟩ := forall₂_mem_left (forall₂_of_map_eq h) hy; ⟨x, hx, e.symm⟩

theorem length_of_map_eq {f : β → δ} {ys xs : List β} (h : ys.map f = xs.map f) :
    ys.length = xs.length := by
  simpa using congrArg List.length h

theorem map_eq_of_map_eq {f : β → δ} {ε : Type} {g : β → ε} (hg : ∀ y x, f y = f x → g y = g x)
    {ys xs : List β} (h : ys.map f = xs.map f) : ys.map g = xs.map g :=
  forall₂_map_eq hg (forall₂_of_map_eq h)

theorem map_comp_eq_of_map_eq {f : β → δ} {ε : Type} (g : δ → ε) {ys xs : List β}
    (h : ys.map f = xs.map f) : ys.map (fun y => g (f y)) = xs.map (fun x => g (f x)) :=
  map_eq_of_map_eq (fun _ _ e => congrArg g e) h

theorem filterMap_eq_of_map_eq {f : β → δ} {ε : Type} {g : β → Option ε}
    (hg : ∀ y x, f y = f x → g y = g x) {ys xs : List β} (h : ys.map f = xs.map f) :
    ys.filterMap g = xs.filterMap g :=
  forall₂_filterMap_eq hg (forall₂_of_map_eq h)

end forall₂

/-! ### insertion sort by a key -/

section insertKey
variable {β κ : Type} [LinearOrder κ] (key : β → κ)

/-- insertion before the first element whose key is not smaller: the shape of the model's two
insertion sorts (`insertAsc`, key the value; `insertByDate`, key the date) -/
def insertKey (p : β) : List β → List β
  | [] => [p]
  | q :: qs => if key p ≤ key q then p :: q :: qs else q :: insertKey p qs

theorem insertKey_perm (p : β) (l : List β) : (insertKey key p l).Perm (p :: l) := by
  induction l with
  | nil => exact .refl _
  | cons q qs ih =>
    rw [insertKey]
    exact ite_ind (List.Perm · _) (fun _ => .refl _) fun _ => (ih.cons q).trans (.swap p q qs)

theorem insertKey_sorted (p : β) {l : List β} (h : l.Pairwise (fun a b => key a ≤ key b)) :
    (insertKey key p l).Pairwise (fun a b => key a ≤ key b) := by
  induction l with
  | nil => exact List.pairwise_singleton _ _
  | cons q qs ih =>
    obtain ⟨h1, h2⟩ := List.pairwise_cons.mp h
    rw [insertKey]
    refine ite_ind (List.Pairwise _) (fun hpq => ?_) fun hpq => ?_
    · exact List.pairwise_cons.mpr ⟨fun r hr => (List.mem_cons.mp hr).elim (fun e => e ▸ hpq)
        fun hr => le_trans hpq (h1 r hr), h⟩
    · exact List.pairwise_cons.mpr ⟨fun r hr =>
        (List.mem_cons.mp ((insertKey_perm key p qs).mem_iff.mp hr)).elim
          (fun e => e ▸ (not_le.mp hpq).le) (h1 r), ih h2⟩
end insertKey

@[simp] theorem storage_nil : storage ([] : List (Cell α)) = 0 := rfl
@[simp] theorem storage_cons (x : Cell α) (xs : List (Cell α)) :
    storage (x :: xs) = x.water + storage xs := rfl

theorem storage_append (xs ys : List (Cell α)) :
    storage (xs ++ ys) = storage xs + storage ys := by
  induction xs with
  | nil => simp
  | cons x xs ih => simp [ih, add_assoc]

theorem storage_reverse (xs : List (Cell α)) : storage xs.reverse = storage xs := by
  induction xs with
  | nil => simp
  | cons x xs ih => simp [storage_append, ih, add_comm]

theorem clamp01_bounds (k : α) :
    0 ≤ (if 1 < k then 1 else if k < 0 then 0 else k) ∧
      (if 1 < k then 1 else if k < 0 then 0 else k) ≤ 1 := by
  split_ifs with h1 h0
  · exact ⟨zero_le_one, le_refl _⟩
  · exact ⟨le_refl _, zero_le_one⟩
  · exact ⟨not_lt.mp h0, not_lt.mp h1⟩

/-- a point between `a` and `b` lies above every lower bound of both: it is
`(1 - r)·a + r·b` -/
theorem convex_ge {lo a b r : α} (ha : lo ≤ a) (hb : lo ≤ b) (r0 : 0 ≤ r) (r1 : r ≤ 1) :
    lo ≤ a + r * (b - a) := by
  have h1 := mul_nonneg (sub_nonneg.mpr r1) (sub_nonneg.mpr ha)
  have h2 := mul_nonneg r0 (sub_nonneg.mpr hb)
  linarith

theorem convex_le {hi a b r : α} (ha : a ≤ hi) (hb : b ≤ hi) (r0 : 0 ≤ r) (r1 : r ≤ 1) :
    a + r * (b - a) ≤ hi := by
  have h1 := mul_nonneg (sub_nonneg.mpr r1) (sub_nonneg.mpr ha)
  have h2 := mul_nonneg r0 (sub_nonneg.mpr hb)
  linarith

theorem lerp_between {a b t : α} (h0 : 0 ≤ t) (h1 : t ≤ 1) :
    min a b ≤ a + t * (b - a) ∧ a + t * (b - a) ≤ max a b :=
  ⟨convex_ge (min_le_left a b) (min_le_right a b) h0 h1,
    convex_le (le_max_left a b) (le_max_right a b) h0 h1⟩

end Aqua
