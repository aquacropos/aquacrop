import AquaVerif.Model.RootDevelopment
import AquaVerif.Proofs.Basic
import AquaVerif.Proofs.Response
import AquaVerif.Proofs.NpSum
/-
Lemmas about `root_development` (property C05): the layer limitation `limit` is monotone in the
potential depth and bounded by it, the potential depth is monotone in time, each stress reduction
scales the expansion by a factor in `[0,1]`; hence the daily expansion is non-negative, and the
roots shrink only through the water-table cap.  The law `PowLaws` of `x ** y`, the premises
`SkipOK`, `RdCrop.WF`, `RdHyp` and the invariant `RdInv` are defined here.
-/

set_option linter.unusedSectionVars false
namespace Aqua
variable {α : Type} [Field α] [LinearOrder α] [IsStrictOrderedRing α]

/-! ## 1. The layer-limitation map -/

def LaysNN (ls : List (Lay α)) : Prop := ∀ l ∈ ls, 0 ≤ l.1 ∧ ∀ p, l.2 = some p → 0 ≤ p

def LaysLe100 (ls : List (Lay α)) : Prop := ∀ l ∈ ls, ∀ p, l.2 = some p → p ≤ 100

theorem LaysNN.mono {ls ls' : List (Lay α)} (h : LaysNN ls) (hs : ls' ⊆ ls) : LaysNN ls' :=
  fun l hl => h l (hs hl)

theorem LaysLe100.mono {ls ls' : List (Lay α)} (h : LaysLe100 ls) (hs : ls' ⊆ ls) :
    LaysLe100 ls' :=
  fun l hl => h l (hs hl)

theorem limLoop_cons_ok {pen dz A R S D a : α} {po : Option α} {rest : List (Lay α)}
    (h : limLoop pen ((dz, po) :: rest) A R S D = .ok a) :
    ((pen ≤ 0 ∧ 0 ≤ pen) ∨ A + R * (pen / 100) ≤ S) ∧ a = A + R * (pen / 100) ∨
    ¬ (pen ≤ 0 ∧ 0 ≤ pen) ∧ S < A + R * (pen / 100) ∧
      ∃ p', po = some p' ∧ limLoop p' rest S (R - D / (pen / 100)) (S + dz) dz = .ok a := by
  simp only [limLoop] at h
  split_ifs at h with hc
  · exact Or.inl ⟨hc, (Except.ok.inj h).symm⟩
  · obtain ⟨hc1, hc2⟩ := not_or.mp hc
    cases po with
    | none => simp at h
    | some p' => exact Or.inr ⟨hc1, not_le.mp hc2, p', rfl, h⟩

/-! The arithmetic of one round, `pen` the penetrability in percent. -/

private theorem pen_pos {pen : α} (hp : 0 ≤ pen) (h : ¬ (pen ≤ 0 ∧ 0 ≤ pen)) : 0 < pen / 100 :=
  div_pos (lt_of_le_of_ne hp fun e => h ⟨e.ge, hp⟩) (by norm_num)

theorem limStop_bounds {pen R : α} (A : α) (hp : 0 ≤ pen) (hR : 0 ≤ R) :
    A ≤ A + R * (pen / 100) ∧ (pen ≤ 100 → A + R * (pen / 100) ≤ A + R) :=
  ⟨le_add_of_nonneg_right (mul_nonneg hR (div_nonneg hp (by norm_num))),
    fun h => add_le_add le_rfl (mul_le_of_le_one_right hR ((div_le_one (by norm_num)).mpr h))⟩

theorem limStop_mono {pen R1 R2 : α} (A : α) (hp : 0 ≤ pen) (hR : R1 ≤ R2) :
    A + R1 * (pen / 100) ≤ A + R2 * (pen / 100) :=
  add_le_add le_rfl (mul_le_mul_of_nonneg_right hR (div_nonneg hp (by norm_num)))

theorem limGo_nonneg {q A R S D : α} (hq : 0 < q) (hD : D = S - A) (h : S < A + R * q) :
    0 ≤ R - D / q := by
  rw [sub_nonneg, div_le_iff₀ hq, hD]
  exact sub_le_iff_le_add'.mpr h.le

/-- the loop returns at least the depth `ZrAdj` it starts from and, with penetrabilities ≤ 100 %,
at most `ZrAdj + ZrRemain` -/
theorem limLoop_bounds {rest : List (Lay α)} : ∀ {pen A R S D a : α},
    LaysNN rest → 0 ≤ pen → 0 ≤ R → D = S - A → (rest ≠ [] → 0 ≤ D) →
    limLoop pen rest A R S D = .ok a →
    A ≤ a ∧ (LaysLe100 rest → pen ≤ 100 → a ≤ A + R) := by
  induction rest with
  | nil =>
    intro pen A R S D a _ hp hR _ _ h
    obtain rfl := Except.ok.inj h
    exact ⟨(limStop_bounds A hp hR).1, fun _ => (limStop_bounds A hp hR).2⟩
  | cons nxt rest ih =>
    intro pen A R S D a hl hp hR hD hD0 h
    obtain ⟨dz, po⟩ := nxt
    rcases limLoop_cons_ok h with ⟨_, rfl⟩ | ⟨hc, hlt, p', rfl, h'⟩
    · exact ⟨(limStop_bounds A hp hR).1, fun _ => (limStop_bounds A hp hR).2⟩
    · have hq := pen_pos hp hc
      have hn := hl _ List.mem_cons_self
      have hD' : 0 ≤ D := hD0 (List.cons_ne_nil _ _)
      obtain ⟨lo, up⟩ := ih (hl.mono (List.subset_cons_self _ _)) (hn.2 p' rfl)
        (limGo_nonneg hq hD hlt) (add_sub_cancel_left S dz).symm (fun _ => hn.1) h'
      refine ⟨(sub_nonneg.mp (hD ▸ hD')).trans lo, fun hl1 hp1 => ?_⟩
      -- `a ≤ S + (R - D/q) ≤ S + (R - D) = A + R`, as `D ≤ D/q` for `q ≤ 1`
      have hDq : D ≤ D / (pen / 100) :=
        (le_div_iff₀ hq).mpr (mul_le_of_le_one_right hD' ((div_le_one (by norm_num)).mpr hp1))
      exact (up (hl1.mono (List.subset_cons_self _ _)) (hl1 _ List.mem_cons_self p' rfl)).trans
        ((add_le_add le_rfl (sub_le_sub_left hDq R)).trans_eq (by rw [hD]; ring))

theorem limLoop_mono {rest : List (Lay α)} : ∀ {pen A R1 R2 S D a b : α},
    LaysNN rest → 0 ≤ pen → D = S - A → R1 ≤ R2 →
    limLoop pen rest A R1 S D = .ok a → limLoop pen rest A R2 S D = .ok b → a ≤ b := by
  induction rest with
  | nil =>
    intro pen A R1 R2 S D a b _ hp _ hR h1 h2
    obtain rfl := Except.ok.inj h1
    obtain rfl := Except.ok.inj h2
    exact limStop_mono A hp hR
  | cons nxt rest ih =>
    intro pen A R1 R2 S D a b hl hp hD hR h1 h2
    obtain ⟨dz, po⟩ := nxt
    have hT := limStop_mono A hp hR
    rcases limLoop_cons_ok h1 with ⟨s1, rfl⟩ | ⟨c1, g1, p1, rfl, h1'⟩
    · rcases limLoop_cons_ok h2 with ⟨_, rfl⟩ | ⟨c2, g2, p2, rfl, h2'⟩
      · exact hT
      · -- the smaller depth stops in this layer (at most at its bottom `S`), the larger one goes on
        have hn := hl _ List.mem_cons_self
        exact (s1.resolve_left c2).trans (limLoop_bounds (hl.mono (List.subset_cons_self _ _))
          (hn.2 p2 rfl) (limGo_nonneg (pen_pos hp c2) hD g2) (add_sub_cancel_left S dz).symm
          (fun _ => hn.1) h2').1
    · rcases limLoop_cons_ok h2 with ⟨s2, rfl⟩ | ⟨_, _, p2, e2, h2'⟩
      · -- impossible: the larger depth cannot stop where the smaller one goes on
        exact absurd (g1.trans_le (hT.trans (s2.resolve_left c1))) (lt_irrefl _)
      · obtain rfl := Option.some.inj e2
        exact ih (hl.mono (List.subset_cons_self _ _)) ((hl _ List.mem_cons_self).2 p1 rfl)
          (add_sub_cancel_left S dz).symm (sub_le_sub_right hR _) h1' h2'

theorem limLoop_zero {rest : List (Lay α)} {pen A S D a : α} (hD : D = S - A)
    (hD0 : rest ≠ [] → 0 ≤ D) (h : limLoop pen rest A 0 S D = .ok a) : a = A := by
  have e : A + 0 * (pen / 100) = A := by rw [zero_mul, add_zero]
  cases rest with
  | nil => exact (Except.ok.inj h).symm.trans e
  | cons nxt rest =>
    obtain ⟨dz, po⟩ := nxt
    rcases limLoop_cons_ok h with ⟨_, rfl⟩ | ⟨_, g, _⟩
    · exact e
    · rw [e] at g
      exact absurd (sub_nonneg.mp (hD ▸ hD0 (List.cons_ne_nil _ _))) (not_le.mpr g)

/-! ### the skip loop -/

theorem limSkip_spec (F : Fn α) (zmin : α) : ∀ (rest : List (Lay α)) (cur : Lay α) (zs : α),
    (limSkip F zmin cur rest zs).1 ∈ cur :: rest ∧
    (∀ l ∈ (limSkip F zmin cur rest zs).2.1, l ∈ rest) ∧
    ((limSkip F zmin cur rest zs).2.1 ≠ [] → zmin < F.round2 (limSkip F zmin cur rest zs).2.2) := by
  intro rest
  induction rest with
  | nil => intro cur zs; simp [limSkip]
  | cons nxt rest ih =>
    intro cur zs
    simp only [limSkip]
    split_ifs with hc
    · obtain ⟨i1, i2, i3⟩ := ih nxt (zs + nxt.1)
      refine ⟨List.mem_cons_of_mem _ i1, fun l hl => List.mem_cons_of_mem _ (i2 l hl), i3⟩
    · exact ⟨by simp, fun l hl => hl, fun _ => not_le.mp hc⟩

/-- `Zmin` lies on the grid `round(·, 2)` rounds to: a depth that rounds to more than `Zmin` is at
least `Zmin`.  (True of the real `round2` whenever `Zmin` is a multiple of 0.01; for an arbitrary
`Zmin`, e.g. 0.299 with a first layer 0.296 m thick, the Python takes `deltaZ < 0`.) -/
def SkipOK (F : Fn α) (zmin : α) : Prop := ∀ x, zmin < F.round2 x → zmin ≤ x

/-! ### `limit` -/

/-- a successful call is the loop started below the skipped layers; the start (penetrability,
layers below, `Zsoil`) does not depend on the potential depth -/
theorem limit_ok {F : Fn α} {layers : List (Lay α)} {zmin z a : α}
    (h : limit F layers zmin z = .ok a) :
    ∃ p rest' zs, (∃ dz, (dz, some p) ∈ layers) ∧ rest' ⊆ layers ∧
      (rest' ≠ [] → zmin < F.round2 zs) ∧
      ∀ z', limit F layers zmin z' = limLoop p rest' zmin (z' - zmin) zs (zs - zmin) := by
  cases layers with
  | nil => simp [limit] at h
  | cons l0 rest =>
    simp only [limit] at h ⊢
    obtain ⟨i1, i2, i3⟩ := limSkip_spec F zmin rest l0 l0.1
    generalize limSkip F zmin l0 rest l0.1 = r at *
    obtain ⟨⟨dz, po⟩, rest', zs⟩ := r
    cases po with
    | none => simp at h
    | some p =>
      exact ⟨p, rest', zs, ⟨dz, i1⟩, fun l hl => List.mem_cons_of_mem _ (i2 l hl), i3, fun _ => rfl⟩

theorem limit_mono {F : Fn α} {layers : List (Lay α)} {zmin z1 z2 a b : α} (hl : LaysNN layers)
    (hz : z1 ≤ z2) (h1 : limit F layers zmin z1 = .ok a) (h2 : limit F layers zmin z2 = .ok b) :
    a ≤ b := by
  obtain ⟨p, rest', zs, ⟨dz, hm⟩, hsub, _, e⟩ := limit_ok h1
  rw [e] at h1 h2
  exact limLoop_mono (hl.mono hsub) ((hl _ hm).2 p rfl) rfl (sub_le_sub_right hz _) h1 h2

theorem limit_bounds {F : Fn α} {layers : List (Lay α)} {zmin z a : α} (hl : LaysNN layers)
    (hs : SkipOK F zmin) (hz : zmin ≤ z) (h : limit F layers zmin z = .ok a) :
    zmin ≤ a ∧ (LaysLe100 layers → a ≤ z) := by
  obtain ⟨p, rest', zs, ⟨dz, hm⟩, hsub, hsk, e⟩ := limit_ok h
  rw [e] at h
  obtain ⟨lo, up⟩ := limLoop_bounds (hl.mono hsub) ((hl _ hm).2 p rfl) (sub_nonneg.mpr hz) rfl
    (fun hne => sub_nonneg.mpr (hs _ (hsk hne))) h
  exact ⟨lo, fun hl1 => (up (hl1.mono hsub) (hl1 _ hm p rfl)).trans_eq (add_sub_cancel _ _)⟩

theorem limit_zmin {F : Fn α} {layers : List (Lay α)} {zmin a : α} (hs : SkipOK F zmin)
    (h : limit F layers zmin zmin = .ok a) : a = zmin := by
  obtain ⟨p, rest', zs, _, _, hsk, e⟩ := limit_ok h
  rw [e, sub_self] at h
  exact limLoop_zero rfl (fun hne => sub_nonneg.mpr (hs _ (hsk hne))) h

/-! ## 2. The potential rooting depth -/

/-- order laws of `x ** y` for a positive base and a positive exponent (the code evaluates the
power only at `X = (t − t0)/(tmax − t0) ∈ (0,1)`) -/
structure PowLaws (F : Fn α) : Prop where
  pow_nonneg : ∀ x y, 0 < x → 0 ≤ F.pow x y
  pow_le_one : ∀ x y, 0 < x → x ≤ 1 → 0 < y → F.pow x y ≤ 1
  pow_mono : ∀ x x' y, 0 < x → x ≤ x' → 0 < y → F.pow x y ≤ F.pow x' y

/-- crop parameters as every crop of the table has them -/
structure RdCrop.WF (C : RdCrop α) : Prop where
  zmin_nn : 0 ≤ C.zmin
  zmin_le : C.zmin ≤ C.zmax
  pct_le : C.pctZmin ≤ 100
  fshapeR_pos : 0 < C.fshapeR

theorem RdCrop.WF.zini_le {C : RdCrop α} (h : C.WF) : C.zini ≤ C.zmin :=
  mul_le_of_le_one_right h.zmin_nn ((div_le_one (by norm_num)).mpr h.pct_le)

theorem zrRaw_of_ge {F : Fn α} {C : RdCrop α} {t : α} (h : C.maxRooting ≤ t) :
    C.zrRaw F t = C.zmax := if_pos h

theorem zrRaw_of_le {F : Fn α} {C : RdCrop α} {t : α} (h1 : ¬ C.maxRooting ≤ t)
    (h2 : t ≤ C.t0 F) : C.zrRaw F t = C.zini := by
  rw [RdCrop.zrRaw, if_neg h1, if_pos h2]

theorem zrRaw_mid {F : Fn α} {C : RdCrop α} {t : α} (h1 : ¬ C.maxRooting ≤ t)
    (h2 : ¬ t ≤ C.t0 F) : C.zrRaw F t = C.zini + (C.zmax - C.zini) *
      F.pow ((t - C.t0 F) / (C.maxRooting - C.t0 F)) (1 / C.fshapeR) := by
  rw [RdCrop.zrRaw, if_neg h1, if_neg h2]

theorem zrRaw_base {F : Fn α} {C : RdCrop α} {t : α} (h1 : ¬ C.maxRooting ≤ t)
    (h2 : ¬ t ≤ C.t0 F) : 0 < (t - C.t0 F) / (C.maxRooting - C.t0 F) ∧
      (t - C.t0 F) / (C.maxRooting - C.t0 F) ≤ 1 := by
  have a := sub_pos.mpr (not_le.mp h2)
  have b := sub_lt_sub_right (not_le.mp h1) (C.t0 F)
  exact ⟨div_pos a (a.trans b), (div_le_one (a.trans b)).mpr b.le⟩

theorem zrRaw_range {F : Fn α} (hP : PowLaws F) {C : RdCrop α} (h : C.WF) (t : α) :
    C.zini ≤ C.zrRaw F t ∧ C.zrRaw F t ≤ C.zmax := by
  have hz := h.zini_le.trans h.zmin_le
  by_cases h1 : C.maxRooting ≤ t
  · rw [zrRaw_of_ge h1]; exact ⟨hz, le_rfl⟩
  by_cases h2 : t ≤ C.t0 F
  · rw [zrRaw_of_le h1 h2]; exact ⟨le_rfl, hz⟩
  obtain ⟨x0, x1⟩ := zrRaw_base h1 h2
  rw [zrRaw_mid h1 h2]
  exact ⟨le_add_of_nonneg_right (mul_nonneg (sub_nonneg.mpr hz) (hP.pow_nonneg _ _ x0)),
    (add_le_add le_rfl (mul_le_of_le_one_right (sub_nonneg.mpr hz)
      (hP.pow_le_one _ _ x0 x1 (one_div_pos.mpr h.fshapeR_pos)))).trans_eq (add_sub_cancel _ _)⟩

theorem zrRaw_mono {F : Fn α} (hP : PowLaws F) {C : RdCrop α} (h : C.WF) {t t' : α} (ht : t ≤ t') :
    C.zrRaw F t ≤ C.zrRaw F t' := by
  by_cases h3 : C.maxRooting ≤ t'
  · rw [zrRaw_of_ge h3]; exact (zrRaw_range hP h t).2
  have h1 : ¬ C.maxRooting ≤ t := fun hh => h3 (hh.trans ht)
  by_cases h2 : t ≤ C.t0 F
  · rw [zrRaw_of_le h1 h2]; exact (zrRaw_range hP h t').1
  have h4 : ¬ t' ≤ C.t0 F := fun hh => h2 (ht.trans hh)
  have hden : 0 ≤ C.maxRooting - C.t0 F := (sub_pos.mpr ((not_le.mp h2).trans (not_le.mp h1))).le
  rw [zrRaw_mid h1 h2, zrRaw_mid h3 h4]
  exact add_le_add le_rfl (mul_le_mul_of_nonneg_left
    (hP.pow_mono _ _ _ (zrRaw_base h1 h2).1 (div_le_div_of_nonneg_right (sub_le_sub_right ht _) hden)
      (one_div_pos.mpr h.fshapeR_pos))
    (sub_nonneg.mpr (h.zini_le.trans h.zmin_le)))

theorem zrPot_eq (F : Fn α) (C : RdCrop α) (t : α) : C.zrPot F t = max (C.zrRaw F t) C.zmin :=
  pmax_eq _ _

theorem zrPot_mono {F : Fn α} (hP : PowLaws F) {C : RdCrop α} (h : C.WF) {t t' : α} (ht : t ≤ t') :
    C.zrPot F t ≤ C.zrPot F t' := by
  rw [zrPot_eq, zrPot_eq]
  exact max_le_max (zrRaw_mono hP h ht) le_rfl

theorem zrPot_ge_zmin (F : Fn α) (C : RdCrop α) (t : α) : C.zmin ≤ C.zrPot F t :=
  zrPot_eq F C t ▸ le_max_right _ _

theorem zrPot_le_zmax {F : Fn α} (hP : PowLaws F) {C : RdCrop α} (h : C.WF) (t : α) :
    C.zrPot F t ≤ C.zmax :=
  zrPot_eq F C t ▸ max_le (zrRaw_range hP h t).2 h.zmin_le

/-! ## 3. The stress reductions (each scales the expansion by a factor in `[0,1]`) and the `rCor`
update -/

theorem unit_scale {d k : α} (hd : 0 ≤ d) (hk : 0 ≤ k ∧ k ≤ 1) : 0 ≤ d * k ∧ d * k ≤ d :=
  ⟨mul_nonneg hd hk.1, mul_le_of_le_one_right hd hk.2⟩

theorem rdStomatal_range {F : Fn α} (hF : ExpOrdLaws F) (C : RdCrop α) {tr d : α} (h0 : 0 ≤ tr)
    (h1 : tr ≤ 1) (hd : 0 ≤ d) : 0 ≤ rdStomatal F C tr d ∧ rdStomatal F C tr d ≤ d := by
  unfold rdStomatal
  split_ifs with ha hb
  · exact unit_scale hd ⟨h0, h1⟩
  · exact unit_scale hd (expRatio_range hF (not_le.mp hb).ne h0 h1)
  · exact ⟨hd, le_refl _⟩

/-- the relative depletion between the threshold `p` and the wilting point, for a relative
water deficit `w ∈ [p,1]` -/
theorem drel_unit {w p : α} (hp : p < 1) (h0 : p ≤ w) (h1 : w ≤ 1) :
    0 ≤ 1 - (1 - w) / (1 - p) ∧ 1 - (1 - w) / (1 - p) ≤ 1 :=
  have h := (ratio_range hp h0 h1).2
  ⟨sub_nonneg.mpr h.2, sub_le_self 1 h.1⟩

theorem rdDryCell_range {F : Fn α} (hF : ExpOrdLaws F) {C : RdCrop α} (x : Cell α) {d : α}
    (hp : C.pUp1 < 1) (hw : C.fshapeW1 ≠ 0) (hx : x.c.thWP < x.c.thFC) (hd : 0 ≤ d) :
    0 ≤ (rdDryCell F C x d).1 ∧ (rdDryCell F C x d).1 ≤ d := by
  unfold rdDryCell
  simp only
  by_cases ha : x.th < x.c.thFC - (C.pUp1 + (1 - C.pUp1) / 2) * (x.c.thFC - x.c.thWP)
  · rw [if_pos ha]
    by_cases hb : x.th ≤ x.c.thWP
    · rw [if_pos hb]; exact ⟨le_refl _, hd⟩
    · -- partially inhibited: `Ks ∈ [0,1]`
      rw [if_neg hb]
      have htaw : 0 < x.c.thFC - x.c.thWP := sub_pos.mpr hx
      have hpz : C.pUp1 + (1 - C.pUp1) / 2 < 1 := by linarith
      obtain ⟨r0, r1⟩ := drel_unit hpz ((le_div_iff₀ htaw).mpr (le_sub_comm.mp ha.le))
        ((div_le_one htaw).mpr (sub_le_sub_left (not_le.mp hb).le _))
      exact unit_scale hd (ksShape_range hF hw r0 r1)
  · rw [if_neg ha]; exact ⟨hd, le_refl _⟩

theorem firstGECell_spec {z : α} {cells : List (Cell α)} {x : Cell α}
    (h : firstGECell z cells = some x) : x ∈ cells ∧ z ≤ x.c.dzsum := by
  induction cells with
  | nil => simp [firstGECell] at h
  | cons y ys ih =>
    simp only [firstGECell] at h
    split_ifs at h with hc
    · obtain rfl := Option.some.inj h
      exact ⟨List.mem_cons_self, hc⟩
    · exact ⟨List.mem_cons_of_mem _ (ih h).1, (ih h).2⟩

theorem firstGECell_isSome {z : α} {cells : List (Cell α)} (h : ∃ x ∈ cells, z ≤ x.c.dzsum) :
    ∃ y, firstGECell z cells = some y := by
  induction cells with
  | nil => obtain ⟨x, hx, _⟩ := h; cases hx
  | cons y ys ih =>
    simp only [firstGECell]
    split_ifs with hc
    · exact ⟨_, rfl⟩
    · obtain ⟨x, hx, hz⟩ := h
      rcases List.mem_cons.mp hx with rfl | hx
      · exact absurd hz hc
      · exact ih ⟨x, hx, hz⟩

/-- the dry-front check fails only if the new root tip lies below the profile; otherwise it reduces
the expansion, by a factor in `[0,1]` under the laws of `exp` -/
theorem rdDry_sat (F : Fn α) (C : RdCrop α) (cells : List (Cell α)) (zInit d : α) :
    Sat (rdDry F C cells zInit d)
      (fun e => e = "E:index" ∧ ¬ ∃ x ∈ cells, zInit + d ≤ x.c.dzsum)
      (fun r => (0.001 < d → ∃ x ∈ cells, zInit + d ≤ x.c.dzsum) ∧
        (ExpOrdLaws F → C.pUp1 < 1 → C.fshapeW1 ≠ 0 → (∀ x ∈ cells, x.c.thWP < x.c.thFC) → 0 ≤ d →
          0 ≤ r.1 ∧ r.1 ≤ d)) := by
  unfold rdDry
  by_cases hc : 0.001 < d
  · rw [if_pos hc]
    cases hf : firstGECell (zInit + d) cells with
    | none =>
      refine .error ⟨rfl, fun h => ?_⟩
      obtain ⟨y, hy⟩ := firstGECell_isSome h
      rw [hf] at hy; cases hy
    | some x =>
      exact .ok ⟨fun _ => ⟨x, firstGECell_spec hf⟩, fun hF hp hw hx hd =>
        rdDryCell_range hF x hp hw (hx x (firstGECell_spec hf).1) hd⟩
  · rw [if_neg hc]
    exact .ok ⟨fun h => absurd h hc, fun _ _ _ _ hd => ⟨hd, le_refl _⟩⟩

theorem rdDry_tip_in_profile {F : Fn α} {C : RdCrop α} {cells : List (Cell α)} {zInit d d' : α}
    {b : Nat} (hd : 0.001 < d) (h : rdDry F C cells zInit d = .ok (d', b)) :
    ∃ x ∈ cells, zInit + d ≤ x.c.dzsum :=
  ((rdDry_sat F C cells zInit d).2 _ h).1 hd

theorem rcor_num_nonneg {q sT sB : α} (hq : 1 ≤ q) (hT : 0 ≤ sT) (hB : 0 ≤ sB) :
    0 ≤ 2 * q * ((sT + sB) / 2) - sT := by
  have e : 2 * q * ((sT + sB) / 2) - sT = (q - 1) * (sT + sB) + sB := by ring
  rw [e]
  exact add_nonneg (mul_nonneg (sub_nonneg.mpr hq) (add_nonneg hT hB)) hB

/-- The `rCor` update divides by the new rooting depth and by `SxBot`.  Its result is non-negative
for a positive new depth and non-negative sink terms (it is at least 1 when `SxBot > 0`; with
`SxBot = 0` the quotient is the field's `x / 0 = 0`). -/
theorem rdRCor_sat (C : RdCrop α) (isNp : Bool) (zNew zrPot tr tPot : α) :
    Sat (rdRCor C isNp zNew zrPot tr tPot)
      (fun e => e = "E:zerodiv" ∧ ¬ (0 < zNew ∧ C.sxBot ≠ 0))
      (fun r => 0 < zNew → 0 ≤ C.sxTop → 0 ≤ C.sxBot → 0 ≤ r.1) := by
  unfold rdRCor
  by_cases h1 : zNew < zrPot
  · rw [if_pos h1]
    by_cases h2 : (!isNp) = true ∧ ((zNew ≤ 0 ∧ 0 ≤ zNew) ∨ (C.sxBot ≤ 0 ∧ 0 ≤ C.sxBot))
    · rw [if_pos h2]
      refine .error ⟨rfl, fun h => ?_⟩
      rcases h2.2 with h3 | h3
      · exact absurd h3.1 (not_le.mpr h.1)
      · exact h.2 (le_antisymm h3.1 h3.2)
    · rw [if_neg h2]
      dsimp only
      by_cases h3 : 0 < tPot
      · rw [if_pos h3]
        exact .ok fun _ _ _ => ite_ind (0 ≤ ·) (fun _ => zero_le_one)
          (fun h4 => zero_le_one.trans (not_lt.mp h4))
      · rw [if_neg h3]
        exact .ok fun hz hT hB =>
          div_nonneg (rcor_num_nonneg ((one_le_div hz).mpr h1.le) hT hB) hB
  · rw [if_neg h1]
    exact .ok fun _ _ _ => zero_le_one

/-! ## 4. One day of root development -/

theorem rdSeason_ok {F : Fn α} {C : RdCrop α} {cells : List (Cell α)}
    {tAdj tOld zInit trRatio cc ccNS tPot zGW : α} {germ : Bool} {wt : Nat} {out : RdOut α}
    (h : rdSeason F C cells tAdj tOld zInit trRatio cc ccNS germ tPot zGW wt = .ok out) :
    ∃ d0 b0 d2 b2 b3, rdDZr0 F C (layersOf cells) (C.zrPot F tOld) (C.zrPot F tAdj) = .ok (d0, b0) ∧
      rdDry F C cells zInit (rdStomatal F C trRatio d0) = .ok (d2, b2) ∧
      out.dZr0 = d0 ∧ out.zrPot = C.zrPot F tAdj ∧ out.zInit = zInit ∧
      (out.dZr = d2 ∨ out.dZr = 0) ∧ (germ = false → out.dZr = 0) ∧
      out.zRoot = (rdGwCap C wt zGW (zInit + out.dZr)).1 ∧
      rdRCor C (C.zrIsNp F tAdj) (out.zInit + out.dZr) out.zrPot trRatio tPot
        = .ok (out.rCor, b3) := by
  unfold rdSeason at h
  by_cases hz : (C.fshapeR ≤ 0 ∧ 0 ≤ C.fshapeR) ∧ (C.mid F tOld ∨ C.mid F tAdj)
  · rw [if_pos hz] at h; cases h
  rw [if_neg hz] at h
  simp only at h
  cases hd : rdDZr0 F C (layersOf cells) (C.zrPot F tOld) (C.zrPot F tAdj) with
  | error e => rw [hd] at h; cases h
  | ok v =>
    obtain ⟨d0, b0⟩ := v
    rw [hd] at h
    simp only at h
    cases hy : rdDry F C cells zInit (rdStomatal F C trRatio d0) with
    | error e => rw [hy] at h; cases h
    | ok w =>
      obtain ⟨d2, b2⟩ := w
      rw [hy] at h
      simp only at h
      split at h
      · cases h
      · rename_i rc b3 hr
        obtain rfl := Except.ok.inj h
        refine ⟨d0, b0, d2, b2, b3, rfl, hy, rfl, rfl, rfl, ?_, fun hg => by simp [hg], rfl, hr⟩
        cases germ
        · exact Or.inr rfl
        · by_cases hs : cc ≤ 0 ∧ 0.5 < ccNS
          · right; simp [hs]
          · left; simp [hs]

theorem rdDZr0_ok {F : Fn α} {C : RdCrop α} {layers : List (Lay α)} {zrOld zr d : α} {b : Nat}
    (h : rdDZr0 F C layers zrOld zr = .ok (d, b)) :
    (C.zmin < zr ∧ ∃ a a', limit F layers C.zmin zrOld = .ok a ∧
      limit F layers C.zmin zr = .ok a' ∧ d = a' - a) ∨
    (¬ C.zmin < zr ∧ d = zr - zrOld) := by
  unfold rdDZr0 at h
  split_ifs at h with hc
  · left
    cases h1 : limit F layers C.zmin zrOld with
    | error e => rw [h1] at h; simp at h
    | ok a =>
      cases h2 : limit F layers C.zmin zr with
      | error e => rw [h1, h2] at h; simp at h
      | ok a' =>
        rw [h1, h2] at h
        exact ⟨hc, a, a', rfl, rfl, (Prod.mk.inj (Except.ok.inj h)).1.symm⟩
  · exact Or.inr ⟨hc, (Prod.mk.inj (Except.ok.inj h)).1.symm⟩

/-- the expansion before the stress reductions is non-negative: the potential depth grows with
time and the layer limitation is monotone -/
theorem rdDZr0_nonneg {F : Fn α} (hP : PowLaws F) {C : RdCrop α} (hC : C.WF)
    {layers : List (Lay α)} (hl : LaysNN layers) {tOld tAdj d : α} {b : Nat} (ht : tOld ≤ tAdj)
    (h : rdDZr0 F C layers (C.zrPot F tOld) (C.zrPot F tAdj) = .ok (d, b)) : 0 ≤ d := by
  have hm := zrPot_mono hP hC ht
  rcases rdDZr0_ok h with ⟨_, a, a', h1, h2, rfl⟩ | ⟨_, rfl⟩
  · exact sub_nonneg.mpr (limit_mono hl hm h1 h2)
  · exact sub_nonneg.mpr hm

/-! ### the water-table cap -/

theorem rdGwCap_fst (C : RdCrop α) (wt : Nat) (zGW z : α) :
    (rdGwCap C wt zGW z).1 = if wt = 1 ∧ 0 < zGW ∧ zGW < z then max zGW C.zmin else z := by
  unfold rdGwCap
  by_cases h1 : wt = 1 ∧ 0 < zGW
  · rw [if_pos h1]
    by_cases h2 : zGW < z
    · have h : wt = 1 ∧ 0 < zGW ∧ zGW < z := ⟨h1.1, h1.2, h2⟩
      rw [if_pos h2, if_pos h]
      by_cases h3 : zGW < C.zmin
      · rw [if_pos h3]; exact (max_eq_right h3.le).symm
      · rw [if_neg h3]; exact (max_eq_left (not_lt.mp h3)).symm
    · rw [if_neg h2, if_neg fun h => h2 h.2.2]
  · rw [if_neg h1, if_neg fun h => h1 ⟨h.1, h.2.1⟩]

theorem rdGwCap_zmin (C : RdCrop α) (wt : Nat) (zGW : α) : (rdGwCap C wt zGW C.zmin).1 = C.zmin := by
  unfold rdGwCap
  by_cases h1 : wt = 1 ∧ 0 < zGW
  · rw [if_pos h1]
    by_cases h2 : zGW < C.zmin
    · rw [if_pos h2, if_pos h2]
    · rw [if_neg h2]
  · rw [if_neg h1]

/-! ### the entry point: in season `rootDevelopment` is `rdSeason`, off season a constant -/

/-- `Zroot_init` after the day-1 reset -/
def zInitOf (C : RdCrop α) (dap zRoot : α) : α := if dap ≤ 1 ∧ 1 ≤ dap then C.zmin else zRoot

def rdTAdj (C : RdCrop α) (dap dcd gddCum dgdd : α) : α :=
  if C.calendarType = 1 then dap - dcd else gddCum - dgdd

def rdTOld (C : RdCrop α) (dap dcd gddCum dgdd gdd : α) : α :=
  if C.calendarType = 1 then dap - dcd - 1 else gddCum - dgdd - gdd

theorem zInitOf_day1 (C : RdCrop α) (zRoot : α) : zInitOf C 1 zRoot = C.zmin := by
  unfold zInitOf; rw [if_pos ⟨le_refl _, le_refl _⟩]

theorem zInitOf_later (C : RdCrop α) {dap : α} (zRoot : α) (h : dap ≠ 1) :
    zInitOf C dap zRoot = zRoot := by
  unfold zInitOf; rw [if_neg (fun hh => h (le_antisymm hh.1 hh.2))]

/-- while the delay counters stand still, tomorrow's `tOld` is today's `tAdj` -/
theorem rdTOld_next (C : RdCrop α) (dap dcd gddCum dgdd gdd' : α) :
    rdTOld C (dap + 1) dcd (gddCum + gdd') dgdd gdd' = rdTAdj C dap dcd gddCum dgdd := by
  unfold rdTOld rdTAdj; split_ifs <;> ring

theorem rdTOld_le (C : RdCrop α) (dap dcd gddCum dgdd : α) {gdd : α} (hg : 0 ≤ gdd) :
    rdTOld C dap dcd gddCum dgdd gdd ≤ rdTAdj C dap dcd gddCum dgdd := by
  unfold rdTOld rdTAdj; split_ifs <;> linarith

theorem rootDevelopment_inseason (F : Fn α) (C : RdCrop α) (cells : List (Cell α))
    (dap zRoot dcd gddCum dgdd tr cc ccNS rCor tPot zGW gdd : α) (germ : Bool) (wt : Nat) :
    rootDevelopment F C cells dap zRoot dcd gddCum dgdd tr cc ccNS germ rCor tPot zGW gdd true wt =
      if C.calendarType = 1 ∨ C.calendarType = 2 then
        rdSeason F C cells (rdTAdj C dap dcd gddCum dgdd) (rdTOld C dap dcd gddCum dgdd gdd)
          (zInitOf C dap zRoot) tr cc ccNS germ tPot zGW wt
      else .error "E:unbound" := by
  unfold rootDevelopment rdTAdj rdTOld zInitOf
  rw [if_pos rfl]
  by_cases h1 : C.calendarType = 1
  · rw [if_pos h1, if_pos h1, if_pos h1, if_pos (Or.inl h1)]
  · rw [if_neg h1, if_neg h1, if_neg h1]
    by_cases h2 : C.calendarType = 2
    · rw [if_pos h2, if_pos (Or.inr h2)]
    · rw [if_neg h2, if_neg (not_or.mpr ⟨h1, h2⟩)]

theorem rootDevelopment_season {F : Fn α} {C : RdCrop α} {cells : List (Cell α)}
    {dap zRoot dcd gddCum dgdd tr cc ccNS rCor tPot zGW gdd : α} {germ : Bool} {wt : Nat}
    {out : RdOut α}
    (h : rootDevelopment F C cells dap zRoot dcd gddCum dgdd tr cc ccNS germ rCor tPot zGW gdd true wt
      = .ok out) :
    rdSeason F C cells (rdTAdj C dap dcd gddCum dgdd) (rdTOld C dap dcd gddCum dgdd gdd)
      (zInitOf C dap zRoot) tr cc ccNS germ tPot zGW wt = .ok out := by
  rw [rootDevelopment_inseason] at h
  split_ifs at h
  exact h

theorem rootDevelopment_offseason (F : Fn α) (C : RdCrop α) (cells : List (Cell α))
    (dap zRoot dcd gddCum dgdd tr cc ccNS rCor tPot zGW gdd : α) (germ : Bool) (wt : Nat) :
    rootDevelopment F C cells dap zRoot dcd gddCum dgdd tr cc ccNS germ rCor tPot zGW gdd false wt =
      .ok { zRoot := 0, rCor := rCor, dZr := 0, dZr0 := 0, zrPot := 0, zInit := zRoot, br := 0 } :=
  if_neg Bool.false_ne_true

theorem rootDevelopment_offseason_ok (F : Fn α) (C : RdCrop α) (cells : List (Cell α))
    (dap zRoot dcd gddCum dgdd tr cc ccNS rCor tPot zGW gdd : α) (germ : Bool) (wt : Nat) :
    ∃ out, rootDevelopment F C cells dap zRoot dcd gddCum dgdd tr cc ccNS germ rCor tPot zGW gdd
      false wt = .ok out :=
  ⟨_, rootDevelopment_offseason ..⟩

/-! ## 5. `root_development` as a whole: the sign of the expansion, the water-table cap, the sign of
`r_cor` -/

/-- premises under which the daily expansion is non-negative -/
structure RdHyp (F : Fn α) (C : RdCrop α) (cells : List (Cell α)) (tr gdd : α) : Prop where
  pow : PowLaws F
  exp : ExpOrdLaws F
  crop : C.WF
  lays : LaysNN (layersOf cells)
  tr0 : 0 ≤ tr
  tr1 : tr ≤ 1
  gdd0 : 0 ≤ gdd
  pUp1 : C.pUp1 < 1
  fw1 : C.fshapeW1 ≠ 0
  cellsWF : ∀ x ∈ cells, x.c.thWP < x.c.thFC

theorem rdSeason_dZr {F : Fn α} {C : RdCrop α} {cells : List (Cell α)}
    {tAdj tOld zInit tr cc ccNS tPot zGW gdd : α} {germ : Bool} {wt : Nat} {out : RdOut α}
    (H : RdHyp F C cells tr gdd) (ht : tOld ≤ tAdj)
    (h : rdSeason F C cells tAdj tOld zInit tr cc ccNS germ tPot zGW wt = .ok out) :
    0 ≤ out.dZr0 ∧ 0 ≤ out.dZr ∧ out.dZr ≤ out.dZr0 := by
  obtain ⟨d0, b0, d2, b2, _, hd, hy, e0, _, _, e3, _, _, _⟩ := rdSeason_ok h
  have h0 : 0 ≤ d0 := rdDZr0_nonneg H.pow H.crop H.lays ht hd
  obtain ⟨s0, s1⟩ := rdStomatal_range H.exp C H.tr0 H.tr1 h0
  obtain ⟨y0, y1⟩ := ((rdDry_sat F C cells _ _).2 _ hy).2 H.exp H.pUp1 H.fw1 H.cellsWF s0
  rw [e0]
  rcases e3 with e | e <;> rw [e]
  · exact ⟨h0, y0, y1.trans s1⟩
  · exact ⟨h0, le_rfl, h0⟩

theorem dZr_nonneg {F : Fn α} {C : RdCrop α} {cells : List (Cell α)}
    {dap zRoot dcd gddCum dgdd tr cc ccNS rCor tPot zGW gdd : α} {germ : Bool} {wt : Nat}
    {out : RdOut α} (H : RdHyp F C cells tr gdd)
    (h : rootDevelopment F C cells dap zRoot dcd gddCum dgdd tr cc ccNS germ rCor tPot zGW gdd true wt
      = .ok out) : 0 ≤ out.dZr0 ∧ 0 ≤ out.dZr ∧ out.dZr ≤ out.dZr0 :=
  rdSeason_dZr H (rdTOld_le C dap dcd gddCum dgdd H.gdd0) (rootDevelopment_season h)

theorem zroot_nonshrinking {F : Fn α} {C : RdCrop α} {cells : List (Cell α)}
    {dap zRoot dcd gddCum dgdd tr cc ccNS rCor tPot zGW gdd : α} {germ : Bool} {wt : Nat}
    {out : RdOut α} (H : RdHyp F C cells tr gdd)
    (h : rootDevelopment F C cells dap zRoot dcd gddCum dgdd tr cc ccNS germ rCor tPot zGW gdd true wt
      = .ok out) :
    out.zInit = zInitOf C dap zRoot ∧
    (¬ (wt = 1 ∧ 0 < zGW ∧ zGW < out.zInit + out.dZr) →
      out.zRoot = out.zInit + out.dZr ∧ out.zInit ≤ out.zRoot) ∧
    ((wt = 1 ∧ 0 < zGW ∧ zGW < out.zInit + out.dZr) → out.zRoot = max zGW C.zmin) := by
  obtain ⟨_, hnn, _⟩ := dZr_nonneg H h
  obtain ⟨d0, b0, d2, b2, _, hd, hy, e0, _, e2, e3, _, e5, _⟩ := rdSeason_ok (rootDevelopment_season h)
  rw [e2] at *
  refine ⟨rfl, fun hc => ?_, fun hc => ?_⟩
  · rw [e5, rdGwCap_fst, if_neg hc]
    exact ⟨rfl, le_add_of_nonneg_right hnn⟩
  · rw [e5, rdGwCap_fst, if_pos hc]

theorem zroot_le_gw {F : Fn α} {C : RdCrop α} {cells : List (Cell α)}
    {dap zRoot dcd gddCum dgdd tr cc ccNS rCor tPot zGW gdd : α} {germ : Bool} {wt : Nat}
    {out : RdOut α}
    (h : rootDevelopment F C cells dap zRoot dcd gddCum dgdd tr cc ccNS germ rCor tPot zGW gdd true wt
      = .ok out) (hwt : wt = 1) (hgw : 0 < zGW) (hz : C.zmin ≤ zGW) : out.zRoot ≤ zGW := by
  obtain ⟨d0, b0, d2, b2, _, _, _, _, _, _, _, _, e5, _⟩ := rdSeason_ok (rootDevelopment_season h)
  rw [e5, rdGwCap_fst]
  split_ifs with hc
  · exact max_le le_rfl hz
  · exact not_lt.mp fun hh => hc ⟨hwt, hgw, hh⟩

/-- with a water table shallower than `Zmin` (and `Zroot_init ≥ Zmin`) the roots end the day at
exactly `Zmin` -/
theorem zroot_le_zmin_of_shallow_gw {F : Fn α} {C : RdCrop α} {cells : List (Cell α)}
    {dap zRoot dcd gddCum dgdd tr cc ccNS rCor tPot zGW gdd : α} {germ : Bool} {wt : Nat}
    {out : RdOut α} (H : RdHyp F C cells tr gdd)
    (h : rootDevelopment F C cells dap zRoot dcd gddCum dgdd tr cc ccNS germ rCor tPot zGW gdd true wt
      = .ok out) (hwt : wt = 1) (hgw : 0 < zGW) (hz : zGW < C.zmin)
    (hi : C.zmin ≤ zInitOf C dap zRoot) : out.zRoot = C.zmin := by
  obtain ⟨e2, _, hcap⟩ := zroot_nonshrinking H h
  obtain ⟨_, hnn, _⟩ := dZr_nonneg H h
  rw [hcap ⟨hwt, hgw, by rw [e2]; exact hz.trans_le (hi.trans (le_add_of_nonneg_right hnn))⟩]
  exact max_eq_right hz.le

theorem zroot_no_germination {F : Fn α} {C : RdCrop α} {cells : List (Cell α)}
    {dap zRoot dcd gddCum dgdd tr cc ccNS rCor tPot zGW gdd : α} {wt : Nat} {out : RdOut α}
    (h : rootDevelopment F C cells dap zRoot dcd gddCum dgdd tr cc ccNS false rCor tPot zGW gdd true wt
      = .ok out) : out.dZr = 0 ∧ out.zRoot = (rdGwCap C wt zGW (zInitOf C dap zRoot)).1 := by
  obtain ⟨d0, b0, d2, b2, _, _, _, _, _, _, _, e4, e5, _⟩ := rdSeason_ok (rootDevelopment_season h)
  have := e4 rfl
  rw [this, add_zero] at e5
  exact ⟨this, e5⟩

theorem rootDevelopment_rCor_nonneg {F : Fn α} {C : RdCrop α} {cells : List (Cell α)}
    {dap zRoot dcd gddCum dgdd tr cc ccNS rCor tPot zGW gdd : α} {germ : Bool} {wt : Nat}
    {out : RdOut α} (H : RdHyp F C cells tr gdd)
    (h : rootDevelopment F C cells dap zRoot dcd gddCum dgdd tr cc ccNS germ rCor tPot zGW gdd true wt
      = .ok out) (hi : C.zmin ≤ zInitOf C dap zRoot) (hzm : 0 < C.zmin)
    (hT : 0 ≤ C.sxTop) (hB : 0 ≤ C.sxBot) : 0 ≤ out.rCor := by
  obtain ⟨_, hnn, _⟩ := dZr_nonneg H h
  have hs := rootDevelopment_season h
  obtain ⟨_, _, _, _, b, _, _, _, _, e2, _, _, _, hb⟩ := rdSeason_ok hs
  exact (rdRCor_sat _ _ _ _ _ _).2 _ hb
    (by rw [e2]; exact add_pos_of_pos_of_nonneg (lt_of_lt_of_le hzm hi) hnn) hT hB

/-! ### the invariant: the roots are never deeper than the limited potential depth

That a day preserves it is `C05.roots_le_zmax`. -/

/-- `z` is at most the potential depth at time `t`, and at most its layer-limited value
(whenever the limitation evaluates) -/
def RdInv (F : Fn α) (C : RdCrop α) (layers : List (Lay α)) (z t : α) : Prop :=
  z ≤ C.zrPot F t ∧ ∀ a, limit F layers C.zmin (C.zrPot F t) = .ok a → z ≤ a

theorem rdInv_zmin {F : Fn α} {C : RdCrop α} {layers : List (Lay α)} (hl : LaysNN layers)
    (hs : SkipOK F C.zmin) (t : α) : RdInv F C layers C.zmin t :=
  ⟨zrPot_ge_zmin F C t, fun _ ha => (limit_bounds hl hs (zrPot_ge_zmin F C t) ha).1⟩

/-! ## 6. The layers of a profile: the premises `LaysNN`, `LaysLe100` from facts about compartments;
the layers depend on the compartments only -/

theorem layerOf_pen_mem {i : Nat} {cells : List (Cell α)} {p : α}
    (h : (layerOf i cells).2 = some p) : ∃ x ∈ cells, x.c.pen = p := by
  unfold layerOf at h
  simp only [Option.map_eq_some_iff] at h
  obtain ⟨x, hx, hp⟩ := h
  have := List.mem_of_mem_head? hx
  exact ⟨x, (List.mem_filter.mp this).1, hp⟩

theorem mem_layersOf {cells : List (Cell α)} {l : Lay α} (h : l ∈ layersOf cells) :
    ∃ i, l = layerOf i cells := by
  unfold layersOf at h
  obtain ⟨k, _, hk⟩ := List.mem_map.mp h
  exact ⟨k + 1, hk.symm⟩

theorem laysNN_layersOf {cells : List (Cell α)}
    (h : ∀ x ∈ cells, 0 ≤ x.c.dz ∧ 0 ≤ x.c.pen) : LaysNN (layersOf cells) := by
  intro l hl
  obtain ⟨i, rfl⟩ := mem_layersOf hl
  constructor
  · unfold layerOf
    simp only
    apply npSum_nonneg
    intro y hy
    obtain ⟨x, hx, rfl⟩ := List.mem_map.mp hy
    exact (h x (List.mem_filter.mp hx).1).1
  · intro p hp
    obtain ⟨x, hx, rfl⟩ := layerOf_pen_mem hp
    exact (h x hx).2

theorem laysLe100_layersOf {cells : List (Cell α)} (h : ∀ x ∈ cells, x.c.pen ≤ 100) :
    LaysLe100 (layersOf cells) := by
  intro l hl p hp
  obtain ⟨i, rfl⟩ := mem_layersOf hl
  obtain ⟨x, hx, rfl⟩ := layerOf_pen_mem hp
  exact h x hx

/-- layers as a function of the compartments only -/
def layerOfC (i : Nat) (cs : List (Comp α)) : Lay α :=
  let sel := cs.filter (fun c => c.layer == i)
  (npSum (sel.map (·.dz)), sel.head?.map (·.pen))

theorem layerOf_eq_C (i : Nat) (cells : List (Cell α)) :
    layerOf i cells = layerOfC i (cells.map (·.c)) := by
  unfold layerOf layerOfC
  simp only [List.filter_map, List.map_map, List.head?_map, Option.map_map]
  rfl

theorem layersOf_congr {xs ys : List (Cell α)} (h : ys.map (·.c) = xs.map (·.c)) :
    layersOf ys = layersOf xs := by
  unfold layersOf nLayers
  have e1 : ys.map (·.c.layer) = xs.map (·.c.layer) := by
    have := congrArg (List.map (·.layer)) h
    rw [List.map_map, List.map_map] at this
    exact this
  rw [e1]
  apply List.map_congr_left
  intro k _
  rw [layerOf_eq_C, layerOf_eq_C, h]

#print axioms laysNN_layersOf
#print axioms limit_mono
#print axioms zrPot_mono
#print axioms dZr_nonneg
#print axioms zroot_nonshrinking
#print axioms zroot_le_gw

end Aqua
