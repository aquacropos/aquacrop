import AquaVerif.Properties.C20
import AquaVerif.Proofs.RunClosedExample
/-
**Non-vacuity and counter-examples** over `ℚ`
(`Fq2`, `cfgE 0` of `Proofs/RunClosedExampleCfg.lean`, `Tq` of `Proofs/Day.lean`: a run of ten
growing-season days that gets past emergence, with positive canopy cover, root deepening and
transpiration; `RunClosedExample.check10` is the predicate on it).

A. `inertEq_example`: a configuration `cfgI` that differs from `cfgE 0` in *every* inert parameter
   at once (thresholds, interval, schedule, `NetIrrSMT` of a constant-depth strategy; the whole
   fallow irrigation record; mulch factor and cover without mulches; bund height and bund water
   without bunds; the curve-number percentage without its flag; `Aer` / `Zmin` of the fallow crop;
   the water-table series without a water table; the overwritten fields of `W0`);
   `inert_run_example`: its ten-day run shows exactly what the run of `cfgE 0` shows.
B. neutral settings, alone and **in combination** (`neutral_combination`): mulches on at 0 % cover
   + constant depth 0 + different thresholds ≡ no mulches, rain-fed.
C. `maxIrr0_example`: the premises of `C20.run_maxirr0_is_rainfed` / `run_maxSeason0_rainfed` hold for a
   fixed-interval strategy.
D. counter-examples (findings):
   * `bund_1mm_not_neutral` — bunds of **exactly** 0.001 mm (`z_bund = 0.001` in the model's unit, mm;
     `FieldMngt(bunds=True, z_bund=1e-6)` for the user) are *not* equivalent to no bunds:
     `rainfall_partition` tests `zBund < 0.001`, `infiltration` tests `zBund > 0.001` /
     `zBund <= 0.001` — at the knife edge the day's runoff is 0 instead of the curve-number
     runoff;
   * `maxIrr0_interval0_raises`, `maxIrr0_no_schedule_raises` — `MaxIrr = 0` / `MaxIrrSeason = 0`
     do not silence the exceptions of the strategy (`IrrInterval = 0`: `ZeroDivisionError`; a
     schedule without an entry for the day: `IndexError`), which the rain-fed run does not raise:
     the premise `CfgNoIrrError` is necessary.
-/

set_option linter.unusedSectionVars false
namespace Aqua
namespace InertRunExample
open DayExample FullDayExample RunExample RunClosedExample

/-! ## A. all inert parameters at once -/

def cfgI : RunCfg ℚ :=
  { cfgE 0 with
    W0 := { (cfgE 0).W0 with
            crop := { (cfgE 0).W0.crop with senescence := 7 },
            irr := { (cfgE 0).W0.irr with method := 3, depth := 77 },
            netIrrSMT := 3, wetSurf := 4, co2Cur := 5 },
    irr := { irr := { (cfgE 0).irr.irr with smt := (fun _ => 11), interval := 0 },
             netIrrSMT := 12, wetSurf := (cfgE 0).irr.wetSurf, sched := fun t => some (t : ℚ) },
    fallowIrr := { irr := { method := 2, smt := (fun _ => 1), appEff := 2, maxIrr := 3, interval := 0,
                            depth := 4, maxSeason := -5 },
                   netIrrSMT := 6, wetSurf := 7, sched := fun _ => some (-1) },
    fm := { fmq with zBund := 0.5, cnAdjPct := 30, fMulch := 0.9, mulchPct := 80 },
    fallowFm := { fmq with zBund := 0.25, cnAdjPct := -10, fMulch := 1, mulchPct := 100 },
    bundWater := 40,
    fallowCrop :=
      { cropq' with cw := { cropq'.cw with tr := { cropq'.cw.tr with aer := 99, zMin := 98 } } },
    zgw := fun t => (t : ℚ) }

theorem inertEq_example : InertEq (cfgE 0) cfgI :=
  { clock := rfl, waterTable := rfl, soil := rfl, evapTimeSteps := rfl, simOffSeason := rfl,
    co2Ref := rfl, zGerm := rfl, seasonCrop := fun _ => rfl, fallowCrop := rfl,
    co2Cur := fun _ => rfl, weather := fun _ => rfl, init := rfl,
    zgw := fun h => absurd h (by decide),
    thini := fun _ => rfl,
    bundWater := fun _ h => absurd h (by decide),
    irr := { method := rfl
             smt := fun h => absurd h (by decide)
             interval := fun h => absurd h (by decide)
             sched := fun h => absurd h (by decide)
             depth := fun _ => rfl
             netIrrSMT := fun h => absurd h (by decide)
             appEff := fun _ _ => rfl
             maxIrr := fun _ _ => rfl
             maxSeason := fun _ _ => rfl
             wetSurf := fun _ _ => rfl }
    fm := { srInhb := rfl, bunds := rfl, cnAdj := rfl, mulches := rfl
            zBund := fun h => absurd h (by decide)
            cnAdjPct := fun h => absurd h (by decide)
            fMulch := fun h => absurd h (by decide)
            mulchPct := fun h => absurd h (by decide) }
    fallowFm := { srInhb := rfl, bunds := rfl, cnAdj := rfl, mulches := rfl
                  zBund := fun h => absurd h (by decide)
                  cnAdjPct := fun h => absurd h (by decide)
                  fMulch := fun h => absurd h (by decide)
                  mulchPct := fun h => absurd h (by decide) } }

/-- what `check10` says in terms of `runModel`; `wt` stays a variable, so that nothing is evaluated
here -/
theorem run10_of_check {wt : Nat} (hc : check10 wt = true) :
    ∃ s0 s, runInit (cfgE wt) = .ok s0 ∧ runModel Fq2 Tq (cfgE wt) 10 s0 = .ok s ∧
      s.t = 10 ∧ s.daysRev.length = 10 ∧ 0 < s.day.cc := by
  rw [check10_eq] at hc
  obtain ⟨s0, s, h0, h1, hp⟩ := runChecks_iff.mp hc
  have hp := of_decide_eq_true hp
  exact ⟨s0, s, h0, h1, hp.1, hp.2.2.2.1, hp.2.2.2.2.1⟩

/-- **`run_inert` applies non-vacuously**: the run of the configuration with all inert parameters
changed starts from the same initialised model, succeeds, and shows the same four tables and the
same final state (with positive canopy cover after ten simulated days) -/
theorem inert_run_example : ∃ s0 s s', runInit (cfgE 0) = .ok s0 ∧ runInit cfgI = .ok s0 ∧
    runModel Fq2 Tq (cfgE 0) 10 s0 = .ok s ∧ runModel Fq2 Tq cfgI 10 s0 = .ok s' ∧
    s'.storageTable = s.storageTable ∧ s'.fluxTable = s.fluxTable ∧
    s'.growthTable = s.growthTable ∧ s'.summaryTable = s.summaryTable ∧ s'.day = s.day ∧
    s.daysRev.length = 10 ∧ 0 < s.day.cc := by
  obtain ⟨s0, s, h0, h1, _, hl, hcc⟩ := run10_of_check check10_0
  obtain ⟨s', h2, a, b, c, d, e, _⟩ := run_inert_tables inertEq_example h1
  exact ⟨s0, s, s', h0, by rw [runInit_inert inertEq_example, h0], h1, h2, a, b, c, d, e, hl, hcc⟩

example : DayInert (paramsOf (cfgE 0) 0 true) (paramsOf cfgI 0 true)
    { gs := true, tsc := 3, season := 0, rain := 20, et0 := 5, tmax := 25, tmin := 15, zGW := 0,
      sched := none, lastDay := false }
    { gs := true, tsc := 3, season := 0, rain := 20, et0 := 5, tmax := 25, tmin := 15, zGW := 0,
      sched := some 3, lastDay := false } :=
  { cx := rfl, zGerm := rfl, waterTable := rfl, soil := rfl, crop := rfl, evapTimeSteps := rfl,
    simOffSeason := rfl, co2Cur := rfl, co2Ref := rfl, day := rfl,
    irr := fun _ => (inertEq_example.irr.day 3),
    fm := inertEq_example.fm }

/-! ## B. neutral settings in combination -/

/-- mulches on at 0 % cover, constant irrigation depth 0 -/
def cfgN : RunCfg ℚ :=
  { cfgE 0 with fm := { fmq with mulches := true, mulchPct := 0 },
                irr := { (cfgE 0).irr with irr := { (cfgE 0).irr.irr with depth := 0 } } }

/-- no mulches (other mulch parameters), rain-fed (other thresholds and schedule) -/
def irrN' : IrrParams ℚ :=
  { (cfgE 0).irr.irr with
    method := 0, depth := 50, smt := (fun _ => 1), maxIrr := 3, appEff := 4, maxSeason := -1 }
def cfgN' : RunCfg ℚ :=
  { cfgE 0 with fm := { fmq with mulches := false, mulchPct := 35, fMulch := 0.7 },
                irr := { (cfgE 0).irr with irr := irrN', wetSurf := 12, sched := fun _ => some 8 } }

/-- **combination**: neutral mulches + neutral irrigation depth + inert parameters, by
transitivity of the run equalities -/
theorem neutral_combination (k : Nat) (s : RunState ℚ) :
    (runModel Fq2 Tq cfgN' k s).map RunState.view = (runModel Fq2 Tq cfgN k s).map RunState.view := by
  have e1 := run_mulch_neutral (F := Fq2) (T := Tq) (cfg := cfgN) (Or.inl rfl) k s
  have e2 := run_depth0_rainfed (F := Fq2) (T := Tq)
    (cfg := { cfgN with fm := { cfgN.fm with mulches := false } }) rfl rfl k s
  have e3 : InertEq ({ cfgN with fm := { cfgN.fm with mulches := false } } : RunCfg ℚ).rainfed
      cfgN' :=
    { clock := rfl, waterTable := rfl, soil := rfl, evapTimeSteps := rfl, simOffSeason := rfl,
      co2Ref := rfl, zGerm := rfl, seasonCrop := fun _ => rfl, fallowCrop := rfl,
      co2Cur := fun _ => rfl, weather := fun _ => rfl, init := rfl,
      zgw := fun h => absurd h (by decide), thini := fun _ => rfl,
      bundWater := fun _ h => absurd h (by decide),
      irr := { method := rfl
               smt := fun h => absurd h (by decide)
               interval := fun h => absurd h (by decide)
               sched := fun h => absurd h (by decide)
               depth := fun h => absurd h (by decide)
               netIrrSMT := fun h => absurd h (by decide)
               appEff := fun h => absurd rfl h
               maxIrr := fun h => absurd rfl h
               maxSeason := fun h => absurd rfl h
               wetSurf := fun h => absurd rfl h }
      fm := { srInhb := rfl, bunds := rfl, cnAdj := rfl, mulches := rfl
              zBund := fun h => absurd h (by decide)
              cnAdjPct := fun h => absurd h (by decide)
              fMulch := fun h => absurd h (by decide)
              mulchPct := fun h => absurd h (by decide) }
      fallowFm := { srInhb := rfl, bunds := rfl, cnAdj := rfl, mulches := rfl
                    zBund := fun _ => rfl, cnAdjPct := fun _ _ _ => rfl
                    fMulch := fun _ => rfl, mulchPct := fun _ => rfl } }
  exact (run_inert (F := Fq2) (T := Tq) e3 k s).trans (e2.trans e1)

theorem neutral_runs :
    (match runInit cfgN with
     | .error _ => false
     | .ok s0 =>
       match runModel Fq2 Tq cfgN 3 s0 with
       | .ok s => decide (s.t = 3 ∧ (s.fluxTable.map (·.irrDay)) = [0, 0, 0] ∧
           (s.daysRev.map (·.D.gs)) = [true, true, true])
       | .error _ => false) = true := by decide +kernel

/-! ## C. the premises of the `MaxIrr = 0` / `MaxIrrSeason = 0` theorems -/

/-- fixed interval of 3 days with `MaxIrr = 0` and `MaxIrrSeason = 0` -/
def irrX : IrrParams ℚ := { (cfgE 0).irr.irr with method := 2, maxIrr := 0, maxSeason := 0 }
def cfgX : RunCfg ℚ := { cfgE 0 with irr := { (cfgE 0).irr with irr := irrX } }

theorem maxIrr0_example (k : Nat) (s0 : RunState ℚ) (h0 : runInit cfgX = .ok s0) :
    (runModel Fq2 Tq cfgX.rainfed k s0).map RunState.view =
      (runModel Fq2 Tq cfgX k s0).map RunState.view := by
  have he : CfgNoIrrError cfgX :=
    ⟨by decide, by decide, fun _ => by decide, fun h => absurd h (by decide)⟩
  have hI : IrrInv s0.day := by
    rw [(runInit_ok h0).1]
    exact ⟨le_refl _, Nat.zero_le _⟩
  exact C20.run_maxirr0_is_rainfed he rfl k hI

example (k : Nat) (s0 : RunState ℚ) (hI : IrrInv s0.day) :
    (runModel Fq2 Tq cfgX.rainfed k s0).map RunState.view =
      (runModel Fq2 Tq cfgX k s0).map RunState.view :=
  run_maxSeason0_rainfed
    ⟨by decide, by decide, fun _ => by decide, fun h => absurd h (by decide)⟩ rfl k hI

/-! ## D. counter-examples -/

/-- bunds of exactly 0.001 mm / no bunds -/
def cfgB (b : Bool) : RunCfg ℚ := { cfgE 0 with fm := { fmq with bunds := b, zBund := 0.001 } }

def runoff1 (cfg : RunCfg ℚ) : Option (List ℚ) :=
  match runInit cfg with
  | .error _ => none
  | .ok s0 =>
    match runModel Fq2 Tq cfg 1 s0 with
    | .ok s => some (s.fluxTable.map (·.runoff))
    | .error _ => none

/-- **FINDING (knife edge)**: with bunds of exactly 0.001 mm the day has no runoff, without bunds the
curve-number runoff `7349521/3688380 ≈ 1.99 mm` of 20 mm rain — `C20.run_low_bund_is_no_bund` cannot be extended
to `zBund ≤ 0.001` -/
theorem bund_1mm_not_neutral :
    runoff1 (cfgB true) = some [0] ∧ runoff1 (cfgB false) = some [7349521 / 3688380] := by
  constructor <;> decide +kernel

/-- fixed interval with `IrrInterval = 0`, `MaxIrr = 0`, `MaxIrrSeason = 0` -/
def irrZ : IrrParams ℚ :=
  { (cfgE 0).irr.irr with method := 2, interval := 0, maxIrr := 0, maxSeason := 0 }
def cfgZ : RunCfg ℚ := { cfgE 0 with irr := { (cfgE 0).irr with irr := irrZ } }

/-- schedule strategy without an entry for the day, `MaxIrr = 0`, `MaxIrrSeason = 0` -/
def irrS : IrrParams ℚ := { (cfgE 0).irr.irr with method := 3, maxIrr := 0, maxSeason := 0 }
def cfgS : RunCfg ℚ := { cfgE 0 with irr := { (cfgE 0).irr with irr := irrS } }

def outcome1 (cfg : RunCfg ℚ) : Option String :=
  match runInit cfg with
  | .error e => some e
  | .ok s0 =>
    match runModel Fq2 Tq cfg 1 s0 with
    | .ok _ => none
    | .error e => some e

/-- **FINDING**: zero maxima do not silence a zero interval — the run raises, the rain-fed run
does not -/
theorem maxIrr0_interval0_raises :
    outcome1 cfgZ = some "E:zerodiv" ∧ outcome1 cfgZ.rainfed = none := by
  constructor <;> decide +kernel

/-- **FINDING**: … nor a schedule without an entry for the day -/
theorem maxIrr0_no_schedule_raises :
    outcome1 cfgS = some "E:index" ∧ outcome1 cfgS.rainfed = none := by
  constructor <;> decide +kernel

end InertRunExample
end Aqua

-- the main lemmas of the family `Proofs/Inert*.lean`, `InertRun*.lean`, which the examples instantiate
#print axioms Aqua.fullDayTrace_of_sims
#print axioms Aqua.fullDay_of_sims
#print axioms Aqua.run_sim
#print axioms Aqua.run_inert
#print axioms Aqua.run_inert_tables
#print axioms Aqua.run_inert_error
#print axioms Aqua.runInit_inert
#print axioms Aqua.run_mulch_neutral
#print axioms Aqua.run_fallow_mulch_neutral
#print axioms Aqua.run_fallow_low_bund
#print axioms Aqua.run_fallow_cnAdj_zero
#print axioms Aqua.run_depth0_rainfed
#print axioms Aqua.run_maxSeason0_rainfed
#print axioms Aqua.run_maxSeason0_summary
#print axioms Aqua.InertRunExample.inertEq_example
#print axioms Aqua.InertRunExample.inert_run_example
#print axioms Aqua.InertRunExample.neutral_combination
#print axioms Aqua.InertRunExample.neutral_runs
#print axioms Aqua.InertRunExample.maxIrr0_example
#print axioms Aqua.InertRunExample.bund_1mm_not_neutral
#print axioms Aqua.InertRunExample.maxIrr0_interval0_raises
#print axioms Aqua.InertRunExample.maxIrr0_no_schedule_raises
