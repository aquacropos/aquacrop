import AquaVerif.Model.Reset
/-
GENERATED by harness/translate/resetfields.py from /repo/aquacrop/entities/initParamVariables.py and
/repo/aquacrop/timestep/reset_initial_conditions.py — do not edit.

Both obligations are evaluated as `List.Perm`: each generated name is looked up in what is left of the
reviewed list, so while the two lists are in the same order every lookup succeeds at the head; the order
itself does not matter.
-/

namespace Aqua.Generated
open Aqua.Reset

def allFieldsGen : List String := ["age_days", "age_days_ns", "aer_days", "aer_days_comp", "irr_cum", "delayed_gdds", "delayed_cds", "pct_lag_phase", "t_early_sen", "gdd_cum", "day_submerged", "irr_net_cum", "dap", "e_pot", "t_pot", "pre_adj", "crop_mature", "crop_dead", "germination", "premat_senes", "harvest_flag", "growing_season", "yield_form", "stage2", "wt_in_soil", "stage", "f_pre", "f_post", "fpost_dwn", "fpost_upp", "h1_cor_asum", "h1_cor_bsum", "f_pol", "s_cor1", "s_cor2", "hi_ref", "HIfinal", "growth_stage", "tr_ratio", "r_cor", "canopy_cover", "canopy_cover_adj", "canopy_cover_ns", "canopy_cover_adj_ns", "biomass", "biomass_ns", "YieldPot", "harvest_index", "harvest_index_adj", "ccx_act", "ccx_act_ns", "ccx_w", "ccx_w_ns", "ccx_early_sen", "cc_prev", "protected_seed", "DryYield", "FreshYield", "z_root", "cc0_adj", "surface_storage", "z_gw", "th_fc_Adj", "th", "thini", "time_step_counter", "precipitation", "temp_max", "temp_min", "et0", "sumET0EarlySen", "gdd", "w_surf", "evap_z", "w_stage_2", "depletion", "taw"]
def resetFieldsGen : List String := ["age_days", "age_days_ns", "aer_days", "irr_cum", "delayed_gdds", "delayed_cds", "pct_lag_phase", "t_early_sen", "gdd_cum", "day_submerged", "irr_net_cum", "dap", "e_pot", "t_pot", "aer_days_comp", "pre_adj", "crop_mature", "crop_dead", "germination", "premat_senes", "harvest_flag", "stage", "f_pre", "f_post", "fpost_dwn", "fpost_upp", "h1_cor_asum", "h1_cor_bsum", "f_pol", "s_cor1", "s_cor2", "growth_stage", "tr_ratio", "r_cor", "canopy_cover", "canopy_cover_adj", "canopy_cover_ns", "canopy_cover_adj_ns", "biomass", "biomass_ns", "harvest_index", "harvest_index_adj", "ccx_act", "ccx_act_ns", "ccx_w", "ccx_w_ns", "ccx_early_sen", "cc_prev", "protected_seed", "cc0_adj", "sumET0EarlySen", "HIfinal", "DryYield", "FreshYield", "th", "surface_storage"]

/-- the state object has exactly the reviewed fields … -/
theorem allFields_match : (∀ f ∈ allFieldsGen, f ∈ allFields) ∧ (∀ f ∈ allFields, f ∈ allFieldsGen) :=
  have h : allFieldsGen.Perm allFields := by decide +kernel
  ⟨fun _ => h.mem_iff.mp, fun _ => h.mem_iff.mpr⟩

/-- … and the season-start reset assigns exactly the reviewed ones. -/
theorem resetFields_match : (∀ f ∈ resetFieldsGen, f ∈ resetFields) ∧ (∀ f ∈ resetFields, f ∈ resetFieldsGen) :=
  have h : resetFieldsGen.Perm resetFields := by decide +kernel
  ⟨fun _ => h.mem_iff.mp, fun _ => h.mem_iff.mpr⟩

end Aqua.Generated
