import AquaVerif.Properties.C06Run
import AquaVerif.Properties.C13Run
import AquaVerif.Properties.C19Run
import AquaVerif.Proofs.RunLiftIrr
import AquaVerif.Proofs.RunLiftSum
import AquaVerif.Proofs.RunClosedExample

/-
Non-vacuity of `Proofs/RunLift*.lean` on the `ℚ` examples, including the run with fallow days
after the harvest under the same season counter (`harvest_date_is_fallow`).

* `cfgE wt` (`Proofs/RunClosedExampleCfg.lean`: the configuration of `Proofs/Run.lean` with
  water-table flag `wt`, 14-day window, harvest on day 20) satisfies the configuration premises
  `CfgSurfOK`, `RainOK`, `BundOK`, `IrrCapOK`; `lift10` instantiates the C02 / C13 / C19 theorems on its ten-day run
  (20 mm of rain at curve number 72 and 10 mm of constant-depth irrigation every day, water table
  at 1 m); `lift_no_table`: without a water table they hold for EVERY reachable state of every
  run, no hypothesis about computed values.  `fmq` has no bunds, so `BundOK` holds for want of
  bunds and the bund branch of the C02 theorems is not exercised.
* `cfgS`: the same with a 3-day season (`harvest = [3]`): the run of three days finishes with one
  summary row `(season 0, step 2, IrrTot 30)`; `summary_example` instantiates the C06 theorems:
  `30 = 10 + 10 + 10`.
* `cfgP`: two seasons, off-season simulated: the summary row of season 0 is written on step 2
  (the day before the latest harvest date) with `IrrTot = 30`; the harvest date itself (step 3,
  same season counter) is a fallow day — `growing_season = False`, `dap = 0`, no irrigation — so
  the sum of the daily column over ALL rows of season 0 is the seasonal total
  (`harvest_date_is_fallow`).  The growing-season test is `harvest_date > step_start_time`; with
  `>=` step 3 would be a growing day with 10 mm of irrigation (sum 40 ≠ 30).
-/

set_option linter.unusedSectionVars false
namespace Aqua
namespace RunLiftExample
open DayExample FullDayExample RunExample RunClosedExample Aqua.Clock

/-! ### the configuration premises -/

theorem cnOK_q : CnOK Fq2 Wq.soil fmq :=
  { plain := fun _ => by norm_num [cn0Of, Wq, fmq]
    adj := fun h => by simp [Wq] at h }

/-- non-vacuity of the antecedent-moisture branch of `CnOK`: curve number 40 with `Fq2`
(`pow x 2 = x·x`, `pow x 3 = x`: `CNbot ≈ 14.3`, `CNtop ≈ 59.8`, rounding = identity) -/
theorem cnOK_adj : CnOK Fq2 { Wq.soil with cn := 40, adjCN := true } fmq :=
  { plain := fun h => by simp at h
    adj := fun _ wt h0 h1 => by
      have e : cn0Of ({ Wq.soil with cn := 40, adjCN := true } : SoilW ℚ) fmq = 40 := by
        norm_num [cn0Of, fmq]
      have hb : 0 < (cnBounds Fq2 (40 : ℚ)).1 ∧ (cnBounds Fq2 (40 : ℚ)).1 ≤ (cnBounds Fq2 40).2 ∧
          (cnBounds Fq2 (40 : ℚ)).2 ≤ 100 := by decide +kernel
      rw [e, mul_comm]
      exact ⟨lt_of_lt_of_le hb.1 (convex_ge le_rfl hb.2.1 h0 h1),
        le_trans (convex_le hb.2.1 le_rfl h0 h1) hb.2.2⟩ }

theorem surfOK_E (wt : Nat) : CfgSurfOK Fq2 (cfgE wt) := ⟨cnOK_q, cnOK_q, fnOK_q.powSq⟩

theorem rainOK_E (wt : Nat) : RainOK (cfgE wt) := ⟨fun t => by norm_num [cfgE, cfgq]⟩

theorem bundOK_E (wt : Nat) : BundOK (cfgE wt) :=
  { same := fun h _ => by
      have : fmq.bunds = true := h.1
      simp [fmq] at this
    init := fun g h => by
      have : fmq.bunds = true := by
        cases g <;> exact h.1
      simp [fmq] at this }

/-- `IrrMngt` and `FallowIrrMngt` of `cfgq` differ in the method only -/
theorem irrSetOf_q {cfg : RunCfg ℚ} (hi : cfg.irr = cfgq.irr) (hf : cfg.fallowIrr = cfgq.fallowIrr)
    (season : Int) :
    (irrSetOf cfg season).irr.appEff = 90 ∧ (irrSetOf cfg season).irr.maxIrr = 25 ∧
      (irrSetOf cfg season).irr.maxSeason = 1000 := by
  unfold irrSetOf
  by_cases h : 0 ≤ season
  · rw [if_pos h, hi]; exact ⟨rfl, rfl, rfl⟩
  · rw [if_neg h, hf]; exact ⟨rfl, rfl, rfl⟩

theorem irrCapOK_q {cfg : RunCfg ℚ} (hi : cfg.irr = cfgq.irr) (hf : cfg.fallowIrr = cfgq.fallowIrr)
    (h0 : cfg.init.irrCum = 0) : IrrCapOK cfg :=
  { maxSeason := fun season => by rw [(irrSetOf_q hi hf season).2.2]; norm_num
    init := by rw [(irrSetOf_q hi hf _).2.2, h0]; norm_num }

theorem irrCapOK_E (wt : Nat) : IrrCapOK (cfgE wt) := irrCapOK_q rfl rfl rfl

/-! ### C02, C13, C19 on the ten-day run with the water table -/

/-- what the lifted theorems say of one recorded day of a run of `cfgE wt` -/
def DayFacts (d : DayRec ℚ) : Prop :=
  d.r.flux.infl + d.r.flux.runoff = 20 + irrApplied d.P.W d.D.water d.r.water ∧
  0 ≤ d.r.flux.runoff ∧ d.r.flux.runoff ≤ 20 + d.r.water.irr + d.st.pond ∧
  (d.r.flux.infl < 0 → 0 < d.st.pond ∧ -d.r.flux.infl ≤ d.st.pond) ∧
  (d.D.gs = true → d.r.water.irr = irrCap 1000 d.st.irrCum (pmax 0 (pmin 25 10))) ∧
  (d.D.gs = false → d.r.water.irr = 0) ∧
  0 ≤ d.r.water.irr ∧ d.r.water.irr ≤ 25 ∧ d.r.state.irrCum ≤ 1000

section
variable {wt : Nat} {s : RunState ℚ}

theorem dayFacts_E (hr : RunReach Fq2 Tq (cfgE wt) s) (hRW : ∀ d ∈ s.daysRev, ResidualW d) :
    ∀ d ∈ s.daysRev, DayFacts d := by
  have hC := cfgOK_E wt
  have hS := surfOK_E wt
  have hW := rainOK_E wt
  intro d hd
  have c1 := run_partition hS hW hr d hd
  have c2 := run_runoff_bounds hC hS hW hr hRW d hd
  have hq := irrSetOf_q (cfg := cfgE wt) rfl rfl
  have c3 := run_runoff_le_supply hC hS hW (fun k => by rw [(hq k).1]; norm_num) hr hRW d hd
  have c4 := run_negative_infiltration hC (cfgTrOK_E wt) (cfgRwOK_E wt) (cfgEsOK_E wt)
    (weatherOK_E wt) (bundOK_E wt) hr hRW d hd
  have c5 := C13.run_constant_depth hr d hd
  have c6 := run_irr_daily_max (fun k => by rw [(hq k).2.1]; norm_num) hr d hd
  have c7 := ((run_season_cap (irrCapOK_E wt) hr).2 d hd).2
  have c8 := run_irr_none hr d hd
  rw [irrSetOf_of_nonneg ((run_season_ge hr).2 d hd)] at c5 c6 c7
  refine ⟨c1, c2.1, c3, fun hneg => (c4 hneg).2, fun hg => c5 hg rfl, fun hg => c8 (Or.inl hg),
    c6.1, c6.2, c7⟩

end

/-- the ten-day run of `cfgE 1` (water table at 1 m): the run theorems of C02, C13 and C19 on each
of its days, with positive transpiration on one of them -/
theorem lift10 :
    ∃ s, RunReach Fq2 Tq (cfgE 1) s ∧ s.daysRev.length = 10 ∧
      (∀ d ∈ s.daysRev, DayFacts d ∧ d.r.flux.zGW = 1 ∧
        (∀ y ∈ d.r.state.cells, y.c.thFC ≤ y.fcAdj ∧ y.fcAdj ≤ y.c.thS) ∧
        (∀ y ∈ d.r.state.cells, 1 ≤ y.c.zMid → y.th = y.c.thS) ∧
        (∀ y ∈ d.r.water.crCells, ∃ x ∈ d.r.trace.f.cells, y.c = x.c ∧ y.fcAdj = x.fcAdj ∧
          x.th ≤ y.th ∧ y.th ≤ max x.th (x.fcAdj + 1 / 20000)) ∧
        0 ≤ d.r.flux.cr) ∧
      ∃ d ∈ s.daysRev, 0 < d.r.flux.tr := by
  obtain ⟨s, hr, _, hlen, _, hR, hpos⟩ := reach10 1 check10_1
  have hRW : ∀ d ∈ s.daysRev, ResidualW d := fun d hd => (hR d hd).cr
  have hC := cfgOK_E 1
  refine ⟨s, hr, hlen, fun d hd => ?_, hpos⟩
  obtain ⟨g1, _⟩ := (run_gw_depth hr d hd).1 rfl
  obtain ⟨k1, k2, _⟩ := C19.run_cr_le_fcadj_with_slack hC hr hRW rfl d hd
  exact ⟨dayFacts_E hr hRW d hd, g1, C19.run_fcadj_range hC hr hRW rfl d hd,
    C19.run_below_table_saturated hC hr hRW rfl d hd, k1, k2⟩

theorem lift_no_table {s : RunState ℚ} (hr : RunReach Fq2 Tq (cfgE 0) s) :
    ∀ d ∈ s.daysRev, DayFacts d ∧ d.r.flux.cr = 0 ∧ d.r.flux.gwIn = 0 ∧ d.r.flux.zGW = 0 := by
  have hRW := run_residualW_of_no_table (by decide) hr
  intro d hd
  obtain ⟨a, _, c, _⟩ := C19.run_no_table_zero_fluxes (cfgOK_E 0) hr (by decide) d hd
  exact ⟨dayFacts_E hr hRW d hd, a, c, ((run_gw_depth hr d hd).2 (by decide)).1⟩

/-! ### C06: a three-day season with its summary row -/

/-- `cfgq` with a window of 8 days and the latest harvest date on day 3 -/
def cfgS : RunCfg ℚ :=
  { cfgq with clock := { n := 8, planting := [0], harvest := [3], offSeason := false,
                         season0 := 0 } }

theorem validS : Valid cfgS.clock := by
  show Valid { n := 8, planting := [0], harvest := [3], offSeason := false, season0 := 0 }
  decide

theorem initOK_S : InitOK cfgS := ⟨rfl, rfl, rfl, rfl⟩
theorem initIrr0_S : InitIrr0 cfgS := ⟨rfl, rfl⟩

/-- three days: the third one (step 2) is the day before the harvest date; the run finishes with
one summary row -/
def checkS : Bool :=
  runChecks Fq2 Tq cfgS 3 fun s => decide (s.finished = true ∧ s.daysRev.length = 3 ∧
    s.summaryTable.map (fun x => (x.season, x.tsc, x.irrTot)) = [(0, 2, 30)] ∧
    s.fluxTable.map (fun f => (f.season, f.tsc, f.irrDay)) = [(0, 0, 10), (0, 1, 10), (0, 2, 10)])

theorem checkS_true : checkS = true := by decide +kernel

/-- the C06 theorems on a run with a summary row: the row `(season 0, step 2)` reports
`IrrTot = 30`, which is the sum `10 + 10 + 10` of the irrigation column over the three days of
the season (all its rows; equally the rows up to the harvest step), and repeats the yields of the
`crop_growth` row of step 2 -/
theorem summary_example :
    ∃ s, RunReach Fq2 Tq cfgS s ∧ s.summaryTable.length = 1 ∧
      (∀ x ∈ s.summaryTable, x.season = 0 ∧ x.tsc = 2 ∧ x.irrTot = 30 ∧
        x.irrTot = ((s.fluxTable.filter (fun f => decide (f.season = x.season))).map
          (·.irrDay)).sum ∧
        x.irrTot = ((s.fluxTable.filter
          (fun f => decide (f.season = x.season) && decide (f.tsc ≤ x.tsc))).map (·.irrDay)).sum ∧
        x.irrTot ≤ 1000 ∧
        ∃ g ∈ s.growthTable, g.season = x.season ∧ g.tsc = x.tsc ∧ x.dryYield = g.dryYield ∧
          x.freshYield = g.freshYield ∧ x.yieldPot = g.yieldPot) ∧
      (s.summaryTable.map (·.season)).Pairwise (· < ·) := by
  obtain ⟨s, hr, hc⟩ := reach_of_runChecks checkS_true
  obtain ⟨_, _, a3, _⟩ := of_decide_eq_true hc
  have hK : IrrCapOK cfgS := irrCapOK_q rfl rfl rfl
  have hlen : s.summaryTable.length = 1 := by
    have := congrArg List.length a3
    simpa using this
  refine ⟨s, hr, hlen, fun x hx => ?_, run_summary_rows validS.wf initOK_S hr⟩
  have hmem : (x.season, x.tsc, x.irrTot) ∈
      s.summaryTable.map (fun x => (x.season, x.tsc, x.irrTot)) := List.mem_map_of_mem hx
  rw [a3] at hmem
  simp only [List.mem_singleton, Prod.mk.injEq] at hmem
  obtain ⟨e1, e2, e3⟩ := hmem
  exact ⟨e1, e2, e3, run_summary_irrigation validS initOK_S initIrr0_S hr x hx,
    C06.run_seasonal_irrigation_is_sum_of_daily_column validS initOK_S initIrr0_S hr x hx,
    C13.run_summary_total_le_max validS initOK_S hK (by decide) hr x hx,
    run_summary_yields hr x hx⟩

/-! ### the fallow days after the summary row (off-season simulated) -/

/-- two seasons (planting on days 0 and 6, latest harvest dates on days 3 and 9), off-season
simulated -/
def cfgP : RunCfg ℚ :=
  { cfgq with clock := { n := 12, planting := [0, 6], harvest := [3, 9], offSeason := true,
                         season0 := 0 } }

theorem validP : Valid cfgP.clock := by
  show Valid { n := 12, planting := [0, 6], harvest := [3, 9], offSeason := true, season0 := 0 }
  decide

theorem initOK_P : InitOK cfgP := ⟨rfl, rfl, rfl, rfl⟩
theorem initIrr0_P : InitIrr0 cfgP := ⟨rfl, rfl⟩

def checkP : Bool :=
  runChecks Fq2 Tq cfgP 5 fun s => decide (s.finished = false ∧
    s.summaryTable.map (fun x => (x.season, x.tsc, x.irrTot)) = [(0, 2, 30)] ∧
    s.fluxTable.map (fun f => (f.season, f.tsc, f.dap, f.irrDay)) =
      [(0, 0, 1, 10), (0, 1, 2, 10), (0, 2, 3, 10), (0, 3, 0, 0), (0, 4, 0, 0)] ∧
    s.storageTable.map (·.gs) = [true, true, true, false, false])

theorem checkP_true : checkP = true := by decide +kernel

/-- With the off-season simulated, the latest harvest date is a fallow day of the season whose
summary row has just been written: the summary row of season 0 is written on step 2 (the day
before the latest harvest date 3) with `IrrTot = 30`; steps 3 and 4 — same season counter — have
`growing_season = False`, `dap = 0` and no irrigation, so the sum of the daily irrigation column
over all rows of season 0 is `30`, the seasonal total (`run_summary_irrigation`, instantiated
for this `Valid` configuration; `run_no_growing_day_after_harvest` for the two fallow days). -/
theorem harvest_date_is_fallow :
    ∃ s, RunReach Fq2 Tq cfgP s ∧ Valid cfgP.clock ∧
      (∃ x ∈ s.summaryTable, x.season = 0 ∧ x.tsc = 2 ∧ x.irrTot = 30) ∧
      s.fluxTable.map (fun f => (f.season, f.tsc, f.dap, f.irrDay)) =
        [(0, 0, 1, 10), (0, 1, 2, 10), (0, 2, 3, 10), (0, 3, 0, 0), (0, 4, 0, 0)] ∧
      s.storageTable.map (·.gs) = [true, true, true, false, false] ∧
      ((s.fluxTable.filter (fun f => decide (f.season = 0))).map (·.irrDay)).sum = 30 ∧
      (∀ x ∈ s.summaryTable,
        x.irrTot = ((s.fluxTable.filter (fun f => decide (f.season = x.season))).map
          (·.irrDay)).sum) ∧
      (∀ x ∈ s.summaryTable, ∀ d ∈ s.daysRev, d.D.season = x.season → x.tsc < d.D.tsc →
        FallowDay d) ∧
      (∃ d ∈ s.daysRev, d.D.season = 0 ∧ 2 < d.D.tsc) := by
  obtain ⟨s, hr, hc⟩ := reach_of_runChecks checkP_true
  obtain ⟨_, a2, a3, a4⟩ := of_decide_eq_true hc
  have hsum : ((s.fluxTable.filter (fun f => decide (f.season = 0))).map (·.irrDay)).sum
      = 30 := by
    have e : (s.fluxTable.filter (fun f => decide (f.season = 0))).map (·.irrDay) =
        ((s.fluxTable.map (fun f => (f.season, f.tsc, f.dap, f.irrDay))).filter
          (fun p => decide (p.1 = 0))).map (fun p => p.2.2.2) := by
      rw [List.filter_map, List.map_map]
      rfl
    rw [e, a3]
    norm_num [List.filter]
  refine ⟨s, hr, validP, ?_, a3, a4, hsum,
    run_summary_irrigation validP initOK_P initIrr0_P hr,
    run_no_growing_day_after_harvest validP.wf initOK_P hr, ?_⟩
  · cases hs : s.summaryTable with
    | nil => rw [hs] at a2; simp at a2
    | cons x rest =>
      rw [hs] at a2
      simp only [List.map_cons, List.cons.injEq, Prod.mk.injEq] at a2
      exact ⟨x, List.mem_cons_self, a2.1.1, a2.1.2.1, a2.1.2.2⟩
  · -- the fallow day of step 3 exists among the recorded days
    have hmem : ((0 : Int), 3, 0, (0 : ℚ)) ∈
        s.fluxTable.map (fun f => (f.season, f.tsc, f.dap, f.irrDay)) := by
      rw [a3]; simp
    obtain ⟨f, hf, hfe⟩ := List.mem_map.mp hmem
    obtain ⟨d, hd, rfl⟩ := mem_fluxTable.mp hf
    obtain ⟨e1, e2, _⟩ := fullDay_row_keys (run_days hr d hd)
    simp only [Prod.mk.injEq] at hfe
    refine ⟨d, hd, by rw [← e2]; exact hfe.1, ?_⟩
    rw [← e1, hfe.2.1]
    decide

end RunLiftExample
end Aqua

#print axioms Aqua.RunLiftExample.cnOK_adj
#print axioms Aqua.RunLiftExample.lift10
#print axioms Aqua.RunLiftExample.lift_no_table
#print axioms Aqua.RunLiftExample.summary_example
#print axioms Aqua.RunLiftExample.harvest_date_is_fallow
