import AquaVerif.Proofs.Day

/-
Day-level lemmas for `Proofs/RunClosed.lean`: three facts about one successful `fullDay` that the
run-level premises `DayOK` / `DayCropOK` ask for.

A. the aeration-day counters `aer_days_comp` stay non-negative through a day (`fullDay_aer_nonneg`,
   from `transp_aer_nonneg`);
B. the root-correction factor `r_cor` computed by `root_development` is non-negative
   (`fullDay_rCor_nonneg`, from `rootDevelopment_rCor_nonneg`);
C. the yield-formation switch of `biomass_accumulation` is in range once the reference harvest
   index is positive (`fullDay_bioSwitch`): discharges `DayCropOK.sw`.
-/

set_option linter.unusedSectionVars false
namespace Aqua
variable {α : Type} [Field α] [LinearOrder α] [IsStrictOrderedRing α]

section full
variable {F : Fn α} {T : TrigFn α} {P : DayParams α} {st : DayState' α} {D : DayIn' α}
  {r : DayResult α}

/-! ## A. aeration-day counters stay non-negative -/

theorem fullDay_aer_nonneg (h : fullDay F T P st D = .ok r)
    (haer : ∀ x ∈ st.cells, 0 ≤ x.aer) : ∀ y ∈ r.state.cells, 0 ≤ y.aer := by
  obtain ⟨X, hs, rfl⟩ := fullDay_ok' h
  have e_aer : ∀ y ∈ X.e.cells, 0 ≤ y.aer :=
    forall_of_map_eq (·.aer) (day_aer hs.water) (fun a => 0 ≤ a) haer
  have ht := hs.water.ht
  have t_aer := transp_aer_nonneg (F := F)
    (st := dayTrState (X.cropDay P st) st.water X.e.pond X.r.daySub X.i.depletion X.i.taw)
    e_aer (natNum_nonneg _) ht
  have hw := map_eq_of_forall₂ (groundwaterInflow_frame _ _ _ _ hs.water.hw) (·.aer)
    (fun x y h => h.2.2.2.1)
  exact forall_of_map_eq (·.aer) hw (fun a => 0 ≤ a) t_aer

/-! ## B. the root-correction factor is non-negative -/

/-- off season `r_cor` is left alone, in season it is what `root_development` computes from a depth
of at least `Zmin > 0` -/
theorem fullDay_rCor_nonneg (h : fullDay F T P st D = .ok r) (hp : RootPre F P st.cells)
    (hi : RootInv F P st) (h0 : 0 ≤ st.rCor) (hzm : 0 < P.cx.rd.zmin)
    (hT : 0 ≤ P.cx.rd.sxTop) (hB : 0 ≤ P.cx.rd.sxBot) :
    0 ≤ r.crop.rCor ∧ r.state.rCor = r.crop.rCor := by
  obtain ⟨c1, c2, _, _, c5, c6⟩ := fullDay_counters h
  obtain ⟨X, hs, rfl⟩ := fullDay_ok' h
  refine ⟨?_, rfl⟩
  show 0 ≤ X.rd.rCor
  have hrd := hs.hrd
  cases hg : D.gs with
  | false =>
    rw [hg] at hrd
    rw [(C05.roots_zero_offseason hrd).2]; exact h0
  | true =>
    obtain ⟨d1, _, d3⟩ := c5 hg
    have d1' : X.tc.dap = st.dap + 1 := d1
    have d3' : X.tc.gddCum = st.gddCum + X.tc.gdd := d3
    rw [hg, d1', d3'] at hrd
    exact rootDevelopment_rCor_nonneg (hs.rdHyp hg hp hi).1 hrd hi.zInit.1 hzm hT hB

/-! ## C. the yield-formation switch is in range once the reference harvest index is positive -/

theorem fullDay_bioSwitch (h : fullDay F T P st D = .ok r)
    (ht3 : P.cx.hi.cropType = 1 ∨ P.cx.hi.cropType = 2 ∨ P.cx.hi.cropType = 3)
    (hst : P.cx.bio.hiStartCD = P.cx.hi.hiStartCD) (hg : D.gs = true)
    (hpos : 0 < r.state.hiRef) :
    BioSwitchOK P.cx.bio (natNum r.growth.dap) r.state.delayedCds r.state.pctLagPhase := by
  obtain ⟨X, hs, rfl⟩ := fullDay_ok' h
  have hhr := hs.hhr
  rw [hg] at hhr
  have hpos' : 0 < X.hr.hiRef := hpos
  rw [hhr] at hpos'
  obtain ⟨t0, l0, l1⟩ := hiref_pos_facts F P.cx.hi _ ht3 hpos'
  rw [← hhr] at l0 l1
  refine ⟨fun _ => ⟨l0, l1⟩, fun _ => ?_⟩
  show 0 ≤ bioHIt P.cx.bio (natNum X.tc.dap) X.ge.s.delayedCds
  unfold bioHIt
  rw [hst]
  have : hiTime P.cx.hi (natNum X.tc.dap) X.ge.s.delayedCds =
      natNum X.tc.dap - X.ge.s.delayedCds - P.cx.hi.hiStartCD - 1 := rfl
  have t0' : 0 < hiTime P.cx.hi (natNum X.tc.dap) X.ge.s.delayedCds := t0
  rw [this] at t0'
  exact t0'.le

end full

end Aqua

#print axioms Aqua.fullDay_aer_nonneg
#print axioms Aqua.fullDay_rCor_nonneg
#print axioms Aqua.fullDay_bioSwitch
