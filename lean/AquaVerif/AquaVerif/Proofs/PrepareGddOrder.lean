import AquaVerif.Proofs.PrepareGdd

/-
Order of the converted calendar (`Model/PrepareGdd.lean`) for any number of seasons, for
`sum_fun = 'mean'` and `'median'`.

A. `np.mean` keeps pointwise order (`gddNpMean_mono'`; it is the arithmetic mean whatever the
   length, `npSum_eq_sum` of `Proofs/NpSum.lean`).
B. `sortAsc` keeps pointwise order (`sortAsc_forall₂`), so `np.median` is monotone
   (`gddNpMedian_mono`).
C. `prepareGdd_mono'` and its instances: the converted thresholds keep the order of the
   calendar-day indexes they were read at (`C05.converted_calendar_order_relations`).
-/

set_option linter.unusedSectionVars false
namespace Aqua
variable {α : Type} [Field α] [LinearOrder α] [IsStrictOrderedRing α]

/-! ## A. the mean -/

theorem gddNpMean_mono' {a b : List α} (h : List.Forall₂ (· ≤ ·) a b) :
    gddNpMean a ≤ gddNpMean b := by
  rw [gddNpMean_eq', gddNpMean_eq', h.length_eq]
  exact div_le_div_of_nonneg_right h.sum_le_sum (Nat.cast_nonneg _)

/-! ## B. the median -/

theorem insertAsc_eq (x : α) (l : List α) : insertAsc x l = insertKey id x l := by
  induction l with
  | nil => rfl
  | cons y ys ih => rw [insertAsc, insertKey, ih]; rfl

theorem mem_insertAsc (x z : α) (l : List α) : z ∈ insertAsc x l ↔ z = x ∨ z ∈ l := by
  rw [insertAsc_eq, (insertKey_perm id x l).mem_iff, List.mem_cons]

theorem insertAsc_pairwise (x : α) {l : List α} (hl : l.Pairwise (· ≤ ·)) :
    (insertAsc x l).Pairwise (· ≤ ·) :=
  insertAsc_eq x l ▸ insertKey_sorted id x hl

theorem sortAsc_pairwise (l : List α) : (sortAsc l).Pairwise (· ≤ ·) := by
  induction l with
  | nil => simp [sortAsc]
  | cons x xs ih => exact insertAsc_pairwise x ih

theorem insertAsc_eq_cons {a : α} {s : List α} (h : ∀ z ∈ s, a ≤ z) : insertAsc a s = a :: s := by
  cases s with
  | nil => rfl
  | cons b s => rw [insertAsc, if_pos (h b List.mem_cons_self)]

theorem forall₂_insertAsc {s t : List α} (h : List.Forall₂ (· ≤ ·) s t) :
    ∀ (x y : α), x ≤ y → s.Pairwise (· ≤ ·) → t.Pairwise (· ≤ ·) →
      List.Forall₂ (· ≤ ·) (insertAsc x s) (insertAsc y t) := by
  induction h with
  | nil => intro x y hxy _ _; exact .cons hxy .nil
  | @cons a b s' t' hab hst ih =>
    intro x y hxy hs ht
    have hs' := List.pairwise_cons.mp hs
    have ht' := List.pairwise_cons.mp ht
    rw [insertAsc, insertAsc]
    by_cases hxa : x ≤ a
    · rw [if_pos hxa]
      by_cases hyb : y ≤ b
      · rw [if_pos hyb]
        exact .cons hxy (.cons hab hst)
      · -- `a :: s'` is `a` inserted into `s'`, and `a ≤ b < y`
        have key := ih a y (hab.trans (not_le.mp hyb).le) hs'.2 ht'.2
        rw [insertAsc_eq_cons hs'.1] at key
        rw [if_neg hyb]
        exact .cons (hxa.trans hab) key
    · rw [if_neg hxa]
      by_cases hyb : y ≤ b
      · -- `b :: t'` is `b` inserted into `t'`, and `a < x ≤ b`
        have key := ih x b (hxy.trans hyb) hs'.2 ht'.2
        rw [insertAsc_eq_cons ht'.1] at key
        rw [if_pos hyb]
        exact .cons ((not_le.mp hxa).le.trans hxy) key
      · rw [if_neg hyb]
        exact .cons hab (ih x y hxy hs'.2 ht'.2)

/-- **sorting keeps pointwise order** (the k-th smallest is monotone) -/
theorem sortAsc_forall₂ {a b : List α} (h : List.Forall₂ (· ≤ ·) a b) :
    List.Forall₂ (· ≤ ·) (sortAsc a) (sortAsc b) := by
  induction h with
  | nil => simp [sortAsc]
  | @cons x y a' b' hxy hab ih =>
    exact forall₂_insertAsc ih x y hxy (sortAsc_pairwise a') (sortAsc_pairwise b')

theorem gddNpMedian_mono {a b : List α} (h : List.Forall₂ (· ≤ ·) a b) :
    gddNpMedian a ≤ gddNpMedian b := by
  have hs := sortAsc_forall₂ h
  have hl := hs.length_eq
  unfold gddNpMedian
  simp only [← hl]
  by_cases h0 : (sortAsc a).length = 0
  · simp [h0]
  · simp only [h0, if_false]
    by_cases h1 : (sortAsc a).length % 2 = 1
    · simp only [h1, if_true]
      exact gddNpMean_mono' (List.forall₂_take _ (List.forall₂_drop _ hs))
    · simp only [h1, if_false]
      exact gddNpMean_mono' (List.forall₂_take _ (List.forall₂_drop _ hs))

/-! ## C. the converted calendar keeps the order of the calendar-day indexes -/

theorem summarise_mono {sumFun : Nat} (hsf : sumFun = 0 ∨ sumFun = 1) (o1 o2 : α) {a b : List α}
    (h : List.Forall₂ (· ≤ ·) a b) : summarise sumFun o1 a ≤ summarise sumFun o2 b := by
  rcases hsf with rfl | rfl
  · simpa [summarise] using gddNpMean_mono' h
  · simpa [summarise] using gddNpMedian_mono h

theorem prepareGdd_mono' {toInt : α → Int} {cropType : Nat} {hasCol : Bool} {sumFun : Nat}
    {s : GddStagesIn α} {old g : GddStages α} {rows : List (Option Nat × α)}
    (hsf : sumFun = 0 ∨ sumFun = 1) (hg : ∀ r ∈ rows, 0 ≤ r.2)
    (h : prepareGdd toInt cropType hasCol sumFun s old rows = .ok g) {a b : Stage}
    (ha : 0 ≤ toInt (a.cd s)) (hab : toInt (a.cd s) ≤ toInt (b.cd s)) : a.val g ≤ b.val g := by
  obtain ⟨vs, hall, hv⟩ := prepareGdd_val h
  rw [hv a, hv b]
  refine summarise_mono hsf _ _ ?_
  rw [List.forall₂_map_left_iff, List.forall₂_map_right_iff, List.forall₂_same]
  intro v hvm
  obtain ⟨k, _, hs⟩ := allSeasons_mem hall v hvm
  exact seasonStages_mono (seasonGdd_nonneg hg k) hs ha hab

theorem prepareGdd_single_season_mono {toInt : α → Int} {cropType : Nat} {hasCol : Bool}
    {sumFun : Nat} {s : GddStagesIn α} {old g : GddStages α} {rows : List (Option Nat × α)}
    {k : Option Nat} (hg : ∀ r ∈ rows, 0 ≤ r.2)
    (h : prepareGdd toInt cropType hasCol sumFun s old rows = .ok g)
    (hk : uniqLabels (rows.map (·.1)) = [k]) (hsf : sumFun = 0 ∨ sumFun = 1) {a b : Stage}
    (ha : 0 ≤ toInt (a.cd s)) (hab : toInt (a.cd s) ≤ toInt (b.cd s)) : a.val g ≤ b.val g :=
  prepareGdd_mono' hsf hg h ha hab

theorem prepareGdd_mean_mono' {toInt : α → Int} {cropType : Nat} {hasCol : Bool}
    {s : GddStagesIn α} {old g : GddStages α} {rows : List (Option Nat × α)}
    (hg : ∀ r ∈ rows, 0 ≤ r.2)
    (h : prepareGdd toInt cropType hasCol 0 s old rows = .ok g) {a b : Stage}
    (ha : 0 ≤ toInt (a.cd s)) (hab : toInt (a.cd s) ≤ toInt (b.cd s)) : a.val g ≤ b.val g :=
  prepareGdd_mono' (Or.inl rfl) hg h ha hab

theorem prepareGdd_median_mono {toInt : α → Int} {cropType : Nat} {hasCol : Bool}
    {s : GddStagesIn α} {old g : GddStages α} {rows : List (Option Nat × α)}
    (hg : ∀ r ∈ rows, 0 ≤ r.2)
    (h : prepareGdd toInt cropType hasCol 1 s old rows = .ok g) {a b : Stage}
    (ha : 0 ≤ toInt (a.cd s)) (hab : toInt (a.cd s) ≤ toInt (b.cd s)) : a.val g ≤ b.val g :=
  prepareGdd_mono' (Or.inr rfl) hg h ha hab

/-! ## examples: `npSum_eq_sum` at nine values; the median of three and of four values -/

example : npSum ([1, 2, 3, 4, 5, 6, 7, 8, 9] : List ℚ) = 45 := by
  rw [npSum_eq_sum]; norm_num

example : gddNpMedian ([3, 1, 2] : List ℚ) = 2 ∧ gddNpMedian ([4, 1, 3, 2] : List ℚ) = 5 / 2 := by
  decide +kernel

#print axioms gddNpMean_mono'
#print axioms prepareGdd_mean_mono'
#print axioms sortAsc_forall₂
#print axioms gddNpMedian_mono
#print axioms prepareGdd_median_mono
#print axioms prepareGdd_single_season_mono

end Aqua
