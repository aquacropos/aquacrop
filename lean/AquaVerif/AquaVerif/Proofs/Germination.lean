import AquaVerif.Model.Germination
import AquaVerif.Proofs.Basic
/-
Lemmas about `Model/Germination.lean`.  No law about `F.round3` is needed.
-/

set_option linter.unusedSectionVars false
namespace Aqua
variable {α : Type} [Field α] [LinearOrder α] [IsStrictOrderedRing α]

theorem germination_offseason (F : Fn α) (s : GermState α) (zGerm : α) (cells : List (Cell α))
    (germThr : α) (sown : Bool) (gdd : α) :
    ∃ out, germination F s zGerm cells germThr sown gdd false = .ok out ∧
      out.s.germination = false ∧ out.s.protectedSeed = false ∧ out.s.delayedCds = 0 ∧
      out.s.delayedGdds = 0 := by
  unfold germination
  simp

theorem germination_already (F : Fn α) {s : GermState α} (zGerm : α) (cells : List (Cell α))
    (germThr : α) (sown : Bool) (gdd : α) (hg : s.germination = true) :
    ∃ out, germination F s zGerm cells germThr sown gdd true = .ok out ∧ out.s = s := by
  unfold germination
  simp [hg]

theorem germLoop_isSome_iff (F : Fn α) (zGerm : α) : ∀ (cells : List (Cell α)) (a : GermAcc α),
    (germLoop F zGerm cells a).isSome ↔ ∃ x ∈ cells, zGerm ≤ x.c.dzsum := by
  intro cells
  induction cells with
  | nil => intro a; simp [germLoop]
  | cons x xs ih =>
    intro a
    simp only [germLoop]
    split_ifs with hc
    · simp only [Option.isSome_some, true_iff]; exact ⟨x, by simp, hc⟩
    · rw [ih]
      constructor
      · rintro ⟨y, hy, h⟩; exact ⟨y, List.mem_cons_of_mem _ hy, h⟩
      · rintro ⟨y, hy, h⟩
        rcases List.mem_cons.mp hy with rfl | hy'
        · exact absurd h hc
        · exact ⟨y, hy', h⟩

theorem germination_step {F : Fn α} {s : GermState α} {zGerm : α} {cells : List (Cell α)}
    {germThr : α} {sown : Bool} {gdd : α} {out : GermOut α} (hg : s.germination = false)
    (h : germination F s zGerm cells germThr sown gdd true = .ok out) :
    (out.s.germination = true ∧ out.s.protectedSeed = sown ∧ out.s.delayedCds = s.delayedCds ∧
        out.s.delayedGdds = s.delayedGdds ∧ germThr ≤ out.wcProp) ∨
    (out.s.germination = false ∧ out.s.protectedSeed = false ∧
        out.s.delayedCds = s.delayedCds + 1 ∧ out.s.delayedGdds = s.delayedGdds + gdd ∧
        out.wcProp < germThr) := by
  unfold germination at h
  simp only [hg, if_true, Bool.false_eq_true, if_false] at h
  cases hl : germLoop F zGerm cells { wr := 0, fc := 0, wp := 0 } with
  | none => rw [hl] at h; simp at h
  | some a =>
    rw [hl] at h
    simp only at h
    split_ifs at h with hc
    · left
      simp only [Except.ok.injEq] at h
      rw [← h]; exact ⟨rfl, rfl, rfl, rfl, hc⟩
    · right
      simp only [Except.ok.injEq] at h
      rw [← h]; exact ⟨rfl, rfl, rfl, rfl, not_le.mp hc⟩

theorem germination_delay_step {F : Fn α} {s : GermState α} {zGerm : α} {cells : List (Cell α)}
    {germThr : α} {sown : Bool} {gdd : α} {out : GermOut α}
    (h : germination F s zGerm cells germThr sown gdd true = .ok out) :
    (s.delayedCds ≤ out.s.delayedCds ∧ out.s.delayedCds ≤ s.delayedCds + 1) ∧
    (0 ≤ gdd → s.delayedGdds ≤ out.s.delayedGdds ∧ out.s.delayedGdds ≤ s.delayedGdds + gdd) ∧
    (out.s.germination = true →
      out.s.delayedCds = s.delayedCds ∧ out.s.delayedGdds = s.delayedGdds) := by
  have stay : ∀ x y : α, 0 ≤ y → x ≤ x ∧ x ≤ x + y :=
    fun x y hy => ⟨le_refl _, le_add_of_nonneg_right hy⟩
  have adv : ∀ x y : α, 0 ≤ y → x ≤ x + y ∧ x + y ≤ x + y :=
    fun x y hy => ⟨le_add_of_nonneg_right hy, le_refl _⟩
  cases hsg : s.germination with
  | true =>
    obtain ⟨o, ho, hso⟩ := germination_already F zGerm cells germThr sown gdd hsg
    rw [ho] at h
    rw [← Except.ok.inj h, hso]
    exact ⟨stay _ _ zero_le_one, stay _ _, fun _ => ⟨rfl, rfl⟩⟩
  | false =>
    rcases germination_step hsg h with ⟨_, _, c, d, _⟩ | ⟨a, _, c, d, _⟩
    · rw [c, d]
      exact ⟨stay _ _ zero_le_one, stay _ _, fun _ => ⟨rfl, rfl⟩⟩
    · rw [c, d]
      exact ⟨adv _ _ zero_le_one, adv _ _, fun hh => by rw [a] at hh; cases hh⟩

theorem germination_season_facts {F : Fn α} {s : GermState α} {zGerm : α} {cells : List (Cell α)}
    {germThr : α} {sown : Bool} {gdd : α} {out : GermOut α} (hgdd : 0 ≤ gdd)
    (h : germination F s zGerm cells germThr sown gdd true = .ok out) :
    s.delayedCds ≤ out.s.delayedCds ∧ s.delayedGdds ≤ out.s.delayedGdds ∧
    (s.germination = true → out.s.germination = true) ∧
    ((s.protectedSeed = true → s.germination = true) →
      (out.s.protectedSeed = true → out.s.germination = true)) := by
  rcases Bool.eq_false_or_eq_true s.germination with hg | hg
  · obtain ⟨o, ho, hs⟩ := germination_already F zGerm cells germThr sown gdd hg
    rw [ho] at h
    have := Except.ok.inj h
    rw [← this, hs]
    exact ⟨le_refl _, le_refl _, fun _ => hg, fun hp => hp⟩
  · rcases germination_step hg h with ⟨a, b, c, d, _⟩ | ⟨a, b, c, d, _⟩
    · rw [c, d, a]; exact ⟨le_refl _, le_refl _, fun _ => rfl, fun _ _ => rfl⟩
    · rw [c, d, b]
      refine ⟨by linarith, by linarith, fun hh => by rw [hg] at hh; simp at hh,
        fun _ hh => by simp at hh⟩

theorem germination_delays_nonneg {F : Fn α} {s : GermState α} {zGerm : α} {cells : List (Cell α)}
    {germThr : α} {sown : Bool} {gdd : α} {gs : Bool} {out : GermOut α} (hgdd : 0 ≤ gdd)
    (h1 : 0 ≤ s.delayedCds) (h2 : 0 ≤ s.delayedGdds)
    (h : germination F s zGerm cells germThr sown gdd gs = .ok out) :
    0 ≤ out.s.delayedCds ∧ 0 ≤ out.s.delayedGdds := by
  cases gs with
  | false =>
    obtain ⟨o, ho, _, _, c, d⟩ := germination_offseason F s zGerm cells germThr sown gdd
    rw [ho] at h
    have := Except.ok.inj h
    rw [← this, c, d]; exact ⟨le_refl _, le_refl _⟩
  | true =>
    obtain ⟨a, b, _, _⟩ := germination_season_facts hgdd h
    exact ⟨le_trans h1 a, le_trans h2 b⟩

theorem germWcProp_range {a : GermAcc α} (h0 : a.wp ≤ a.wr) (h1 : a.wr ≤ a.fc) (h2 : a.wp < a.fc)
    (hw : 0 ≤ a.wr) : 0 ≤ germWcProp a ∧ germWcProp a ≤ 1 := by
  unfold germWcProp
  simp only
  rw [if_neg (not_lt.mpr hw)]
  have hden : 0 < a.fc - a.wp := sub_pos.mpr h2
  exact ⟨sub_nonneg.mpr ((div_le_one hden).mpr (sub_le_sub_left h0 _)),
    sub_le_self 1 (div_nonneg (sub_nonneg.mpr h1) hden.le)⟩

#print axioms germination_offseason
#print axioms germination_step
#print axioms germination_season_facts

end Aqua
