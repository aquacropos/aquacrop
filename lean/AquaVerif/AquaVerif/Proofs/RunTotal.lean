import AquaVerif.Proofs.RunTotalDay
import AquaVerif.Proofs.RunClosed

/-
A run of a valid configuration never takes an error branch (property C16 as a theorem about
`performR` / `runModel`, `Model/Run.lean`).

Premises — all on the configuration:
* `CfgOK F T cfg` (`Proofs/RunClosed.lean`; used here: the laws of `F`, the crop records `CropOK`,
  the initial root envelope);
* `CfgTotOK F cfg Zcap Zev`: well-formed clock and cleared initial flags; the geometry of the
  initial profile (`ProfOK`); the option switches of every crop record (`CropTotOK`); irrigation,
  groundwater, evaporation and CO2 parameters; `growth_stage ≤ 4` and `evap_z` in range initially;
* `TopOK F cfg.W0.soil.zTop cfg.init.cells` (`assert comp_sto > 0` of `root_zone_water`).

No premise about the weather and none about computed values (in particular no `ResidualW`: the
error sites read the water contents nowhere).

Results: the invariant `RunInvZ` in every reachable state (`run_invZ`), `performR_total` (from
every reachable unfinished state `_perform_timestep` returns `.ok`), `run_total`
(`run_model(num_steps = k)` returns `.ok` for every `k ≥ 1`; `k = 0` is the documented rejection
`E:numsteps`), `run_finishes` (`num_steps = n` from the initial state ends with
`finished = true`).
-/

set_option linter.unusedSectionVars false
namespace Aqua
open Aqua.Clock
variable {α : Type} [Field α] [LinearOrder α] [IsStrictOrderedRing α]

/-! ## premises on the configuration -/

structure CropTotOK (c : CropParams α) (Zcap : α) : Prop where
  gdd : c.cx.gddMethod = 1 ∨ c.cx.gddMethod = 2 ∨ c.cx.gddMethod = 3
  calW : c.cw.calendarType = 1 ∨ c.cw.calendarType = 2
  calRd : c.cx.rd.calendarType = 1 ∨ c.cx.rd.calendarType = 2
  calCc : c.cx.cc.calendarType = 1 ∨ c.cx.cc.calendarType = 2
  cold : c.cw.tr.trColdStress = 0 ∨ c.cw.tr.trColdStress = 1
  ctype : c.cx.hi.cropType = 1 ∨ c.cx.hi.cropType = 2 ∨ c.cx.hi.cropType = 3
  pol : (c.cx.hik.polHeatStress = 0 ∨ c.cx.hik.polHeatStress = 1) ∧
    (c.cx.hik.polColdStress = 0 ∨ c.cx.hik.polColdStress = 1)
  /-- `SxBot ≠ 0` (Python-float division in the `rCor` update of `root_development`) -/
  sxBot : c.cx.rd.sxBot ≠ 0
  capZmax : c.cx.rd.zmax ≤ Zcap
  capTr : c.cw.tr.zMin ≤ Zcap
  capCc : c.cx.cc.zMin ≤ Zcap
  capHi : c.cx.hik.zMin ≤ Zcap

/-- the fallow filler crop (`Crop_.Aer = 5; Crop_.Zmin = 0.3`) differs in `cw.tr` only -/
theorem CropTotOK.fallowAdjust {c : CropParams α} {Zcap : α} (h : CropTotOK c Zcap)
    (h3 : (0.3 : α) ≤ Zcap) : CropTotOK (fallowAdjust c) Zcap :=
  { h with capTr := h3 }

structure IrrTotOK (i : IrrSet α) : Prop where
  method : i.irr.method ≤ 5
  interval : i.irr.method = 2 → 1 ≤ i.irr.interval
  appEff : 0 ≤ i.irr.appEff

structure CfgTotOK (F : Fn α) (cfg : RunCfg α) (Zcap Zev : α) : Prop where
  wf : WF cfg.clock
  initOK : InitOK cfg
  prof : ProfOK F cfg.W0.soil cfg.W0.waterTable cfg.zGerm Zcap Zev cfg.init.cells
  crop : ∀ season : Int, CropTotOK (cropOf cfg season) Zcap
  cap0 : 0 ≤ Zcap
  irr : IrrTotOK cfg.irr
  fallowIrr : IrrTotOK cfg.fallowIrr
  /-- schedule strategy: every day of the window has a non-negative scheduled depth -/
  sched : cfg.irr.irr.method = 3 → ∀ t, ∃ v, cfg.irr.sched t = some v ∧ 0 ≤ v
  wt : cfg.W0.waterTable = 0 ∨ cfg.W0.waterTable = 1
  /-- with a water table its depth is defined (not NaN) and non-negative on every day -/
  zgw : cfg.W0.waterTable = 1 → ∀ t, 0 ≤ cfg.zgw t
  steps : cfg.W0.evapTimeSteps ≠ 0
  evLo : cfg.W0.soil.evapZMin ≤ Zev
  evHi : cfg.W0.soil.evapZMax + 0.001 ≤ Zev
  evFuel : cfg.W0.soil.evapZMax - cfg.W0.soil.evapZMin ≤ 100
  co2 : cfg.W0.co2Ref ≠ 550
  stage0 : cfg.init.growthStage ≤ 4
  ev0 : cfg.W0.soil.evapZMax - 100 ≤ cfg.init.evapZ
  ev1 : cfg.init.evapZ ≤ Zev

/-! ## the invariant -/

/-- what totality needs of a run state: unchanged compartments, the root envelope,
`growth_stage ≤ 4`, `evap_z ∈ [EvapZmax − 100, Zev]` -/
structure RunInvZ (F : Fn α) (cfg : RunCfg α) (Zev : α) (s : RunState α) : Prop where
  comps : s.day.cells.map (·.c) = cfg.init.cells.map (·.c)
  root : RootInv F (paramsOf cfg s.season false) s.day
  stage : s.day.growthStage ≤ 4
  evLo : cfg.W0.soil.evapZMax - 100 ≤ s.day.evapZ
  evHi : s.day.evapZ ≤ Zev
  season : -1 ≤ s.season

section day
variable {F : Fn α} {T : TrigFn α} {cfg : RunCfg α} {Zcap Zev : α} {s : RunState α}

theorem gsOfDay_season {ph : Option (Nat × Int)} {season : Int} {t : Nat} {m d : Bool}
    (hph : seasonInfo cfg.clock season = .ok ph) (hg : gsOfDay ph t m d = true) : 0 ≤ season := by
  have hs := seasonInfo_isSome hph
  cases ph with
  | none => simp [gsOfDay] at hg
  | some q => simpa using hs.symm

theorem dayParOK_of (hC : CfgOK F T cfg) (hZ : CfgTotOK F cfg Zcap Zev) {ph : Option (Nat × Int)}
    (hph : seasonInfo cfg.clock s.season = .ok ph) :
    DayParOK F (paramsOf cfg s.season (dayInOf cfg s ph).gs) (dayInOf cfg s ph) Zcap Zev := by
  have hc := hZ.crop s.season
  have hirr := irrSetOf_ind hZ.irr hZ.fallowIrr s.season
  exact
    { gdd := fun _ => hc.gdd
      wt := hZ.wt
      zgw := fun hw => by
        have hw' : cfg.W0.waterTable = 1 := hw
        show 0 ≤ (if cfg.W0.waterTable = 1 then cfg.zgw s.t else 0)
        rw [if_pos hw']; exact hZ.zgw hw' s.t
      calW := fun _ => hc.calW
      calRd := fun _ => hc.calRd
      calCc := fun _ => hc.calCc
      irrM := hirr.method
      irrInt := hirr.interval
      irrSched := fun hg hm => by
        have hm' : (irrSetOf cfg s.season).irr.method = 3 := hm
        show ∃ v, (irrSetOf cfg s.season).sched s.t = some v ∧ 0 ≤ v
        rw [irrSetOf_of_nonneg (gsOfDay_season hph hg)] at hm' ⊢
        exact hZ.sched hm' s.t
      appEff := hirr.appEff
      steps := hZ.steps
      evLo := hZ.evLo
      evHi := hZ.evHi
      evFuel := hZ.evFuel
      co2 := hZ.co2
      cold := hc.cold
      ctype := hc.ctype
      pol := hc.pol
      zminPos := (hC.crop s.season).zminPos
      sxBot := hc.sxBot
      capZmax := hc.capZmax
      capTr := hc.capTr
      capCc := hc.capCc
      capHi := hc.capHi
      cap0 := hZ.cap0 }

theorem rootPre_of (hC : CfgOK F T cfg) (hZ : CfgTotOK F cfg Zcap Zev) (hI : RunInvZ F cfg Zev s)
    (gs : Bool) : RootPre F (paramsOf cfg s.season gs) s.day.cells := by
  have hc := hC.crop s.season
  have hG := hZ.prof.congr hI.comps
  exact ⟨hC.fn.pow, hC.fn.expOrd, hc.rdWF, hc.temp, hc.pUp1, hc.fw1, hc.skip,
    fun x hx => ⟨hG.dz x hx, (hG.pen x hx).1, (hG.pen x hx).2.1, (hG.pen x hx).2.2⟩⟩

theorem dayStOK_of (hI : RunInvZ F cfg Zev s) (gs : Bool) :
    DayStOK F (paramsOf cfg s.season gs) s.day Zev :=
  ⟨rootInv_of_cx_eq (paramsOf_cx cfg s.season false gs) hI.root, hI.stage, hI.evLo, hI.evHi⟩

end day

/-! ## the invariant along a run, and totality -/

section run
variable {F : Fn α} {T : TrigFn α} {cfg : RunCfg α} {Zcap Zev : α} {s s' : RunState α}

theorem run_invZ (hC : CfgOK F T cfg) (hZ : CfgTotOK F cfg Zcap Zev) (hr : RunReach F T cfg s) :
    RunInvZ F cfg Zev s := by
  obtain ⟨h2, h3, h4, h5, h6⟩ := (run_ind_season (H := fun _ => True) (R := fun _ => True)
    (I := fun k st => RootInv F (paramsOf cfg k false) st ∧ st.growthStage ≤ 4 ∧
      cfg.W0.soil.evapZMax - 100 ≤ st.evapZ ∧ st.evapZ ≤ Zev ∧ -1 ≤ k)
    ⟨hC.init.root, hZ.stage0, hZ.ev0, hZ.ev1, hC.season0⟩
    (fun {s s' d} hrs _ hs h _ => by
      rw [hs.st] at h
      have hI : RunInvZ F cfg Zev s := ⟨run_comps hrs, h.1, h.2.1, h.2.2.1, h.2.2.2.1, h.2.2.2.2⟩
      obtain ⟨ph, hph, eD⟩ := hs.D
      have hr := hs.day
      rw [hs.P, hs.st, eD] at hr
      have hG := hZ.prof.congr hI.comps
      obtain ⟨hst, hlo, hhi⟩ := fullDay_stOK hr hG (dayParOK_of hC hZ hph) (dayStOK_of hI _)
      exact ⟨⟨rootInv_of_cx_eq (paramsOf_cx cfg s.season _ false)
          (fullDay_rootInv hr (rootPre_of hC hZ hI _) (dayStOK_of hI _).root),
        hst, hlo, hhi, hI.season⟩, trivial⟩)
    -- `reset_initial_conditions` keeps `evap_z` and zeroes `growth_stage`
    (fun k st h => ⟨resetState_rootInv cfg _ _ _,
      Nat.zero_le 4, h.2.2.1, h.2.2.2.1, le_trans h.2.2.2.2 (Int.le_add_one (le_refl _))⟩)
    hr (fun _ _ => trivial)).1
  exact ⟨run_comps hr, h2, h3, h4, h5, h6⟩

theorem performR_total (hC : CfgOK F T cfg) (hZ : CfgTotOK F cfg Zcap Zev)
    (hTop : TopOK F cfg.W0.soil.zTop cfg.init.cells) (hr : RunReach F T cfg s)
    (hf : s.finished = false) :
    ∃ s', performR F T cfg s = .ok s' ∧ (s'.finished = false → s.t < s'.t) := by
  have hL := run_live hZ.wf hZ.initOK hr hf
  have hI := run_invZ hC hZ hr
  have hph : seasonInfo cfg.clock s.season = .ok (phOf cfg.clock s.season) :=
    seasonInfo_eq hZ.wf.len_eq hL.shi
  obtain ⟨r, hday⟩ := fullDay_total (T := T) (Zcap := Zcap) (Zev := Zev) (hZ.prof.congr hI.comps)
    (hTop.congr hI.comps) (dayParOK_of hC hZ hph) (rootPre_of hC hZ hI _) (dayStOK_of hI _)
  let ev : Ev := fun _ =>
    (matureTest (paramsOf cfg s.season (dayInOf cfg s (phOf cfg.clock s.season)).gs) r.trace.tc,
      r.state.cropDead)
  have hc := perform_eq hZ.wf ev hL
  obtain ⟨s', hp, hcl, _, _⟩ := performR_of_clock hf hph hday (ev := ev) rfl hc
  refine ⟨s', hp, fun hf' => ?_⟩
  have hf'' : (stepT cfg.clock ev s.clockOf).finished = false := by rw [← hcl]; exact hf'
  have := (live_step hZ.wf ev hL hf'').2
  rw [← hcl] at this
  exact this

/-- `for i in range(k): _perform_timestep(); if finished: return`: `Steps.run_total` with the days
left as measure -/
theorem runStepsR_total (hC : CfgOK F T cfg) (hZ : CfgTotOK F cfg Zcap Zev)
    (hTop : TopOK F cfg.W0.soil.zTop cfg.init.cells) (k : Nat) {s : RunState α}
    (hr : RunReach F T cfg s) (hf : s.finished = false) :
    ∃ s', runStepsR F T cfg k s = .ok s' ∧ RunReach F T cfg s' ∧
      (cfg.clock.n ≤ k + s.t + 1 → s'.finished = true) := by
  obtain ⟨s', h1, h2, h3⟩ := Steps.run_total (μ := fun s => cfg.clock.n - 1 - s.t)
    (fun s hr hf => by
      obtain ⟨s1, hp, ht⟩ := performR_total hC hZ hTop hr hf
      exact ⟨s1, hp, .step hr hp, fun hf1 =>
        Nat.sub_lt_sub_left (Nat.lt_sub_of_add_lt (run_live hZ.wf hZ.initOK hr hf).tn) (ht hf1)⟩) k hr hf
  refine ⟨s', (runStepsR_eq k s).trans h1, h2, fun hb => ?_⟩
  cases hf' : s'.finished with
  | true => rfl
  | false =>
    have : _ - 1 - s'.t + k ≤ _ - 1 - s.t := h3 hf'
    have : s'.t + 2 ≤ cfg.clock.n := (run_live hZ.wf hZ.initOK h2 hf').tn
    omega

theorem run_total (hC : CfgOK F T cfg) (hZ : CfgTotOK F cfg Zcap Zev)
    (hTop : TopOK F cfg.W0.soil.zTop cfg.init.cells) (hr : RunReach F T cfg s)
    (hf : s.finished = false) (k : Nat) (hk : 1 ≤ k) :
    ∃ s', runModel F T cfg k s = .ok s' ∧ RunReach F T cfg s' := by
  obtain ⟨s', h1, h2, _⟩ := runStepsR_total hC hZ hTop k hr hf
  unfold runModel
  rw [if_neg (by omega)]
  exact ⟨s', h1, h2⟩

theorem runInit_total (hZ : CfgTotOK F cfg Zcap Zev) :
    ∃ s₀, runInit cfg = .ok s₀ ∧ RunReach F T cfg s₀ ∧ s₀.finished = false ∧ s₀.t = 0 := by
  obtain ⟨c, hc⟩ := init_ok hZ.wf
  have hs : runInit cfg = .ok ⟨c.t, c.season, c.finished, cfg.init, []⟩ := by
    unfold runInit; rw [hc]
  exact ⟨_, hs, RunReach.init hs, (live_init hZ.wf hc).notFin,
    congrArg RunState.t (runInit_ok hs).1⟩

theorem run_finishes (hC : CfgOK F T cfg) (hZ : CfgTotOK F cfg Zcap Zev)
    (hTop : TopOK F cfg.W0.soil.zTop cfg.init.cells) :
    ∃ s₀ s, runInit cfg = .ok s₀ ∧ runModel F T cfg cfg.clock.n s₀ = .ok s ∧
      s.finished = true ∧ RunReach F T cfg s := by
  obtain ⟨s₀, h0, hr0, hf0, ht0⟩ := runInit_total (F := F) (T := T) hZ
  obtain ⟨s, h1, h2, h3⟩ := runStepsR_total hC hZ hTop cfg.clock.n hr0 hf0
  refine ⟨s₀, s, h0, ?_, h3 (by omega), h2⟩
  unfold runModel
  have := hZ.wf.1
  rw [if_neg (by omega)]
  exact h1

/-- every call sequence `run_model(num_steps = kᵢ)` with positive step counts succeeds until the
model is finished: a reachable state is either finished or the next call succeeds -/
theorem run_never_raises (hC : CfgOK F T cfg) (hZ : CfgTotOK F cfg Zcap Zev)
    (hTop : TopOK F cfg.W0.soil.zTop cfg.init.cells) (hr : RunReach F T cfg s) :
    s.finished = true ∨ ∀ k, 1 ≤ k → ∃ s', runModel F T cfg k s = .ok s' := by
  cases hf : s.finished with
  | true => exact Or.inl rfl
  | false =>
    right
    intro k hk
    obtain ⟨s', h, _⟩ := run_total hC hZ hTop hr hf k hk
    exact ⟨s', h⟩

end run
end Aqua

#print axioms Aqua.run_invZ
#print axioms Aqua.performR_total
#print axioms Aqua.run_total
#print axioms Aqua.run_finishes
#print axioms Aqua.run_never_raises
