import AquaVerif.Proofs.ClockRun
/-
The clock / season state machine of `Model/Clock.lean`, for every oracle `ev`.  Configurations:
`WF` (window and planting dates well-formed) and `Valid` (`WF` plus the harvest dates in their
places).  States: `Live`, the invariant of unfinished reachable states, under which a
`_perform_timestep` is the total function `stepT` (`perform_eq`); `Hist`, what holds of the tables
written so far; `Final` for finished states; `Good`, these together, which holds of every
`Reach`able state (`good_of_reach`).  The theorems under `WF` are projections of `Good`.
`reach_ind` is induction over reachable states in terms of `stepT`, for what `Good` does not hold:
`LiveH`/`HistH`, the harvest-date facts under `Valid`.  Serves C07, the summary part of C06 and the
C09 theorems on `run_model` calls (`terminates`, `runSteps_days`, `calls_eq_till`,
`runModel_ok_of_unfinished`).
Core Lean only.
-/

namespace Aqua.Clock

/-! ### Configurations: `WF` and `Valid` -/

/-- planting index of season `k` (0 outside the list) -/
def Cfg.pl (c : Cfg) (k : Nat) : Nat := c.planting.getD k 0
/-- latest-harvest day number of season `k` (0 outside the list) -/
def Cfg.hv (c : Cfg) (k : Nat) : Int := c.harvest.getD k 0

/-- Well-formed *window and planting dates*: what every theorem here needs except the two on
harvest dates (`Valid`).  `n ≥ 2`, at least one season, as many harvest as planting dates, planting
indices strictly increasing and all `< n − 1`, `season0` consistent with the first planting date. -/
def WF (c : Cfg) : Prop :=
  2 ≤ c.n ∧ c.planting ≠ [] ∧ c.harvest.length = c.planting.length ∧
  c.planting.Pairwise (· < ·) ∧ (∀ p ∈ c.planting, p + 2 ≤ c.n) ∧
  c.season0 = (if c.planting.head? = some 0 then 0 else -1)

instance (c : Cfg) : Decidable (WF c) := by unfold WF; infer_instance

/-- `Valid`: `WF` plus the harvest dates in their places: `planting[k] < harvest[k]` and
`harvest[k] ≤ planting[k+1]`.  (This is what the date set-up guarantees,
`C07.date_setup_is_valid` in `Properties/C07.lean`; equality `harvest[k] = planting[k+1]` occurs
when the crop's planting and harvest month/day coincide.  Only `season_harvested` and
`harvest_by_latest_date` need more than `WF`.) -/
def Valid (c : Cfg) : Prop :=
  WF c ∧ (∀ k, k < c.planting.length → (c.pl k : Int) < c.hv k) ∧
  (∀ k, k < c.planting.length - 1 → c.hv k ≤ (c.pl (k + 1) : Int))

instance (c : Cfg) : Decidable (Valid c) := by unfold Valid; infer_instance

theorem Valid.wf {c : Cfg} (h : Valid c) : WF c := h.1

theorem Valid.pl_lt_hv {c : Cfg} (h : Valid c) {k : Nat} (hk : k < c.planting.length) :
    (c.pl k : Int) < c.hv k := h.2.1 k hk

theorem Valid.hv_le_next {c : Cfg} (h : Valid c) {k : Nat} (hk : k + 1 < c.planting.length) :
    c.hv k ≤ (c.pl (k + 1) : Int) := h.2.2 k (by omega)

/-- non-vacuity: a three-season configuration with an unfinished last season -/
example : Valid { n := 40, planting := [3, 15, 30], harvest := [9, 29, 55], offSeason := false,
                  season0 := -1 } := by decide

variable {c : Cfg}

theorem nSeasons_eq (c : Cfg) : c.nSeasons = (c.planting.length : Int) := rfl

theorem WF.pl_lt (h : WF c) {i j : Nat} (hij : i < j) (hj : j < c.planting.length) :
    c.pl i < c.pl j := by
  obtain ⟨_, _, _, hs, _, _⟩ := h
  have := List.pairwise_iff_getElem.mp hs i j (by omega) hj hij
  simpa [Cfg.pl, List.getD_eq_getElem?_getD, List.getElem?_eq_getElem, hj,
    show i < c.planting.length by omega] using this

theorem WF.pl_in (h : WF c) {k : Nat} (hk : k < c.planting.length) : c.pl k + 2 ≤ c.n := by
  obtain ⟨_, _, _, _, hi, _⟩ := h
  have : c.planting[k] ∈ c.planting := List.getElem_mem hk
  have := hi _ this
  simpa [Cfg.pl, List.getD_eq_getElem?_getD, List.getElem?_eq_getElem, hk] using this

theorem WF.len_eq (h : WF c) : c.harvest.length = c.planting.length := h.2.2.1

theorem WF.len_pos (h : WF c) : 0 < c.planting.length := by
  obtain ⟨_, hne, _⟩ := h
  cases hp : c.planting with
  | nil => exact absurd hp hne
  | cons a l => simp

theorem WF.season0_cases (h : WF c) :
    (c.season0 = 0 ∧ c.pl 0 = 0) ∨ (c.season0 = -1 ∧ 0 < c.pl 0) := by
  have hl := h.len_pos
  obtain ⟨_, _, _, _, _, h0⟩ := h
  cases hp : c.planting with
  | nil => simp [hp] at hl
  | cons a l =>
    simp only [hp, List.head?_cons, Option.some.injEq] at h0
    by_cases ha : a = 0
    · left; simp [h0, ha, Cfg.pl, hp]
    · right; simp [h0, ha, Cfg.pl, hp]; omega

/-! ### `update_time`: three computation rules and their converse -/

theorem updateTime_stay {s : St} (h : s.finished = true ∨
    ((s.harvestFlag && !c.offSeason) = true ∧ ¬ s.season < c.nSeasons - 1)) :
    updateTime c s = .ok s := by
  unfold updateTime
  by_cases hf : s.finished = true
  · rw [if_pos hf]
  · rcases h with h | ⟨hj, hn⟩
    · exact absurd h hf
    · rw [if_neg hf, if_pos hj, if_neg hn]; rfl

theorem updateTime_season {s : St} {p : Nat} (hf : s.finished = false)
    (hn : s.season < c.nSeasons - 1) (hp : pyGet c.planting (s.season + 1) = .ok p)
    (hpn : p + 2 ≤ c.n) (h : (s.harvestFlag && !c.offSeason) = true ∨ s.t + 1 = p) :
    updateTime c s = .ok (resetSeason { s with season := s.season + 1, t := p }) := by
  unfold updateTime
  dsimp only
  rw [if_neg (by rw [hf]; exact Bool.false_ne_true), if_pos hn, hp, ok_bind]
  by_cases hj : (s.harvestFlag && !c.offSeason) = true
  · rw [if_pos hj, if_neg (by omega), if_neg (by omega)]; rfl
  · have ht : s.t + 1 = p := h.resolve_left hj
    rw [if_neg hj, if_neg (by omega), if_neg (by omega), if_pos hn, ok_bind, if_pos ht, ht]; rfl

theorem updateTime_day {s : St} (hf : s.finished = false)
    (hj : (s.harvestFlag && !c.offSeason) = false) (ht : s.t + 3 ≤ c.n)
    (hp : s.season < c.nSeasons - 1 → ∃ p, pyGet c.planting (s.season + 1) = .ok p ∧ s.t + 1 ≠ p) :
    updateTime c s = .ok { s with t := s.t + 1 } := by
  unfold updateTime
  dsimp only
  rw [if_neg (by rw [hf]; exact Bool.false_ne_true), if_neg (by rw [hj]; exact Bool.false_ne_true),
    if_neg (by omega), if_neg (by omega)]
  by_cases hn : s.season < c.nSeasons - 1
  · obtain ⟨p, hp, hne⟩ := hp hn
    rw [if_pos hn, hp, ok_bind, if_neg hne]; rfl
  · rw [if_neg hn]; rfl

theorem updateTime_ok {s w : St} (h : updateTime c s = .ok w) :
    (w = s ∧ (s.finished = true ∨
      ((s.harvestFlag && !c.offSeason) = true ∧ ¬ s.season < c.nSeasons - 1))) ∨
    (s.finished = false ∧ s.season < c.nSeasons - 1 ∧
      ∃ p, pyGet c.planting (s.season + 1) = .ok p ∧ p + 2 ≤ c.n ∧
        ((s.harvestFlag && !c.offSeason) = true ∨ s.t + 1 = p) ∧
        w = resetSeason { s with season := s.season + 1, t := p }) ∨
    (s.finished = false ∧ (s.harvestFlag && !c.offSeason) = false ∧ s.t + 3 ≤ c.n ∧
      (s.season < c.nSeasons - 1 → ∃ p, pyGet c.planting (s.season + 1) = .ok p ∧ s.t + 1 ≠ p) ∧
      w = { s with t := s.t + 1 }) := by
  unfold updateTime at h
  dsimp only at h
  by_cases hf : s.finished = true
  · rw [if_pos hf] at h; cases h; exact Or.inl ⟨rfl, Or.inl hf⟩
  · rw [if_neg hf] at h
    have hf' : s.finished = false := by simpa using hf
    by_cases hj : (s.harvestFlag && !c.offSeason) = true
    · rw [if_pos hj] at h
      by_cases hn : s.season < c.nSeasons - 1
      · rw [if_pos hn] at h
        obtain ⟨p, hp, h⟩ := bind_ok_iff.1 h
        obtain ⟨h1, h⟩ := ok_of_guard h
        obtain ⟨h2, h⟩ := ok_of_guard h
        cases h
        exact Or.inr (Or.inl ⟨hf', hn, p, hp, by omega, Or.inl hj, rfl⟩)
      · rw [if_neg hn] at h; cases h; exact Or.inl ⟨rfl, Or.inr ⟨hj, hn⟩⟩
    · rw [if_neg hj] at h
      have hj' : (s.harvestFlag && !c.offSeason) = false := by simpa using hj
      obtain ⟨h1, h⟩ := ok_of_guard h
      obtain ⟨h2, h⟩ := ok_of_guard h
      by_cases hn : s.season < c.nSeasons - 1
      · rw [if_pos hn] at h
        obtain ⟨p, hp, h⟩ := bind_ok_iff.1 h
        by_cases ht : s.t + 1 = p
        · rw [if_pos ht] at h; cases h
          exact Or.inr (Or.inl ⟨hf', hn, p, hp, by omega, Or.inr ht, by rw [ht]⟩)
        · rw [if_neg ht] at h; cases h
          exact Or.inr (Or.inr ⟨hf', hj', by omega, fun _ => ⟨p, hp, ht⟩, rfl⟩)
      · rw [if_neg hn] at h; cases h
        exact Or.inr (Or.inr ⟨hf', hj', by omega, fun h => absurd h hn, rfl⟩)


/-! ### The initial clock -/

theorem init_eq {s : St} (h : init c = .ok s) :
    s = { t := 0, season := c.season0, dap := 0, mature := false, dead := false,
          harvestFlag := false, finished := false, rowsRev := [], summaryRev := [] } := by
  unfold init at h
  obtain ⟨_, h⟩ := ok_of_guard h
  obtain ⟨_, h⟩ := ok_of_guard h
  cases h; rfl

theorem two_le_n_of_init {s : St} (h : init c = .ok s) : 2 ≤ c.n := by
  unfold init at h
  have := (ok_of_guard h).1
  omega

theorem init_ok (hw : WF c) : ∃ s₀, init c = .ok s₀ := by
  obtain ⟨hn, hne, _⟩ := id hw
  unfold init
  rw [if_neg (by omega), if_neg (by simpa [List.isEmpty_iff] using hne)]
  exact ⟨_, rfl⟩

/-! ### Total step function (what `perform` computes when nothing raises) -/

/-- dates of the current season -/
def phOf (c : Cfg) (season : Int) : Option (Nat × Int) :=
  if season ≥ 0 then some (c.pl season.toNat, c.hv season.toNat) else none

theorem pyGet_nat {α : Type} (l : List α) (k : Nat) (d : α) (hk : k < l.length) :
    pyGet l (k : Int) = .ok (l.getD k d) := by
  have h0 : ¬ ((k : Int) < 0) := by omega
  simp [pyGet, h0, List.getD_eq_getElem?_getD, hk]

theorem seasonInfo_eq (hl : c.harvest.length = c.planting.length) {season : Int}
    (hhi : season < c.nSeasons) : seasonInfo c season = .ok (phOf c season) := by
  unfold seasonInfo phOf
  by_cases h0 : season ≥ 0
  · obtain ⟨k, rfl⟩ : ∃ k : Nat, season = k := ⟨season.toNat, by omega⟩
    have hk : k < c.planting.length := by rw [nSeasons_eq] at hhi; omega
    simp only [h0, if_true]
    rw [pyGet_nat c.planting _ 0 hk, pyGet_nat c.harvest _ 0 (by omega)]
    simp [Cfg.pl, Cfg.hv, bind, Except.bind, pure, Except.pure]
  · simp [h0, pure, Except.pure]

/-- `update_time` without its error checks -/
def updT (c : Cfg) (s : St) : St :=
  if s.finished then s else
  if s.harvestFlag && !c.offSeason then
    if s.season < c.nSeasons - 1 then
      resetSeason { s with season := s.season + 1, t := c.pl (s.season + 1).toNat }
    else s
  else
    if s.season < c.nSeasons - 1 then
      if s.t + 1 = c.pl (s.season + 1).toNat then
        resetSeason { s with t := s.t + 1, season := s.season + 1 }
      else { s with t := s.t + 1 }
    else { s with t := s.t + 1 }

/-- one `_perform_timestep` when nothing raises -/
def stepT (c : Cfg) (ev : Ev) (s : St) : St :=
  updT c (checkFinished c (solCore ev s (phOf c s.season)))

/-! ### The solution step in closed form -/

section
variable (c : Cfg) (ev : Ev) (s : St)

/-- growing-season flag of the day about to be simulated -/
def gsOf : Bool :=
  decide (0 ≤ s.season) && decide ((c.pl s.season.toNat : Int) ≤ s.t) &&
    decide ((s.t : Int) < c.hv s.season.toNat) && !s.mature && !s.dead
def matOf : Bool := s.mature || (gsOf c s && (ev s.t).1)
def deadOf : Bool := s.dead || (gsOf c s && (ev s.t).2)
/-- end-of-season condition of the "Final output" block -/
def endcOf : Bool :=
  decide (0 ≤ s.season) &&
    (matOf c ev s || deadOf c ev s || decide (c.hv s.season.toNat = (s.t : Int) + 1))
def dapOf : Nat := if gsOf c s then s.dap + 1 else 0
def rowOf : Row :=
  { t := s.t, season := s.season, dap := dapOf c s, gs := gsOf c s, mature := matOf c ev s,
    dead := deadOf c ev s, endc := endcOf c ev s }
def sol : St :=
  { s with dap := dapOf c s, mature := matOf c ev s, dead := deadOf c ev s,
           rowsRev := rowOf c ev s :: s.rowsRev,
           summaryRev := if endcOf c ev s && !s.harvestFlag then (s.season, s.t) :: s.summaryRev
                         else s.summaryRev,
           harvestFlag := s.harvestFlag || endcOf c ev s }
/-- finish test after the solution step -/
def finOf : Bool :=
  (if (s.t : Int) + 1 < (c.n : Int) - 1 then false else true) ||
    ((s.harvestFlag || endcOf c ev s) && decide (s.season = c.nSeasons - 1))
end

section
variable (c : Cfg) (ev : Ev) (s : St)
@[simp] theorem sol_t : (sol c ev s).t = s.t := rfl
@[simp] theorem sol_season : (sol c ev s).season = s.season := rfl
@[simp] theorem sol_finished : (sol c ev s).finished = s.finished := rfl
@[simp] theorem sol_flag : (sol c ev s).harvestFlag = (s.harvestFlag || endcOf c ev s) := rfl
@[simp] theorem sol_dap : (sol c ev s).dap = dapOf c s := rfl
@[simp] theorem sol_mature : (sol c ev s).mature = matOf c ev s := rfl
@[simp] theorem sol_dead : (sol c ev s).dead = deadOf c ev s := rfl
@[simp] theorem sol_rows : (sol c ev s).rowsRev = rowOf c ev s :: s.rowsRev := rfl
@[simp] theorem sol_summary : (sol c ev s).summaryRev =
    if endcOf c ev s && !s.harvestFlag then (s.season, s.t) :: s.summaryRev else s.summaryRev := rfl
@[simp] theorem rowOf_t : (rowOf c ev s).t = s.t := rfl
@[simp] theorem rowOf_season : (rowOf c ev s).season = s.season := rfl
@[simp] theorem rowOf_endc : (rowOf c ev s).endc = endcOf c ev s := rfl
@[simp] theorem rowOf_gs : (rowOf c ev s).gs = gsOf c s := rfl
@[simp] theorem rowOf_dap : (rowOf c ev s).dap = dapOf c s := rfl
end

theorem gsOf_iff (c : Cfg) (s : St) : gsOf c s = true ↔
    0 ≤ s.season ∧ (c.pl s.season.toNat : Int) ≤ s.t ∧ (s.t : Int) < c.hv s.season.toNat ∧
      s.mature = false ∧ s.dead = false := by
  unfold gsOf
  simp only [Bool.and_eq_true, decide_eq_true_eq, Bool.not_eq_eq_eq_not, Bool.not_true, and_assoc]

theorem solCore_phOf (c : Cfg) (ev : Ev) (s : St) :
    solCore ev s (phOf c s.season) = sol c ev s := by
  unfold solCore phOf sol rowOf dapOf endcOf deadOf matOf gsOf
  by_cases h0 : 0 ≤ s.season
  · have h0' : s.season ≥ 0 := h0
    simp only [h0', if_true, decide_true, Bool.true_and]
    cases s.harvestFlag <;>
      cases (decide ((c.pl s.season.toNat : Int) ≤ s.t) && decide ((s.t : Int) < c.hv s.season.toNat)
        && !s.mature && !s.dead) <;> simp
  · have h0' : ¬ s.season ≥ 0 := h0
    simp [h0']

theorem checkFinished_sol (c : Cfg) (ev : Ev) (s : St) :
    checkFinished c (sol c ev s) = { sol c ev s with finished := finOf c ev s } := by
  unfold checkFinished finOf
  have e1 : (sol c ev s).t = s.t := rfl
  have e2 : (sol c ev s).season = s.season := rfl
  have e3 : (sol c ev s).harvestFlag = (s.harvestFlag || endcOf c ev s) := rfl
  simp only [e1, e2, e3]
  congr 1
  cases (s.harvestFlag || endcOf c ev s) <;> cases (decide (s.season = c.nSeasons - 1)) <;> simp

theorem stepT_eq (c : Cfg) (ev : Ev) (s : St) :
    stepT c ev s = updT c { sol c ev s with finished := finOf c ev s } := by
  unfold stepT; rw [solCore_phOf, checkFinished_sol]

theorem mem_sol_summary {c : Cfg} {ev : Ev} {s : St} {e : Int × Nat} :
    e ∈ (sol c ev s).summaryRev ↔
      (e = (s.season, s.t) ∧ endcOf c ev s = true ∧ s.harvestFlag = false) ∨ e ∈ s.summaryRev := by
  rw [sol_summary]
  by_cases hw : (endcOf c ev s && !s.harvestFlag) = true
  · rw [if_pos hw, List.mem_cons]
    exact or_congr_left (iff_self_and.mpr fun _ => by simpa using hw)
  · rw [if_neg hw]
    exact (or_iff_right fun h => hw (by simp [h.2.1, h.2.2])).symm

theorem finOf_false {c : Cfg} {ev : Ev} {s : St} (h : finOf c ev s = false) :
    s.t + 3 ≤ c.n ∧ (s.season = c.nSeasons - 1 → (s.harvestFlag || endcOf c ev s) = false) := by
  unfold finOf at h
  simp only [Bool.or_eq_false_iff, Bool.and_eq_false_iff, decide_eq_false_iff_not] at h
  obtain ⟨h1, h2⟩ := h
  constructor
  · split at h1
    · omega
    · cases h1
  · intro hs
    rcases h2 with h2 | h2
    · simpa using h2
    · exact absurd hs h2


/-! ### What `update_time` does not touch: the finish flag, the rows, the summary -/

theorem updT_ind {P : St → Prop} (c : Cfg) (s : St) (h1 : P s)
    (h2 : ∀ k t, P (resetSeason { s with season := k, t := t })) (h3 : ∀ t, P { s with t := t }) :
    P (updT c s) := by
  unfold updT
  by_cases hf : s.finished = true
  · rwa [if_pos hf]
  · rw [if_neg hf]
    by_cases hn : s.season < c.nSeasons - 1
    · simp only [if_pos hn]
      by_cases hj : (s.harvestFlag && !c.offSeason) = true
      · rw [if_pos hj]; exact h2 _ _
      · rw [if_neg hj]
        by_cases hp : s.t + 1 = c.pl (s.season + 1).toNat
        · rw [if_pos hp]; exact h2 _ _
        · rw [if_neg hp]; exact h3 _
    · simp only [if_neg hn]
      by_cases hj : (s.harvestFlag && !c.offSeason) = true
      · rwa [if_pos hj]
      · rw [if_neg hj]; exact h3 _

theorem stepT_finished (c : Cfg) (ev : Ev) (s : St) :
    (stepT c ev s).finished = finOf c ev s := by
  rw [stepT_eq]
  exact updT_ind (P := fun x => x.finished = finOf c ev s) c _ rfl (fun _ _ => rfl) (fun _ => rfl)

theorem stepT_rows (c : Cfg) (ev : Ev) (s : St) :
    (stepT c ev s).rowsRev = (sol c ev s).rowsRev := by
  rw [stepT_eq]
  exact updT_ind (P := fun x => x.rowsRev = (sol c ev s).rowsRev) c _ rfl (fun _ _ => rfl)
    (fun _ => rfl)

theorem stepT_summary (c : Cfg) (ev : Ev) (s : St) :
    (stepT c ev s).summaryRev = (sol c ev s).summaryRev := by
  rw [stepT_eq]
  exact updT_ind (P := fun x => x.summaryRev = (sol c ev s).summaryRev) c _ rfl (fun _ _ => rfl)
    (fun _ => rfl)

/-! ### `Live`: the invariant of unfinished reachable states -/

/-- admissible succession of two simulated days `a`, `b`: the next calendar day, or — only
without off-season simulation, and only if `a` wrote the summary row of its season — the
planting day of the next season -/
def Adj (c : Cfg) (sm : List (Int × Nat)) (a b : Row) : Prop :=
  b.t = a.t + 1 ∨
    (c.offSeason = false ∧ (a.season, a.t) ∈ sm ∧ b.season = a.season + 1 ∧ 0 ≤ b.season ∧
      b.t = c.pl b.season.toNat)

/-- how the day about to be simulated (`t`, in season `season`) follows the last simulated one -/
def LinkTo (c : Cfg) (sm : List (Int × Nat)) (rows : List Row) (t : Nat) (season : Int) : Prop :=
  match rows with
  | [] => t = 0
  | a :: _ => t = a.t + 1 ∨
      (c.offSeason = false ∧ (a.season, a.t) ∈ sm ∧ season = a.season + 1 ∧ 0 ≤ season ∧
        t = c.pl season.toNat)

theorem linkTo_cons {c : Cfg} {sm : List (Int × Nat)} {a b : Row} {rows : List Row} :
    LinkTo c sm (a :: rows) b.t b.season ↔ Adj c sm a b := Iff.rfl

/-- an unfinished state about to simulate day `t`: `t` lies inside the window and between the
planting dates of `season` and the next, `dap` and the harvest flag agree with the rows written,
and those lie before `t` -/
structure Live (c : Cfg) (s : St) : Prop where
  notFin : s.finished = false
  tn : s.t + 2 ≤ c.n
  slo : -1 ≤ s.season
  shi : s.season < c.nSeasons
  pre : s.season = -1 → s.harvestFlag = false
  cur : 0 ≤ s.season → c.pl s.season.toNat ≤ s.t
  nxt : s.season + 1 < c.nSeasons → s.t < c.pl (s.season + 1).toNat
  dapI : 0 ≤ s.season → s.mature = false → s.dead = false →
    (s.t : Int) ≤ c.hv s.season.toNat → s.dap + c.pl s.season.toNat = s.t
  lastS : s.season = c.nSeasons - 1 → s.harvestFlag = false
  offJ : c.offSeason = false → s.harvestFlag = false
  rowsB : ∀ r ∈ s.rowsRev, r.t < s.t ∧ r.season ≤ s.season
  sumB : ∀ e ∈ s.summaryRev, e.1 ≤ s.season
  flagI : s.harvestFlag = true ↔ ∃ r ∈ s.rowsRev, r.season = s.season ∧ r.endc = true
  link : LinkTo c s.summaryRev s.rowsRev s.t s.season

theorem live_init (h : WF c) {s : St} (hi : init c = .ok s) : Live c s := by
  obtain ⟨hn, _⟩ := id h
  have hlen := h.len_pos
  cases init_eq hi
  have hnxt : c.season0 + 1 < c.nSeasons → 0 < c.pl (c.season0 + 1).toNat := by
    intro hlt
    rcases h.season0_cases with ⟨h0, _⟩ | ⟨h0, hp0⟩
    · rw [h0, nSeasons_eq] at hlt
      have := h.pl_lt (i := 0) (j := 1) (by omega) (by omega)
      rw [h0]; exact Nat.lt_of_le_of_lt (Nat.zero_le _) this
    · rw [h0]; exact hp0
  rcases h.season0_cases with ⟨h0, hp0⟩ | ⟨h0, hp0⟩ <;>
    exact ⟨rfl, by simpa using hn, by simp [h0], by simp [h0, nSeasons_eq]; omega, by simp [h0],
      by simp [h0, hp0], hnxt, by simp [h0, hp0], by simp, by simp, by simp, by simp, by simp,
      by simp [LinkTo]⟩

/-! ### The four ways a step can go -/

section
variable (c : Cfg) (ev : Ev) (s : St)

theorem stepT_fin (h : finOf c ev s = true) :
    stepT c ev s = { sol c ev s with finished := true } := by
  rw [stepT_eq, h]; simp [updT]

theorem stepT_jump (h : finOf c ev s = false)
    (hj : ((s.harvestFlag || endcOf c ev s) && !c.offSeason) = true)
    (hn : s.season < c.nSeasons - 1) :
    stepT c ev s = resetSeason { sol c ev s with finished := false, season := s.season + 1,
                                                  t := c.pl (s.season + 1).toNat } := by
  rw [stepT_eq, h]
  simp only [updT, Bool.false_eq_true, if_false, sol_flag, sol_season, hj, hn, if_true]

theorem stepT_new (h : finOf c ev s = false)
    (hj : ((s.harvestFlag || endcOf c ev s) && !c.offSeason) = false)
    (hn : s.season < c.nSeasons - 1) (hp : s.t + 1 = c.pl (s.season + 1).toNat) :
    stepT c ev s = resetSeason { sol c ev s with finished := false, season := s.season + 1,
                                                  t := s.t + 1 } := by
  rw [stepT_eq, h]
  simp only [updT, Bool.false_eq_true, if_false, sol_flag, sol_season, sol_t, hj, hn, hp, if_true]

theorem stepT_same (h : finOf c ev s = false)
    (hj : ((s.harvestFlag || endcOf c ev s) && !c.offSeason) = false)
    (hnp : ¬ (s.season < c.nSeasons - 1 ∧ s.t + 1 = c.pl (s.season + 1).toNat)) :
    stepT c ev s = { sol c ev s with finished := false, t := s.t + 1 } := by
  rw [stepT_eq, h]
  simp only [updT, Bool.false_eq_true, if_false, sol_flag, sol_season, sol_t, hj]
  by_cases hn : s.season < c.nSeasons - 1
  · have hp : ¬ (s.t + 1 = c.pl (s.season + 1).toNat) := fun hp => hnp ⟨hn, hp⟩
    simp only [hn, if_true, hp, if_false]
  · simp only [hn, if_false]

end

theorem stepT_cases (ev : Ev) {s : St} (hL : Live c s) :
    (finOf c ev s = true ∧ stepT c ev s = { sol c ev s with finished := true }) ∨
    (finOf c ev s = false ∧ ((s.harvestFlag || endcOf c ev s) && !c.offSeason) = true ∧
      s.season < c.nSeasons - 1 ∧
      stepT c ev s = resetSeason { sol c ev s with finished := false, season := s.season + 1,
                                                   t := c.pl (s.season + 1).toNat }) ∨
    (finOf c ev s = false ∧ ((s.harvestFlag || endcOf c ev s) && !c.offSeason) = false ∧
      s.season < c.nSeasons - 1 ∧ s.t + 1 = c.pl (s.season + 1).toNat ∧
      stepT c ev s = resetSeason { sol c ev s with finished := false, season := s.season + 1,
                                                   t := s.t + 1 }) ∨
    (finOf c ev s = false ∧ ((s.harvestFlag || endcOf c ev s) && !c.offSeason) = false ∧
      ¬ (s.season < c.nSeasons - 1 ∧ s.t + 1 = c.pl (s.season + 1).toNat) ∧
      stepT c ev s = { sol c ev s with finished := false, t := s.t + 1 }) := by
  cases hfin : finOf c ev s with
  | true => exact Or.inl ⟨rfl, stepT_fin c ev s hfin⟩
  | false =>
    cases hj : ((s.harvestFlag || endcOf c ev s) && !c.offSeason) with
    | true =>
      by_cases hn : s.season < c.nSeasons - 1
      · exact Or.inr (Or.inl ⟨rfl, rfl, hn, stepT_jump c ev s hfin hj hn⟩)
      · -- in the last season a raised flag ends the run
        have hs : s.season = c.nSeasons - 1 := by have := hL.shi; omega
        rw [(finOf_false hfin).2 hs] at hj
        cases hj
    | false =>
      by_cases hnp : s.season < c.nSeasons - 1 ∧ s.t + 1 = c.pl (s.season + 1).toNat
      · exact Or.inr (Or.inr (Or.inl ⟨rfl, rfl, hnp.1, hnp.2, stepT_new c ev s hfin hj hnp.1 hnp.2⟩))
      · exact Or.inr (Or.inr (Or.inr ⟨rfl, rfl, hnp, stepT_same c ev s hfin hj hnp⟩))

/-! ### A step from a live state -/

theorem live_same {ev : Ev} {s : St} (hL : Live c s) (hfin : finOf c ev s = false)
    (hj : ((s.harvestFlag || endcOf c ev s) && !c.offSeason) = false)
    (hnp : ¬ (s.season < c.nSeasons - 1 ∧ s.t + 1 = c.pl (s.season + 1).toNat)) :
    Live c { sol c ev s with finished := false, t := s.t + 1 } := by
  obtain ⟨ht3, hlast⟩ := finOf_false hfin
  constructor <;> dsimp only [sol_t, sol_season, sol_flag, sol_dap, sol_mature, sol_dead, sol_rows,
    sol_summary]
  · omega
  · exact hL.slo
  · exact hL.shi
  · intro h; simp only [Bool.or_eq_false_iff]
    exact ⟨hL.pre h, by simp [endcOf, h]⟩
  · intro h; have := hL.cur h; omega
  · intro h
    have h1 := hL.nxt h
    have : ¬ (s.t + 1 = c.pl (s.season + 1).toNat) := fun e => hnp ⟨by omega, e⟩
    omega
  · intro h0 hm hd hh
    have hm' : s.mature = false := by unfold matOf at hm; simp at hm; exact hm.1
    have hd' : s.dead = false := by unfold deadOf at hd; simp at hd; exact hd.1
    have hc := hL.cur h0
    have hg : gsOf c s = true := (gsOf_iff c s).mpr ⟨h0, by omega, by omega, hm', hd'⟩
    have := hL.dapI h0 hm' hd' (by omega)
    simp only [dapOf, hg, if_true]; omega
  · intro h; exact hlast h
  · intro h
    rw [h] at hj
    simpa using hj
  · intro r hr
    simp only [List.mem_cons] at hr
    rcases hr with rfl | hr
    · simp
    · have := hL.rowsB r hr; omega
  · intro e he
    rcases mem_sol_summary.mp he with ⟨rfl, _⟩ | he
    · simp
    · exact hL.sumB e he
  · rw [Bool.or_eq_true, hL.flagI]
    simp only [List.mem_cons, exists_eq_or_imp, rowOf_season, rowOf_endc, true_and]
    exact or_comm
  · simp [LinkTo]

theorem live_newSeason (hw : WF c) {ev : Ev} {s : St} (hL : Live c s) (t' : Nat)
    (hn : s.season < c.nSeasons - 1) (hp : t' = c.pl (s.season + 1).toNat) (ht : s.t < t')
    (hlink : LinkTo c (sol c ev s).summaryRev (rowOf c ev s :: s.rowsRev) t' (s.season + 1)) :
    Live c (resetSeason { sol c ev s with finished := false, season := s.season + 1, t := t' }) := by
  have hslo := hL.slo
  have hk : (s.season + 1).toNat < c.planting.length := by rw [nSeasons_eq] at hn; omega
  unfold resetSeason
  constructor <;> dsimp only [sol_t, sol_season, sol_flag, sol_dap, sol_mature, sol_dead, sol_rows,
    sol_summary]
  · have := hw.pl_in hk; omega
  · omega
  · omega
  · intro _; trivial
  · intro _; omega
  · intro h
    have hk2 : (s.season + 1 + 1).toNat < c.planting.length := by rw [nSeasons_eq] at h; omega
    have := hw.pl_lt (i := (s.season + 1).toNat) (j := (s.season + 1 + 1).toNat) (by omega) hk2
    omega
  · intro _ _ _ _; omega
  · intro _; trivial
  · intro _; trivial
  · intro r hr
    simp only [List.mem_cons] at hr
    rcases hr with rfl | hr
    · simp; omega
    · have := hL.rowsB r hr; omega
  · intro e he
    rcases mem_sol_summary.mp he with ⟨rfl, _⟩ | he
    · show s.season ≤ s.season + 1; omega
    · have := hL.sumB e he; omega
  · simp only [List.mem_cons, Bool.false_eq_true, false_iff, not_exists, not_and]
    rintro r (rfl | hr) h1
    · simp only [rowOf_season] at h1; omega
    · have := hL.rowsB r hr; omega
  · exact hlink

theorem live_step (hw : WF c) (ev : Ev) {s : St} (hL : Live c s)
    (hf : (stepT c ev s).finished = false) :
    Live c (stepT c ev s) ∧ s.t < (stepT c ev s).t := by
  rcases stepT_cases ev hL with ⟨_, e⟩ | ⟨_, hj, hn, e⟩ | ⟨_, _, hn, hp, e⟩ | ⟨hfin, hj, hnp, e⟩ <;>
    rw [e] at hf ⊢
  · cases hf
  · -- without off-season days the flag is down at the start of a day: this day ended the season
    obtain ⟨hfe, hoff⟩ := Bool.and_eq_true_iff.mp hj
    have hoff : c.offSeason = false := by simpa using hoff
    have hflag := hL.offJ hoff
    have hend : endcOf c ev s = true := by simpa [hflag] using hfe
    have hslo := hL.slo
    have hlt := hL.nxt (by omega)
    refine ⟨live_newSeason hw hL _ hn rfl hlt (Or.inr ⟨hoff, ?_, by simp, by omega, rfl⟩), hlt⟩
    simp [hend, hflag]
  · exact ⟨live_newSeason hw hL (s.t + 1) hn hp (by omega) (by simp [LinkTo]), Nat.lt_succ_self _⟩
  · exact ⟨live_same hL hfin hj hnp, Nat.lt_succ_self _⟩

theorem perform_eq (hw : WF c) (ev : Ev) {s : St} (hL : Live c s) :
    perform c ev s = .ok (stepT c ev s) := by
  unfold perform solution
  simp only [hL.notFin, Bool.false_eq_true, if_false]
  rw [seasonInfo_eq hw.len_eq hL.shi]
  simp only [bind, Except.bind, pure, Except.pure]
  rw [solCore_phOf, checkFinished_sol]
  -- the next planting date exists and lies two days inside the window
  have hnext : s.season < c.nSeasons - 1 →
      pyGet c.planting (s.season + 1) = .ok (c.pl (s.season + 1).toNat) ∧
        c.pl (s.season + 1).toNat + 2 ≤ c.n := by
    intro hn
    have hslo := hL.slo
    obtain ⟨k, hk⟩ : ∃ k : Nat, s.season + 1 = k := ⟨(s.season + 1).toNat, by omega⟩
    have hkl : k < c.planting.length := by rw [nSeasons_eq] at hn; omega
    rw [hk, Int.toNat_natCast]
    exact ⟨pyGet_nat _ _ 0 hkl, hw.pl_in hkl⟩
  rcases stepT_cases ev hL with ⟨hfin, e⟩ | ⟨hfin, hj, hn, e⟩ | ⟨hfin, _, hn, hp, e⟩ |
      ⟨hfin, hj, hnp, e⟩ <;>
    rw [e, hfin]
  · exact updateTime_stay (Or.inl rfl)
  · exact updateTime_season rfl hn (hnext hn).1 (hnext hn).2 (Or.inl hj)
  · rw [hp]
    exact updateTime_season rfl hn (hnext hn).1 (hnext hn).2 (Or.inr hp)
  · exact updateTime_day rfl hj (finOf_false hfin).1
      fun hn => ⟨_, (hnext hn).1, fun e => hnp ⟨hn, e⟩⟩

/-! ### History invariant: what the theorems say about the tables written so far -/

/-- `t` is the first step of season `k` (among `rows`) at which the end-of-season condition
`crop_mature ∨ crop_dead ∨ harvest_dates[k] = step_end_time` holds -/
def FirstEnd (rows : List Row) (k : Int) (t : Nat) : Prop :=
  ∃ r ∈ rows, r.season = k ∧ r.t = t ∧ r.endc = true ∧
    ∀ r' ∈ rows, r'.season = k → r'.endc = true → t ≤ r'.t

/-- days after planting of a row: `t − planting[season] + 1` in season, `0` outside -/
def DapOK (c : Cfg) (r : Row) : Prop :=
  (r.gs = true → 0 ≤ r.season ∧ c.pl r.season.toNat ≤ r.t ∧
      r.dap + c.pl r.season.toNat = r.t + 1) ∧
  (r.gs = false → r.dap = 0)

/-- the tables written so far (newest first): the rows run in time from day 0, neighbours
`Adj`acent, each with the right `dap`; the summary holds exactly the `FirstEnd` day of each season,
in season order -/
structure Hist (c : Cfg) (rows : List Row) (sm : List (Int × Nat)) : Prop where
  incr : rows.Pairwise (fun a b => b.t < a.t)
  dapOK : ∀ r ∈ rows, DapOK c r
  consec : ∀ i (h : i + 1 < rows.length), Adj c sm rows[i + 1] rows[i]
  first : ∀ r, rows.getLast? = some r → r.t = 0
  sumSound : ∀ e ∈ sm, FirstEnd rows e.1 e.2
  sumComplete : ∀ k t, FirstEnd rows k t → (k, t) ∈ sm
  sumSorted : sm.Pairwise (fun a b => b.1 < a.1)

theorem hist_sol {ev : Ev} {s : St} (hL : Live c s) (hH : Hist c s.rowsRev s.summaryRev) :
    Hist c (sol c ev s).rowsRev (sol c ev s).summaryRev := by
  -- no earlier end-of-season row in this season iff the flag is still down
  have hnoflag : s.harvestFlag = false →
      ∀ r ∈ s.rowsRev, r.season = s.season → r.endc = true → False := by
    intro hf r hr h1 h2
    have := hL.flagI.mpr ⟨r, hr, h1, h2⟩
    rw [hf] at this; cases this
  show Hist c (rowOf c ev s :: s.rowsRev) _
  constructor
  · -- rows strictly increasing in time
    rw [List.pairwise_cons]
    exact ⟨fun r hr => (hL.rowsB r hr).1, hH.incr⟩
  · -- dap
    intro r hr
    rw [List.mem_cons] at hr
    rcases hr with rfl | hr
    · constructor
      · intro hg
        simp only [rowOf_gs] at hg
        obtain ⟨h0, hp, hh, hm, hd⟩ := (gsOf_iff c s).mp hg
        have := hL.dapI h0 hm hd (by omega)
        simp only [rowOf_season, rowOf_t, rowOf_dap, dapOf, hg, if_true]
        omega
      · intro hg
        simp only [rowOf_gs] at hg
        simp [dapOf, hg]
    · exact hH.dapOK r hr
  · -- neighbours
    have hadj : ∀ a b, Adj c s.summaryRev a b → Adj c (sol c ev s).summaryRev a b := by
      rintro a b (h | ⟨h1, h2, h3⟩)
      · exact Or.inl h
      · exact Or.inr ⟨h1, mem_sol_summary.mpr (.inr h2), h3⟩
    intro i h
    cases i with
    | succ i => exact hadj _ _ (hH.consec i (by simpa using h))
    | zero =>
      -- `LinkTo` says that today's row is adjacent to the newest one
      have hl := hL.link
      generalize s.rowsRev = l at h hl
      cases l with
      | nil => simp at h
      | cons a rest => exact hadj a _ (linkTo_cons.mp hl)
  · -- the first simulated day is day 0
    intro r hr
    have hl := hL.link
    have hf := hH.first
    generalize s.rowsRev = l at hr hl hf
    cases l with
    | nil => simp at hr; subst hr; exact hl
    | cons a rest => rw [List.getLast?_cons_cons] at hr; exact hf r hr
  · -- every summary row sits on the first end-of-season day of its season
    intro e he
    rcases mem_sol_summary.mp he with ⟨rfl, hend, hfl⟩ | he'
    · -- the row written now
      refine ⟨rowOf c ev s, by simp, rfl, rfl, hend, ?_⟩
      intro r' hr' h1 h2
      rw [List.mem_cons] at hr'
      rcases hr' with rfl | hr'
      · simp
      · exact (hnoflag hfl r' hr' h1 h2).elim
    · obtain ⟨r, hr, h1, h2, h3, h4⟩ := hH.sumSound e he'
      refine ⟨r, by simp [hr], h1, h2, h3, ?_⟩
      intro r' hr' h1' h2'
      rw [List.mem_cons] at hr'
      rcases hr' with rfl | hr'
      · have := (hL.rowsB r hr).1
        simp only [rowOf_t]; omega
      · exact h4 r' hr' h1' h2'
  · -- every first end-of-season day has its summary row
    rintro k t ⟨r, hr, h1, h2, h3, h4⟩
    rw [List.mem_cons] at hr
    rcases hr with rfl | hr
    · simp only [rowOf_season, rowOf_t, rowOf_endc] at h1 h2 h3
      subst h1 h2
      have hfl : s.harvestFlag = false := by
        cases hf : s.harvestFlag with
        | false => rfl
        | true =>
          obtain ⟨r', hr', h1', h2'⟩ := hL.flagI.mp hf
          have := h4 r' (by simp [hr']) h1' h2'
          have := (hL.rowsB r' hr').1
          omega
      simp [h3, hfl]
    · refine mem_sol_summary.mpr (.inr ?_)
      apply hH.sumComplete
      exact ⟨r, hr, h1, h2, h3, fun r' hr' => h4 r' (by simp [hr'])⟩
  · -- one row per season, in season order
    rw [sol_summary]
    split
    · rename_i hw
      simp only [Bool.and_eq_true, Bool.not_eq_eq_eq_not, Bool.not_true] at hw
      rw [List.pairwise_cons]
      refine ⟨?_, hH.sumSorted⟩
      intro e he
      have h1 := hL.sumB e he
      obtain ⟨r, hr, hr1, _, hr3, _⟩ := hH.sumSound e he
      have : e.1 ≠ s.season := fun heq => hnoflag hw.2 r hr (hr1.trans heq) hr3
      show e.1 < s.season
      omega
    · exact hH.sumSorted

/-! ### Finished states (`Final`); why the flag is up (`LiveG`), so that no growing day follows
(`NoGsAfterEnd`) -/

/-- a finished state: the newest row is day `t`, and the run ended at the end of the window or with
the summary row of the last season, written on day `t` -/
structure Final (c : Cfg) (s : St) : Prop where
  tn : s.t + 2 ≤ c.n
  why : s.t + 2 = c.n ∨ (c.nSeasons - 1, s.t) ∈ s.summaryRev
  lastRow : ∃ r, s.rowsRev.head? = some r ∧ r.t = s.t
  lastOnly : ∀ th, (c.nSeasons - 1, th) ∈ s.summaryRev → th = s.t

theorem live_no_last {s : St} (hL : Live c s) (hH : Hist c s.rowsRev s.summaryRev) (th : Nat) :
    (c.nSeasons - 1, th) ∉ s.summaryRev := by
  intro he
  have h1 := hL.sumB _ he
  have h2 := hL.shi
  have hs : s.season = c.nSeasons - 1 := by simp only at h1; omega
  obtain ⟨r, hr, hr1, _, hr3, _⟩ := hH.sumSound _ he
  have := hL.flagI.mpr ⟨r, hr, by rw [hs]; exact hr1, hr3⟩
  rw [hL.lastS hs] at this; cases this

theorem final_step {ev : Ev} {s : St} (hL : Live c s) (hH : Hist c s.rowsRev s.summaryRev)
    (hfin : finOf c ev s = true) : Final c (stepT c ev s) := by
  rw [stepT_fin c ev s hfin]
  have htn := hL.tn
  constructor <;> dsimp only [sol_t, sol_rows, sol_summary]
  · exact htn
  · unfold finOf at hfin
    simp only [Bool.or_eq_true, Bool.and_eq_true, decide_eq_true_eq] at hfin
    rcases hfin with h | ⟨h1, h2⟩
    · left
      split at h
      · cases h
      · omega
    · right
      have hfl := hL.lastS h2
      have hend : endcOf c ev s = true := by simpa [hfl] using h1
      simp [hend, hfl, h2]
  · exact ⟨rowOf c ev s, rfl, rfl⟩
  · intro th he
    have he : (c.nSeasons - 1, th) ∈ (sol c ev s).summaryRev := he
    rcases mem_sol_summary.mp he with ⟨h, _⟩ | h
    · exact (Prod.mk.inj h).2
    · exact (live_no_last hL hH th h).elim

/-- why the harvest flag of the current season is up: the crop is mature or dead, or the day about
to be simulated is on or after the latest harvest date — in each case that day is not a growing
day.  (`G` for growing days: with it `NoGsAfterEnd` is invariant, under `WF` alone.) -/
structure LiveG (c : Cfg) (s : St) : Prop where
  flagWhy : s.harvestFlag = true →
    s.mature = true ∨ s.dead = true ∨ c.hv s.season.toNat ≤ (s.t : Int)

/-- in a newest-first list of rows: after a row of a season that met the end-of-season condition
no later row of that season is a growing day -/
def NoGsAfterEnd (rows : List Row) : Prop :=
  ∀ r ∈ rows, ∀ r' ∈ rows, r.season = r'.season → r.endc = true → r.t < r'.t → r'.gs = false

theorem gsOf_false_of_flag {s : St} (hG : LiveG c s) (hf : s.harvestFlag = true) :
    gsOf c s = false := by
  unfold gsOf
  rcases hG.flagWhy hf with h | h | h
  · simp [h]
  · simp [h]
  · have : ¬ ((s.t : Int) < c.hv s.season.toNat) := by omega
    simp [this]

theorem sol_flagWhy {ev : Ev} {s : St} (hG : LiveG c s)
    (h : (s.harvestFlag || endcOf c ev s) = true) :
    matOf c ev s = true ∨ deadOf c ev s = true ∨
      c.hv s.season.toNat ≤ ((s.t + 1 : Nat) : Int) := by
  cases hf : s.harvestFlag with
  | true =>
    rcases hG.flagWhy hf with h1 | h1 | h1
    · left; simp [matOf, h1]
    · right; left; simp [deadOf, h1]
    · right; right; omega
  | false =>
    rw [hf] at h
    simp only [Bool.false_or] at h
    unfold endcOf at h
    simp only [Bool.and_eq_true, Bool.or_eq_true, decide_eq_true_eq] at h
    rcases h.2 with (h1 | h1) | h1
    · exact Or.inl h1
    · exact Or.inr (Or.inl h1)
    · right; right; omega

theorem noGs_sol {ev : Ev} {s : St} (hL : Live c s) (hG : LiveG c s)
    (hN : NoGsAfterEnd s.rowsRev) : NoGsAfterEnd (sol c ev s).rowsRev := by
  intro r hr r' hr' hs he ht
  rw [sol_rows, List.mem_cons] at hr hr'
  rcases hr' with rfl | hr'
  · rcases hr with rfl | hr
    · exact absurd ht (Nat.lt_irrefl _)
    · -- an earlier row of the current season met the end condition: the flag is up
      have hf := hL.flagI.mpr ⟨r, hr, hs, he⟩
      simpa using gsOf_false_of_flag hG hf
  · rcases hr with rfl | hr
    · have := (hL.rowsB r' hr').1
      simp only [rowOf_t] at ht; omega
    · exact hN r hr r' hr' hs he ht

/-! ### Reachable states -/

/-- everything that holds of a reachable state under `WF` (`good_of_reach`): `Hist` and
`NoGsAfterEnd` of its tables, `Live` and `LiveG` while it is unfinished, `Final` once it is
finished -/
structure Good (c : Cfg) (ev : Ev) (s : St) : Prop where
  hist : Hist c s.rowsRev s.summaryRev
  noGs : NoGsAfterEnd s.rowsRev
  rowsOf : ∀ r ∈ s.rowsRev, ∃ s', r = rowOf c ev s'
  slo : -1 ≤ s.season
  shi : s.season < c.nSeasons
  live : s.finished = false → Live c s
  liveG : s.finished = false → LiveG c s
  final : s.finished = true → Final c s

/-- states reachable from the initial clock by successful `_perform_timestep`s -/
inductive Reach (c : Cfg) (ev : Ev) : St → Prop
  | init {s : St} : init c = .ok s → Reach c ev s
  | step {s s' : St} : Reach c ev s → perform c ev s = .ok s' → Reach c ev s'

theorem good_init (hw : WF c) (ev : Ev) {s : St} (hi : init c = .ok s) : Good c ev s := by
  have hL := live_init hw hi
  refine ⟨?_, ?_, ?_, hL.slo, hL.shi, fun _ => hL, fun _ => ⟨?_⟩,
    fun h => by rw [hL.notFin] at h; cases h⟩ <;> cases init_eq hi
  · exact ⟨List.Pairwise.nil, by simp, fun _ h => absurd h (Nat.not_lt_zero _), by simp, by simp,
      by rintro k t ⟨r, hr, _⟩; simp at hr, List.Pairwise.nil⟩
  · exact fun r hr => by cases hr
  · exact fun r hr => by cases hr
  · exact fun h => by cases h

theorem good_stepT (hw : WF c) {ev : Ev} {s : St} (hG : Good c ev s) (hf : s.finished = false) :
    Good c ev (stepT c ev s) := by
  have hL := hG.live hf
  have hslo := hL.slo
  have hshi := hL.shi
  refine ⟨?_, ?_, ?_, ?_, ?_, fun h => (live_step hw ev hL h).1, fun h => ?_, fun h => ?_⟩
  · rw [stepT_rows, stepT_summary]; exact hist_sol hL hG.hist
  · rw [stepT_rows]; exact noGs_sol hL (hG.liveG hf) hG.noGs
  · rw [stepT_rows, sol_rows]
    intro r hr
    rcases List.mem_cons.mp hr with rfl | hr
    · exact ⟨s, rfl⟩
    · exact hG.rowsOf r hr
  · rcases stepT_cases ev hL with ⟨_, e⟩ | ⟨_, _, _, e⟩ | ⟨_, _, _, _, e⟩ | ⟨_, _, _, e⟩ <;> rw [e] <;>
      dsimp only [resetSeason, sol_season] <;> omega
  · rcases stepT_cases ev hL with ⟨_, e⟩ | ⟨_, _, _, e⟩ | ⟨_, _, _, _, e⟩ | ⟨_, _, _, e⟩ <;> rw [e] <;>
      dsimp only [resetSeason, sol_season] <;> omega
  · -- a season that has just begun has its flag down; otherwise the reason carries over
    rcases stepT_cases ev hL with ⟨_, e⟩ | ⟨_, _, _, e⟩ | ⟨_, _, _, _, e⟩ | ⟨_, _, _, e⟩ <;>
      rw [e] at h ⊢
    · cases h
    · exact ⟨fun h => by cases h⟩
    · exact ⟨fun h => by cases h⟩
    · exact ⟨sol_flagWhy (hG.liveG hf)⟩
  · rw [stepT_finished] at h; exact final_step hL hG.hist h

theorem good_of_reach (hw : WF c) {ev : Ev} {s : St} (hr : Reach c ev s) : Good c ev s := by
  induction hr with
  | init hi => exact good_init hw ev hi
  | step _ hp ih =>
    have hf := unfinished_of_perform_ok hp
    rw [perform_eq hw ev (ih.live hf)] at hp
    cases hp
    exact good_stepT hw ih hf

theorem reach_perform (hw : WF c) {ev : Ev} {s s' : St} (hr : Reach c ev s)
    (hp : perform c ev s = .ok s') : Live c s ∧ s' = stepT c ev s := by
  have hL := (good_of_reach hw hr).live (unfinished_of_perform_ok hp)
  rw [perform_eq hw ev hL] at hp
  cases hp
  exact ⟨hL, rfl⟩

theorem reach_ind (hw : WF c) {ev : Ev} {motive : ∀ s, Reach c ev s → Prop}
    (h0 : ∀ s (hi : init c = .ok s), motive s (.init hi))
    (hs : ∀ s (hr : Reach c ev s) (hL : Live c s), motive s hr →
      motive (stepT c ev s) (.step hr (perform_eq hw ev hL)))
    {s : St} (hr : Reach c ev s) : motive s hr := by
  induction hr with
  | init hi => exact h0 _ hi
  | @step s s' hr' hp ih =>
    obtain ⟨hL, rfl⟩ := reach_perform hw hr' hp
    exact hs s hr' hL ih

theorem reach_runCalls {ev : Ev} : ∀ (ks : List Nat) {s s' : St}, Reach c ev s →
    runCalls c ev ks s = .ok s' → Reach c ev s' := by
  intro ks s s' hr h
  rw [runCalls_eq] at h; exact Steps.calls_inv (fun _ _ => Reach.step) ks hr h

/-! ### Termination -/

theorem reach_step_total (hw : WF c) (ev : Ev) (s : St) (hr : Reach c ev s)
    (hf : s.finished = false) :
    ∃ s', perform c ev s = .ok s' ∧ Reach c ev s' ∧
      (s'.finished = false → c.n - 1 - s'.t < c.n - 1 - s.t) := by
  have hL := (good_of_reach hw hr).live hf
  have hp := perform_eq hw ev hL
  refine ⟨_, hp, .step hr hp, fun hf' => ?_⟩
  obtain ⟨hL', hlt⟩ := live_step hw ev hL hf'
  have := hL'.tn
  omega

theorem runTill_total (hw : WF c) (ev : Ev) {s : St} (hr : Reach c ev s) :
    ∃ r, runTillF c ev c.n s = .ok r ∧ r.finished = true ∧ Reach c ev r ∧
      (s.finished = false → runSteps c ev c.n s = .ok r) := by
  simp only [runTillF_eq, runSteps_eq]
  exact Steps.till_total (μ := fun s => c.n - 1 - s.t) (fun _ _ => unfinished_of_perform_ok)
    (reach_step_total hw ev)
    (fun s hr hf => by have := ((good_of_reach hw hr).live hf).tn; omega) hr (by omega)

theorem runTill_ok (hw : WF c) (ev : Ev) {s₀ : St} (hi : init c = .ok s₀) :
    ∃ s, runTill c ev s₀ = .ok s ∧ s.finished = true ∧ Reach c ev s := by
  obtain ⟨s, h1, h2, h3, _⟩ := runTill_total hw ev (.init hi)
  exact ⟨s, h1, h2, h3⟩

theorem terminates (hw : WF c) (ev : Ev) {s₀ : St} (hi : init c = .ok s₀) :
    ∃ s, runSteps c ev c.n s₀ = .ok s ∧ runTill c ev s₀ = .ok s ∧ s.finished = true := by
  obtain ⟨s, h1, h2, _, h4⟩ := runTill_total hw ev (.init hi)
  exact ⟨s, h4 (live_init hw hi).notFin, h1, h2⟩

/-! ### `run_model` calls (C09) -/

theorem perform_rows (hw : WF c) {ev : Ev} {s s' : St} (hr : Reach c ev s) (hp : perform c ev s = .ok s') :
    s'.rowsRev.length = s.rowsRev.length + 1 := by
  obtain ⟨_, rfl⟩ := reach_perform hw hr hp
  rw [stepT_rows]; simp

theorem runSteps_days (hw : WF c) {ev : Ev} (k : Nat) {f : Nat} {s sT : St} (hr : Reach c ev s)
    (hf : s.finished = false) (hT : runTillF c ev f s = .ok sT) :
    ∃ s', runSteps c ev k s = .ok s' ∧
      s'.rowsRev.length = s.rowsRev.length + min k (sT.rowsRev.length - s.rowsRev.length) := by
  rw [runTillF_eq] at hT
  simp only [runSteps_eq]
  exact Steps.run_len_min (P := Reach c ev) (step := perform c ev) (len := fun s => s.rowsRev.length)
    (fun _ _ => unfinished_of_perform_ok) (fun _ _ ha hp => ⟨.step ha hp, perform_rows hw ha hp⟩) k hr hf hT

theorem calls_eq_till (hw : WF c) (ev : Ev) {s₀ s : St} (hi : init c = .ok s₀) {ks : List Nat}
    (h : runCalls c ev ks s₀ = .ok s) (hf : s.finished = true) :
    runTill c ev s₀ = .ok s := by
  obtain ⟨sT, hT, _, _⟩ := runTill_ok hw ev hi
  rw [runCalls_eq] at h
  obtain ⟨f, hfu⟩ :=
    Steps.calls_eq_till (e2 := Err.fuel) (fun _ _ => unfinished_of_perform_ok) ks h hf
  rw [runTill, runTillF_eq] at hT ⊢
  -- both loops agree once given the larger fuel
  have h1 := hfu (max f c.n) (Nat.le_max_left _ _)
  rw [Steps.till_mono c.n hT (max f c.n) (Nat.le_max_right _ _)] at h1
  rw [hT, h1]

theorem runModel_ok_of_unfinished (hw : WF c) (ev : Ev) {s : St} (hr : Reach c ev s)
    (hf : s.finished = false) (k : Nat) (hk : 1 ≤ k) :
    ∃ s', runModel c ev k s = .ok s' ∧ Reach c ev s' := by
  obtain ⟨s', h, hr', _⟩ := Steps.run_total (reach_step_total hw ev) k hr hf
  rw [← runSteps_eq] at h
  exact ⟨s', by simp [runModel, show ¬ k < 1 by omega, h], hr'⟩

/-! ### The theorems, for every reachable state -/

section main
variable {ev : Ev} {s : St}

theorem dap_counts (hw : WF c) (hr : Reach c ev s) :
    ∀ r ∈ s.rows, r.dap = if r.gs then r.t + 1 - c.pl r.season.toNat else 0 := by
  intro r hmem
  have := (good_of_reach hw hr).hist.dapOK r (by simpa [St.rows] using hmem)
  obtain ⟨h1, h2⟩ := this
  cases hg : r.gs with
  | true => have := h1 hg; simp; omega
  | false => simpa using h2 hg

theorem season_ends_first (hw : WF c) (hr : Reach c ev s) (k : Int) (t : Nat) :
    (k, t) ∈ s.summary ↔ FirstEnd s.rows k t := by
  have hH := (good_of_reach hw hr).hist
  unfold St.summary St.rows
  simp only [FirstEnd, List.mem_reverse]
  exact ⟨fun h => hH.sumSound _ h, hH.sumComplete k t⟩

theorem summary_sorted (hw : WF c) (hr : Reach c ev s) :
    s.summary.Pairwise (fun a b => a.1 < b.1) := by
  unfold St.summary; rw [List.pairwise_reverse]
  exact (good_of_reach hw hr).hist.sumSorted

theorem last_season_ends_run (hw : WF c) (hr : Reach c ev s) {th : Nat}
    (h : (c.nSeasons - 1, th) ∈ s.summary) : s.finished = true ∧ th = s.t := by
  have hG := good_of_reach hw hr
  have h' : (c.nSeasons - 1, th) ∈ s.summaryRev := by simpa [St.summary] using h
  cases hf : s.finished with
  | false => exact (live_no_last (hG.live hf) hG.hist th h').elim
  | true => exact ⟨rfl, (hG.final hf).lastOnly th h'⟩

theorem unfinished_state (hw : WF c) (hr : Reach c ev s) (hf : s.finished = false) :
    s.t + 2 ≤ c.n ∧ ∀ r ∈ s.rows, r.t < s.t ∧ r.season ≤ s.season := by
  have hL := (good_of_reach hw hr).live hf
  exact ⟨hL.tn, fun r hmem => hL.rowsB r (by simpa [St.rows] using hmem)⟩

theorem row_of_reach (hw : WF c) {ev : Ev} {s : St} (hr : Reach c ev s) :
    ∀ r ∈ s.rows, ∃ s', r = rowOf c ev s' :=
  fun r hm => (good_of_reach hw hr).rowsOf r (by simpa [St.rows] using hm)

end main

/-! ### The latest harvest date is not a growing day (needs only `WF`)

`solution_single_time_step` tests `harvest_date > step_start_time` (repository commit d260679;
before it the test was `>=`, and with the off-season simulated the harvest date itself was still
a growing day of a season whose summary row had already been written). -/

/-- what the ghost column `gs` of a row means: the growing-season test of the day, in closed form
(in a season, on or after its planting date, **strictly before its latest harvest date**, crop
neither mature nor dead at the start of the day — the last two are what `mature`/`dead` of the
*previous* row of the season say, so they are not repeated here) -/
theorem gs_meaning (hw : WF c) {ev : Ev} {s : St} (hr : Reach c ev s) :
    ∀ r ∈ s.rows, r.gs = true →
      0 ≤ r.season ∧ c.pl r.season.toNat ≤ r.t ∧ (r.t : Int) + 1 ≤ c.hv r.season.toNat := by
  intro r hmem hg
  obtain ⟨s', rfl⟩ := row_of_reach hw hr r hmem
  obtain ⟨h0, hp, hh, _⟩ := (gsOf_iff c s').mp hg
  simp only [rowOf_season, rowOf_t]
  exact ⟨h0, by omega, by omega⟩

theorem no_growing_day_after_end (hw : WF c) {ev : Ev} {s : St} (hr : Reach c ev s) :
    ∀ r ∈ s.rows, ∀ r' ∈ s.rows, r.season = r'.season → r.endc = true → r.t < r'.t →
      r'.gs = false ∧ r'.dap = 0 := by
  intro r hm r' hm' hs he ht
  have hg : r'.gs = false :=
    (good_of_reach hw hr).noGs r (by simpa [St.rows] using hm) r' (by simpa [St.rows] using hm') hs he ht
  refine ⟨hg, ?_⟩
  have := dap_counts hw hr r' hm'
  simpa [hg] using this

theorem no_growing_day_after_summary (hw : WF c) {ev : Ev} {s : St} (hr : Reach c ev s)
    {k : Int} {t : Nat} (h : (k, t) ∈ s.summary) :
    ∀ r ∈ s.rows, r.season = k → t < r.t → r.gs = false ∧ r.dap = 0 := by
  obtain ⟨r0, hr0, a, b, e, _⟩ := (season_ends_first hw hr k t).mp h
  intro r hm hs ht
  exact no_growing_day_after_end hw hr r0 hr0 r hm (by rw [a, hs]) e (by omega)

/-! ### Harvest dates (needs `Valid`) -/

/-- what `Valid` adds to `Live` (`H` for harvest dates): a raised flag has its summary row, and the
flag is up from the latest harvest date on -/
structure LiveH (c : Cfg) (s : St) : Prop where
  flagSum : s.harvestFlag = true → ∃ t, (s.season, t) ∈ s.summaryRev
  dateFlag : 0 ≤ s.season → c.hv s.season.toNat ≤ s.t → s.harvestFlag = true

/-- what `Valid` adds to `Hist`, for every reachable state (`histH_of_reach`): every season left
behind has its summary row, and every summary row lies before the latest harvest date of its
season -/
structure HistH (c : Cfg) (s : St) : Prop where
  seen : ∀ k : Nat, (k : Int) < s.season → ∃ t, ((k : Int), t) ∈ s.summaryRev
  sumDate : ∀ e ∈ s.summaryRev, (e.2 : Int) + 1 ≤ c.hv e.1.toNat

theorem sol_flagSum {ev : Ev} {s : St} (hH : LiveH c s)
    (h : (s.harvestFlag || endcOf c ev s) = true) :
    ∃ t, (s.season, t) ∈ (sol c ev s).summaryRev := by
  cases hf : s.harvestFlag with
  | true =>
    obtain ⟨t, ht⟩ := hH.flagSum hf
    exact ⟨t, mem_sol_summary.mpr (.inr ht)⟩
  | false =>
    rw [hf] at h
    simp only [Bool.false_or] at h
    exact ⟨s.t, by simp [h, hf]⟩

theorem sol_dateFlag {ev : Ev} {s : St} (hH : LiveH c s) (h0 : 0 ≤ s.season)
    (h : c.hv s.season.toNat ≤ ((s.t + 1 : Nat) : Int)) :
    (s.harvestFlag || endcOf c ev s) = true := by
  by_cases h1 : c.hv s.season.toNat ≤ s.t
  · simp [hH.dateFlag h0 h1]
  · have : c.hv s.season.toNat = (s.t : Int) + 1 := by omega
    simp [endcOf, h0, this]

theorem sol_sumDate {ev : Ev} {s : St} (hH : LiveH c s) (hS : HistH c s) :
    ∀ e ∈ (sol c ev s).summaryRev, (e.2 : Int) + 1 ≤ c.hv e.1.toNat := by
  intro e he
  rcases mem_sol_summary.mp he with ⟨rfl, hend, hfl⟩ | he
  · -- written while the flag is down, so before the latest harvest date
    have h0 : 0 ≤ s.season := by
      unfold endcOf at hend
      simp at hend
      exact hend.1
    by_cases h1 : c.hv s.season.toNat ≤ s.t
    · have := hH.dateFlag h0 h1; rw [hfl] at this; cases this
    · show (s.t : Int) + 1 ≤ c.hv s.season.toNat; omega
  · exact hS.sumDate e he

theorem histH_stepT (hv : Valid c) (ev : Ev) {s : St} (hL : Live c s) (hH : LiveH c s)
    (hS : HistH c s) :
    HistH c (stepT c ev s) ∧ ((stepT c ev s).finished = false → LiveH c (stepT c ev s)) := by
  have hsum := sol_sumDate (ev := ev) hH hS
  have hseenOld : ∀ k : Nat, (k : Int) < s.season → ∃ t, ((k : Int), t) ∈ (sol c ev s).summaryRev :=
    fun k hk => by obtain ⟨t, ht⟩ := hS.seen k hk; exact ⟨t, mem_sol_summary.mpr (.inr ht)⟩
  -- the season just left has its summary row
  have hseenNew : (s.harvestFlag || endcOf c ev s) = true → ∀ k : Nat, (k : Int) < s.season + 1 →
      ∃ t, ((k : Int), t) ∈ (sol c ev s).summaryRev := by
    intro hfl k hk
    by_cases hk' : (k : Int) < s.season
    · exact hseenOld k hk'
    · have : s.season = k := by omega
      rw [← this]; exact sol_flagSum hH hfl
  have hshi := hL.shi
  have hslo := hL.slo
  rcases stepT_cases ev hL with ⟨_, e⟩ | ⟨_, hj, hn, e⟩ | ⟨_, _, hn, hp, e⟩ | ⟨_, _, _, e⟩ <;>
    rw [e]
  · exact ⟨⟨hseenOld, hsum⟩, fun h => by cases h⟩
  · have hfl : (s.harvestFlag || endcOf c ev s) = true := by
      simp only [Bool.and_eq_true] at hj; exact hj.1
    have hk1 : (s.season + 1).toNat < c.planting.length := by rw [nSeasons_eq] at hn; omega
    have hlt := hv.pl_lt_hv hk1
    refine ⟨⟨hseenNew hfl, hsum⟩, fun _ => ⟨fun h => (by cases h), ?_⟩⟩
    intro _ hle
    have hle : c.hv (s.season + 1).toNat ≤ (c.pl (s.season + 1).toNat : Int) := hle
    omega
  · have hk1 : (s.season + 1).toNat < c.planting.length := by rw [nSeasons_eq] at hn; omega
    have hlt := hv.pl_lt_hv hk1
    refine ⟨⟨fun k hk => ?_, hsum⟩, fun _ => ⟨fun h => (by cases h), ?_⟩⟩
    · -- the season left, if any, has reached its latest harvest date
      have hk : (k : Int) < s.season + 1 := hk
      have h0 : 0 ≤ s.season := by omega
      have hle := hv.hv_le_next (k := s.season.toNat) (by rw [nSeasons_eq] at hn; omega)
      rw [show s.season.toNat + 1 = (s.season + 1).toNat by omega] at hle
      exact hseenNew (sol_dateFlag hH h0 (by omega)) k hk
    · intro _ hle
      have hle : c.hv (s.season + 1).toNat ≤ ((s.t + 1 : Nat) : Int) := hle
      omega
  · exact ⟨⟨hseenOld, hsum⟩, fun _ => ⟨sol_flagSum hH, sol_dateFlag hH⟩⟩

theorem histH_of_reach (hv : Valid c) {ev : Ev} {s : St} (hr : Reach c ev s) :
    HistH c s ∧ (s.finished = false → LiveH c s) := by
  induction hr using reach_ind with
  | hw => exact hv.wf
  | h0 s hi =>
    cases init_eq hi
    rcases hv.wf.season0_cases with ⟨h0, hp0⟩ | ⟨h0, _⟩
    · have hl := hv.pl_lt_hv hv.wf.len_pos
      refine ⟨⟨by simp [h0], by simp⟩, fun _ => ⟨by simp, ?_⟩⟩
      intro _ hle
      simp only [h0] at hle
      simp at hle
      omega
    · exact ⟨⟨by simp [h0], by simp⟩, fun _ => ⟨by simp, by simp [h0]⟩⟩
  | hs s _ hL ih => exact histH_stepT hv ev hL (ih.2 hL.notFin) ih.1

theorem season_harvested (hv : Valid c) {ev : Ev} {s : St} (hr : Reach c ev s) (k : Nat)
    (hk : (k : Int) < s.season) : ∃ t, ((k : Int), t) ∈ s.summary := by
  obtain ⟨t, ht⟩ := (histH_of_reach hv hr).1.seen k hk
  exact ⟨t, by simpa [St.summary] using ht⟩

theorem harvest_by_latest_date (hv : Valid c) {ev : Ev} {s : St} (hr : Reach c ev s)
    {k : Int} {t : Nat} (h : (k, t) ∈ s.summary) : (t : Int) + 1 ≤ c.hv k.toNat := by
  exact (histH_of_reach hv hr).1.sumDate (k, t) (by simpa [St.summary] using h)

/-! ### Further facts about the rows, and `upsert` of rows with fresh keys -/

theorem neighbours_reverse {R : Row → Row → Prop} {l : List Row}
    (hc : ∀ i (h : i + 1 < l.length), R l[i + 1] l[i]) (i : Nat) (h : i + 1 < l.reverse.length) :
    R (l.reverse[i]'(Nat.lt_of_succ_lt h)) l.reverse[i + 1] := by
  have hl : l.reverse.length = l.length := List.length_reverse
  have h' : l.length - 1 - (i + 1) + 1 < l.length := by omega
  have := hc (l.length - 1 - (i + 1)) h'
  rw [List.getElem_reverse, List.getElem_reverse]
  have e : l.length - 1 - i = l.length - 1 - (i + 1) + 1 := by omega
  simp only [e]
  exact this

theorem exists_firstEnd (k : Int) : ∀ (rows : List Row),
    (∃ r ∈ rows, r.season = k ∧ r.endc = true) → ∃ t, FirstEnd rows k t := by
  intro rows ⟨r, hr, a, e⟩
  -- the least such day among those `≤ n`, by induction on `n`
  have : ∀ n, (∃ r ∈ rows, r.season = k ∧ r.endc = true ∧ r.t ≤ n) → ∃ t, FirstEnd rows k t := by
    intro n
    induction n with
    | zero =>
      rintro ⟨r, hr, a, e, h⟩
      exact ⟨r.t, r, hr, a, rfl, e, fun _ _ _ _ => by omega⟩
    | succ n ih =>
      rintro ⟨r, hr, a, e, h⟩
      by_cases hn : ∃ r ∈ rows, r.season = k ∧ r.endc = true ∧ r.t ≤ n
      · exact ih hn
      · refine ⟨r.t, r, hr, a, rfl, e, fun r' hr' a' e' => ?_⟩
        have : ¬ r'.t ≤ n := fun h' => hn ⟨r', hr', a', e', h'⟩
        omega
  exact this r.t ⟨r, hr, a, e, Nat.le_refl _⟩

theorem upsert_fresh : ∀ (tbl : List (Int × Nat)) (e : Int × Nat), (∀ x ∈ tbl, x.1 ≠ e.1) →
    upsert tbl e = tbl ++ [e]
  | [], _, _ => rfl
  | x :: xs, e, h => by
    have hx : x.1 ≠ e.1 := h x (by simp)
    simp only [upsert, hx, if_false, List.cons_append]
    rw [upsert_fresh xs e (fun y hy => h y (by simp [hy]))]

theorem foldl_upsert_sorted : ∀ (l acc : List (Int × Nat)),
    (acc ++ l).Pairwise (fun a b => a.1 < b.1) → l.foldl upsert acc = acc ++ l
  | [], acc, _ => by simp
  | e :: l, acc, h => by
    have hfresh : ∀ x ∈ acc, x.1 ≠ e.1 := by
      intro x hx
      have := (List.pairwise_append.mp h).2.2 x hx e (by simp)
      omega
    simp only [List.foldl_cons]
    rw [upsert_fresh acc e hfresh, foldl_upsert_sorted l (acc ++ [e]) (by simpa using h)]
    simp

/-! ### Non-vacuity and the error classes of ill-formed configurations -/

def resultOf (r : Except Err St) : Except Err (Nat × Int × Bool × List (Int × Nat)) :=
  r.map (fun s => (s.t, s.season, s.finished, s.summary))

def exCfg : Cfg :=
  { n := 40, planting := [3, 15, 30], harvest := [9, 29, 55], offSeason := false, season0 := -1 }
def exEv : Ev := fun t => (t == 5, t == 17)
def noEv : Ev := fun _ => (false, false)

/-- a run of a valid configuration (the crop matures on day 5 in the first season, dies on day
17 in the second, the third season is cut by the end of the window) -/
example : resultOf (init exCfg >>= runTill exCfg exEv) = .ok (38, 2, true, [(0, 5), (1, 17)]) := by
  rfl
example : Valid exCfg := by decide

def badLastDay : Cfg :=
  { n := 10, planting := [0, 9], harvest := [3, 12], offSeason := false, season0 := 0 }
/-- planting date on the last day of the window, off-season skipped: `time_span[t+1]` raises
`IndexError` when the run jumps there -/
example : resultOf (init badLastDay >>= runTill badLastDay noEv) = .error .index := by rfl

def badOutside : Cfg :=
  { n := 10, planting := [0, 12], harvest := [3, 15], offSeason := false, season0 := 0 }
/-- planting date outside the window, off-season skipped: `time_span.get_loc` raises `KeyError` -/
example : resultOf (init badOutside >>= runTill badOutside noEv) = .error .key := by rfl

/-- a one-day window: `time_span[1]` raises `IndexError` in `read_clock_parameters` -/
def oneDay : Cfg := { n := 1, planting := [0], harvest := [3], offSeason := false, season0 := 0 }
example : resultOf (init oneDay) = .error .index := by rfl

def small : Cfg := { n := 6, planting := [0], harvest := [3], offSeason := false, season0 := 0 }
/-- the second call finishes the run (harvest on day 2), a further call raises -/
example : resultOf (init small >>= runCalls small noEv [2, 5]) = .ok (2, 0, true, [(0, 2)]) := by rfl
example : resultOf (init small >>= runCalls small noEv [2, 5, 1]) = .error .finished := by rfl

def offCfg : Cfg :=
  { n := 12, planting := [0, 6], harvest := [3, 9], offSeason := true, season0 := 0 }
/-- off-season simulated, the crop never matures: the summary row of season 0 is written on step 2
(the day before the latest harvest date 3); steps 3, 4, 5 — still season 0 — are not growing days
(`gs = false`, `dap = 0`); season 1 starts on step 6 -/
example : (init offCfg >>= runSteps offCfg noEv 7).map
      (fun s => (s.summary, s.rows.map (fun r => (r.t, r.season, r.gs, r.dap)))) =
    .ok ([(0, 2)], [(0, 0, true, 1), (1, 0, true, 2), (2, 0, true, 3), (3, 0, false, 0),
      (4, 0, false, 0), (5, 0, false, 0), (6, 1, true, 1)]) := by rfl
example : Valid offCfg := by decide


end Aqua.Clock
