import AquaVerif.Model.EvapLayer
/-
Model of `aquacrop/solution/soil_evaporation.py` (daily soil evaporation: potential rate, evaporation
of ponded water, stage 1 from the readily evaporable surface layer, stage 2 in `EvapTimeSteps`
sub-daily steps with an expanding evaporation layer).

Mirrors the Python branch by branch, including
  * the stage-1/stage-2 extraction loops that pre-increment `comp` and therefore may visit index
    `comp_sto` (one compartment *beyond* the counted ones, where `factor ≤ 0`),
  * the clamp `AvW < 0 → 0` in stage 1 and in stage 2 (the latter: repo commit 9c2fed8),
  * `Kr` clamped at 1 but not at 0,
  * `tAdj` unbound when `CalendarType ∉ {1,2}` in the growing season (`E:unbound`),
  * `IndexError` when a loop indexes past the profile (`E:index`).
`EvapTimeSteps = 0` is answered with `E:zerodiv` (what Python does for Python-float `ToExtract`;
for numpy scalars it would produce `inf` and continue — not modelled, never generated).

Ghost outputs: `negTake` (some extraction step took a negative amount; with the stage-2 clamp it is
provably `false`, lemma `soilEvap_negTake_false`; it is part of the reply format and the harness
checks it), `branch` (bit mask of the branches taken, for coverage statistics).
-/

namespace Aqua
section
variable {α : Type} [Add α] [Sub α] [Mul α] [Div α] [Neg α] [LT α] [LE α]
  [DecidableLT α] [DecidableLE α] [OfScientific α] [OfNat α 0] [OfNat α 1] [OfNat α 2] [OfNat α 3]
  [OfNat α 100] [OfNat α 1000]

/-- the integer `n` as a number (`ToExtract / ClockStruct_EvapTimeSteps` divides by a Python int). -/
def natNum : Nat → α
  | 0 => 0
  | n+1 => natNum n + 1

/-- parameters, in the order of the Python argument list (clock, soil, crop, irrigation and field
management). -/
structure EvapParams (α : Type) where
  steps : Nat             -- ClockStruct_EvapTimeSteps
  simOffSeason : Bool     -- ClockStruct_SimOffSeason
  zMin : α                -- Soil_EvapZmin
  zMax : α                -- Soil_EvapZmax
  rew : α                 -- Soil_REW
  kex : α                 -- Soil_Kex
  fwcc : α                -- Soil_fwcc
  fWrelExp : α            -- Soil_fWrelExp
  fevap : α               -- Soil_fevap
  calendarType : Nat      -- Crop_CalendarType
  senescence : α          -- Crop_Senescence
  irrMethod : Nat         -- IrrMngt_IrrMethod
  wetSurf : α             -- IrrMngt_WetSurf
  mulches : Bool          -- FieldMngt_Mulches
  fMulch : α              -- FieldMngt_fMulch
  mulchPct : α            -- FieldMngt_MulchPct

/-- the `NewCond_*` scalars, in argument order (`th` travels in the cells). -/
structure EvapState (α : Type) where
  dap : α                 -- NewCond_DAP (integer valued)
  wSurf : α
  evapZ : α
  stage2 : Bool
  delayedCDs : α
  gddCum : α
  delayedGDDs : α
  ccxW : α
  ccAdj : α
  ccxAct : α
  cc : α
  prematSenes : Bool
  pond : α                -- NewCond_SurfaceStorage
  wStage2 : α
  epot : α                -- NewCond_Epot (overwritten, never read)

/-- the day's forcing, in argument order, plus the time-step counter. -/
structure EvapDay (α : Type) where
  tsc : Nat               -- ClockStruct_TimeStepCounter
  et0 : α
  infl : α
  rain : α
  irr : α
  growingSeason : Bool

structure EvapOut (α : Type) where
  cells : List (Cell α)
  epot : α
  stage2 : Bool
  wStage2 : α
  wSurf : α
  pond : α
  evapZ : α
  esAct : α
  esPot : α
  negTake : Bool          -- ghost
  branch : Nat            -- ghost

/-- the surface-layer bookkeeping the function rewrites several times -/
structure EvapSurf (α : Type) where
  wSurf : α
  evapZ : α
  stage2 : Bool
  wStage2 : α

/-- `round((Act - (Fc - REW)) / (Sat - (Fc - REW)), 2)` clamped at 0 -/
def relWStage2 (F : Fn α) (rew : α) (w : EvapW α) : α :=
  let r := F.round2 ((w.act - (w.fc - rew)) / (w.sat - (w.fc - rew)))
  if r < 0 then 0 else r

/-! ### preparation -/

/-- first day of the simulation / of the season: reset the surface layer, go to stage 2 -/
def evapReinit (F : Fn α) (P : EvapParams α) (cells : List (Cell α)) (tsc : Nat) (dap : α)
    (s : EvapSurf α) : Except String (EvapSurf α × Nat) :=
  if tsc = 0 ∨ ((dap ≤ 1 ∧ 1 ≤ dap) ∧ P.simOffSeason = false) then
    match evapLayerWater cells P.zMin with
    | .error e => .error e
    | .ok w => .ok ({ wSurf := 0, evapZ := P.zMin, stage2 := true, wStage2 := relWStage2 F P.rew w }, 1)
  else .ok (s, 0)

/-- rain or (non-net) irrigation with infiltration refills the surface layer: back to stage 1 -/
def evapRefresh (P : EvapParams α) (D : EvapDay α) (s : EvapSurf α) : EvapSurf α × Nat :=
  if 0 < D.rain ∨ (0 < D.irr ∧ P.irrMethod ≠ 4) then
    if 0 < D.infl then
      ({ wSurf := if P.rew < D.infl then P.rew else D.infl, wStage2 := 0, evapZ := P.zMin,
         stage2 := false }, 2)
    else (s, 0)
  else (s, 0)

/-! ### potential evaporation -/

/-- growing-season potential soil evaporation for a given adjusted time `tAdj`
(canopy shading, withered canopy after senescence, premature-senescence cap) -/
def esPotGrow (F : Fn α) (P : EvapParams α) (S : EvapState α) (D : EvapDay α) (tAdj : α) : α × Nat :=
  let esPotMax := P.kex * D.et0 * (1 - S.ccxW * (P.fwcc / 100))
  let esPot0 := P.kex * (1 - S.ccAdj) * D.et0
  let sen : Bool := decide (P.senescence < tAdj ∧ 0 < S.ccxAct)
  let esPot1 :=
    if sen then
      let mult :=
        if S.ccxAct / 2 < S.cc then
          if S.ccxAct < S.cc then 0 else (S.ccxAct - S.cc) / (S.ccxAct / 2)
        else 1
      let e := esPot0 * (1 - S.ccxAct * (P.fwcc / 100) * mult)
      let ccxActAdj := (1.72 * S.ccxAct) - (F.pow S.ccxAct 2) + 0.3 * (F.pow S.ccxAct 3)
      let esPotMin0 := P.kex * (1 - ccxActAdj) * D.et0
      let esPotMin := if esPotMin0 < 0 then 0 else esPotMin0
      if e < esPotMin then esPotMin else if esPotMax < e then esPotMax else e
    else esPot0
  let esPot2 :=
    if S.prematSenes then (if esPotMax < esPot1 then esPotMax else esPot1) else esPot1
  (esPot2, (if sen then 4 else 0) + (if S.prematSenes then 8 else 0))

/-- potential soil evaporation before the mulch / partial-wetting adjustments;
`tAdj` is unbound in Python when `CalendarType ∉ {1,2}` -/
def esPotBase (F : Fn α) (P : EvapParams α) (S : EvapState α) (D : EvapDay α) :
    Except String (α × Nat) :=
  if D.growingSeason then
    if P.calendarType = 1 then .ok (esPotGrow F P S D (S.dap - S.delayedCDs))
    else if P.calendarType = 2 then .ok (esPotGrow F P S D (S.gddCum - S.delayedGDDs))
    else .error "E:unbound"
  else .ok (P.kex * D.et0, 16)

/-- mulch and partial-wetting adjustments: `min(EsPotIrr, EsPotMul)` -/
def esPotAdjust (P : EvapParams α) (S : EvapState α) (D : EvapDay α) (esPot : α) : α × Nat :=
  let mul : Bool := decide (S.pond < 0.000001) && P.mulches
  let esPotMul := if mul then esPot * (1 - P.fMulch * (P.mulchPct / 100)) else esPot
  let wet : Bool := decide (0 < D.irr ∧ P.irrMethod ≠ 4) && !decide (1 < D.rain ∨ 0 < S.pond)
  let esPotIrr := if wet then esPot * (P.wetSurf / 100) else esPot
  (pmin esPotIrr esPotMul, (if mul then 32 else 0) + (if wet then 64 else 0))

def esPotential (F : Fn α) (P : EvapParams α) (S : EvapState α) (D : EvapDay α) :
    Except String (α × Nat) :=
  match esPotBase F P S D with
  | .error e => .error e
  | .ok (e, b) => let (e', b') := esPotAdjust P S D e; .ok (e', b + b')

/-! ### extraction -/

/-- evaporation from ponded water: `(EsAct, SurfaceStorage, surface layer)` -/
def pondEvap (P : EvapParams α) (esPot pond : α) (s : EvapSurf α) : α × α × EvapSurf α × Nat :=
  if 0 < pond then
    if esPot < pond then (esPot, pond - esPot, s, 128)
    else (pond, 0, { wSurf := P.rew, wStage2 := 0, evapZ := P.zMin, stage2 := false }, 256)
  else (0, pond, s, 0)

/-- result of taking water from one compartment -/
structure Take (α : Type) where
  cell : Cell α
  taken : α     -- added to `EsAct`, removed from `W`, `ToExtract`
  dem : α       -- remaining demand

/-- body of the extraction loops of stage 1 and stage 2 (both clamp `if AvW < 0: AvW = 0`;
the stage-2 clamp is repo commit 9c2fed8). -/
def takeCell (z : α) (x : Cell α) (dem : α) : Take α :=
  let factor := evapFactor z x.c
  let wdry := 1000 * x.c.thDry * x.c.dz
  let w := 1000 * x.th * x.c.dz
  let avw0 := (w - wdry) * factor
  let avw := if avw0 < 0 then 0 else avw0
  if dem ≤ avw then
    { cell := { x with th := (w - dem) / (1000 * x.c.dz) }, taken := dem, dem := 0 }
  else
    { cell := { x with th := (w - avw) / (1000 * x.c.dz) }, taken := avw, dem := dem - avw }

structure ExtAcc (α : Type) where
  dem : α       -- ExtractPotStg1 / ToExtractStg2
  esAct : α
  toExt : α     -- ToExtract
  neg : Bool    -- ghost: some step took a negative amount (provably never, `extractLoop_sat`)

/-- `while (dem > 0) and (comp < comp_sto): comp += 1; …` — `n` = remaining admissible iterations
(`comp_sto + 1` at entry because `comp` starts at −1 and is incremented before use). -/
def extractLoop (z : α) :
    Nat → List (Cell α) → ExtAcc α → Except String (List (Cell α) × ExtAcc α)
  | 0, cs, a => .ok (cs, a)
  | n+1, cs, a =>
    if 0 < a.dem then
      match cs with
      | [] => .error "E:index"
      | x :: xs =>
        let t := takeCell z x a.dem
        match extractLoop z n xs
            { dem := t.dem, esAct := a.esAct + t.taken, toExt := a.toExt - t.taken,
              neg := a.neg || decide (t.taken < 0) } with
        | .error e => .error e
        | .ok (cs', a') => .ok (t.cell :: cs', a')
    else .ok (cs, a)

structure Stg (α : Type) where
  cells : List (Cell α)
  surf : EvapSurf α
  esAct : α
  toExt : α
  neg : Bool
  branch : Nat

/-- stage 1: extraction limited by the water in the surface layer -/
def evapStage1 (F : Fn α) (P : EvapParams α) (cells : List (Cell α)) (s : EvapSurf α)
    (esPot esAct : α) : Except String (Stg α) :=
  let toExt := esPot - esAct
  let e1 := pmin toExt s.wSurf
  if 0 < e1 then
    match extractLoop P.zMin (countBelow P.zMin cells + 1 + 1) cells
        { dem := e1, esAct := esAct, toExt := toExt, neg := false } with
    | .error e => .error e
    | .ok (cells', a) =>
      let ws0 := s.wSurf - a.esAct
      let ws := if ws0 < 0 ∨ 0.0001 < a.dem then 0 else ws0
      if ws < 0.0001 then
        match evapLayerWater cells' s.evapZ with
        | .error e => .error e
        | .ok w =>
          .ok { cells := cells', surf := { s with wSurf := ws, wStage2 := relWStage2 F P.rew w },
                esAct := a.esAct, toExt := a.toExt, neg := a.neg, branch := 512 + 1024 }
      else
        .ok { cells := cells', surf := { s with wSurf := ws }, esAct := a.esAct, toExt := a.toExt,
              neg := a.neg, branch := 512 }
  else .ok { cells := cells, surf := s, esAct := esAct, toExt := toExt, neg := false, branch := 0 }

/-- relative depletion of the evaporation layer in stage 2 -/
def wRelOf (P : EvapParams α) (wStage2 : α) (w : EvapW α) : α :=
  let wupper := wStage2 * (w.sat - (w.fc - P.rew)) + (w.fc - P.rew)
  let wlower := w.dry
  (w.act - wlower) / (wupper - wlower)

def wCheckOf (P : EvapParams α) (evapZ : α) : α :=
  P.fWrelExp * ((P.zMax - evapZ) / (P.zMax - P.zMin))

/-- `while (Wrel < Wcheck) and (EvapZ < EvapZmax)`: expand the layer in 1-mm steps;
returns `(EvapZ, Wrel)`. -/
def expandLoop (P : EvapParams α) (wStage2 : α) (cells : List (Cell α)) :
    Nat → α → α → α → Except String (α × α)
  | 0, evapZ, wrel, wcheck =>
    if wrel < wcheck ∧ evapZ < P.zMax then .error "E:fuel" else .ok (evapZ, wrel)
  | fuel+1, evapZ, wrel, wcheck =>
    if wrel < wcheck ∧ evapZ < P.zMax then
      let z' := evapZ + 0.001
      match evapLayerWater cells z' with
      | .error e => .error e
      | .ok w => expandLoop P wStage2 cells fuel z' (wRelOf P wStage2 w) (wCheckOf P z')
    else .ok (evapZ, wrel)

def expandFuel : Nat := 100000

/-- `Kr = (exp(fevap·Wrel) − 1)/(exp(fevap) − 1)`, clamped at 1 (not at 0) -/
def krOf (F : Fn α) (P : EvapParams α) (wrel : α) : α :=
  let kr := (F.exp (P.fevap * wrel) - 1) / (F.exp P.fevap - 1)
  if 1 < kr then 1 else kr

structure SubSt (α : Type) where
  cells : List (Cell α)
  evapZ : α
  esAct : α
  toExt : α
  neg : Bool

/-- one sub-daily step of stage 2 -/
def stage2Step (F : Fn α) (P : EvapParams α) (wStage2 edt : α) (st : SubSt α) :
    Except String (SubSt α) :=
  match evapLayerWater st.cells st.evapZ with
  | .error e => .error e
  | .ok w =>
    let wrel0 := wRelOf P wStage2 w
    let ex : Except String (α × α) :=
      if P.zMin < P.zMax then
        expandLoop P wStage2 st.cells expandFuel st.evapZ wrel0 (wCheckOf P st.evapZ)
      else .ok (st.evapZ, wrel0)
    match ex with
    | .error e => .error e
    | .ok (evapZ, wrel) =>
      let dem := krOf F P wrel * edt
      match extractLoop evapZ (countBelow evapZ st.cells + 1 + 1) st.cells
          { dem := dem, esAct := st.esAct, toExt := st.toExt, neg := st.neg } with
      | .error e => .error e
      | .ok (cells', a) =>
        .ok { cells := cells', evapZ := evapZ, esAct := a.esAct, toExt := a.toExt, neg := a.neg }

/-- `for jj in range(EvapTimeSteps)` -/
def stage2Loop (F : Fn α) (P : EvapParams α) (wStage2 edt : α) : Nat → SubSt α → Except String (SubSt α)
  | 0, st => .ok st
  | n+1, st =>
    match stage2Step F P wStage2 edt st with
    | .error e => .error e
    | .ok st' => stage2Loop F P wStage2 edt n st'

/-- stage 2 -/
def evapStage2 (F : Fn α) (P : EvapParams α) (g : Stg α) : Except String (Stg α) :=
  if 0 < g.toExt then
    if P.steps = 0 then .error "E:zerodiv" else
    let edt := g.toExt / natNum P.steps
    match stage2Loop F P g.surf.wStage2 edt P.steps
        { cells := g.cells, evapZ := g.surf.evapZ, esAct := g.esAct, toExt := g.toExt,
          neg := g.neg } with
    | .error e => .error e
    | .ok st =>
      .ok { cells := st.cells, surf := { g.surf with stage2 := true, evapZ := st.evapZ },
            esAct := st.esAct, toExt := st.toExt, neg := st.neg,
            branch := g.branch + 2048 + (if g.surf.evapZ < st.evapZ then 4096 else 0) }
  else .ok g

/-! ### entry point -/

/-- `soil_evaporation(...)` -/
def soilEvaporation (F : Fn α) (P : EvapParams α) (S : EvapState α) (cells : List (Cell α))
    (D : EvapDay α) : Except String (EvapOut α) :=
  match evapReinit F P cells D.tsc S.dap
      { wSurf := S.wSurf, evapZ := S.evapZ, stage2 := S.stage2, wStage2 := S.wStage2 } with
  | .error e => .error e
  | .ok (s0, b0) =>
    let (s1, b1) := evapRefresh P D s0
    match esPotential F P S D with
    | .error e => .error e
    | .ok (esPot, b2) =>
      let (esAct0, pond, s2, b3) := pondEvap P esPot S.pond s1
      match evapStage1 F P cells s2 esPot esAct0 with
      | .error e => .error e
      | .ok g1 =>
        match evapStage2 F P g1 with
        | .error e => .error e
        | .ok g2 =>
          .ok { cells := g2.cells, epot := esPot, stage2 := g2.surf.stage2,
                wStage2 := g2.surf.wStage2, wSurf := g2.surf.wSurf, pond := pond,
                evapZ := g2.surf.evapZ, esAct := g2.esAct, esPot := esPot,
                negTake := g2.neg,
                branch := b0 + b1 + b2 + b3 + g2.branch + (if g2.neg then 8192 else 0) }

end
end Aqua
