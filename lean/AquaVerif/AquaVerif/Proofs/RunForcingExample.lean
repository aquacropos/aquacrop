import AquaVerif.Properties.C15Run
import AquaVerif.Proofs.RunForcingExtend
import AquaVerif.Proofs.RunForcingBind
import AquaVerif.Proofs.RunForcingSteps
import AquaVerif.Proofs.SeasonIndepExample
/-
**Non-vacuity over `ℚ`** of the theorems of `Proofs/RunForcing*.lean`, on
the configurations of `Proofs/Run.lean` (`RunExample.cfgq`: one season, window of 6 days) and
`Proofs/SeasonIndepExample.lean` (`cfg2`: two seasons planted on days 0 and 4, window of 8 days,
off-season skipped).

* `lookahead`   — `cfg2` against `cfg2` with other rain, ET0 and water-table depth from day 4 on:
                  all premises of `run_prefix_determined` hold, both runs of six steps succeed,
                  the records of days 0–2 coincide (three records) while the later flux rows differ;
* `crop_premise_needed` — the crop premise of `AgreeBefore` cannot be dropped;
* `extend`      — the one-season window of 5 days against `cfg2` (8 days, a second season planted
                  on the old last day): `ExtendEnd` holds, the old run has three days and finishes,
                  the new run has six, the old tables are prefixes of the new ones;
* `binding`     — an eight-row table with two extra columns, permuted columns, another index and two
                  out-of-window rows: `weatherMatrix` succeeds, `MatrixOK` holds, the run from the
                  table succeeds, and the permuted table gives the same run; `binding_default`:
                  `C15.run_default_never_observed` applies to the matrix of that table;
* `stepping`    — two calls of one step equal one call of two steps on `cfgq`.
-/

set_option linter.unusedSectionVars false
namespace Aqua
namespace RunForcingExample
open Aqua.Clock Aqua.WeatherBind Aqua.RunShape DayExample FullDayExample RunExample
  SeasonIndepExample

/-! ## 1. no look-ahead -/

/-- other weather and water-table depths from day 4 (the planting date of season 1) on -/
def w2 : Nat → Weather ℚ :=
  fun t => { tmin := 15, tmax := 25, rain := if t < 4 then 20 else 9, et0 := if t < 4 then 5 else 3 }
def z2 : Nat → ℚ := fun t => if t < 4 then 1 else 2

def cfg2' : RunCfg ℚ := withForcing cfg2 w2 z2

theorem agree4 : AgreeBefore 4 cfg2 cfg2' :=
  AgreeBefore.withForcing cfg2 w2 z2
    (fun t ht => by
      show ({ tmin := 15, tmax := 25, rain := if t < 4 then 20 else 9,
              et0 := if t < 4 then 5 else 3 } : Weather ℚ) =
        { tmin := 15, tmax := 25, rain := if t < 4 then 20 else 2, et0 := 5 }
      simp [ht])
    (fun t ht => by show (if t < 4 then (1 : ℚ) else 2) = 1; simp [ht])

theorem wf2 : WF cfg2.clock := valid2.wf
theorem initOK2 : InitOK cfg2 := ⟨rfl, rfl, rfl, rfl⟩

theorem lookaheadB :
    okAnd (runInit cfg2) (fun s0 => okAnd (runModel Fq Tq cfg2' 6 s0) fun r' =>
      decide (r'.daysRev.length = 6 ∧
        r'.fluxTable.map (fun x => (x.tsc, x.infl, x.es)) ≠ rows2)) = true := by
  decide +kernel

/-- **`run_prefix_determined` applies and says something**: the two six-step runs exist, differ
after day 4, and have the same three day records before day 4 -/
theorem lookahead : ∃ s0 r r', runInit cfg2 = .ok s0 ∧ runModel Fq Tq cfg2 6 s0 = .ok r ∧
    runModel Fq Tq cfg2' 6 s0 = .ok r' ∧
    recsBefore 4 r'.daysRev = recsBefore 4 r.daysRev ∧ (recsBefore 4 r.daysRev).length = 3 ∧
    r.fluxTable ≠ r'.fluxTable := by
  obtain ⟨s0, r, h0, h1, _, _, htsc, _, _, _, _, _, _, _, hrows⟩ := run2
  obtain ⟨_, h0', h⟩ := okAnd_iff.mp lookaheadB
  cases h0.symm.trans h0'
  obtain ⟨r', h2, h⟩ := okAnd_iff.mp h
  have h1 : runModel Fq Tq cfg2 6 s0 = .ok r := h1
  refine ⟨s0, r, r', h0, h1, h2, (run_prefix_determined agree4 wf2 initOK2 h0 h1 h2).1, ?_, ?_⟩
  · -- the three records before day 4, read off the `tsc` column
    have : ((r.daysRev.map (·.D.tsc)).filter (fun t => decide (t < 4))).length = 3 := by
      rw [htsc]; rfl
    rwa [List.filter_map, List.length_map] at this
  · intro he
    exact (of_decide_eq_true h).2 (by rw [← he]; exact hrows)

/-- `cfg2` with another base temperature for the crop of season 0 only (what a different thermal
calendar amounts to in the model: another `seasonCrop 0`) -/
def cfg2c : RunCfg ℚ :=
  { cfg2 with seasonCrop := fun n => if n = 0 then { cropq' with cx := { cxq with tbase := 10 } }
                                     else cropq' }

theorem cropB :
    okAnd (runInit cfg2) (fun s0 => okAnd (runModel Fq Tq cfg2 2 s0) fun r =>
      okAnd (runModel Fq Tq cfg2c 2 s0) fun r' =>
        decide ((r.growthTable.filter (fun x => decide (x.tsc < 2))).map (·.gdd) ≠
          (r'.growthTable.filter (fun x => decide (x.tsc < 2))).map (·.gdd))) = true := by
  decide +kernel

/-- **the crop premise of `AgreeBefore` cannot be dropped**: same static part, clock and forcing on
every day, same crops for all seasons but season 0 (planted on day 0 `< 2`) — and the rows of the
days before day 2 differ.  This is the shape of the look-ahead of thermal-time crops: their
`seasonCrop` depends on the temperatures of the whole season. -/
theorem crop_premise_needed : StaticEq cfg2 cfg2c ∧ cfg2c.clock = cfg2.clock ∧
    (∀ t, DayEq cfg2 cfg2c t) ∧ (∀ n, n ≠ 0 → cfg2c.seasonCrop n = cfg2.seasonCrop n) ∧
    ∃ s0 r r', runInit cfg2 = .ok s0 ∧ runModel Fq Tq cfg2 2 s0 = .ok r ∧
      runModel Fq Tq cfg2c 2 s0 = .ok r' ∧
      r'.growthTable.filter (fun x => decide (x.tsc < 2)) ≠
        r.growthTable.filter (fun x => decide (x.tsc < 2)) := by
  refine ⟨⟨rfl, rfl, rfl, rfl, rfl, rfl, rfl, rfl, rfl, rfl, rfl, rfl, rfl, rfl, rfl, rfl⟩, rfl,
    fun t => ⟨rfl, fun _ => rfl, rfl, rfl⟩, fun n hn => ?_, ?_⟩
  · show (if n = 0 then _ else cropq') = cropq'
    rw [if_neg hn]
  · obtain ⟨s0, h0, h⟩ := okAnd_iff.mp cropB
    obtain ⟨r, h1, h⟩ := okAnd_iff.mp h
    obtain ⟨r', h2, h⟩ := okAnd_iff.mp h
    exact ⟨s0, r, r', h0, h1, h2, fun he => of_decide_eq_true h (by rw [he])⟩

/-! ## 2. extending the end date -/

/-- `cfg2` cut after its first season: a window of 5 days, one season -/
def cfgA : RunCfg ℚ :=
  { cfg2 with clock := { n := 5, planting := [0], harvest := [3], offSeason := false, season0 := 0 } }

theorem extendA : ExtendEnd cfgA cfg2 :=
  { static := ⟨rfl, rfl, rfl, rfl, rfl, rfl, rfl, rfl, rfl, rfl, rfl, rfl, rfl, rfl, rfl, rfl⟩
    clock :=
      { n := by decide
        planting := ⟨[4], rfl, by decide⟩
        harvest := ⟨[9], rfl⟩
        offSeason := rfl
        season0 := rfl }
    day := fun t _ => ⟨rfl, fun _ => rfl, rfl, rfl⟩
    crop := fun _ _ => rfl }

theorem wfA : WF cfgA.clock := by decide
theorem initOKA : InitOK cfgA := ⟨rfl, rfl, rfl, rfl⟩

theorem extendB :
    okAnd (runInit cfgA) (fun s0 => okAnd (runModel Fq Tq cfgA 6 s0) fun r =>
      decide (r.finished = true ∧ r.daysRev.length = 3 ∧ r.summaryTable.length = 1)) = true := by
  decide +kernel

/-- **`run_extend_end` applies**: the three-day run of the short window finishes; the six-day run
of the long window starts with the same three rows in every table and the same summary row -/
theorem extend : ∃ s0 r r', runInit cfgA = .ok s0 ∧ runModel Fq Tq cfgA 6 s0 = .ok r ∧
    runModel Fq Tq cfg2 6 s0 = .ok r' ∧ r.finished = true ∧
    r.fluxTable.length = 3 ∧ r'.fluxTable.length = 6 ∧
    r.storageTable <+: r'.storageTable ∧ r.fluxTable <+: r'.fluxTable ∧
    r.growthTable <+: r'.growthTable ∧ r.summaryTable <+: r'.summaryTable := by
  obtain ⟨s0, h0, h⟩ := okAnd_iff.mp extendB
  obtain ⟨r, h1, h⟩ := okAnd_iff.mp h
  obtain ⟨hf, hl, _⟩ := of_decide_eq_true h
  -- the long run is the run of `cfg2` (same initial state)
  obtain ⟨s0', r', h0', h2, _, _, htsc, _⟩ := run2
  have hinit : runInit cfgA = runInit cfg2 := rfl
  cases (h0.symm.trans hinit).trans h0'
  have h2 : runModel Fq Tq cfg2 6 s0 = .ok r' := h2
  obtain ⟨e1, e2, e3, e4⟩ := run_extend_end extendA wfA initOKA h0 (Nat.le_refl 6) h1 h2
  refine ⟨s0, r, r', h0, h1, h2, hf, ?_, ?_, e1, e2, e3, e4⟩
  · unfold RunState.fluxTable; simp [hl]
  · have := congrArg List.length htsc
    unfold RunState.fluxTable; simpa using this

/-! ## 3. binding -/

def num (x : ℚ) : WCell ℚ := .num x

/-- eight rows dated −1 … 6 (the window is 0 … 5), the five required columns among two others,
not in the order of `required` -/
def tbl : WTable ℚ Nat :=
  { cols := [("Wind", List.replicate 8 (num 3)),
             ("ReferenceET", List.replicate 8 (num 5)),
             ("Date", [.date (-1), .date 0, .date 1, .date 2, .date 3, .date 4, .date 5, .date 6]),
             ("MaxTemp", List.replicate 8 (num 25)),
             ("Precipitation", List.replicate 8 (num 20)),
             ("Station", List.replicate 8 .other),
             ("MinTemp", List.replicate 8 (num 15))],
    index := [0, 1, 2, 3, 4, 5, 6, 7] }

/-- the same table with the columns in another order and another index -/
def tblP : WTable ℚ String :=
  { cols := [("MinTemp", List.replicate 8 (num 15)),
             ("Station", List.replicate 8 .other),
             ("Date", [.date (-1), .date 0, .date 1, .date 2, .date 3, .date 4, .date 5, .date 6]),
             ("Wind", List.replicate 8 (num 3)),
             ("Precipitation", List.replicate 8 (num 20)),
             ("ReferenceET", List.replicate 8 (num 5)),
             ("MaxTemp", List.replicate 8 (num 25))],
    index := ["a", "b"] }

def rowq (d : Int) : List (WCell ℚ) := [num 15, num 25, num 20, num 5, .date d]
def exMat : List (List (WCell ℚ)) := [rowq 0, rowq 1, rowq 2, rowq 3, rowq 4, rowq 5]

/-- the set-up succeeds: the six in-window rows, the variables in the order the time step reads -/
theorem tbl_matrix : weatherMatrix 0 5 tbl = .ok exMat := by decide +kernel

theorem exMat_ok : MatrixOK exMat cfgq.clock.n := by
  intro t ht
  have ht' : t ≤ 4 := by
    have : cfgq.clock.n = 6 := rfl
    omega
  obtain rfl | rfl | rfl | rfl | rfl : t = 0 ∨ t = 1 ∨ t = 2 ∨ t = 3 ∨ t = 4 := by omega
  all_goals exact ⟨_, _, _, _, _, rfl⟩

theorem exMat_weather (dflt : Weather ℚ) (t : Nat) (ht : t + 2 ≤ cfgq.clock.n) :
    weatherOfMatrix dflt exMat t = cfgq.weather t := by
  have ht' : t ≤ 4 := by
    have : cfgq.clock.n = 6 := rfl
    omega
  obtain rfl | rfl | rfl | rfl | rfl : t = 0 ∨ t = 1 ∨ t = 2 ∨ t = 3 ∨ t = 4 := by omega
  all_goals rfl

theorem sameBinding_tbl : SameBinding 0 5 tbl tblP :=
  SameBinding.trans
    (sameBinding_reindex 0 5 tbl (["a", "b"] : List String))
    (sameBinding_perm_columns 0 5 ({ cols := tbl.cols, index := ["a", "b"] } : WTable ℚ String) tblP
      (by decide) (by decide))

def dfltq : Weather ℚ := { tmin := 0, tmax := 0, rain := 0, et0 := 0 }

theorem bindingB :
    okAnd (runOfTable Fq Tq cfgq dfltq 0 5 tbl 2) (fun r =>
      decide (r.t = 2 ∧ r.daysRev.length = 2 ∧ r.daysRev.map (·.D.rain) = [20, 20])) = true := by
  decide +kernel

/-- **`run_binding_invariant` applies**: the permuted, re-indexed table gives the same
(successful, two-day) run -/
theorem binding : ∃ r, runOfTable Fq Tq cfgq dfltq 0 5 tbl 2 = .ok r ∧
    runOfTable Fq Tq cfgq dfltq 0 5 tblP 2 = .ok r ∧ r.daysRev.length = 2 := by
  obtain ⟨r, h1, h⟩ := okAnd_iff.mp bindingB
  exact ⟨r, h1, by rw [run_binding_invariant cfgq dfltq sameBinding_tbl 2, h1],
    (of_decide_eq_true h).2.1⟩

/-- … and the default weather record is never observed -/
theorem binding_default (d : Weather ℚ) (k : Nat) :
    (runInit (cfgOfMatrix cfgq d exMat)).bind (runModel Fq Tq (cfgOfMatrix cfgq d exMat) k) =
      (runInit (cfgOfMatrix cfgq dfltq exMat)).bind
        (runModel Fq Tq (cfgOfMatrix cfgq dfltq exMat) k) :=
  C15.run_default_never_observed cfgq exMat_ok dfltq d k

/-! ## 4. stepping -/

theorem steppingB :
    okAnd (runInit cfgq) (fun s0 => okAnd (runCallsR Fq Tq cfgq [1, 1] s0) fun r =>
      decide (r.t = 2 ∧ r.finished = false ∧ r.daysRev.length = 2)) = true := by
  decide +kernel

/-- **`runCallsR_eq_one` applies**: two calls of one step each succeed and equal one call of two -/
theorem stepping : ∃ s0 r, runInit cfgq = .ok s0 ∧ runCallsR Fq Tq cfgq [1, 1] s0 = .ok r ∧
    runModel Fq Tq cfgq 2 s0 = .ok r ∧ r.daysRev.length = 2 := by
  obtain ⟨s0, h0, h⟩ := okAnd_iff.mp steppingB
  obtain ⟨r, h1, h⟩ := okAnd_iff.mp h
  exact ⟨s0, r, h0, h1, runCallsR_eq_one [1, 1] (by simp) h1, (of_decide_eq_true h).2.2⟩

end RunForcingExample
end Aqua

#print axioms Aqua.RunForcingExample.lookahead
#print axioms Aqua.RunForcingExample.crop_premise_needed
#print axioms Aqua.RunForcingExample.extend
#print axioms Aqua.RunForcingExample.binding
#print axioms Aqua.RunForcingExample.binding_default
#print axioms Aqua.RunForcingExample.stepping
