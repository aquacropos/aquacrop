import AquaVerif.Proofs.Session
import AquaVerif.Generated.EffectTable
/-
Property C11 — inputs are not consumed by a run.

"Running a model does not change the meaning of the objects passed to it: re-running the same model
object, or building a new model from the same soil, crop, weather, irrigation, field-management,
groundwater and CO2 objects after a run, reproduces the first run's results exactly."

Engine C enumerates every store that `_initialize` (and everything reachable from it) performs into
an object the user passed in.  `reviewedInitUserWrites` is the hand-reviewed list of those locations,
each with the reason why re-running is idempotent (or the finding that it is not).  The two theorems
`init_writes_to_user_objects` / `reviewed_entries_all_occur` state that the regenerated table and
the reviewed list agree exactly: a NEW store into a user object breaks the first, a stale review
entry breaks the second.  Idempotence itself is not proved here (the reasons in the review are by
hand; the run-twice differential of the harness tests it); this file pins down *what* has to be
idempotent.  `rowOK` / `rows_check` sweep the table once more for the objects `_initialize` never
stores into (`reinit_frames_untouched_objects`) and for what stepping writes
(`step_writes_to_user_objects`); the last section is C11 on the API model of `Model/Session.lean`.
-/

namespace Aqua.C11
open Aqua.Effects Aqua.Effects.Generated

/-- Classes that are objects handed in by the user (the weather slot included: `_initialize`
rebinds `self.weather_df` to a clipped copy). -/
def userFacing : List LocClass :=
  [.userSoil, .userCrop, .userIrr, .userField, .userGw, .userIwc, .userCo2, .weather]

/-- Locations inside user objects that `_initialize` stores into — reviewed by hand.
`[]` = element / column / `.loc` store; `*` = attribute chosen at run time (`setattr`). -/
def reviewedInitUserWrites : List (LocClass × String) := [
  -- CO2 object (`param_struct.CO2 = self.co2_concentration`)
  (.userCo2, "co2_concentration.co2_data_processed"),
    -- recomputed from `co2_data` and the simulation years on every init: idempotent
  (.userCo2, "co2_concentration.current_concentration"),
    -- non-constant: reset to the first simulation year's value on every init (and overwritten at every
    -- season start while stepping): idempotent.  constant_conc=True with current_concentration=0:
    -- the first init stores the first year's value, which later inits then KEEP (`> 0`): same value
    -- for the same window, but a stale value for a model with another start year — FINDING (sticky).
  -- crop object (`param_struct.CropList[0] is self.crop`)
  (.userCrop, "crop.*"),
    -- `setattr(crop, stage, …)` in prepare_gdd, only when `SwitchGDD == 1`: FINDING, not idempotent —
    -- the conversion also sets `CalendarType = 2`, so a second init takes the thermal branch and
    -- combines GDD-valued stages with day-valued `YldForm`/`Flowering`.  No built-in crop sets SwitchGDD.
  (.userCrop, "crop.CDC"),              -- calendar crops: copy of CDC_CD (idempotent); SwitchGDD: see `crop.*`
  (.userCrop, "crop.CGC"),              -- calendar crops: copy of CGC_CD (idempotent); SwitchGDD: see `crop.*`
  (.userCrop, "crop.CalendarType"),     -- only `SwitchGDD == 1` (1 → 2): FINDING, see `crop.*`
  (.userCrop, "crop.Canopy10Pct"),      -- function of Emergence, CC0, CGC (not written in that mode): idempotent
  (.userCrop, "crop.Canopy10PctCD"),    -- function of EmergenceCD, CC0, CGC_CD: idempotent
  (.userCrop, "crop.CanopyDevEnd"),     -- copy of the CD value / function of HIstart, Flowering: idempotent
  (.userCrop, "crop.CanopyDevEndCD"),   -- function of HIstartCD, FloweringCD / SenescenceCD, or of weather: idempotent
  (.userCrop, "crop.Emergence"),        -- copy of EmergenceCD (calendar crops): idempotent
  (.userCrop, "crop.FloweringCD"),      -- thermal crops: from weather + FloweringEnd; calendar non-fruit crops: NO_VALUE: idempotent
  (.userCrop, "crop.FloweringEnd"),     -- HIstart + Flowering / NO_VALUE: idempotent
  (.userCrop, "crop.FloweringEndCD"),   -- HIstartCD + FloweringCD / NO_VALUE: idempotent
  (.userCrop, "crop.HIGC"),             -- calculate_HIGC(YldFormCD, HI0, HIini): idempotent
  (.userCrop, "crop.HIend"),            -- HIstart + YldForm / copy of HIendCD: idempotent
  (.userCrop, "crop.HIendCD"),          -- HIstartCD + YldFormCD, or from weather: idempotent
  (.userCrop, "crop.HIstart"),          -- copy of HIstartCD (calendar crops): idempotent
  (.userCrop, "crop.HIstartCD"),        -- thermal crops: from weather and HIstart: idempotent for the same window
  (.userCrop, "crop.Maturity"),         -- copy of MaturityCD (calendar crops): idempotent
  (.userCrop, "crop.MaturityCD"),       -- thermal crops: from weather and Maturity: idempotent for the same window
  (.userCrop, "crop.MaxCanopy"),        -- copy of the CD value / function of Emergence, CCx, CC0, CGC: idempotent
  (.userCrop, "crop.MaxCanopyCD"),      -- function of EmergenceCD, CCx, CC0, CGC_CD, or from weather: idempotent
  (.userCrop, "crop.MaxRooting"),       -- copy of MaxRootingCD: idempotent
  (.userCrop, "crop.Senescence"),       -- copy of SenescenceCD: idempotent
  (.userCrop, "crop.YldForm"),          -- copy of YldFormCD: idempotent
  (.userCrop, "crop.YldFormCD"),        -- thermal crops: HIendCD - HIstartCD: idempotent
  (.userCrop, "crop.dHILinear"),        -- calculate_HI_linear(YldFormCD, HIini, HI0, HIGC) / 0: idempotent
  (.userCrop, "crop.fCO2"),             -- function of the CO2 object and crop constants: idempotent
  (.userCrop, "crop.harvest_date"),     -- written once when None, then kept: same value for the same window;
                                        -- stale for a later model with other dates — FINDING (sticky)
  (.userCrop, "crop.tLinSwitch"),       -- see dHILinear
  -- soil object (`param_struct.Soil is self.soil`)
  (.userSoil, "soil.Hydrology"),        -- per-layer means of `profile`, recomputed: idempotent
  (.userSoil, "soil.Hydrology.[]"),     -- its `dz` column, recomputed: idempotent
  (.userSoil, "soil.Profile"),          -- fresh SoilProfile built from `profile`: idempotent
  (.userSoil, "soil.cn"),               -- `calc_cn == 1`: from Ksat of the top compartment: idempotent
  (.userSoil, "soil.nComp"),            -- fill_nan: len(profile): idempotent
  (.userSoil, "soil.profile"),          -- fill_nan: ffill of an already filled frame is the identity: idempotent
  (.userSoil, "soil.profile.Layer"),    -- fill_nan: astype(int): idempotent
  (.userSoil, "soil.profile.[]"),       -- (a) deepening loop `dz += 0.1` until zSoil ≥ Zmax + 0.1: a no-op on an
                                        --     already deepened profile — but the soil STAYS deepened for
                                        --     a later, shallower-rooted crop: FINDING (sticky);
                                        -- (b) column th_fc_Adj, (c) columns aCR/bCR: recomputed: idempotent
  (.userSoil, "soil.profile.dz"),       -- fill_nan: round(2) of rounded values: idempotent
  (.userSoil, "soil.profile.dzsum"),    -- fill_nan: cumsum(dz).round(2): idempotent
  (.userSoil, "soil.rew"),              -- `adj_rew == 0`: from th_fc, th_dry, evap_z_surf: idempotent
  (.userSoil, "soil.zSoil"),            -- fill_nan: round(sum(dz), 2): idempotent
  -- weather slot of the model
  (.weather, "_weather"),               -- `.values` of the clipped frame: recomputed
  (.weather, "_weather_df"),            -- property setter behind `weather_df`
  (.weather, "weather_df")              -- rebound to the frame clipped to the window (the user's DataFrame itself is
                                        -- not stored into); clipping a clipped frame to the same window: idempotent
]

/-- The (class, location) pairs of the `init`-region rows that concern user-facing objects. -/
def initUserWrites : List (LocClass × String) :=
  (effectTable.filter fun e => e.region == .init && userFacing.contains e.cls).map
    fun e => (e.cls, e.path)

/-- A pair is in `initUserWrites` iff it is the (class, location) of an `init`-region row of the
effect table whose class is user-facing. -/
theorem mem_initUserWrites {p : LocClass × String} : p ∈ initUserWrites ↔
    ∃ e ∈ effectTable, e.region = .init ∧ e.cls ∈ userFacing ∧ (e.cls, e.path) = p := by
  simp only [initUserWrites, List.mem_map, List.mem_filter, Bool.and_eq_true, beq_iff_eq,
    List.contains_iff_mem, and_assoc]

/-- `l` without the entries that repeat their successor -/
def dedupAdj {β : Type} [DecidableEq β] : List β → List β
  | [] => []
  | a :: l => if l.head? = some a then dedupAdj l else a :: dedupAdj l

/-- `dedupAdj l` has the same members as `l`. -/
theorem mem_dedupAdj {β : Type} [DecidableEq β] {x : β} : ∀ {l : List β}, x ∈ dedupAdj l ↔ x ∈ l
  | [] => Iff.rfl
  | a :: l => by
    rw [dedupAdj]
    split
    · rename_i h
      have ha : a ∈ l := List.mem_of_head? h
      rw [mem_dedupAdj, List.mem_cons]
      exact ⟨Or.inr, fun h => h.elim (fun e => e ▸ ha) id⟩
    · rw [List.mem_cons, List.mem_cons, mem_dedupAdj]

/-- The table has one row per storing function, sorted by class and location, so the rows of one
location are adjacent: without the repeats the user rows of the `init` region are the reviewed list,
up to its order.  Each location is compared with the review once. -/
theorem init_check : (dedupAdj initUserWrites).Perm reviewedInitUserWrites := by
  decide +kernel

/-- **C11, table form.**  Every store of `_initialize` into a user-facing object is one of the
reviewed locations (a new one breaks this proof). -/
theorem init_writes_to_user_objects :
    ∀ e ∈ effectTable, e.region = .init → e.cls ∈ userFacing →
      (e.cls, e.path) ∈ reviewedInitUserWrites :=
  fun e he hr hc =>
    init_check.mem_iff.mp (mem_dedupAdj.mpr (mem_initUserWrites.mpr ⟨e, he, hr, hc, rfl⟩))

/-- Conversely every reviewed location does occur in the regenerated table (no stale review). -/
theorem reviewed_entries_all_occur :
    ∀ p ∈ reviewedInitUserWrites, ∃ e ∈ effectTable, e.region = .init ∧ (e.cls, e.path) = p := by
  intro p hp
  obtain ⟨e, he, hr, _, hep⟩ := mem_initUserWrites.mp (mem_dedupAdj.mp (init_check.mem_iff.mpr hp))
  exact ⟨e, he, hr, hep⟩

/-- What the two statements below ask of one row, by region and class; a string is compared only in
the `step` rows of the CO2 object. -/
def rowOK (e : Effect) : Bool :=
  match e.region with
  | .construct => true
  | .init =>
    match e.cls with
    | .userIrr | .userField | .userGw | .userIwc | .global | .unknown => false
    | _ => true
  | .step =>
    match e.cls with
    | .userCo2 => e.path == "co2_concentration.current_concentration"
    | .userSoil | .userCrop | .userIrr | .userField | .userGw | .userIwc | .weather => false
    | _ => true

/-- Every row of the generated effect table satisfies `rowOK`. -/
theorem rows_check : effectTable.all rowOK = true := by
  decide +kernel

/-- `_initialize` never stores into the user's irrigation-management, field-management,
groundwater or initial-water-content objects (the dated schedule and the thresholds are copied into
the model's own struct), nor into global or unresolved state. -/
theorem init_leaves_irrigation_field_groundwater_iwc_untouched :
    ∀ e ∈ effectTable, e.region = .init →
      e.cls ≠ .userIrr ∧ e.cls ≠ .userField ∧ e.cls ≠ .userGw ∧ e.cls ≠ .userIwc ∧
      e.cls ≠ .global ∧ e.cls ≠ .unknown := by
  intro e he hr
  have h : rowOK e = true := List.all_eq_true.mp rows_check e he
  simp only [rowOK, hr] at h
  refine ⟨?_, ?_, ?_, ?_, ?_, ?_⟩ <;> (intro hc; rw [hc] at h; exact Bool.false_ne_true h)

/-- Frame form: any number of `_initialize()` calls leaves those four objects unchanged. -/
theorem reinit_frames_untouched_objects
    (calls : List (List Write)) (hdrawn : ∀ ws ∈ calls, DrawnFrom effectTable .init ws) (hp : Heap) :
    ∀ c ∈ [LocClass.userIrr, .userField, .userGw, .userIwc], execAll calls hp c = hp c := by
  intro c hc
  apply frame_runs effectTable .init c _ calls hdrawn hp
  intro e he hr heq
  have h := init_leaves_irrigation_field_groundwater_iwc_untouched e he hr
  simp only [List.mem_cons, List.mem_nil_iff, or_false] at hc
  rcases hc with rfl | rfl | rfl | rfl
  · exact h.1 heq
  · exact h.2.1 heq
  · exact h.2.2.1 heq
  · exact h.2.2.2.1 heq

/-- While stepping, the only store into a user-facing object is `current_concentration` of the CO2
object (at a season start); `_initialize` resets it, see the review entry above. -/
theorem step_writes_to_user_objects :
    ∀ e ∈ effectTable, e.region = .step → e.cls ∈ userFacing →
      e.cls = .userCo2 ∧ e.path = "co2_concentration.current_concentration" := by
  intro e he hr hc
  have h : rowOK e = true := List.all_eq_true.mp rows_check e he
  simp only [rowOK, hr] at h
  simp only [userFacing, List.mem_cons, List.mem_nil_iff, or_false] at hc
  rcases hc with hc | hc | hc | hc | hc | hc | hc | hc <;> rw [hc] at h <;>
    first | exact ⟨hc, eq_of_beq h⟩ | exact absurd h Bool.false_ne_true

/-! ### the public API as a state machine (`Model/Session.lean`, replayed by the `session` tie on real `AquaCropModel` objects) -/

section api
open Aqua.Clock Aqua.Session
/-- **API level, modulo the opaque `_initialize`.** After *any* session on the object (including
`process_outputs`, calls that raised, finished or unfinished runs),
`run_model(till_termination=True, initialize_model=True)` and whatever follows behave on the used
object exactly as on a new one (observations and state). -/
theorem api_rerun_equals_first {c : Cfg} (hw : WF c) (ev : Ev) (pre rest : List Op) (k : Int)
    (po : Bool) :
    runOps c ev (.run k true true po :: rest) (session c ev pre).1 =
      session c ev (.run k true true po :: rest) := by
  obtain ⟨s₀, hi⟩ := init_ok hw
  obtain ⟨sT, _, _, _, hrun⟩ := run_till_init hw ev hi
  unfold session
  simp only [runOps, step]
  rw [hrun k po _, hrun k po fresh]

/-- a call with `initialize_model=True`, any other arguments, any configuration, on any object
state: the observation the same call gives on a new object, and the same state when it returns
`True` -/
theorem api_reinit_run_equals_first {c : Cfg} {ev : Ev} (k : Int) (till po : Bool) (s : SSt) :
    (run c ev k till true po s).2 = (run c ev k till true po fresh).2 ∧
    ((run c ev k till true po s).2 = .retTrue →
      (run c ev k till true po s).1 = (run c ev k till true po fresh).1) := by
  unfold run initObj
  simp only [if_true]
  cases hi : Clock.init c with
  | error e => exact ⟨rfl, fun h => by cases h⟩
  | ok s0 =>
    simp only
    unfold runBody
    cases till with
    | true =>
      simp only [if_true]
      rcases tillLoop c ev false (fuel c) { clock := s0, converted := false, desync := false }
        with ⟨o', _ | e⟩
      · exact ⟨rfl, fun _ => rfl⟩
      · exact ⟨rfl, fun h => by cases h⟩
    | false =>
      simp only [Bool.false_eq_true, if_false]
      by_cases hk : k < 1
      · simp [hk]
      · simp only [hk, if_false]
        rcases stepsLoop c ev po k.toNat false
          (some { clock := s0, converted := false, desync := false }) with ⟨saf, o', e⟩
        cases e with
        | raised e => exact ⟨rfl, fun h => by cases h⟩
        | finished => exact ⟨rfl, fun _ => rfl⟩
        | exhausted => exact ⟨rfl, fun _ => rfl⟩

/-- regression for repo commit 4f049e5: the re-run after `process_outputs=True` succeeds -/
example : (session small noEv [.run 1 false true true, .run 0 true true false]).2 =
    [.retTrue, .retTrue] := by rfl
example := api_rerun_equals_first (c := small) (by decide) noEv
  [.run 2 false true true, .getFlux, stepCall 5, .run 1 false true true, stepCall 1]
  [.getResults, .getInfo] 0 false

end api

end Aqua.C11
