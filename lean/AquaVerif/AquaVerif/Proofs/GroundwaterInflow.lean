import AquaVerif.Model.GroundwaterInflow
import AquaVerif.Proofs.GwCommon
import AquaVerif.Proofs.Sweep
/-
Lemmas about `groundwaterInflow` (`Model/GroundwaterInflow.lean`) at an arbitrary ordered field.
No law of `F` is involved (the process uses only field operations and comparisons).
-/

set_option linter.unusedSectionVars false
namespace Aqua
variable {α : Type} [Field α] [LinearOrder α] [IsStrictOrderedRing α]

/-! ### the fill loop -/

/-- the fill loop without its accumulator; everything about it is then a fact about `List.map` -/
theorem gwFill_eq (cells : List (Cell α)) (g : α) :
    gwFill cells g = (cells.map fun x => x.raiseTo x.c.thS,
      g + (storage (cells.map fun x => x.raiseTo x.c.thS) - storage cells)) := by
  induction cells generalizing g with
  | nil => simp [gwFill]
  | cons x xs ih =>
    rw [gwFill]
    by_cases h : x.th < x.c.thS
    · have e : x.raiseTo x.c.thS = { x with th := x.c.thS } := by
        rw [Cell.raiseTo, max_eq_right h.le]
      simp only [if_pos h, ih, List.map_cons, storage_cons, e, Cell.water]
      refine Prod.ext rfl ?_
      simp only []; ring
    · have e : x.raiseTo x.c.thS = x := by rw [Cell.raiseTo, max_eq_left (not_lt.mp h)]
      simp only [if_neg h, ih, List.map_cons, storage_cons, e]
      refine Prod.ext rfl ?_
      simp only []; ring

/-! ### seek + fill -/

theorem gwSeek_eq_some (zGW : α) (cells : List (Cell α)) (r : List (Cell α) × α)
    (h : gwSeek zGW cells = some r) :
    ∃ pre x suf, cells = pre ++ x :: suf ∧ (∀ y ∈ pre, y.c.zMid < zGW) ∧ zGW ≤ x.c.zMid ∧
      r = (pre ++ (gwFill (x :: suf) 0).1, (gwFill (x :: suf) 0).2) := by
  induction cells generalizing r with
  | nil => cases h
  | cons x xs ih =>
    rw [gwSeek] at h
    by_cases hz : zGW ≤ x.c.zMid
    · rw [if_pos hz] at h
      exact ⟨[], x, xs, rfl, nofun, hz, (Option.some.inj h).symm⟩
    · rw [if_neg hz] at h
      cases hs : gwSeek zGW xs with
      | none => rw [hs] at h; cases h
      | some r' =>
        rw [hs] at h
        obtain ⟨pre, y, suf, rfl, hpre, hy, rfl⟩ := ih r' hs
        exact ⟨x :: pre, y, suf, rfl, List.forall_mem_cons.2 ⟨not_le.mp hz, hpre⟩, hy,
          (Option.some.inj h).symm⟩

/-- `none` is the Python `IndexError` -/
theorem gwSeek_none_iff (zGW : α) (cells : List (Cell α)) :
    gwSeek zGW cells = none ↔ ∀ x ∈ cells, x.c.zMid < zGW := by
  induction cells with
  | nil => simp [gwSeek]
  | cons x xs ih =>
    rw [gwSeek, List.forall_mem_cons, ← ih]
    by_cases hz : zGW ≤ x.c.zMid
    · rw [if_pos hz]
      exact ⟨nofun, fun h => absurd h.1 (not_lt.mpr hz)⟩
    · rw [if_neg hz]
      cases gwSeek zGW xs with
      | none => exact ⟨fun _ => ⟨not_le.mp hz, rfl⟩, fun _ => rfl⟩
      | some r' => exact ⟨nofun, fun h => nomatch h.2⟩

theorem gwSeek_spec (zGW : α) (cells : List (Cell α)) (r : List (Cell α) × α)
    (h : gwSeek zGW cells = some r) :
    List.Forall₂ (Raised fun x => x.c.thS) cells r.1 ∧ storage r.1 = storage cells + r.2 ∧
      ∀ y ∈ r.1, zGW ≤ y.c.zMid → y.c.thS ≤ y.th := by
  obtain ⟨pre, x, suf, rfl, hpre, -, rfl⟩ := gwSeek_eq_some zGW cells r h
  rw [gwFill_eq]
  refine ⟨List.rel_append (List.forall₂_same.mpr fun y _ => Raised.refl _ y)
      (List.forall₂_map_right_iff.2 (List.forall₂_same.mpr fun y _ => y.raiseTo_raised _)), ?_, ?_⟩
  · simp only [storage_append]; ring
  · intro y hy hzy
    rcases List.mem_append.mp hy with hy | hy
    · exact absurd hzy (not_le.mpr (hpre y hy))
    · obtain ⟨z, -, rfl⟩ := List.mem_map.1 hy
      exact le_max_right _ _

/-! ### the process -/

theorem groundwaterInflow_spec (cells : List (Cell α)) (wt : Bool) (zGW : α)
    (r : List (Cell α) × α) (h : groundwaterInflow cells wt zGW = some r) :
    List.Forall₂ (Raised fun x => x.c.thS) cells r.1 ∧ storage r.1 = storage cells + r.2 ∧
      ((∀ x ∈ cells, 0 ≤ x.c.dz) → 0 ≤ r.2) ∧
      (wt = true → ∀ y ∈ r.1, zGW ≤ y.c.zMid → y.c.thS ≤ y.th) := by
  have key : List.Forall₂ (Raised fun x => x.c.thS) cells r.1 ∧ storage r.1 = storage cells + r.2 ∧
      (wt = true → ∀ y ∈ r.1, zGW ≤ y.c.zMid → y.c.thS ≤ y.th) := by
    unfold groundwaterInflow at h
    cases wt with
    | true => exact ⟨(gwSeek_spec zGW cells r h).1, (gwSeek_spec zGW cells r h).2.1,
        fun _ => (gwSeek_spec zGW cells r h).2.2⟩
    | false =>
      simp only [Bool.false_eq_true, if_false] at h
      rw [← Option.some.inj h]
      exact ⟨List.forall₂_same.mpr (fun x _ => Raised.refl _ x), (add_zero _).symm, nofun⟩
  refine ⟨key.1, key.2.1, fun hdz => ?_, key.2.2⟩
  linarith only [storage_le_of_forall₂ key.1 (fun _ _ h => ⟨h.1, h.2.2.2.2.1⟩) hdz, key.2.1]

theorem groundwaterInflow_frame (cells : List (Cell α)) (wt : Bool) (zGW : α)
    (r : List (Cell α) × α) (h : groundwaterInflow cells wt zGW = some r) :
    List.Forall₂ (Raised fun x => x.c.thS) cells r.1 :=
  (groundwaterInflow_spec cells wt zGW r h).1

theorem groundwaterInflow_length (cells : List (Cell α)) (wt : Bool) (zGW : α)
    (r : List (Cell α) × α) (h : groundwaterInflow cells wt zGW = some r) :
    r.1.length = cells.length :=
  (groundwaterInflow_frame cells wt zGW r h).length_eq.symm

theorem groundwaterInflow_no_table (cells : List (Cell α)) (zGW : α) :
    groundwaterInflow cells false zGW = some (cells, 0) := by
  simp [groundwaterInflow]

/-! ### non-vacuity -/

example :
    (groundwaterInflow [⟨gwExComp (1/10) (1/20), 1/10, 3/10, 0, 0⟩, ⟨gwExComp (1/5) (3/20), 1/5, 3/10, 0, 0⟩]
      true (1/10)).map (·.2) = some 30 := by
  decide +kernel

end Aqua

section
open Aqua
#print axioms groundwaterInflow_spec
#print axioms groundwaterInflow_frame
#print axioms groundwaterInflow_no_table
end
