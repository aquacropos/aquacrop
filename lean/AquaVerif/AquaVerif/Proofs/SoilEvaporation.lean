import AquaVerif.Model.SoilEvaporation
import AquaVerif.Proofs.RootZone
import AquaVerif.Proofs.Sweep
import Mathlib.Algebra.Order.Field.Rat
/-
Lemmas about the model of `soil_evaporation` (`Model/SoilEvaporation.lean`) at an arbitrary linearly
ordered field.  Each stage of the call is walked once, as a triple `Sat` (`Proofs/ListBasic.lean`)
whose failure clause names the cause of the error and whose result clause is an `Extracts` step: the
preorder on (cells, `EsAct`, `ToExtract`, ghost flag) that carries frame, water balance, signs and
cell invariant through the extraction loops.  `soilEvap_sat` composes the stages; totality
(`soilEvaporation_total`) and the facts about a successful call (`soilEvap_cases` and its
projections `soilEvap_balance`, `soilEvap_frame`, `soilEvap_inv`, …) are read off it.  The sign of
the potential rate is separate (`EsPotPre`, `esPotential_nonneg`).  At the end a concrete call
over `ℚ`.
-/

set_option linter.unusedSectionVars false
namespace Aqua
variable {α : Type} [Field α] [LinearOrder α] [IsStrictOrderedRing α]

/-! ### generalities -/

theorem natNum_eq_cast (n : Nat) : (natNum n : α) = (n : α) := by
  induction n with
  | zero => simp [natNum]
  | succ n ih => simp [natNum, ih]

theorem natNum_succ (n : Nat) : (natNum (n + 1) : α) = natNum n + 1 := rfl

theorem natNum_nonneg (n : Nat) : (0 : α) ≤ natNum n := by
  rw [natNum_eq_cast]; exact Nat.cast_nonneg n

theorem natNum_pos {n : Nat} (h : n ≠ 0) : (0 : α) < natNum n := by
  rw [natNum_eq_cast]; exact Nat.cast_pos.mpr (Nat.pos_of_ne_zero h)

/-- `natNum n = 1` as the model tests it (two comparisons) -/
theorem natNum_succ_eq_one_iff (n : Nat) : ((natNum (n + 1) : α) ≤ 1 ∧ 1 ≤ (natNum (n + 1) : α)) ↔ n = 0 := by
  constructor
  · intro ⟨h, _⟩
    by_contra hn
    rw [natNum_succ] at h
    exact absurd (add_le_iff_nonpos_left.1 h) (not_le.2 (natNum_pos hn))
  · rintro rfl
    simp [natNum]

def PosDz (cs : List (Cell α)) : Prop := ∀ x ∈ cs, 0 < x.c.dz

/-! ### how deep the profile reaches -/

theorem evapLayerLoop_isSome (z : α) : ∀ (n : Nat) (cells : List (Cell α)) (a : EvapW α),
    n ≤ cells.length → ∃ a', evapLayerLoop z n cells a = some a'
  | 0, _, a, _ => ⟨a, rfl⟩
  | n + 1, [], _, h => absurd h (Nat.not_succ_le_zero n)
  | n + 1, x :: xs, _, h => by
    simp only [evapLayerLoop]
    exact evapLayerLoop_isSome z n xs _ (Nat.le_of_succ_le_succ h)

/-- "one whole compartment lies below the evaporation layer of depth `Z`" -/
def EvapDeep (Z : α) (cells : List (Cell α)) : Prop := countBelow Z cells + 2 ≤ cells.length

theorem EvapDeep.le {Z z : α} {cells : List (Cell α)} (h : EvapDeep Z cells) (hz : z ≤ Z) :
    countBelow z cells + 2 ≤ cells.length :=
  le_trans (Nat.add_le_add_right (countBelow_mono hz cells) 2) h

theorem EvapDeep.congr {Z : α} {xs ys : List (Cell α)} (hc : ys.map (·.c) = xs.map (·.c))
    (h : EvapDeep Z xs) : EvapDeep Z ys := by
  unfold EvapDeep at *
  rw [countBelow_congr Z hc, length_of_map_eq hc]; exact h

theorem EvapDeep.not_short {Z z : α} {cells : List (Cell α)} (hz : z ≤ Z)
    (h : cells.length < countBelow z cells + 1) : ¬ EvapDeep Z cells := fun hd =>
  absurd (hd.le hz) (by omega)

/-! ### one extraction step -/

theorem takeCell_eq (z : α) (x : Cell α) (d : α) :
    ∃ t, t = min d (max ((1000 * x.th * x.c.dz - 1000 * x.c.thDry * x.c.dz) * evapFactor z x.c) 0) ∧
      takeCell z x d = { cell := { x with th := (1000 * x.th * x.c.dz - t) / (1000 * x.c.dz) }
                         taken := t, dem := d - t } := by
  unfold takeCell
  simp only []
  rw [ite_lt_zero_eq_max]
  generalize (max _ 0 : α) = avw
  by_cases h : d ≤ avw
  · exact ⟨d, (min_eq_left h).symm, by rw [if_pos h, sub_self]⟩
  · exact ⟨avw, (min_eq_right (not_le.mp h).le).symm, by rw [if_neg h]⟩

theorem takeCell_taken_le (z : α) (x : Cell α) (d : α) :
    (takeCell z x d).taken ≤ d := by
  obtain ⟨t, ht, e⟩ := takeCell_eq z x d
  rw [e, ht]
  exact min_le_left _ _

/-- One step keeps the cell invariant: the amount taken is non-negative (thanks to the clamp
`AvW ≥ 0`) and at most the water above air dryness (the weight `factor` is at most 1). -/
theorem takeCell_inv (z : α) {x : Cell α} {d : α} (i : x.Inv) (hd : 0 ≤ d) :
    (takeCell z x d).cell.Inv := by
  obtain ⟨t, ht, e⟩ := takeCell_eq z x d
  have hp : (0:α) < 1000 * x.c.dz := mul_pos (by norm_num) i.wf.dz_pos
  have hlo := mul_le_mul_of_nonneg_right i.th_lo hp.le
  have hhi := mul_le_mul_of_nonneg_right i.th_hi hp.le
  have hw : 0 ≤ 1000 * x.th * x.c.dz - 1000 * x.c.thDry * x.c.dz := by linarith
  have t0 : 0 ≤ t := ht ▸ le_min hd (le_max_right _ _)
  have t1 : t ≤ 1000 * x.th * x.c.dz - 1000 * x.c.thDry * x.c.dz :=
    ht ▸ (min_le_right _ _).trans
      (max_le (mul_le_of_le_one_right hw (rootFactor_bounds i.wf.dz_pos).2) hw)
  rw [e]
  refine ⟨i.wf, ?_, ?_, i.fc_lo, i.fc_hi⟩
  · show x.c.thDry ≤ _ / _
    rw [le_div_iff₀ hp]; linarith
  · show _ / _ ≤ x.c.thS
    rw [div_le_iff₀ hp]; linarith

/-! ### the preorder of extraction states -/

/-- `(cs', e', t', n')` arises from `(cs, e, t, n)` (cells, `EsAct`, `ToExtract`, ghost flag) by
evaporation: only `th` is written, what leaves the cells is added to `EsAct` and taken off
`ToExtract`, the flag is untouched, `EsAct` grows, the cell invariant is kept -/
structure Extracts (cs : List (Cell α)) (e t : α) (n : Bool) (cs' : List (Cell α)) (e' t' : α)
    (n' : Bool) : Prop where
  frame : ∀ {β : Type} (k : Cell α → β), NoTh k →
    cs'.map k = cs.map k
  bal : PosDz cs → storage cs' + e' = storage cs + e
  sum : e' + t' = e + t
  neg : n' = n
  mono : e ≤ e'
  inv : (∀ x ∈ cs, Cell.Inv x) → ∀ x ∈ cs', Cell.Inv x

namespace Extracts
variable {cs cs' cs'' : List (Cell α)} {e e' e'' t t' t'' : α} {n n' n'' : Bool}

theorem refl : Extracts cs e t n cs e t n :=
  ⟨fun _ _ => rfl, fun _ => rfl, rfl, rfl, le_refl _, id⟩

theorem trans (h : Extracts cs e t n cs' e' t' n') (k : Extracts cs' e' t' n' cs'' e'' t'' n'') :
    Extracts cs e t n cs'' e'' t'' n'' :=
  ⟨fun r hr => (k.frame r hr).trans (h.frame r hr), fun hp => (k.bal (forall_of_map_eq (·.c)
    (h.frame (·.c) fun _ _ => rfl) (fun c => 0 < c.dz) hp)).trans (h.bal hp),
    k.sum.trans h.sum, k.neg.trans h.neg, h.mono.trans k.mono, fun hi => k.inv (h.inv hi)⟩

theorem cons (y : Cell α) (h : Extracts cs e t n cs' e' t' n') :
    Extracts (y :: cs) e t n (y :: cs') e' t' n' := by
  refine ⟨fun r hr => by rw [List.map_cons, List.map_cons, h.frame r hr], fun hp => ?_, h.sum, h.neg,
    h.mono,
    fun hi x hx => ?_⟩
  · have := h.bal (fun x hx => hp x (List.mem_cons_of_mem _ hx))
    simp only [storage_cons]; linarith
  · rcases List.mem_cons.mp hx with rfl | hx
    · exact hi _ List.mem_cons_self
    · exact h.inv (fun w hw => hi w (List.mem_cons_of_mem _ hw)) x hx

theorem take (z : α) (x : Cell α) (xs : List (Cell α)) {d : α} (hd : 0 ≤ d) (e t : α) (n : Bool) :
    Extracts (x :: xs) e t n ((takeCell z x d).cell :: xs) (e + (takeCell z x d).taken)
      (t - (takeCell z x d).taken) (n || decide ((takeCell z x d).taken < 0)) := by
  have hinv := fun i => takeCell_inv z (x := x) (d := d) i hd
  obtain ⟨q, hq, eq⟩ := takeCell_eq z x d
  rw [eq] at hinv ⊢
  have q0 : 0 ≤ q := hq ▸ le_min hd (le_max_right _ _)
  refine ⟨fun r hr => by rw [List.map_cons, List.map_cons, hr], fun hp => ?_, by simp only []; ring,
    ?_, le_add_of_nonneg_right q0, fun hi y hy => ?_⟩
  · have hx : x.c.dz ≠ 0 := (hp x List.mem_cons_self).ne'
    simp only [storage_cons, Cell.water]
    rw [show 1000 * ((1000 * x.th * x.c.dz - q) / (1000 * x.c.dz)) * x.c.dz
      = 1000 * x.th * x.c.dz - q by field_simp]
    ring
  · simp only [decide_eq_false (not_lt.mpr q0), Bool.or_false]
  · rcases List.mem_cons.mp hy with rfl | hy
    · exact hinv (hi _ List.mem_cons_self)
    · exact hi y (List.mem_cons_of_mem _ hy)
end Extracts

/-! ### the fuel of the expansion loop; `Kr ≤ 1` -/

theorem fuel_zero {zMax z δ : α} (h : zMax - z ≤ natNum 0 * δ) : ¬ z < zMax := by
  rw [show (natNum 0 : α) = 0 from rfl, zero_mul, sub_nonpos] at h
  exact not_lt.mpr h

theorem fuel_step {zMax z δ : α} {n : Nat} (h : zMax - z ≤ natNum (n + 1) * δ) :
    zMax - (z + δ) ≤ natNum n * δ := by
  rw [natNum_succ, add_mul, one_mul] at h
  rw [← sub_sub, sub_le_iff_le_add]
  exact h

/-- the expansion fuel covers the distance from `z` to `EvapZmax` -/
def FuelOk (P : EvapParams α) (z : α) : Prop := P.zMax - z ≤ natNum expandFuel * 0.001

theorem FuelOk.mono {P : EvapParams α} {z z' : α} (h : FuelOk P z) (hz : z ≤ z') : FuelOk P z' := by
  unfold FuelOk at *; linarith

theorem fuelOk_of_le (P : EvapParams α) (z : α) (h : P.zMax - z ≤ 100) : FuelOk P z := by
  unfold FuelOk
  rw [natNum_eq_cast]
  have : ((expandFuel : ℕ) : α) * 0.001 = 100 := by
    unfold expandFuel; norm_num
  rw [this]; exact h

theorem krOf_le_one (F : Fn α) (P : EvapParams α) (w : α) : krOf F P w ≤ 1 := by
  unfold krOf; simp only []
  split_ifs with h
  · exact le_refl _
  · exact not_lt.mp h

/-! ### the stages

Each stage lemma is a triple `Sat` whose failure clause names the cause: an index error means that
the profile ends above the depth `Z` (`¬ EvapDeep Z cells`), `E:fuel` that the fuel does not cover
the way to `EvapZmax`.  `Z` is any depth at or below the depths the call can reach. -/

theorem extractLoop_sat (z : α) (n : Nat) : ∀ (cs : List (Cell α)) (a : ExtAcc α),
    Sat (extractLoop z n cs a) (fun e => e = "E:index" ∧ cs.length < n)
      (fun r => Extracts cs a.esAct a.toExt a.neg r.1 r.2.esAct r.2.toExt r.2.neg ∧
        r.2.toExt - r.2.dem = a.toExt - a.dem ∧ min a.dem 0 ≤ r.2.dem) := by
  induction n with
  | zero => exact fun cs a => .ok ⟨.refl, rfl, min_le_left _ _⟩
  | succ n ih =>
    intro cs a
    unfold extractLoop
    by_cases hd : 0 < a.dem
    · rw [if_pos hd]
      cases cs with
      | nil => exact .error ⟨rfl, Nat.succ_pos n⟩
      | cons x xs =>
        refine (ih xs ⟨(takeCell z x a.dem).dem, a.esAct + (takeCell z x a.dem).taken,
            a.toExt - (takeCell z x a.dem).taken,
            a.neg || decide ((takeCell z x a.dem).taken < 0)⟩).seq
          (fun e he => by simp only [he]) (fun e h => ⟨h.1, Nat.succ_lt_succ h.2⟩)
          fun r he ⟨k, k4, k5⟩ => ?_
        simp only [he]
        have ht := takeCell_taken_le z x a.dem
        obtain ⟨q, hq, eq⟩ := takeCell_eq z x a.dem
        refine .ok ⟨(Extracts.take z x xs hd.le _ _ _).trans (k.cons _), ?_, ?_⟩
        · rw [eq] at k4 ⊢; simp only [] at k4 ⊢; linarith
        · rw [eq] at k5 ht; simp only [] at k5 ht
          exact (min_le_right _ _).trans ((le_min (sub_nonneg.mpr ht) (le_refl 0)).trans k5)
    · rw [if_neg hd]
      exact .ok ⟨.refl, rfl, min_le_left _ _⟩

theorem evapLayerWater_sat (cells : List (Cell α)) (z : α) :
    Sat (evapLayerWater cells z) (fun e => e = "E:index" ∧ cells.length < countBelow z cells + 1)
      (fun _ => True) := by
  refine ⟨fun e h => ?_, fun _ _ => trivial⟩
  unfold evapLayerWater at h
  cases hl : evapLayerLoop z (countBelow z cells + 1) cells ⟨0, 0, 0, 0, 0⟩ with
  | none =>
    rw [hl] at h
    refine ⟨(Except.error.inj h).symm, not_le.mp fun hle => ?_⟩
    obtain ⟨a, ha⟩ := evapLayerLoop_isSome z (countBelow z cells + 1) cells ⟨0, 0, 0, 0, 0⟩ hle
    rw [hl] at ha; cases ha
  | some a => rw [hl] at h; cases h

def EvapErr (Z : α) (cells : List (Cell α)) (fuelOk : Prop) (e : String) : Prop :=
  e = "E:index" ∧ ¬ EvapDeep Z cells ∨ e = "E:fuel" ∧ ¬ fuelOk

theorem expandLoop_sat (P : EvapParams α) (w2 : α) (cells : List (Cell α)) {Z : α}
    (hZ : P.zMax + 0.001 ≤ Z) (fuel : Nat) : ∀ (z wrel wcheck : α), z ≤ Z →
    Sat (expandLoop P w2 cells fuel z wrel wcheck)
      (EvapErr Z cells (P.zMax - z ≤ natNum fuel * 0.001)) (fun r => z ≤ r.1 ∧ r.1 ≤ Z) := by
  induction fuel with
  | zero =>
    intro z wrel wcheck hz
    unfold expandLoop
    by_cases hc : wrel < wcheck ∧ z < P.zMax
    · rw [if_pos hc]; exact .error (Or.inr ⟨rfl, fun hf => fuel_zero hf hc.2⟩)
    · rw [if_neg hc]; exact .ok ⟨le_refl _, hz⟩
  | succ fuel ih =>
    intro z wrel wcheck hz
    unfold expandLoop
    by_cases hc : wrel < wcheck ∧ z < P.zMax
    · have hz' : z + 0.001 ≤ Z := le_trans (add_le_add_left hc.2.le _) hZ
      rw [if_pos hc]
      refine (evapLayerWater_sat cells (z + 0.001)).seq (fun e he => by simp only [he])
        (fun e h => Or.inl ⟨h.1, EvapDeep.not_short hz' h.2⟩) fun w he _ => ?_
      simp only [he]
      exact (ih _ _ _ hz').mono (fun _ h => h.imp_right (And.imp_right fun h hf => h (fuel_step hf)))
        fun r h => ⟨le_trans (le_add_of_nonneg_right (by norm_num)) h.1, h.2⟩
    · rw [if_neg hc]
      exact .ok ⟨le_refl _, hz⟩

theorem stage2Step_sat (F : Fn α) (P : EvapParams α) (w2 edt : α) {Z : α}
    (hZ : P.zMax + 0.001 ≤ Z) (st : SubSt α) (hz : st.evapZ ≤ Z) :
    Sat (stage2Step F P w2 edt st) (EvapErr Z st.cells (FuelOk P st.evapZ))
      (fun st' => Extracts st.cells st.esAct st.toExt st.neg st'.cells st'.esAct st'.toExt st'.neg ∧
        (0 ≤ edt → st.toExt - edt ≤ st'.toExt) ∧ st.evapZ ≤ st'.evapZ ∧ st'.evapZ ≤ Z) := by
  unfold stage2Step
  refine (evapLayerWater_sat st.cells st.evapZ).seq (fun e he => by simp only [he])
    (fun e h => Or.inl ⟨h.1, EvapDeep.not_short hz h.2⟩) fun w he _ => ?_
  simp only [he]
  have hex : Sat (if P.zMin < P.zMax then
        expandLoop P w2 st.cells expandFuel st.evapZ (wRelOf P w2 w) (wCheckOf P st.evapZ)
        else (Except.ok (st.evapZ, wRelOf P w2 w) : Except String (α × α)))
      (EvapErr Z st.cells (FuelOk P st.evapZ)) (fun r => st.evapZ ≤ r.1 ∧ r.1 ≤ Z) :=
    ite_ind (Sat · _ _) (fun _ => expandLoop_sat P w2 st.cells hZ expandFuel _ _ _ hz)
      (fun _ => .ok ⟨le_refl _, hz⟩)
  refine hex.seq (fun e he => by simp only [he]) (fun _ h => h) fun zw he ⟨l1, l2⟩ => ?_
  obtain ⟨z, wrel⟩ := zw
  simp only [he]
  have l2 : z ≤ Z := l2
  refine (extractLoop_sat z (countBelow z st.cells + 1 + 1) st.cells
      ⟨krOf F P wrel * edt, st.esAct, st.toExt, st.neg⟩).seq
    (fun e he => by simp only [he])
    (fun e h => Or.inl ⟨h.1, fun hd => absurd (hd.le l2) (by have := h.2; omega)⟩)
    fun r he ⟨k, k4, k5⟩ => ?_
  simp only [he]
  refine .ok ⟨k, fun hedt => ?_, l1, l2⟩
  -- `Kr ≤ 1`: the step's demand is at most `edt`; a negative demand is left alone
  have hk : krOf F P wrel * edt ≤ edt := mul_le_of_le_one_left hedt (krOf_le_one F P wrel)
  simp only [] at k4 k5 ⊢
  rcases le_total (krOf F P wrel * edt) 0 with c | c
  · rw [min_eq_left c] at k5; linarith
  · rw [min_eq_right c] at k5; linarith

theorem stage2Loop_sat (F : Fn α) (P : EvapParams α) (w2 edt : α) {Z : α}
    (hZ : P.zMax + 0.001 ≤ Z) (n : Nat) : ∀ (st : SubSt α), st.evapZ ≤ Z →
    Sat (stage2Loop F P w2 edt n st) (EvapErr Z st.cells (FuelOk P st.evapZ))
      (fun st' => Extracts st.cells st.esAct st.toExt st.neg st'.cells st'.esAct st'.toExt st'.neg ∧
        (0 ≤ edt → natNum n * edt ≤ st.toExt → 0 ≤ st'.toExt) ∧
        st.evapZ ≤ st'.evapZ ∧ st'.evapZ ≤ Z) := by
  induction n with
  | zero =>
    exact fun st hz => .ok ⟨.refl, fun _ h0 => by simpa [natNum] using h0, le_refl _, hz⟩
  | succ n ih =>
    intro st hz
    unfold stage2Loop
    refine (stage2Step_sat F P w2 edt hZ st hz).seq (fun e he => by simp only [he])
      (fun _ h => h) fun s1 he ⟨k, k4, l1, l2⟩ => ?_
    simp only [he]
    refine (ih s1 l2).mono (fun e h => h.imp
        (And.imp_right fun h hd => h (hd.congr (k.frame (·.c) fun _ _ => rfl)))
        (And.imp_right fun h hf => h (hf.mono l1)))
      fun st' ⟨k', k4', l1', l2'⟩ => ⟨k.trans k', fun hedt hle => k4' hedt ?_, l1.trans l1', l2'⟩
    have := k4 hedt
    simp only [natNum] at hle
    linarith

theorem evapStage2_sat (F : Fn α) (P : EvapParams α) {Z : α} (hZ : P.zMax + 0.001 ≤ Z) (g : Stg α)
    (hz : g.surf.evapZ ≤ Z) :
    Sat (evapStage2 F P g)
      (fun e => EvapErr Z g.cells (FuelOk P g.surf.evapZ) e ∨ e = "E:zerodiv" ∧ P.steps = 0)
      (fun g' => Extracts g.cells g.esAct g.toExt g.neg g'.cells g'.esAct g'.toExt g'.neg ∧
        (0 ≤ g.toExt → 0 ≤ g'.toExt) ∧ g.surf.evapZ ≤ g'.surf.evapZ ∧ g'.surf.evapZ ≤ Z) := by
  unfold evapStage2
  by_cases h1 : 0 < g.toExt
  · rw [if_pos h1]
    by_cases h0 : P.steps = 0
    · rw [if_pos h0]; exact .error (Or.inr ⟨rfl, h0⟩)
    · rw [if_neg h0]
      have hpos : (0:α) < natNum P.steps := natNum_pos h0
      refine (stage2Loop_sat F P g.surf.wStage2 (g.toExt / natNum P.steps) hZ P.steps
        { cells := g.cells, evapZ := g.surf.evapZ, esAct := g.esAct, toExt := g.toExt,
          neg := g.neg } hz).seq (fun e he => by simp only [he]) (fun _ h => Or.inl h)
        fun st he ⟨k, k4, l1, l2⟩ => ?_
      simp only [he]
      exact .ok ⟨k, fun _ => k4 (div_nonneg h1.le hpos.le)
        (by rw [mul_div_cancel₀ _ (ne_of_gt hpos)]), l1, l2⟩
  · rw [if_neg h1]
    exact .ok ⟨.refl, id, le_refl _, hz⟩

theorem evapStage1_sat (F : Fn α) (P : EvapParams α) (cells : List (Cell α)) (s : EvapSurf α)
    (esPot esAct : α) {Z : α} (hZ0 : P.zMin ≤ Z) (hs : s.evapZ ≤ Z) :
    Sat (evapStage1 F P cells s esPot esAct) (fun e => e = "E:index" ∧ ¬ EvapDeep Z cells)
      (fun g => Extracts cells esAct (esPot - esAct) false g.cells g.esAct g.toExt g.neg ∧
        (0 ≤ esPot - esAct → 0 ≤ g.toExt) ∧ g.surf.evapZ = s.evapZ) := by
  unfold evapStage1
  simp only []
  by_cases h1 : 0 < pmin (esPot - esAct) s.wSurf
  · rw [if_pos h1]
    refine (extractLoop_sat P.zMin (countBelow P.zMin cells + 1 + 1) cells
      ⟨pmin (esPot - esAct) s.wSurf, esAct, esPot - esAct, false⟩).seq
      (fun e he => by simp only [he])
      (fun e h => ⟨h.1, fun hd => absurd (hd.le hZ0) (by have := h.2; omega)⟩)
      fun r he ⟨k, k4, k5⟩ => ?_
    obtain ⟨cs1, a1⟩ := r
    simp only [he]
    have hmin : pmin (esPot - esAct) s.wSurf ≤ esPot - esAct := by
      rw [pmin_eq]; exact min_le_left _ _
    have hdem : 0 ≤ a1.dem := (le_min h1.le (le_refl 0)).trans k5
    have hsign : 0 ≤ esPot - esAct → 0 ≤ a1.toExt := fun _ => by simp only [] at k4; linarith
    refine ite_ind (Sat · _ _) (fun _ => ?_) (fun _ => .ok ⟨k, hsign, rfl⟩)
    refine (evapLayerWater_sat cs1 s.evapZ).seq (fun e he => by simp only [he])
      (fun e h => ⟨h.1, fun hd => EvapDeep.not_short hs h.2
        (hd.congr (k.frame (·.c) fun _ _ => rfl))⟩) fun w he _ => ?_
    simp only [he]
    exact .ok ⟨k, hsign, rfl⟩
  · rw [if_neg h1]
    exact .ok ⟨.refl, id, rfl⟩

theorem evapReinit_sat {Q : α → Prop} (F : Fn α) (P : EvapParams α) (cells : List (Cell α))
    (tsc : Nat) (dap : α) (s : EvapSurf α) {Z : α} (hZ0 : P.zMin ≤ Z) (hs : Q s.evapZ)
    (h0 : Q P.zMin) :
    Sat (evapReinit F P cells tsc dap s) (fun e => e = "E:index" ∧ ¬ EvapDeep Z cells)
      (fun r => Q r.1.evapZ) := by
  unfold evapReinit
  refine ite_ind (Sat · _ _) (fun _ => ?_) (fun _ => .ok hs)
  refine (evapLayerWater_sat cells P.zMin).seq (fun e he => by simp only [he])
    (fun e h => ⟨h.1, EvapDeep.not_short hZ0 h.2⟩) fun w he _ => ?_
  simp only [he]
  exact .ok h0

/-! ### potential evaporation -/

/-- the withered-canopy adjustment is active (`tAdj > Senescence and CCxAct > 0`) -/
def SenActive (P : EvapParams α) (S : EvapState α) (tAdj : α) : Prop :=
  P.senescence < tAdj ∧ 0 < S.ccxAct

/-- the value clamped into `[max m0 0, M]` (and optionally capped by `M` once more) is `≥ 0` -/
theorem clampAux (M e m0 : α) (pm : Bool) (hM : 0 ≤ M) :
    0 ≤ (if pm = true then
          (if M < (if e < (if m0 < 0 then 0 else m0) then (if m0 < 0 then 0 else m0)
                    else if M < e then M else e) then M
           else (if e < (if m0 < 0 then 0 else m0) then (if m0 < 0 then 0 else m0)
                    else if M < e then M else e))
         else (if e < (if m0 < 0 then 0 else m0) then (if m0 < 0 then 0 else m0)
                    else if M < e then M else e)) := by
  have hmin : 0 ≤ (if m0 < 0 then 0 else m0) := by
    rw [ite_lt_zero_eq_max]; exact le_max_right _ _
  generalize (if m0 < 0 then 0 else m0) = m at hmin ⊢
  have hX : 0 ≤ (if e < m then m else if M < e then M else e) := by
    split_ifs with c1 c2
    · exact hmin
    · exact hM
    · exact le_trans hmin (not_lt.mp c1)
  generalize (if e < m then m else if M < e then M else e) = X at hX ⊢
  split_ifs <;> assumption

theorem esPotGrow_nonneg (F : Fn α) (P : EvapParams α) (S : EvapState α) (D : EvapDay α) (tAdj : α)
    (hk : 0 ≤ P.kex) (he : 0 ≤ D.et0)
    (hcc : ¬ SenActive P S tAdj → S.ccAdj ≤ 1)
    (hmax : SenActive P S tAdj ∨ S.prematSenes = true → S.ccxW * (P.fwcc / 100) ≤ 1) :
    0 ≤ (esPotGrow F P S D tAdj).1 := by
  have hke : 0 ≤ P.kex * D.et0 := mul_nonneg hk he
  have hM : SenActive P S tAdj ∨ S.prematSenes = true →
      0 ≤ P.kex * D.et0 * (1 - S.ccxW * (P.fwcc / 100)) := fun h =>
    mul_nonneg hke (sub_nonneg.mpr (hmax h))
  have h0 : ¬ SenActive P S tAdj → 0 ≤ P.kex * (1 - S.ccAdj) * D.et0 := fun h =>
    mul_nonneg (mul_nonneg hk (sub_nonneg.mpr (hcc h))) he
  unfold esPotGrow
  simp only []
  by_cases hs : P.senescence < tAdj ∧ 0 < S.ccxAct
  · have hM' := hM (Or.inl hs)
    simp only [hs, and_self, decide_true, if_true]
    exact clampAux _ _ _ _ hM'
  · have h0' := h0 hs
    simp only [hs, decide_false, Bool.false_eq_true, if_false]
    split_ifs with c1 c2
    · exact hM (Or.inr c1)
    · exact h0'
    · exact h0'

theorem esPotAdjust_nonneg (P : EvapParams α) (S : EvapState α) (D : EvapDay α) (e : α)
    (he : 0 ≤ e)
    (hmul : P.mulches = true → S.pond < 0.000001 → P.fMulch * (P.mulchPct / 100) ≤ 1)
    (hwet : 0 < D.irr → P.irrMethod ≠ 4 → 0 ≤ P.wetSurf) :
    0 ≤ (esPotAdjust P S D e).1 := by
  unfold esPotAdjust
  simp only [pmin_eq]
  apply le_min
  · split_ifs with c
    · simp only [Bool.and_eq_true, decide_eq_true_eq] at c
      have := hwet c.1.1 c.1.2
      positivity
    · exact he
  · split_ifs with c
    · simp only [Bool.and_eq_true, decide_eq_true_eq] at c
      exact mul_nonneg he (sub_nonneg.mpr (hmul c.2 c.1))
    · exact he

/-- the adjusted time the Python binds, when it binds one -/
def tAdjOf (P : EvapParams α) (S : EvapState α) : α :=
  if P.calendarType = 1 then S.dap - S.delayedCDs else S.gddCum - S.delayedGDDs

/-- premises under which the potential soil evaporation is non-negative -/
structure EsPotPre (P : EvapParams α) (S : EvapState α) (D : EvapDay α) : Prop where
  kex_nn  : 0 ≤ P.kex
  et0_nn  : 0 ≤ D.et0
  /-- `CCadj ≤ 1` is needed exactly in the growing season while the withered-canopy branch is off
  (in that branch the clamp `EsPotMin ≥ 0` rescues the sign) -/
  ccAdj_le : D.growingSeason = true → ¬ SenActive P S (tAdjOf P S) → S.ccAdj ≤ 1
  /-- `EsPotMax ≥ 0` is needed where `EsPot` can be capped by it -/
  ccxW_le : D.growingSeason = true → SenActive P S (tAdjOf P S) ∨ S.prematSenes = true →
    S.ccxW * (P.fwcc / 100) ≤ 1
  mulch_le : P.mulches = true → S.pond < 0.000001 → P.fMulch * (P.mulchPct / 100) ≤ 1
  wet_nn : 0 < D.irr → P.irrMethod ≠ 4 → 0 ≤ P.wetSurf

theorem esPotBase_sat (F : Fn α) (P : EvapParams α) (S : EvapState α) (D : EvapDay α) :
    Sat (esPotBase F P S D)
      (fun e => e = "E:unbound" ∧
        ¬ (D.growingSeason = true → P.calendarType = 1 ∨ P.calendarType = 2))
      (fun eb => D.growingSeason = true ∧ eb.1 = (esPotGrow F P S D (tAdjOf P S)).1 ∨
          D.growingSeason = false ∧ eb.1 = P.kex * D.et0) := by
  unfold esPotBase tAdjOf
  by_cases hg : D.growingSeason = true
  · rw [if_pos hg]
    by_cases c1 : P.calendarType = 1
    · rw [if_pos c1, if_pos c1]; exact .ok (Or.inl ⟨hg, rfl⟩)
    · rw [if_neg c1, if_neg c1]
      by_cases c2 : P.calendarType = 2
      · rw [if_pos c2]; exact .ok (Or.inl ⟨hg, rfl⟩)
      · rw [if_neg c2]; exact .error ⟨rfl, fun h => (h hg).elim c1 c2⟩
  · rw [if_neg hg]; exact .ok (Or.inr ⟨Bool.eq_false_iff.mpr hg, rfl⟩)

theorem esPotential_sat (F : Fn α) (P : EvapParams α) (S : EvapState α) (D : EvapDay α) :
    Sat (esPotential F P S D)
      (fun e => e = "E:unbound" ∧
        ¬ (D.growingSeason = true → P.calendarType = 1 ∨ P.calendarType = 2))
      (fun eb => ∃ e0, eb.1 = (esPotAdjust P S D e0).1 ∧
        (D.growingSeason = true ∧ e0 = (esPotGrow F P S D (tAdjOf P S)).1 ∨
          D.growingSeason = false ∧ e0 = P.kex * D.et0)) := by
  unfold esPotential
  refine (esPotBase_sat F P S D).seq (fun e he => by simp only [he]) (fun _ h => h) fun eb he h => ?_
  obtain ⟨e0, b0⟩ := eb
  simp only [he]
  exact .ok ⟨e0, rfl, h⟩

theorem esPotential_nonneg (F : Fn α) (P : EvapParams α) (S : EvapState α) (D : EvapDay α)
    (e : α) (b : Nat) (h : esPotential F P S D = .ok (e, b)) (pre : EsPotPre P S D) : 0 ≤ e := by
  obtain ⟨e0, rfl, ⟨hg, rfl⟩ | ⟨-, rfl⟩⟩ := (esPotential_sat F P S D).2 (e, b) h
  · exact esPotAdjust_nonneg P S D _ (esPotGrow_nonneg F P S D _ pre.kex_nn pre.et0_nn
      (pre.ccAdj_le hg) (pre.ccxW_le hg)) pre.mulch_le pre.wet_nn
  · exact esPotAdjust_nonneg P S D _ (mul_nonneg pre.kex_nn pre.et0_nn) pre.mulch_le pre.wet_nn

/-- Converse of `esPotential_nonneg`, about the function `esPotential`: canopy cover above 1 in
the growing season, before senescence, without mulches, premature senescence or irrigation, makes
the potential evaporation negative.  The modelled canopy step does not produce such an input:
`microAdv` caps `CCadj` at 1, as the source does (repo commit f2023fd). -/
theorem esPotential_neg_of_ccAdj_gt_one (F : Fn α) (P : EvapParams α) (S : EvapState α)
    (D : EvapDay α) (e : α) (b : Nat) (h : esPotential F P S D = .ok (e, b))
    (hg : D.growingSeason = true) (hsen : ¬ SenActive P S (tAdjOf P S))
    (hpm : S.prematSenes = false) (hmu : P.mulches = false) (hirr : D.irr ≤ 0)
    (hk : 0 < P.kex) (he : 0 < D.et0) (hcc : 1 < S.ccAdj) : e < 0 := by
  have hneg : P.kex * (1 - S.ccAdj) * D.et0 < 0 :=
    mul_neg_of_neg_of_pos (mul_neg_of_pos_of_neg hk (by linarith)) he
  -- without senescence and premature senescence `esPotGrow` is `EsPot0`; without mulches and
  -- irrigation `esPotAdjust` changes nothing
  have hgrow : (esPotGrow F P S D (tAdjOf P S)).1 = P.kex * (1 - S.ccAdj) * D.et0 := by
    unfold SenActive at hsen
    unfold esPotGrow
    simp only [hsen, hpm, decide_false, Bool.false_eq_true, if_false]
  have hadj : ∀ x, (esPotAdjust P S D x).1 = x := by
    intro x
    unfold esPotAdjust
    simp only [hmu, Bool.and_false, Bool.false_eq_true, if_false, not_lt.mpr hirr, false_and,
      decide_false, Bool.false_and, pmin_eq, min_self]
  obtain ⟨e0, rfl, ⟨-, rfl⟩ | ⟨hg', -⟩⟩ := (esPotential_sat F P S D).2 (e, b) h
  · rw [hadj, hgrow]; exact hneg
  · rw [hg] at hg'; cases hg'

/-! ### ponded water and the entry point -/

theorem pondEvap_spec (P : EvapParams α) (e p : α) (s : EvapSurf α) :
    (pondEvap P e p s).1 + (pondEvap P e p s).2.1 = p ∧
    ((p ≤ 0 → 0 ≤ e) → 0 ≤ e - (pondEvap P e p s).1) ∧
    ((e < p → 0 ≤ e) → 0 ≤ (pondEvap P e p s).1) ∧
    (0 ≤ p → 0 ≤ (pondEvap P e p s).2.1 ∧ (0 ≤ e → (pondEvap P e p s).2.1 ≤ p)) := by
  unfold pondEvap
  split_ifs with h1 h2
  · exact ⟨by simp, fun _ => by simp, fun h => h h2,
      fun _ => ⟨by simpa using h2.le, fun he => by simpa using he⟩⟩
  · exact ⟨by simp, fun _ => by simpa using not_lt.mp h2, fun _ => h1.le,
      fun hp => ⟨le_refl _, fun _ => hp⟩⟩
  · exact ⟨by simp, fun h => by simpa using h (not_lt.mp h1), fun _ => le_refl _,
      fun hp => ⟨hp, fun _ => le_refl _⟩⟩

/-! `soil_evaporation` rewrites the depth of the evaporation layer three times before stage 1
(re-initialisation, refill by rain or irrigation, evaporation of all ponded water): each time it
keeps the depth or resets it to `EvapZmin`, so any property `Q` of both survives. -/

theorem pondEvap_refresh_evapZ {Q : α → Prop} (P : EvapParams α) (D : EvapDay α) (esPot pond : α)
    (s : EvapSurf α) (hs : Q s.evapZ) (h0 : Q P.zMin) :
    Q (pondEvap P esPot pond (evapRefresh P D s).1).2.2.1.evapZ := by
  have h1 : Q (evapRefresh P D s).1.evapZ := by
    unfold evapRefresh
    by_cases h1 : 0 < D.rain ∨ (0 < D.irr ∧ P.irrMethod ≠ 4)
    · rw [if_pos h1]
      by_cases h2 : 0 < D.infl
      · rw [if_pos h2]; exact h0
      · rw [if_neg h2]; exact hs
    · rw [if_neg h1]; exact hs
  unfold pondEvap
  by_cases h2 : 0 < pond
  · rw [if_pos h2]
    by_cases h3 : esPot < pond
    · rw [if_pos h3]; exact h1
    · rw [if_neg h3]; exact h0
  · rw [if_neg h2]; exact h1

/-- `Z` is any depth at or below `EvapZmin`, `EvapZmax + 1 mm` and the current evaporation depth.
The result clause: the potential rate `esPot`, the pond split `pondEvap`, an `Extracts` step that
starts from the pond's share, and the new depth between the old one (or `EvapZmin`) and `Z`. -/
theorem soilEvap_sat (F : Fn α) (P : EvapParams α) (S : EvapState α) (cells : List (Cell α))
    (D : EvapDay α) {Z : α} (hZ0 : P.zMin ≤ Z) (hZ : P.zMax + 0.001 ≤ Z) (hS : S.evapZ ≤ Z) :
    Sat (soilEvaporation F P S cells D)
      (fun e => EvapErr Z cells (FuelOk P S.evapZ ∧ FuelOk P P.zMin) e ∨
        e = "E:zerodiv" ∧ P.steps = 0 ∨ e = "E:unbound" ∧
          ¬ (D.growingSeason = true → P.calendarType = 1 ∨ P.calendarType = 2))
      (fun out => out.epot = out.esPot ∧ (∃ b, esPotential F P S D = .ok (out.esPot, b)) ∧
        ∃ (s : EvapSurf α) (t z0 : α), out.pond = (pondEvap P out.esPot S.pond s).2.1 ∧
          Extracts cells (pondEvap P out.esPot S.pond s).1
            (out.esPot - (pondEvap P out.esPot S.pond s).1) false out.cells out.esAct t
            out.negTake ∧
          (0 ≤ out.esPot - (pondEvap P out.esPot S.pond s).1 → 0 ≤ t) ∧
          (z0 = S.evapZ ∨ z0 = P.zMin) ∧ z0 ≤ out.evapZ ∧ out.evapZ ≤ Z) := by
  unfold soilEvaporation
  refine (evapReinit_sat (Q := fun z => (z = S.evapZ ∨ z = P.zMin) ∧ z ≤ Z) F P cells D.tsc S.dap
    { wSurf := S.wSurf, evapZ := S.evapZ, stage2 := S.stage2, wStage2 := S.wStage2 } hZ0
    ⟨Or.inl rfl, hS⟩ ⟨Or.inr rfl, hZ0⟩).seq (fun e he => by simp only [he])
    (fun e h => Or.inl (Or.inl h)) fun sb he q0 => ?_
  obtain ⟨s0, b0⟩ := sb
  simp only [he]
  refine (esPotential_sat F P S D).seq (fun e he => by simp only [he])
    (fun e h => Or.inr (Or.inr h)) fun eb hep _ => ?_
  obtain ⟨esPot, b2⟩ := eb
  simp only [hep]
  have q2 := pondEvap_refresh_evapZ (Q := fun z => (z = S.evapZ ∨ z = P.zMin) ∧ z ≤ Z) P D esPot
    S.pond s0 q0 ⟨Or.inr rfl, hZ0⟩
  generalize hpd : pondEvap P esPot S.pond (evapRefresh P D s0).1 = pe at q2 ⊢
  obtain ⟨e0, pond', s2, b3⟩ := pe
  simp only [] at q2 ⊢
  refine (evapStage1_sat F P cells s2 esPot e0 hZ0 q2.2).seq (fun e he => by simp only [he])
    (fun e h => Or.inl (Or.inl h)) fun g1 he1 ⟨k1, t1, z1⟩ => ?_
  simp only [he1]
  rw [← z1] at q2
  refine (evapStage2_sat F P hZ g1 q2.2).seq (fun e he => by simp only [he]) (fun e h => ?_)
    fun g2 he2 ⟨k2, t2, l1, l2⟩ => ?_
  · rcases h with (⟨h, hd⟩ | ⟨h, hf⟩) | h
    · exact Or.inl (Or.inl ⟨h, fun hd' => hd (hd'.congr (k1.frame (·.c) fun _ _ => rfl))⟩)
    · refine Or.inl (Or.inr ⟨h, fun hf' => hf ?_⟩)
      rcases q2.1 with e | e <;> rw [e]
      exacts [hf'.1, hf'.2]
    · exact Or.inr (Or.inl h)
  · simp only [he2]
    refine .ok ⟨rfl, ⟨b2, rfl⟩, (evapRefresh P D s0).1, g2.toExt, g1.surf.evapZ, ?_⟩
    rw [hpd]
    exact ⟨rfl, k1.trans k2, fun h => t2 (t1 h), q2.1, l1, l2⟩

/-- `soilEvap_sat` at the smallest admissible `Z`, unpacked: with enough fuel the call fails only
with `E:index`, `E:zerodiv` or `E:unbound`; and the facts about a successful call that the lemmas
below project. -/
theorem soilEvap_cases (F : Fn α) (P : EvapParams α) (S : EvapState α) (cells : List (Cell α))
    (D : EvapDay α) :
    (∀ e, soilEvaporation F P S cells D = .error e → FuelOk P S.evapZ → FuelOk P P.zMin →
      e = "E:index" ∨ e = "E:zerodiv" ∨ e = "E:unbound") ∧
    ∀ out, soilEvaporation F P S cells D = .ok out →
      (∀ {β : Type} (k : Cell α → β), NoTh k →
        out.cells.map k = cells.map k) ∧
      (PosDz cells → storage out.cells + out.pond + out.esAct = storage cells + S.pond) ∧
      out.epot = out.esPot ∧
      (∃ b, esPotential F P S D = .ok (out.esPot, b)) ∧
      ((S.pond ≤ 0 → 0 ≤ out.esPot) → out.esAct ≤ out.esPot) ∧
      out.negTake = false ∧
      ((out.esPot < S.pond → 0 ≤ out.esPot) → 0 ≤ out.esAct) ∧
      ((∀ x ∈ cells, Cell.Inv x) → ∀ x ∈ out.cells, Cell.Inv x) ∧
      (0 ≤ S.pond → 0 ≤ out.pond ∧ (0 ≤ out.esPot → out.pond ≤ S.pond)) := by
  obtain ⟨he, ho⟩ := soilEvap_sat F P S cells D
    (Z := max (max P.zMin (P.zMax + 0.001)) S.evapZ)
    ((le_max_left _ _).trans (le_max_left _ _)) ((le_max_right _ _).trans (le_max_left _ _))
    (le_max_right _ _)
  refine ⟨fun e h f1 f2 => ?_, fun out h => ?_⟩
  · rcases he e h with (⟨h, -⟩ | ⟨-, h⟩) | ⟨h, -⟩ | ⟨h, -⟩
    · exact Or.inl h
    · exact absurd ⟨f1, f2⟩ h
    · exact Or.inr (Or.inl h)
    · exact Or.inr (Or.inr h)
  · obtain ⟨e1, e2, s, t, z0, hp, k, ht, -⟩ := ho out h
    obtain ⟨q1, q2, q3, q4⟩ := pondEvap_spec P out.esPot S.pond s
    have hs := k.sum
    have hm := k.mono
    rw [← hp] at q1 q4
    refine ⟨k.frame, fun hpz => ?_, e1, e2, fun hpre => ?_, k.neg, fun hpre => ?_, k.inv, q4⟩
    · have := k.bal hpz; linarith
    · have := ht (q2 hpre); linarith
    · have := q3 hpre; linarith

/-- `soil_evaporation` succeeds, and the evaporation depth it leaves lies in `[EvapZmax − 100, Z]`
again, so that the premise on the start state carries along a run (the depth is `0` in the state
`_initialize` leaves).  100 m is what the fuel of the expansion loop covers. -/
theorem soilEvaporation_total (F : Fn α) (P : EvapParams α) (S : EvapState α)
    (cells : List (Cell α)) (D : EvapDay α) (Z : α)
    (hsteps : P.steps ≠ 0)
    (hcal : D.growingSeason = true → P.calendarType = 1 ∨ P.calendarType = 2)
    (hZ0 : P.zMin ≤ Z) (hZ : P.zMax + 0.001 ≤ Z) (hdeep : EvapDeep Z cells)
    (hfuel : P.zMax - P.zMin ≤ 100) (hlo : P.zMax - 100 ≤ S.evapZ) (hhi : S.evapZ ≤ Z) :
    ∃ out, soilEvaporation F P S cells D = .ok out ∧ P.zMax - 100 ≤ out.evapZ ∧ out.evapZ ≤ Z := by
  obtain ⟨out, h, -, -, s, t, z0, -, -, -, hz0, l1, l2⟩ :=
    (soilEvap_sat F P S cells D hZ0 hZ hhi).total fun e he => by
      rcases he with (⟨-, h⟩ | ⟨-, h⟩) | ⟨-, h⟩ | ⟨-, h⟩
      · exact h hdeep
      · exact h ⟨fuelOk_of_le P _ (sub_le_comm.mp hlo), fuelOk_of_le P _ hfuel⟩
      · exact hsteps h
      · exact h hcal
  refine ⟨out, h, le_trans ?_ l1, l2⟩
  rcases hz0 with e | e <;> rw [e]
  exacts [hlo, sub_le_comm.mp hfuel]

theorem soilEvap_pond_of_nonpos (F : Fn α) (P : EvapParams α) (S : EvapState α)
    (cells : List (Cell α)) (D : EvapDay α) (out : EvapOut α)
    (h : soilEvaporation F P S cells D = .ok out) (hp : S.pond ≤ 0) : out.pond = S.pond := by
  obtain ⟨-, -, s, t, z0, e, -⟩ := (soilEvap_sat F P S cells D
    (Z := max (max P.zMin (P.zMax + 0.001)) S.evapZ)
    ((le_max_left _ _).trans (le_max_left _ _)) ((le_max_right _ _).trans (le_max_left _ _))
    (le_max_right _ _)).2 out h
  rw [e]
  unfold pondEvap
  rw [if_neg (not_lt.mpr hp)]

/-! ### the main lemmas

Projections of `soilEvap_cases`.  Only the water balance needs positive thicknesses (`PosDz`,
implied by `Cell.Inv`). -/

section Main
variable (F : Fn α) (P : EvapParams α) (S : EvapState α) (cells : List (Cell α)) (D : EvapDay α)
  (out : EvapOut α)

theorem soilEvap_balance (h : soilEvaporation F P S cells D = .ok out) (hp : PosDz cells) :
    storage out.cells + out.pond + out.esAct = storage cells + S.pond :=
  ((soilEvap_cases F P S cells D).2 out h).2.1 hp

theorem soilEvap_frame {β : Type} (h : soilEvaporation F P S cells D = .ok out) (k : Cell α → β)
    (hth : NoTh k) : out.cells.map k = cells.map k :=
  ((soilEvap_cases F P S cells D).2 out h).1 k hth

theorem soilEvap_epot (h : soilEvaporation F P S cells D = .ok out) (hp : PosDz cells) :
    out.epot = out.esPot :=
  ((soilEvap_cases F P S cells D).2 out h).2.2.1

/-- actual ≤ potential.  No law about `exp` is needed: `Kr` is clamped at 1, and a negative
`Kr` makes the sub-step a no-op (`while ToExtractStg2 > 0`).  The premise on `EsPot` is needed
only when there is no ponded water (with `EsPot < 0` and no pond, `EsAct = 0 > EsPot`). -/
theorem soilEvap_esAct_le_esPot (h : soilEvaporation F P S cells D = .ok out)
    (hpot : 0 ≤ out.esPot) : out.esAct ≤ out.esPot :=
  ((soilEvap_cases F P S cells D).2 out h).2.2.2.2.1 (fun _ => hpot)

theorem soilEvap_esPot_nonneg (h : soilEvaporation F P S cells D = .ok out)
    (pre : EsPotPre P S D) : 0 ≤ out.esPot := by
  obtain ⟨b, hb⟩ := ((soilEvap_cases F P S cells D).2 out h).2.2.2.1
  exact esPotential_nonneg F P S D _ b hb pre

/-- the ghost flag "some extraction step took a negative amount" is never set: both extraction
loops clamp `AvW` at 0 (in the source, stage 2 by repo commit 9c2fed8) -/
theorem soilEvap_negTake_false (h : soilEvaporation F P S cells D = .ok out) (hp : PosDz cells) :
    out.negTake = false :=
  ((soilEvap_cases F P S cells D).2 out h).2.2.2.2.2.1

/-- every extraction step takes a non-negative amount (both loops clamp `AvW` at 0); the premise on
`EsPot` is needed only when the ponded water exceeds `EsPot`, where `EsAct = EsPot` -/
theorem soilEvap_esAct_nonneg (h : soilEvaporation F P S cells D = .ok out)
    (hpot : 0 ≤ out.esPot) : 0 ≤ out.esAct :=
  ((soilEvap_cases F P S cells D).2 out h).2.2.2.2.2.2.1 (fun _ => hpot)

theorem soilEvap_inv (h : soilEvaporation F P S cells D = .ok out)
    (hinv : ∀ x ∈ cells, Cell.Inv x) : ∀ x ∈ out.cells, Cell.Inv x :=
  ((soilEvap_cases F P S cells D).2 out h).2.2.2.2.2.2.2.1 hinv

/-- ponded water never becomes negative, and only decreases — the latter needs `0 ≤ EsPot`
(with `EsPot < 0 < pond` the Python *adds* `−EsPot` to the ponded water) -/
theorem soilEvap_pond (h : soilEvaporation F P S cells D = .ok out)
    (hpond : 0 ≤ S.pond) : 0 ≤ out.pond ∧ (0 ≤ out.esPot → out.pond ≤ S.pond) :=
  ((soilEvap_cases F P S cells D).2 out h).2.2.2.2.2.2.2.2 hpond

theorem soilEvap_all (h : soilEvaporation F P S cells D = .ok out)
    (hinv : ∀ x ∈ cells, Cell.Inv x) (pre : EsPotPre P S D) (hpond : 0 ≤ S.pond) :
    0 ≤ out.esAct ∧ out.esAct ≤ out.esPot ∧ 0 ≤ out.pond ∧ out.pond ≤ S.pond ∧
    (∀ x ∈ out.cells, Cell.Inv x) ∧
    storage out.cells + out.pond + out.esAct = storage cells + S.pond := by
  have hp : PosDz cells := fun x hx => (hinv x hx).wf.dz_pos
  have hpot := soilEvap_esPot_nonneg F P S cells D out h pre
  obtain ⟨p1, p2⟩ := soilEvap_pond F P S cells D out h hpond
  exact ⟨soilEvap_esAct_nonneg F P S cells D out h hpot,
    soilEvap_esAct_le_esPot F P S cells D out h hpot, p1, p2 hpot,
    soilEvap_inv F P S cells D out h hinv, soilEvap_balance F P S cells D out h hp⟩

end Main

/-! ### non-vacuity: a concrete call at `ℚ` that succeeds, runs stage 1 and stage 2, and satisfies
the hypotheses of all lemmas above (`exp x := 1 + x` etc. — the lemmas assume nothing about `F`) -/

namespace Example
def Fq : Fn ℚ :=
  { exp := fun x => 1 + x, log := id, log10 := id, pow := fun x y => if y = 2 then x * x else x,
    round0 := id, round2 := id, round3 := id, round4 := id, pyRound2 := id }
def cq (zs : ℚ) : Comp ℚ :=
  { dz := 0.1, dzsum := zs, zMid := zs - 0.05, thS := 0.5, thFC := 0.3, thWP := 0.1,
    thDry := 0.05, tau := 0.5, ksat := 500, pen := 100, aCR := 0, bCR := 0, layer := 1 }
def cellsq : List (Cell ℚ) :=
  [ { c := cq 0.1, th := 0.2, fcAdj := 0.3, flux := 0, aer := 0 },
    { c := cq 0.2, th := 0.25, fcAdj := 0.3, flux := 0, aer := 0 },
    { c := cq 0.3, th := 0.3, fcAdj := 0.3, flux := 0, aer := 0 },
    { c := cq 0.4, th := 0.3, fcAdj := 0.3, flux := 0, aer := 0 } ]
def Pq : EvapParams ℚ :=
  { steps := 2, simOffSeason := false, zMin := 0.15, zMax := 0.152, rew := 9, kex := 1.1,
    fwcc := 50, fWrelExp := 0.4, fevap := 4, calendarType := 1, senescence := 100, irrMethod := 0,
    wetSurf := 100, mulches := false, fMulch := 0.5, mulchPct := 50 }
def Sq : EvapState ℚ :=
  { dap := 10, wSurf := 1, evapZ := 0.15, stage2 := false, delayedCDs := 0, gddCum := 0,
    delayedGDDs := 0, ccxW := 0.5, ccAdj := 0.5, ccxAct := 0.5, cc := 0.5, prematSenes := false,
    pond := 0, wStage2 := 0, epot := 0 }
def Dq : EvapDay ℚ := { tsc := 5, et0 := 5, infl := 0, rain := 0, irr := 0, growingSeason := true }

/-- the call succeeds with stage 1 → stage-2 preparation → stage 2 (branch mask 512+1024+2048),
`negTake = false` and `0 < EsAct < EsPot` -/
theorem runs :
    (match soilEvaporation Fq Pq Sq cellsq Dq with
     | .ok out => decide (out.negTake = false ∧ out.branch = 3584 ∧ 0 < out.esAct ∧
                          out.esAct < out.esPot)
     | .error _ => false) = true := by decide +kernel

theorem inv : ∀ x ∈ cellsq, Cell.Inv x := by
  intro x hx
  simp only [cellsq, List.mem_cons, List.not_mem_nil, or_false] at hx
  have key : ∀ zs th : ℚ, 0.05 ≤ th → th ≤ 0.5 → Cell.Inv ⟨cq zs, th, 0.3, 0, 0⟩ :=
    fun zs th h1 h2 =>
      ⟨by constructor <;> norm_num [cq], h1, h2, by norm_num [cq], by norm_num [cq]⟩
  rcases hx with rfl | rfl | rfl | rfl <;> exact key _ _ (by norm_num) (by norm_num)

theorem pre : EsPotPre Pq Sq Dq :=
  { kex_nn := by norm_num [Pq], et0_nn := by norm_num [Dq]
    ccAdj_le := fun _ _ => by norm_num [Sq]
    ccxW_le := fun _ _ => by norm_num [Sq, Pq]
    mulch_le := fun h => by simp [Pq] at h
    wet_nn := fun _ _ => by norm_num [Pq] }
end Example

end Aqua
