import AquaVerif.Proofs.RunTotalCatalogue
import AquaVerif.Proofs.CatalogueExample
/-
Non-vacuity of `catalogue_run_total` — the catalogue configuration of
`Proofs/CatalogueExample.lean` (Wheat of the generated crop table on SandyLoam of the generated soil
table, 12 compartments deepened to 1.6 m for `Zmax = 1.5 m`, no water table, rainfed, window of
250 days) satisfies `CatTotOK` with `Zcap = 1.5`, `Zev = 0.301` and `TopOK`; hence its run
terminates without an error branch (`catalogue_total_example`).

The geometry of the built profile is made explicit: the rows `mkComps` returns match the integer
geometry `geo12` (`dzsum` = 10, 20, …, 100, 130, 160 cm), so every geometric premise of `ProfOK` is
a statement about that list.
-/

set_option linter.unusedSectionVars false
namespace Aqua
namespace RunTotalCatalogueExample
open Aqua.Generated Aqua.Response Aqua.HarvestIndexReal Aqua.Clock Aqua.CatalogueExample

/-- the final integer geometry of the example profile -/
def geo12 : List GComp :=
  refreshFrom 0 (buildGeometry (List.replicate 12 10)) [10, 10, 10, 10, 10, 10, 10, 10, 10, 10, 30, 30]

theorem geo12_dzsum : geo12.map (·.dzsum) = [10, 20, 30, 40, 50, 60, 70, 80, 90, 100, 130, 160] := by
  decide

theorem geoMatch_dzsum : ∀ (cs : List (Comp ℝ)) (geo : List GComp), GeoMatch cs geo →
    cs.length = geo.length → cs.map (·.dzsum) = geo.map (fun g => (cmToM g.dzsum : ℝ))
  | [], [], _, _ => rfl
  | [], _ :: _, _, h => by simp at h
  | _ :: _, [], h, _ => by simp [GeoMatch] at h
  | c :: cs, g :: gs, h, hl => by
    obtain ⟨_, h2, h3⟩ := h
    simp only [List.map_cons, h2, geoMatch_dzsum cs gs h3 (by simpa using hl)]

theorem exists_cell_of_dzsum {cells : List (Cell ℝ)} {ds : List ℝ}
    (h : cells.map (fun x => x.c.dzsum) = ds) {d : ℝ} (hd : d ∈ ds) (P : ℝ → Prop) (hP : P d) :
    ∃ x ∈ cells, P x.c.dzsum := by
  rw [← h] at hd
  obtain ⟨x, hx, e⟩ := List.mem_map.1 hd
  exact ⟨x, hx, by rw [e]; exact hP⟩

theorem countBelow_eq_filter (z : ℝ) (cells : List (Cell ℝ)) :
    countBelow z cells =
      ((cells.map (fun x => x.c.dzsum)).filter (fun d => decide (d < z))).length := by
  rw [countBelow_eq_countP, ← List.countP_eq_length_filter, List.countP_map, List.countP_map]
  rfl

noncomputable def dzsum12 : List ℝ := [0.1, 0.2, 0.3, 0.4, 0.5, 0.6, 0.7, 0.8, 0.9, 1, 1.3, 1.6]

section
variable {c : CropFull} {l : BLayer} {so : SoilOut ℝ} {o : InitOut ℝ}

theorem cells_dzsum (hc : (initCells so.comps o.th o.fcAdjInit).map (·.c) = so.comps)
    (hlay : so.comps.map (·.layer) = List.replicate 12 1) (hgm : GeoMatch so.comps geo12) :
    (initCells so.comps o.th o.fcAdjInit).map (fun x => x.c.dzsum) = dzsum12 := by
  have hlen : so.comps.length = geo12.length := by
    have h12 : geo12.length = 12 := by decide
    have := congrArg List.length hlay
    rw [h12]
    simpa using this
  have h1 := geoMatch_dzsum so.comps geo12 hgm hlen
  have h2 : (initCells so.comps o.th o.fcAdjInit).map (fun x => x.c.dzsum)
      = so.comps.map (·.dzsum) := by
    have := congrArg (List.map (fun c : Comp ℝ => c.dzsum)) hc
    rw [List.map_map] at this
    exact this
  rw [h2, h1]
  have h3 : geo12.map (fun g => (cmToM g.dzsum : ℝ))
      = (geo12.map (·.dzsum)).map (fun n => (cmToM n : ℝ)) := by rw [List.map_map]; rfl
  rw [h3, geo12_dzsum]
  simp only [List.map_cons, List.map_nil, cmToM, dzsum12]
  norm_num

theorem profOK_example (hc : tableCrop "Wheat" = some c) (hl : tableLayer "SandyLoam" = some l)
    (hs : soilProfile realFn natGe1 natGe2 more150 10 (List.replicate 12 10) [l.toSpec 120] false
      false false 9 0.04 46 0.1 = .ok so)
    (hi : initWC realFn so.comps false 0 1.6 .prop .layer ptsFC = .ok o)
    (hlay : so.comps.map (·.layer) = List.replicate 12 1) (hgm : GeoMatch so.comps geo12) :
    ProfOK realFn soilW 0 0.3 1.5 0.301 (initCells so.comps o.th o.fcAdjInit) ∧
      TopOK realFn 0.1 (initCells so.comps o.th o.fcAdjInit) := by
  have hcat := catCfg_example hc hl hs hi hlay
  have hS := hcat.soil.ok
  have hcm := cells_comps hl hs hi hlay
  have hdz := cells_dzsum hcm hlay hgm
  have hlen : (initCells so.comps o.th o.fcAdjInit).length = 12 := by
    have := congrArg List.length hdz
    simpa [dzsum12] using this
  have hlayers : (initCells so.comps o.th o.fcAdjInit).map (·.c.layer) = List.replicate 12 1 := by
    have := congrArg (List.map (fun c : Comp ℝ => c.layer)) hcm
    rw [List.map_map] at this
    rw [← hlay]
    exact this
  have hbot : ∀ z : ℝ, z ≤ 1.6 → ∃ x ∈ initCells so.comps o.th o.fcAdjInit, z ≤ x.c.dzsum :=
    fun z hz => exists_cell_of_dzsum hdz (d := 1.6) (by simp [dzsum12]) (fun d => z ≤ d) hz
  refine ⟨?_, exists_cell_of_dzsum hdz (d := 0.1) (by simp [dzsum12]) (fun d => d ≤ (0.1 : ℝ))
    (le_refl _)⟩
  exact
    { ne := fun h => by rw [h] at hlen; simp at hlen
      dz := fun x hx => (hS.cells0 x hx).inv.wf.dz_pos
      pen := fun x hx => ⟨(hS.pen x hx).1, (hS.pen x hx).2, (hS.cells0 x hx).inv.wf.wp_fc⟩
      deep2 := fun z hz => hbot z (le_trans hz (by norm_num))
      deepPy := fun z hz => hbot z (le_trans hz (by norm_num))
      tip := hbot 1.5 (by norm_num)
      germ := hbot 0.3 (by norm_num)
      cn := fun _ => hbot 0.3 (by norm_num)
      evap := by
        unfold EvapDeep
        rw [countBelow_eq_filter, hdz, hlen]
        have : (dzsum12.filter (fun d => decide (d < (0.301 : ℝ)))).length = 3 := by
          simp only [dzsum12, List.filter_cons, List.filter_nil]
          norm_num
        rw [this]
        norm_num
      lastLayer := fun h => absurd h (by decide)
      layers := by
        have hn : nLayers (initCells so.comps o.th o.fcAdjInit) = 1 := by
          unfold nLayers
          rw [hlayers]
          decide
        have hlo : layersOf (initCells so.comps o.th o.fcAdjInit)
            = [layerOf 1 (initCells so.comps o.th o.fcAdjInit)] := by
          unfold layersOf
          rw [hn]
          rfl
        rw [hlo]
        refine ⟨by simp, fun lay hlay' => ?_⟩
        simp only [List.mem_cons, List.not_mem_nil, or_false] at hlay'
        subst hlay'
        cases hcs : initCells so.comps o.th o.fcAdjInit with
        | nil => rw [hcs] at hlen; simp at hlen
        | cons x xs =>
          have hx1 : x.c.layer = 1 := by
            have := hlayers
            rw [hcs] at this
            simp only [List.map_cons] at this
            have h0 := congrArg List.head? this
            simpa using h0
          refine ⟨x.c.pen, ?_⟩
          unfold layerOf
          simp [hx1]
      nComp := by rw [hlen]; exact le_refl _ }

end

theorem catalogue_total_example :
    ∃ cfg : RunCfg ℝ, CatCfg cfg ∧ CatTotOK cfg 1.5 0.301 ∧
      TopOK realFn cfg.W0.soil.zTop cfg.init.cells ∧
      (∃ s₀ s, runInit cfg = .ok s₀ ∧ runModel realFn realTrig cfg 250 s₀ = .ok s ∧
        s.finished = true) ∧
      ∀ s, RunReach realFn realTrig cfg s → s.finished = false →
        ∃ s', performR realFn realTrig cfg s = .ok s' := by
  obtain ⟨c, hc⟩ := Option.isSome_iff_exists.mp wheat_in_table
  obtain ⟨l, hl⟩ := Option.isSome_iff_exists.mp sandyLoam_in_table
  obtain ⟨so, o, hs, hi, hlay, hgm⟩ := soil_built_geo l
  have hcat := catCfg_example hc hl hs hi hlay
  obtain ⟨hprof, htop⟩ := profOK_example hc hl hs hi hlay hgm
  have hzmax : ((c.zmax : ℚ) : ℝ) ≤ 1.5 := by
    have h1 : (tableCrop "Wheat").map (·.zmax) = some (3 / 2) := by decide +kernel
    rw [hc] at h1
    simp only [Option.map_some, Option.some.injEq] at h1
    rw [h1]; norm_num
  have hX : CatTotOK (cfgW c (initCells so.comps o.th o.fcAdjInit) o.th) 1.5 0.301 :=
    { prof := hprof
      zmax := fun _ => hzmax
      zmaxF := hzmax
      fallowZmin := by norm_num
      irr := ⟨(by show (0 : Nat) ≤ 5; omega), (fun h => by have h' : (0 : Nat) = 2 := h; omega),
        (by show (0 : ℝ) ≤ 100; norm_num)⟩
      fallowIrr := ⟨(by show (0 : Nat) ≤ 5; omega),
        (fun h => by have h' : (0 : Nat) = 2 := h; omega), (by show (0 : ℝ) ≤ 100; norm_num)⟩
      sched := fun h => by have h' : (0 : Nat) = 3 := h; omega
      wt := Or.inl rfl
      zgw := fun h => by have h' : (0 : Nat) = 1 := h; omega
      steps := by show (20 : Nat) ≠ 0; omega
      evLo := by show (0.15 : ℝ) ≤ 0.301; norm_num
      evHi := by show (0.3 : ℝ) + 0.001 ≤ 0.301; norm_num
      evFuel := by show (0.3 : ℝ) - 0.15 ≤ 100; norm_num
      stage0 := by show (0 : Nat) ≤ 4; omega
      ev0 := by show (0.3 : ℝ) - 100 ≤ 0; norm_num
      ev1 := by show (0 : ℝ) ≤ 0.301; norm_num }
  obtain ⟨⟨s₀, s, h0, h1, h2, _⟩, hstep⟩ := catalogue_run_total hcat hX htop
  exact ⟨_, hcat, hX, htop, ⟨s₀, s, h0, h1, h2⟩, fun s hr hf => (hstep s hr hf).1⟩

end RunTotalCatalogueExample
end Aqua

#print axioms Aqua.RunTotalCatalogueExample.profOK_example
#print axioms Aqua.RunTotalCatalogueExample.catalogue_total_example
