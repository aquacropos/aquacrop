import AquaVerif.Model.WaterDay
import AquaVerif.Model.RootDevelopment
import AquaVerif.Model.Germination
import AquaVerif.Model.GrowthStage
import AquaVerif.Model.CanopyCover
import AquaVerif.Model.HIref
import AquaVerif.Model.HarvestIndex
import AquaVerif.Model.Yield
import AquaVerif.Model.Response
/-
The **full simulated day**: `solution_single_time_step`
(`aquacrop/timestep/run_single_timestep.py`) from the line "Increment time counters" to the
"Final output" block, every process being the existing model of it, in the order and with the data
flow of the Python:

      time counters   dap, gdd (growing_degree_day), gdd_cum           (off season: 0, 0.3, 0)
   1  check_groundwater_table   th_fc_Adj, wt_in_soil, z_gw
   2  root_development          z_root, r_cor          (reads yesterday's canopy, tr_ratio, t_pot)
   3  pre_irrigation            th, PreIrr             (reads today's dap, z_root)
   4  drainage                  th, DeepPerc, FluxOut
   5  rainfall_partition        Runoff, Infl, day_submerged
   6  irrigation                depletion, taw, irr_cum, Irr (reads *yesterday's* growth_stage)
   7  infiltration              th, surface_storage, DeepPerc, Runoff, Infl, FluxOut
   8  capillary_rise            th, CR
   9  germination               germination, protected_seed, delayed_cds, delayed_gdds (th of 8)
  10  growth_stage              growth_stage
  11  canopy_cover              the canopy state, crop_dead (th of 8, z_root of 2, delays of 9)
  12  soil_evaporation          (reads the canopy of 11)
  13  transpiration             (reads the canopy of 11; may set canopy_cover back to cc_prev)
  14  groundwater_inflow
  15  HIref_current_day         hi_ref, yield_form, pct_lag_phase  (canopy_cover of 13)
  16  biomass_accumulation      biomass, biomass_ns                (Tr, TrPot_NS of 13)
  17  harvest_index             (th of 14)
  18  YieldPot;  19  DryYield, FreshYield, crop_mature
  20  root_zone_water           Wr; off season depletion/taw := Dr.Rz/TAW.Rz
  21  IrrNet + PreIrr, irr_net_cum + PreIrr; the three table rows; the "Final output" block
      (summary row + harvest_flag).

Inputs that the *caller* (the clock, `Model/Run.lean`) decides: the growing-season flag `gs`, which
crop / irrigation / field management records apply (season crop vs. the fallow filler crop with
`Aer = 5`, `Zmin = 0.3`; `FieldMngt` vs. `FallowFieldMngt`; `IrrMngt` vs. `FallowIrrMngt`), the
season counter and whether the day ends on the season's harvest date.

The water steps are *the lines of `waterDayRest`* (`Model/WaterDay.lean`) with the `CropDay`
argument computed: `Proofs/Day.lean` shows that a successful `fullDay` is a successful
`waterDay` for the `CropDay` it reports (`DayResult.crop`), so that every theorem about `waterDay`
(quantified over all `CropDay`) applies.

State: `DayState'` has every attribute of `InitialCondition` that some process reads or that is
reported.  Omitted attributes of `Model/Reset.lean`'s `allFields` (nothing modelled reads them):
`stage`, `h1_cor_asum`, `h1_cor_bsum`, `sumET0EarlySen` (never read anywhere in the package),
`growing_season`, `time_step_counter`, `precipitation`, `temp_max`, `temp_min`, `et0`, `gdd`
(copies of the day's inputs, written at the top of the function; of these only
`time_step_counter` is read, by `irrigation`, on the same day — `DayIn.tsc`), `thini` (read by
`reset_initial_conditions` only: `Model/Run.lean`).

Errors: the first process that raises makes the day raise, with the driver's error kinds.
-/

namespace Aqua

/-- crop parameters read by the crop-side processes and the glue (the water processes read
`WaterParams.crop`).  Several Python attributes appear in more than one record (`Zmin`, `Aer`,
`CalendarType`, `p_up`, …): the records are those of the process models; the driver and
`Model/Run.lean` fill them from one crop. -/
structure CropX (α : Type) where
  /-- `Crop.Zmin` is a numpy scalar (decides the rounding of `max(z_root, Zmin)` in
  `pre_irrigation`; a Python float for every crop built by the package) -/
  zMinNp : Bool
  gddMethod : Nat
  tupp : α
  tbase : α
  rd : RdCrop α
  germThr : α
  /-- `Crop.PlantMethod == True` -/
  sown : Bool
  /-- `Canopy10Pct`, `MaxCanopy` (`Senescence` is `WaterParams.crop.senescence`) -/
  canopy10 : α
  maxCanopy : α
  cc : CcCrop α
  hi : HiCrop α
  hik : HiStressCrop α
  bio : BioCrop α
  yldWC : α

/-- all parameters of one day -/
structure DayParams (α : Type) where
  W : WaterParams α
  fm : FieldMngt α
  /-- `Soil.z_germ` -/
  zGerm : α
  cx : CropX α

/-- forcing and calendar position of the day -/
structure DayIn' (α : Type) where
  gs : Bool
  tsc : Nat
  /-- `clock_struct.season_counter` -/
  season : Int
  rain : α
  et0 : α
  tmax : α
  tmin : α
  /-- `GroundWater` -/
  zGW : α
  sched : Option α
  /-- `harvest_dates[season_counter] == step_end_time` (read only when `season_counter > -1`) -/
  lastDay : Bool

def DayIn'.water {α : Type} (D : DayIn' α) : DayIn α :=
  { gs := D.gs, tsc := D.tsc, rain := D.rain, et0 := D.et0, zGW := D.zGW, sched := D.sched }

/-- `InitialCondition` (see the header for the omitted attributes) -/
structure DayState' (α : Type) where
  /-- `th`, `th_fc_Adj`, `aer_days_comp` -/
  cells : List (Cell α)
  -- water scalars
  pond : α              -- surface_storage
  daySubmerged : Nat
  irrCum : α
  ePot : α
  tPot : α
  wSurf : α
  evapZ : α
  stage2 : Bool
  wStage2 : α
  ageDaysNS : α
  ageDays : α
  aerDays : α
  irrNetCum : α
  trRatio : α
  -- counters
  dap : Nat
  gddCum : α
  -- roots, germination, growth stage
  zRoot : α
  rCor : α
  growthStage : Nat
  germination : Bool
  protectedSeed : Bool
  delayedCds : α
  delayedGdds : α
  -- canopy
  cc : α
  ccNS : α
  cc0Adj : α
  ccxAct : α
  ccxActNS : α
  ccxW : α
  ccxWNS : α
  ccxEarlySen : α
  ccPrev : α
  tEarlySen : α
  ccAdj : α
  ccAdjNS : α
  prematSenes : Bool
  cropDead : Bool
  -- harvest index, biomass
  hiRef : α
  hiFinal : α           -- HIfinal (never written by the day)
  yieldForm : Bool
  pctLagPhase : α
  biomass : α
  biomassNS : α
  preAdj : Bool
  fPre : α
  fPol : α
  sCor1 : α
  sCor2 : α
  fpostUpp : α
  fpostDwn : α
  fPost : α
  hi : α                -- harvest_index
  hiAdj : α             -- harvest_index_adj
  -- flags of the season
  cropMature : Bool
  harvestFlag : Bool
  -- written, never read by a process
  depletion : α
  taw : α
  zGW : α
  wtInSoil : Bool
  yieldPot : α
  dryYield : α
  freshYield : α

/-- the part of the state `waterDay` reads -/
def DayState'.water {α : Type} (s : DayState' α) : DayState α :=
  { pond := s.pond, daySubmerged := s.daySubmerged, irrCum := s.irrCum, ePot := s.ePot,
    tPot := s.tPot, wSurf := s.wSurf, evapZ := s.evapZ, stage2 := s.stage2, wStage2 := s.wStage2,
    ageDaysNS := s.ageDaysNS, ageDays := s.ageDays, aerDays := s.aerDays,
    irrNetCum := s.irrNetCum, trRatio := s.trRatio }

def DayState'.germ {α : Type} (s : DayState' α) : GermState α :=
  { germination := s.germination, protectedSeed := s.protectedSeed, delayedCds := s.delayedCds,
    delayedGdds := s.delayedGdds }

/-- `water_storage` row: `[time_step_counter, growing_season, dap, th…]` -/
structure StorageRow (α : Type) where
  tsc : Nat
  gs : Bool
  dap : Nat
  th : List α

/-- `water_flux` row -/
structure FluxRow (α : Type) where
  tsc : Nat
  season : Int
  dap : Nat
  wr : α
  zGW : α
  pond : α
  irrDay : α
  infl : α
  runoff : α
  deepPerc : α
  cr : α
  gwIn : α
  es : α
  esPot : α
  tr : α
  trPot : α

/-- `crop_growth` row -/
structure GrowthRow (α : Type) where
  tsc : Nat
  season : Int
  dap : Nat
  gdd : α
  gddCum : α
  zRoot : α
  cc : α
  ccNS : α
  biomass : α
  biomassNS : α
  hi : α
  hiAdj : α
  dryYield : α
  freshYield : α
  yieldPot : α

/-- `final_stats.loc[season] = [season, crop name, step_end_time, time_step_counter, DryYield,
FreshYield, YieldPot, IrrTot]` (name and date are the clock's) -/
structure SummaryRow (α : Type) where
  season : Int
  tsc : Nat
  dryYield : α
  freshYield : α
  yieldPot : α
  irrTot : α

/-- the time counters of the day -/
structure DayCounters (α : Type) where
  dap : Nat
  gdd : α
  gddCum : α

/-- the outputs of every process call of one day -/
structure FullTrace (α : Type) where
  tc : DayCounters α
  g : GwtOut α
  rd : RdOut α
  p : List (Cell α) × α
  d : DrainOut α
  r : RainOut α
  i : IrrOut α
  f : InfOut α
  c : CROut α
  ge : GermOut α
  gst : Nat
  cc : CcState α
  e : EvapOut α
  t : TrOut α
  w : List (Cell α) × α
  hr : HiRefOut α
  bio : α × α
  hi : HiState α
  y : YieldOut α
  rz : RZ α

structure DayResult (α : Type) where
  state : DayState' α
  storage : StorageRow α
  flux : FluxRow α
  growth : GrowthRow α
  /-- the summary row, when the "Final output" block writes one -/
  summary : Option (SummaryRow α)
  -- ghosts
  /-- what root development, germination, growth stage and canopy cover handed to the water
  processes -/
  crop : CropDay α
  /-- the result of `waterDay` for that `CropDay` (`Proofs/Day.lean`: `fullDay_water`) -/
  water : DayOut α
  /-- `IrrTot` of the output block (seasonal irrigation so far) -/
  irrTot : α
  /-- the end-of-season condition of the "Final output" block -/
  endc : Bool
  trace : FullTrace α

section
variable {α : Type} [Add α] [Sub α] [Mul α] [Div α] [Neg α] [LT α] [LE α]
  [DecidableLT α] [DecidableLE α] [OfScientific α] [OfNat α 0] [OfNat α 1] [OfNat α 2] [OfNat α 3]
  [OfNat α 4] [OfNat α 5] [OfNat α 8] [OfNat α 9] [OfNat α 10] [OfNat α 14] [OfNat α 20]
  [OfNat α 40] [OfNat α 99] [OfNat α 100] [OfNat α 254] [OfNat α 550] [OfNat α 1000]
  [OfNat α 2000] [OfNat α 25400]

/-- "Increment time counters": in season `dap + 1`, `growing_degree_day(...)`, `gdd_cum + gdd`;
off season `0`, `0.3`, `0` -/
def dayCounters (X : CropX α) (st : DayState' α) (D : DayIn' α) : Except String (DayCounters α) :=
  if D.gs then
    match growingDegreeDay X.gddMethod X.tupp X.tbase D.tmax D.tmin with
    | none => .error "E:unbound"
    | some g => .ok { dap := st.dap + 1, gdd := g, gddCum := st.gddCum + g }
  else .ok { dap := 0, gdd := 0.3, gddCum := 0 }

/-- `max(z_root, Zmin)` returns `Zmin` (and is then a numpy scalar iff `Zmin` is) exactly when
`Zmin > z_root` -/
def zRootNpOf (zMinNp : Bool) (zRoot zMin : α) : Bool := zMinNp && decide (zRoot < zMin)

/-- `NewCond` as `canopy_cover` finds it: today's counters, the rooting depth of step 2, the
delays and the protected-seed flag of step 9, yesterday's canopy -/
def ccStateOf (st : DayState' α) (tc : DayCounters α) (rd : RdOut α) (ge : GermOut α) :
    CcState α :=
  { dap := natNum tc.dap, delayedCds := ge.s.delayedCds, gddCum := tc.gddCum,
    delayedGdds := ge.s.delayedGdds, zRoot := rd.zRoot, cc := st.cc, ccNS := st.ccNS,
    cc0Adj := st.cc0Adj, ccxAct := st.ccxAct, ccxActNS := st.ccxActNS, ccxW := st.ccxW,
    ccxWNS := st.ccxWNS, ccxEarlySen := st.ccxEarlySen, ccPrev := st.ccPrev,
    tEarlySen := st.tEarlySen, ccAdj := st.ccAdj, ccAdjNS := st.ccAdjNS,
    prematSenes := st.prematSenes, cropDead := st.cropDead, protectedSeed := ge.s.protectedSeed }

/-- the `CropDay` of the day.  Steps 3–8 read only `dap`, `zRoot`, `zRootNp`, `growthStage`
(yesterday's stage: step 10 runs after `irrigation`); steps 12–13 read the rest, which is the
state after steps 9–11. -/
def cropDayOf (P : DayParams α) (st : DayState' α) (tc : DayCounters α) (rd : RdOut α)
    (ge : GermOut α) (cc : CcState α) : CropDay α :=
  { dap := tc.dap, gdd := tc.gdd, gddCum := tc.gddCum, zRoot := rd.zRoot,
    zRootNp := zRootNpOf P.cx.zMinNp rd.zRoot P.W.crop.tr.zMin, rCor := rd.rCor,
    growthStage := st.growthStage, delayedCds := ge.s.delayedCds,
    delayedGdds := ge.s.delayedGdds, ccxW := cc.ccxW, ccAdj := cc.ccAdj, ccxAct := cc.ccxAct,
    cc := cc.cc, prematSenes := cc.prematSenes, ccxWNS := cc.ccxWNS, ccAdjNS := cc.ccAdjNS,
    ccNS := cc.ccNS, ccPrev := cc.ccPrev, tEarlySen := cc.tEarlySen }

/-- the arguments of `HIref_current_day` (step 15) -/
def hiRefInOf (st : DayState' α) (tc : DayCounters α) (ge : GermOut α) (cc : CcState α)
    (t : TrOut α) : HiRefIn α :=
  { hiRef := st.hiRef, hiFinal := st.hiFinal, dap := natNum tc.dap,
    delayedCDs := ge.s.delayedCds, yieldForm := st.yieldForm, pctLagPhase := st.pctLagPhase,
    cc := t.st.cc, ccxW := cc.ccxW }

/-- `NewCond` as `harvest_index` finds it (step 17) -/
def hiStateOf (st : DayState' α) (tc : DayCounters α) (rd : RdOut α) (ge : GermOut α)
    (cc : CcState α) (t : TrOut α) (hr : HiRefOut α) (bio : α × α) : HiState α :=
  { zRoot := rd.zRoot, tEarlySen := cc.tEarlySen, hiRef := hr.hiRef, dap := natNum tc.dap,
    delayedCDs := ge.s.delayedCds, yieldForm := hr.yieldForm, biomass := bio.1,
    biomassNS := bio.2, cc := t.st.cc, preAdj := st.preAdj, fPre := st.fPre, fPol := st.fPol,
    sCor1 := st.sCor1, sCor2 := st.sCor2, fpostUpp := st.fpostUpp, fpostDwn := st.fpostDwn,
    fPost := st.fPost, hi := st.hi, hiAdj := st.hiAdj }

/-- the maturity test of step 19: `(CalendarType == 1 and dap >= Maturity) or
(CalendarType == 2 and gdd_cum >= Maturity)` -/
def matureTest (P : DayParams α) (tc : DayCounters α) : Bool :=
  decide ((P.W.crop.calendarType = 1 ∧ P.cx.cc.maturity ≤ natNum tc.dap) ∨
          (P.W.crop.calendarType = 2 ∧ P.cx.cc.maturity ≤ tc.gddCum))

/-- `day_submerged` after transpiration as a natural number: the test of `trSurface`
(`Model/Transpiration.lean`), which increments the counter when water is ponded and the counter is
below `LagAer`, written a second time.  That the two agree is read off the two definitions; no
theorem states it. -/
def daySubNext (lagAer : α) (gs : Bool) (pond : α) (ds : Nat) : Nat :=
  if gs then (if 0 < pond ∧ natNum ds < lagAer then ds + 1 else ds) else ds

def hiErr {β : Type} : Except String β → Except String β
  | .error e => .error ("E:" ++ e)
  | .ok b => .ok b

/-- every process of the day in the order of the Python; all outputs are kept -/
def fullDayTrace (F : Fn α) (T : TrigFn α) (P : DayParams α) (st : DayState' α) (D : DayIn' α) :
    Except String (FullTrace α) := do
  let W := P.W
  let fm := P.fm
  let S := st.water
  -- time counters
  let tc ← dayCounters P.cx st D
  -- 1. groundwater table
  let g ← optErr "E:unbound" (checkGroundwaterTable F st.cells W.waterTable D.zGW)
  -- 2. root development
  let rd ← rootDevelopment F P.cx.rd g.cells (natNum tc.dap) st.zRoot st.delayedCds tc.gddCum
            st.delayedGdds st.trRatio st.cc st.ccNS st.germination st.rCor st.tPot g.zGW tc.gdd
            D.gs W.waterTable
  -- 3. pre-irrigation
  let p ← optErr "E:index" (preIrrigationT F (zRootNpOf P.cx.zMinNp rd.zRoot W.crop.tr.zMin)
            g.cells D.gs W.irr.method (Int.ofNat tc.dap) rd.zRoot W.crop.tr.zMin W.netIrrSMT)
  -- 4. drainage
  let d := drainage F p.1
  -- 5. surface runoff
  let r ← optErr "E:index" (rainPartition F D.rain d.cells S.daySubmerged fm.srInhb fm.bunds
            fm.zBund (if fm.cnAdj then fm.cnAdjPct else 0) W.soil.cn W.soil.adjCN W.soil.zCN)
  -- 6. irrigation
  let i ← mapErr irrErrStr (irrigation F W.irr d.cells st.growthStage S.irrCum S.ePot S.tPot
            rd.zRoot tc.dap D.sched W.crop.tr.zMin W.crop.tr.aer W.soil.zTop D.gs D.rain r.runoff)
  -- 7. infiltration
  let f ← infiltration F d.cells S.pond r.infl i.irr W.irr.appEff fm.bunds fm.zBund d.deepPerc
            r.runoff D.gs
  -- 8. capillary rise
  let c ← mapErr crErrStr (capillaryRise F f.cells W.soil.nLayer W.soil.fshapeCR g.zGW W.waterTable)
  -- 9. germination
  let ge ← germination F st.germ P.zGerm c.cells P.cx.germThr P.cx.sown tc.gdd D.gs
  -- 10. growth stage
  let gst ← optErr "E:unbound" (growthStage W.crop.calendarType (natNum tc.dap) ge.s.delayedCds
              tc.gddCum ge.s.delayedGdds P.cx.canopy10 P.cx.maxCanopy W.crop.senescence D.gs
              st.growthStage)
  -- 11. canopy cover
  let cc ← canopyCover F P.cx.cc c.cells W.soil.zTop (ccStateOf st tc rd ge) tc.gdd D.et0 D.gs
  let C := cropDayOf P st tc rd ge cc
  -- 12. soil evaporation
  let e ← soilEvaporation F (dayEvapParams W fm) (dayEvapState C S f.pond) c.cells
            (dayEvapDay D.water f.infl i.irr)
  -- 13. transpiration
  let t ← transpiration F e.cells W.soil.nComp W.soil.zTop W.crop.tr W.irr.method W.netIrrSMT
            (dayTrState C S e.pond r.daySub i.depletion i.taw) D.et0 W.co2Cur W.co2Ref D.gs tc.gdd
  -- 14. groundwater inflow
  let w ← optErr "E:index" (groundwaterInflow t.cells g.wtInSoil g.zGW)
  -- 15. reference harvest index
  let hr := hiRefCurrentDay F P.cx.hi (hiRefInOf st tc ge cc t) D.gs
  -- 16. biomass accumulation
  let bio := biomassAccumulation P.cx.bio (natNum tc.dap) ge.s.delayedCds hr.hiRef hr.pctLagPhase
              st.biomass st.biomassNS t.trAct t.trPotNS D.et0 D.gs
  -- 17. harvest index
  let hi ← hiErr (harvestIndex F T w.1 W.soil.zTop P.cx.hi P.cx.hik
              (hiStateOf st tc rd ge cc t hr bio) D.et0 D.tmax D.tmin D.gs)
  -- 18, 19. yields
  let y := yieldStep bio.2 bio.1 hi.hi hi.hiAdj P.cx.yldWC D.gs
  -- 20. root zone water
  let rz ← optErr "E:index" (rootZoneWater F w.1 rd.zRoot W.soil.zTop W.crop.tr.zMin W.crop.tr.aer)
  pure { tc := tc, g := g, rd := rd, p := p, d := d, r := r, i := i, f := f, c := c, ge := ge,
         gst := gst, cc := cc, e := e, t := t, w := w, hr := hr, bio := bio, hi := hi, y := y,
         rz := rz }

/-- the water processes of the trace -/
def FullTrace.water (X : FullTrace α) : DayTrace α :=
  { g := X.g, p := X.p, d := X.d, r := X.r, i := X.i, f := X.f, c := X.c, e := X.e, t := X.t,
    w := X.w, rz := X.rz }

/-- the `CropDay` of the trace -/
def FullTrace.cropDay (P : DayParams α) (st : DayState' α) (X : FullTrace α) : CropDay α :=
  cropDayOf P st X.tc X.rd X.ge X.cc

/-- `crop_mature` after step 19 -/
def matureAfter (P : DayParams α) (st : DayState' α) (D : DayIn' α) (X : FullTrace α) : Bool :=
  st.cropMature || (D.gs && matureTest P X.tc)

/-- step 21 / the "Irrigation" block of the output section: `(IrrDay, IrrTot, irr_net_cum)` -/
def irrReportOf (P : DayParams α) (D : DayIn' α) (X : FullTrace α) : α × α × α :=
  irrReport P.W.irr.method X.i.irr X.i.irrCum X.t.irrNet X.t.st.irrNetCum X.p.2 D.gs

/-- `NewCond` at the end of the function -/
def stateAfter (P : DayParams α) (st : DayState' α) (D : DayIn' α) (X : FullTrace α) :
    DayState' α :=
  let mature := matureAfter P st D X
  let endc : Bool := decide (0 ≤ D.season) && (mature || X.cc.cropDead || D.lastDay)
  { cells := X.w.1,
    pond := X.t.st.pond,
    daySubmerged := daySubNext P.W.crop.tr.lagAer D.gs X.e.pond X.r.daySub,
    irrCum := X.i.irrCum, ePot := X.e.epot, tPot := X.t.st.tPot, wSurf := X.e.wSurf,
    evapZ := X.e.evapZ, stage2 := X.e.stage2, wStage2 := X.e.wStage2,
    ageDaysNS := X.t.st.ageDaysNS, ageDays := X.t.st.ageDays, aerDays := X.t.st.aerDays,
    irrNetCum := (irrReportOf P D X).2.2, trRatio := X.t.st.trRatio,
    dap := X.tc.dap, gddCum := X.tc.gddCum,
    zRoot := X.rd.zRoot, rCor := X.rd.rCor, growthStage := X.gst,
    germination := X.ge.s.germination, protectedSeed := X.cc.protectedSeed,
    delayedCds := X.ge.s.delayedCds, delayedGdds := X.ge.s.delayedGdds,
    cc := X.t.st.cc, ccNS := X.cc.ccNS, cc0Adj := X.cc.cc0Adj, ccxAct := X.cc.ccxAct,
    ccxActNS := X.cc.ccxActNS, ccxW := X.cc.ccxW, ccxWNS := X.cc.ccxWNS,
    ccxEarlySen := X.cc.ccxEarlySen, ccPrev := X.cc.ccPrev, tEarlySen := X.cc.tEarlySen,
    ccAdj := X.cc.ccAdj, ccAdjNS := X.cc.ccAdjNS, prematSenes := X.cc.prematSenes,
    cropDead := X.cc.cropDead,
    hiRef := X.hr.hiRef, hiFinal := st.hiFinal, yieldForm := X.hr.yieldForm,
    pctLagPhase := X.hr.pctLagPhase, biomass := X.bio.1, biomassNS := X.bio.2,
    preAdj := X.hi.preAdj, fPre := X.hi.fPre, fPol := X.hi.fPol, sCor1 := X.hi.sCor1,
    sCor2 := X.hi.sCor2, fpostUpp := X.hi.fpostUpp, fpostDwn := X.hi.fpostDwn,
    fPost := X.hi.fPost, hi := X.hi.hi, hiAdj := X.hi.hiAdj,
    cropMature := mature,
    harvestFlag := st.harvestFlag || endc,
    depletion := if D.gs then X.t.st.depletion else X.rz.drRz,
    taw := if D.gs then X.t.st.taw else X.rz.tawRz,
    zGW := X.g.zGW, wtInSoil := X.g.wtInSoil,
    yieldPot := X.y.yieldPot, dryYield := X.y.dryYield, freshYield := X.y.freshYield }

/-- rows, summary and final state from the process outputs -/
def dayResultOf (P : DayParams α) (st : DayState' α) (D : DayIn' α) (X : FullTrace α) :
    DayResult α :=
  let o := dayOutOf P.W D.water X.water
  let s' := stateAfter P st D X
  let rep := irrReportOf P D X
  let endc : Bool := decide (0 ≤ D.season) && (s'.cropMature || s'.cropDead || D.lastDay)
  { state := s',
    storage := { tsc := D.tsc, gs := D.gs, dap := X.tc.dap, th := X.w.1.map (·.th) },
    flux := { tsc := D.tsc, season := D.season, dap := X.tc.dap, wr := X.rz.wrAct,
              zGW := X.g.zGW, pond := X.t.st.pond, irrDay := rep.1, infl := X.f.infl,
              runoff := X.f.runoffTot, deepPerc := X.f.deepPerc, cr := X.c.crTot, gwIn := X.w.2,
              es := X.e.esAct, esPot := X.e.esPot, tr := X.t.trAct, trPot := X.t.trPot0 },
    growth := { tsc := D.tsc, season := D.season, dap := X.tc.dap, gdd := X.tc.gdd,
                gddCum := X.tc.gddCum, zRoot := X.rd.zRoot, cc := X.t.st.cc, ccNS := X.cc.ccNS,
                biomass := X.bio.1, biomassNS := X.bio.2, hi := X.hi.hi, hiAdj := X.hi.hiAdj,
                dryYield := X.y.dryYield, freshYield := X.y.freshYield,
                yieldPot := X.y.yieldPot },
    summary :=
      if endc && !st.harvestFlag then
        some { season := D.season, tsc := D.tsc, dryYield := X.y.dryYield,
               freshYield := X.y.freshYield, yieldPot := X.y.yieldPot, irrTot := rep.2.1 }
      else none,
    crop := X.cropDay P st, water := o, irrTot := rep.2.1, endc := endc, trace := X }

/-- **`solution_single_time_step`** for one day -/
def fullDay (F : Fn α) (T : TrigFn α) (P : DayParams α) (st : DayState' α) (D : DayIn' α) :
    Except String (DayResult α) :=
  match fullDayTrace F T P st D with
  | .error e => .error e
  | .ok X => .ok (dayResultOf P st D X)

end
end Aqua
