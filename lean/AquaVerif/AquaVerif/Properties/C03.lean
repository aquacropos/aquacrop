import AquaVerif.Proofs.WaterDay
/-
Property C03 — soil water content and ponding stay within physical limits.

What is modelled: the water processes and their composition `waterDay` (see
`Properties/C01.lean`).  The invariant is `Cell.Inv` (`Proofs/Basic.lean`): a well-formed
compartment (`dz > 0`, `0 ≤ th_dry ≤ th_wp < th_fc ≤ th_s`, `0 ≤ tau ≤ 1`, `Ksat ≥ 0`),
`th_dry ≤ th ≤ th_s`, and an adjusted field capacity in `[th_fc, th_s]`.

What is quantified over: an arbitrary linearly ordered field, every `Fn`, every profile, parameter
record, state, day input and `CropDay`; each statement is about a successful call.

**Capillary rise is the one process that does not preserve `th ≤ th_s` exactly**: in its capped
branch it adds `dthMax ≤ round(th_fc_adj − th, 4)`, and the rounded room can exceed the true room
by up to 1/20000 — so the new content is bounded only by `max(th, th_fc_adj + 1/20000)`
(`C19.cr_le_fcadj_with_slack`), hence by `th_s + 1/20000` (`capillary_rise_inv_with_slack`).
The remaining steps of the day (evaporation, transpiration, groundwater inflow) are proved to
preserve `Cell.Inv`, not the slackened bound.  The day theorem `day_inv` is therefore stated under
the explicit hypothesis that capillary rise did not overshoot saturation on that day
(`hNo : ∀ y ∈ out.crCells, y.th ≤ y.c.thS`, about the ghost output "profile right after step 8");
`day_after_capillary_rise_with_slack` gives the unconditional `th ≤ th_s + 1/20000` at that point,
and `day_inv_no_table` discharges `hNo` when there is no water table (capillary rise is then the
identity).  Whether the slack is ever used on a real run is a search target of the oracle.

Law of `x ** 2`: the adjusted field capacity above a water table is computed with
`(…) ** 2` (C `pow`), so `th_fc ≤ th_fc_adj ≤ th_s` after the groundwater check needs
`PowSqLaw F` (`x ** 2 = x · x`, `Proofs/PowSq.lean`) — explicit in `groundwater_check_inv`, the
field `sq` of `DayPre`, `RunPre`, and `powSq` of `CfgOK.fn` at run level.

Other premises, all on the day's inputs: `DayPre` (see `Properties/C01.lean`); `DayTrPre` for
transpiration: idealised geometry (`dzsum` = running sum of the positive `dz`), non-negative
`aer_days_comp`, `SxTop`, `SxBot`, `r_cor`, positive rounded rooting depth, and in net-irrigation
mode layer-consistent `th_wp`/`th_fc`; with a water table the laws `0 < exp x`,
`|round(x,4) − x| ≤ 1/20000`, `round(x,4) > 0 → x > 0`.
Here: the theorems about each process and about one day (`waterDay`); the theorems along a run
are in `Properties/C03Run.lean`.
-/

set_option linter.unusedSectionVars false
namespace Aqua.C03
open Aqua
variable {α : Type} [Field α] [LinearOrder α] [IsStrictOrderedRing α]

/-! ### one preservation theorem per process -/

/-- The groundwater check preserves the invariant (`th_dry ≤ th ≤ th_s` and
`th_fc ≤ th_fc_adj ≤ th_s` hold afterwards; premise: `x ** 2 = x · x`). -/
theorem groundwater_check_inv {F : Fn α} (hF : PowSqLaw F) (cells : List (Cell α)) (wt : Nat)
    (zGW : α) (r : GwtOut α) (hinv : ∀ x ∈ cells, x.Inv) (h : checkGroundwaterTable F cells wt zGW = some r) :
    ∀ y ∈ r.cells, y.Inv :=
  checkGroundwaterTable_inv_any hF cells wt zGW r hinv h

/-- Pre-irrigation with `0 ≤ NetIrrSMT ≤ 100` preserves the invariant and raises no compartment
above field capacity. -/
theorem pre_irrigation_inv (F : Fn α) (npRound : Bool) (cells : List (Cell α)) (gs : Bool)
    (m : Nat) (dap : Int) (zRoot zMin smt : α) (r : List (Cell α) × α)
    (h0 : 0 ≤ smt) (h100 : smt ≤ 100) (hinv : ∀ x ∈ cells, x.Inv)
    (h : preIrrigationT F npRound cells gs m dap zRoot zMin smt = some r) :
    ∀ y ∈ r.1, y.Inv ∧ ∃ x ∈ cells, y.c = x.c ∧ x.th ≤ y.th ∧ y.th ≤ max x.th x.c.thFC :=
  preIrrigationR_inv _ cells gs m dap zRoot zMin smt r h0 h100 hinv h

/-- Drainage preserves the invariant (premises: `1 ≤ exp x` for `x ≥ 0`; `DrainPre` = invariant
+ `0 ≤ dzsum` + `th_fc < th_s` for every compartment). -/
theorem drainage_inv (F : Fn α) (E : ExpLaws F) (cells : List (Cell α))
    (h : ∀ x ∈ cells, DrainPre x) : ∀ y ∈ (drainage F cells).cells, y.Inv :=
  Aqua.drainage_inv F E cells h

/-- Infiltration preserves the invariant; the ponding depth stays non-negative, stays below the
bund height, and is zero without bunds (or with bunds not higher than 0.001 mm). -/
theorem infiltration_inv {F : Fn α} {cells : List (Cell α)}
    {pond infl irr appEff zBund dp0 ro0 : α} {bunds gs : Bool} {out : InfOut α}
    (h : infiltration F cells pond infl irr appEff bunds zBund dp0 ro0 gs = .ok out)
    (hinv : ∀ c ∈ cells, c.Inv) (hp : 0 ≤ pond) :
    (∀ c ∈ out.cells, c.Inv) ∧ 0 ≤ out.pond ∧ (bunds = true → pond ≤ zBund → out.pond ≤ zBund) ∧
    (bunds = false ∨ zBund ≤ 0.001 → out.pond = 0) :=
  Aqua.infiltration_inv h hinv hp

/-- Capillary rise, honestly: afterwards `th_dry ≤ th ≤ th_s + 1/20000` (and the rest of the
invariant) — the bound `th ≤ th_s` itself is **not** preserved (premises: the three laws of `exp`
and 4-decimal rounding). -/
theorem capillary_rise_inv_with_slack (F : Fn α) (hE : GwExpLaws F) (hR : GwRoundLaws F)
    (hS : GwRoundSign F) (cells : List (Cell α)) (nLayer : Nat) (fshape zGW : α) (wt : Nat)
    (r : CROut α) (hinv : ∀ x ∈ cells, x.Inv)
    (h : capillaryRise F cells nLayer fshape zGW wt = .ok r) :
    ∀ y ∈ r.cells, y.c.WF ∧ y.c.thDry ≤ y.th ∧ y.th ≤ y.c.thS + 1 / 20000 ∧
      y.c.thFC ≤ y.fcAdj ∧ y.fcAdj ≤ y.c.thS :=
  capillaryRise_inv_slack F hE hR hS cells nLayer fshape zGW wt r hinv h

/-- Soil evaporation preserves the invariant (extraction is limited to the water above
air-dry) — no premise beyond the invariant. -/
theorem evaporation_inv (F : Fn α) (P : EvapParams α) (S : EvapState α) (cells : List (Cell α))
    (D : EvapDay α) (out : EvapOut α) (h : soilEvaporation F P S cells D = .ok out)
    (hinv : ∀ x ∈ cells, x.Inv) : ∀ x ∈ out.cells, x.Inv :=
  soilEvap_inv F P S cells D out h hinv

/-- Evaporation never makes the ponded water negative, and (given `0 ≤ EsPot`) only lowers it;
without ponded water it leaves the surface storage alone. -/
theorem evaporation_pond (F : Fn α) (P : EvapParams α) (S : EvapState α) (cells : List (Cell α))
    (D : EvapDay α) (out : EvapOut α) (h : soilEvaporation F P S cells D = .ok out)
    (hdz : ∀ x ∈ cells, 0 < x.c.dz) :
    (0 ≤ S.pond → 0 ≤ out.pond ∧ (0 ≤ out.esPot → out.pond ≤ S.pond)) ∧
      (S.pond ≤ 0 → out.pond = S.pond) :=
  ⟨fun hp => soilEvap_pond F P S cells D out h hp,
   soilEvap_pond_of_nonpos F P S cells D out h⟩

/-- Transpiration preserves the invariant (premises: idealised geometry, non-negative aeration
counters, sink terms, root correction and submergence counter, positive rooting depth; in
net-irrigation mode `0 ≤ NetIrrSMT ≤ 100` and layer-consistent `th_wp`, `th_fc`). -/
theorem transpiration_inv {F : Fn α} {cells : List (Cell α)} {nComp : Nat} {zTop : α}
    {crop : TrCrop α} {m : Nat} {smt : α} {st : TrState α} {et0 cur ref gdd : α} {gs : Bool}
    {out : TrOut α} (wp fc : Nat → α) (hgeo : TrGeom 0 cells) (hinv : ∀ x ∈ cells, x.Inv)
    (haer : ∀ x ∈ cells, 0 ≤ x.aer)
    (hsxT : 0 ≤ crop.sxTop) (hsxB : 0 ≤ crop.sxBot) (hrc : 0 ≤ st.rCor)
    (hrd : 0 < trRootdepth F crop st) (hds : 0 ≤ st.daySubmerged)
    (hnet : m = 4 → 0 ≤ smt ∧ smt ≤ 100 ∧ TrLayersOK wp fc 0 cells)
    (h : transpiration F cells nComp zTop crop m smt st et0 cur ref gs gdd = .ok out) :
    ∀ y ∈ out.cells, y.Inv :=
  transp_inv wp fc hgeo hinv haer hsxT hsxB hrc hrd hds hnet h

/-- Transpiration never makes the ponded water negative and leaves an empty surface alone; what
it takes from the pond is the ghost `trAct0`. -/
theorem transpiration_pond {F : Fn α} {cells : List (Cell α)} {nComp : Nat} {zTop : α}
    {crop : TrCrop α} {m : Nat} {smt : α} {st : TrState α} {et0 cur ref gdd : α} {gs : Bool}
    {out : TrOut α}
    (h : transpiration F cells nComp zTop crop m smt st et0 cur ref gs gdd = .ok out) :
    out.st.pond + out.trAct0 = st.pond ∧ (0 ≤ st.pond → 0 ≤ out.st.pond) ∧
      (st.pond ≤ 0 → out.st.pond = st.pond) :=
  transp_pond h

/-- Groundwater inflow preserves the invariant (water content is only ever set to `th_s`). -/
theorem groundwater_inflow_inv (cells : List (Cell α)) (wt : Bool) (zGW : α)
    (r : List (Cell α) × α) (hinv : ∀ x ∈ cells, x.Inv)
    (h : groundwaterInflow cells wt zGW = some r) : ∀ y ∈ r.1, y.Inv :=
  forall_of_forall₂ (groundwaterInflow_spec cells wt zGW r h).1 (fun _ _ h ix => h.inv ix (le_refl _)) hinv

/-- Reported root-zone storage (and the total available water) is never negative; depletion never
exceeds the total available water. -/
theorem wr_nonneg (F : Fn α) (cells : List (Cell α)) (zRoot zTop zMin aer : α)
    (r : RZ α) (h : rootZoneWater F cells zRoot zTop zMin aer = some r) :
    0 ≤ r.wrAct ∧ 0 ≤ r.tawRz ∧ 0 ≤ r.tawZt ∧ r.drRz ≤ r.tawRz ∧ r.drZt ≤ r.tawZt :=
  rootZoneWater_ranges F cells zRoot zTop zMin aer r h

/-! ### the whole day -/

variable {F : Fn α} {W : WaterParams α} {fm : FieldMngt α} {C : CropDay α}
  {cells : List (Cell α)} {S : DayState α} {D : DayIn α} {out : DayOut α}

/-- Right after capillary rise every compartment is within `th_dry ≤ th ≤ th_s + 1/20000`, with
`th_fc ≤ th_fc_adj ≤ th_s` — unconditionally under `DayPre` (and the rounding laws when there is a
water table). -/
theorem day_after_capillary_rise_with_slack (h : waterDay F W fm C cells S D = .ok out)
    (hP : DayPre F W cells S)
    (hL : W.waterTable = 1 → GwExpLaws F ∧ GwRoundLaws F ∧ GwRoundSign F) :
    ∀ y ∈ out.crCells, y.c.WF ∧ y.c.thDry ≤ y.th ∧ y.th ≤ y.c.thS + 1 / 20000 ∧
      y.c.thFC ≤ y.fcAdj ∧ y.fcAdj ≤ y.c.thS := by
  obtain ⟨T, hs, rfl⟩ := waterDay_ok h
  exact day_cr_inv_slack hs (day_mid hs hP).f_inv hL

/-- **Every compartment ends the day between air-dry and saturation** (full `Cell.Inv`), for every
`CropDay` — under `DayPre`, `DayTrPre`, the rounding laws, and the hypothesis `hNo` that capillary
rise did not lift a compartment above saturation that day (it can, by at most 1/20000: see the
header). -/
theorem day_inv (h : waterDay F W fm C cells S D = .ok out) (hP : DayPre F W cells S)
    (wp fc : Nat → α) (hT : DayTrPre F W C cells wp fc)
    (hL : W.waterTable = 1 → GwExpLaws F ∧ GwRoundLaws F ∧ GwRoundSign F)
    (hNo : ∀ y ∈ out.crCells, y.th ≤ y.c.thS) : ∀ y ∈ out.cells, y.Inv := by
  obtain ⟨T, hs, rfl⟩ := waterDay_ok h
  exact (day_late_inv hs hP.smt wp fc hT
    (day_cr_inv hs (day_mid hs hP).f_inv hL hNo)).2.2

/-- Without a water table the hypothesis about capillary rise (and the rounding laws) are not
needed. -/
theorem day_inv_no_table (h : waterDay F W fm C cells S D = .ok out) (hP : DayPre F W cells S)
    (wp fc : Nat → α) (hT : DayTrPre F W C cells wp fc) (hwt : W.waterTable ≠ 1) :
    ∀ y ∈ out.cells, y.Inv := by
  obtain ⟨T, hs, rfl⟩ := waterDay_ok h
  have hc : ∀ y ∈ T.c.cells, y.Inv := by
    rw [daySteps_cr_no_table hs hwt]
    exact (day_mid hs hP).f_inv
  exact (day_late_inv hs hP.smt wp fc hT hc).2.2

/-- **Ponded water** at the end of the day is, under `DayPre`, never negative, is zero whenever no
bunds (or bunds not higher than 0.001 mm) are configured, and with bunds — given non-negative
reported `EsPot` and `TrPot`, an integral `LagAer` and incoming ponding not above the bund height —
does not exceed the bund height. -/
theorem day_pond (h : waterDay F W fm C cells S D = .ok out) (hP : DayPre F W cells S) :
    0 ≤ out.pond ∧ (fm.bunds = false ∨ fm.zBund ≤ 0.001 → out.pond = 0) ∧
    (fm.bunds = true → S.pond ≤ fm.zBund → 0 ≤ out.esPot → 0 ≤ out.trPot → LagAerIntegral W →
      out.pond ≤ fm.zBund) := by
  obtain ⟨T, hs, rfl⟩ := waterDay_ok h
  have hm := day_mid hs hP
  obtain ⟨p1, p2, p3⟩ := day_pond hs hm.f_pond
  refine ⟨p1, fun hb => p2 (hm.f_pond_zero hb), fun hb hz he ht hl => ?_⟩
  exact le_trans (p3 he ht (hl _)) (hm.f_pond_le hb hz)

/-- Reported root-zone storage `Wr` is never negative — no premise. -/
theorem day_wr_nonneg (h : waterDay F W fm C cells S D = .ok out) : 0 ≤ out.wr := by
  obtain ⟨T, hs, rfl⟩ := waterDay_ok h
  exact (rootZoneWater_ranges F _ _ _ _ _ _ hs.hrz).1

/-! ### non-vacuity -/

/-- the concrete day of `Proofs/WaterDay.lean` (water table at 1 m, positive capillary rise)
satisfies every hypothesis of `day_inv`, including the no-overshoot premise -/
example : ∃ out, waterDay DayExample.Fq DayExample.Wq DayExample.fmq DayExample.Cq
      DayExample.cellsq DayExample.Sq DayExample.Dq = .ok out ∧ 0 < out.cr ∧
    (∀ y ∈ out.cells, y.Inv) ∧ out.pond = 0 := by
  obtain ⟨out, h, hNo, hcr, _⟩ := DayExample.runs
  refine ⟨out, h, hcr, day_inv h DayExample.dayPre _ _ DayExample.dayTrPre
    (fun _ => ⟨DayExample.Fq_gw.1, DayExample.Fq_gw.2.1, DayExample.Fq_gw.2.2.1⟩) hNo, ?_⟩
  exact (day_pond h DayExample.dayPre).2.1 (Or.inl rfl)

end Aqua.C03
