import AquaVerif.Proofs.CatalogueCfg
import AquaVerif.Proofs.RunClosedEs
import AquaVerif.Proofs.Day
import AquaVerif.Properties.C04
/-
Property C04 for the full day and along a run: the theorems of `Properties/C04.lean` on the rows
of `fullDay` and on every simulated day of every run of `runModel` (the run-level lemma files rest
on the day-level theorems of that file, so these cannot stand in it).
-/

set_option linter.unusedSectionVars false
namespace Aqua.C04
open Aqua
variable {α : Type} [Field α] [LinearOrder α] [IsStrictOrderedRing α]

/-! ### the full day -/

/-- **Full day.** Outside a growing season transpiration, potential transpiration, irrigation and
days-after-planting of the emitted rows are zero, and so are canopy, biomass, harvest indices and
yields (`Model/Day.lean`, tied by the `full_day` replay). -/
theorem full_day_offseason_zero {α : Type} [Field α] [LinearOrder α] [IsStrictOrderedRing α]
    {F : Fn α} {T : TrigFn α} {P : DayParams α} {st : DayState' α} {D : DayIn' α} {r : DayResult α}
    (h : fullDay F T P st D = .ok r) (hg : D.gs = false) :
    (r.flux.tr = 0 ∧ r.flux.trPot = 0 ∧ r.flux.irrDay = 0 ∧ r.flux.dap = 0) ∧
    (r.growth.dap = 0 ∧ r.growth.gdd = 0.3 ∧ r.growth.gddCum = 0 ∧ r.growth.zRoot = 0 ∧
      r.growth.cc = 0 ∧ r.growth.ccNS = 0 ∧ r.growth.biomass = 0 ∧ r.growth.biomassNS = 0 ∧
      r.growth.hi = 0 ∧ r.growth.hiAdj = 0 ∧ r.growth.dryYield = 0 ∧ r.growth.freshYield = 0 ∧
      r.growth.yieldPot = 0) ∧
    (r.state.germination = false ∧ r.state.delayedCds = 0 ∧ r.state.delayedGdds = 0 ∧
      r.state.growthStage = 0 ∧ r.state.hiRef = 0 ∧ r.state.ccAdj = 0 ∧ r.state.ccxAct = 0 ∧
      r.state.ccxW = 0 ∧ r.state.irrNetCum = r.water.preIrr ∧ r.state.rCor = st.rCor) :=
  fullDay_offseason_zero h hg

/-! ### run level, per-day premises discharged (`Proofs/RunClosed*.lean`) -/

section closed
variable {α : Type} [Field α] [LinearOrder α] [IsStrictOrderedRing α]

/-- **Run level, closed.** On every simulated day of every run: `0 ≤ EsPot`, `0 ≤ Es ≤ EsPot`,
`0 ≤ TrPot`, `0 ≤ Tr ≤ TrPot`, deep percolation / capillary rise / groundwater inflow /
irrigation ≥ 0, ponding within the bunds.  Premises on configuration and weather (`CfgOK`, `CfgTrOK`,
`CfgRwOK`, `CfgEsOK`, `WeatherOK`), plus — with a water table — `ResidualW`. -/
theorem run_flux_closed {F : Fn α} {T : TrigFn α} {cfg : RunCfg α} {s : RunState α} {A : α}
    (hC : CfgOK F T cfg) (hT : CfgTrOK F cfg A) (hJ : CfgRwOK F cfg) (hE : CfgEsOK cfg)
    (hW : WeatherOK F cfg) (hr : RunReach F T cfg s) (hR : ∀ d ∈ s.daysRev, ResidualW d) :
    ∀ d ∈ s.daysRev,
      (0 ≤ d.r.flux.esPot ∧ 0 ≤ d.r.flux.es ∧ d.r.flux.es ≤ d.r.flux.esPot) ∧
      (0 ≤ d.r.flux.trPot ∧ 0 ≤ d.r.flux.tr ∧ d.r.flux.tr ≤ d.r.flux.trPot) ∧
      (0 ≤ d.r.flux.deepPerc ∧ 0 ≤ d.r.flux.cr ∧ 0 ≤ d.r.flux.gwIn ∧ 0 ≤ d.r.water.irr ∧
        (d.P.W.irr.method ≠ 4 → 0 ≤ d.r.flux.irrDay)) ∧
      (0 ≤ d.r.state.pond ∧
        (d.P.fm.bunds = false ∨ d.P.fm.zBund ≤ 0.001 → d.r.state.pond = 0) ∧
        (d.P.fm.bunds = true → d.st.pond ≤ d.P.fm.zBund → d.r.state.pond ≤ d.P.fm.zBund)) :=
  Aqua.run_flux_closed hC hT hJ hE hW hr hR
end closed

/-! ### run level, catalogue configurations (`Proofs/Catalogue*.lean`): every hypothesis is membership in a table
regenerated from the sources, a fact about initialisation outputs, or a premise on the weather -/

section catalogueRun
open Aqua.Response Aqua.HarvestIndexReal

/-- **Run level, catalogue configurations.** `0 ≤ Es ≤ EsPot`, `0 ≤ Tr ≤ TrPot`, non-negative deep
percolation / capillary rise / groundwater inflow / irrigation, ponding within the bunds, on every
simulated day of every run of every catalogue configuration with `ET0 > 0` (with a water table:
under `ResidualW`). -/
theorem catalogue_run_flux {cfg : RunCfg ℝ} {s : RunState ℝ} (h : CatCfg cfg)
    (het : ∀ t, 0 < (cfg.weather t).et0) (hr : RunReach realFn realTrig cfg s)
    (hR : ∀ d ∈ s.daysRev, ResidualW d) :
    ∀ d ∈ s.daysRev,
      (0 ≤ d.r.flux.esPot ∧ 0 ≤ d.r.flux.es ∧ d.r.flux.es ≤ d.r.flux.esPot) ∧
      (0 ≤ d.r.flux.trPot ∧ 0 ≤ d.r.flux.tr ∧ d.r.flux.tr ≤ d.r.flux.trPot) ∧
      (0 ≤ d.r.flux.deepPerc ∧ 0 ≤ d.r.flux.cr ∧ 0 ≤ d.r.flux.gwIn ∧ 0 ≤ d.r.water.irr ∧
        (d.P.W.irr.method ≠ 4 → 0 ≤ d.r.flux.irrDay)) ∧
      (0 ≤ d.r.state.pond ∧
        (d.P.fm.bunds = false ∨ d.P.fm.zBund ≤ 0.001 → d.r.state.pond = 0) ∧
        (d.P.fm.bunds = true → d.st.pond ≤ d.P.fm.zBund → d.r.state.pond ≤ d.P.fm.zBund)) :=
  Aqua.catalogue_run_flux h het hr hR
end catalogueRun

end Aqua.C04
