import AquaVerif.Proofs.Run
/-
**What one `_perform_timestep` of the run model reads of the
configuration**, and the two relational theorems that follow from it:

* `performR_agree` (the same error, or new states related by `AgreeStep`): a step from state `s`
  reads, of the day-indexed
  inputs, exactly the forcing of day `s.t` (`DayEq`: the weather row, the water-table depth —
  only with a water table —, the two schedule entries) and, of the season-indexed inputs, the
  crop of the current season and — only when the step starts a new season — the crop of that
  season.
* `run_weather_outside_window` (no premise on the clock): the run reads `cfg.weather t`,
  `cfg.zgw t`, `Schedule[t]` only for `t + 2 ≤ cfg.clock.n`, i.e. for `t < n − 1`: the last row of
  the window is never read.
* the clock invariant `t + 2 ≤ n` of all states reachable from `runInit` (no `WF` needed).

The no-look-ahead theorem proper is in `Proofs/RunForcingPrefix.lean`.
-/

set_option linter.unusedSectionVars false
namespace Aqua
open Aqua.Clock
variable {α : Type} [Field α] [LinearOrder α] [IsStrictOrderedRing α]

/-! ## 1. the parts of a configuration -/

/-- **the static part**: everything of a configuration that is indexed neither by the day nor by
the season, except the clock configuration (of which only `sim_off_season` is listed here; the two
relational theorems constrain the rest of the clock differently). -/
structure StaticEq (cfg cfg' : RunCfg α) : Prop where
  offSeason : cfg'.clock.offSeason = cfg.clock.offSeason
  W0 : cfg'.W0 = cfg.W0
  zGerm : cfg'.zGerm = cfg.zGerm
  irr : cfg'.irr.irr = cfg.irr.irr
  netIrrSMT : cfg'.irr.netIrrSMT = cfg.irr.netIrrSMT
  wetSurf : cfg'.irr.wetSurf = cfg.irr.wetSurf
  fallowIrr : cfg'.fallowIrr.irr = cfg.fallowIrr.irr
  fallowNetIrrSMT : cfg'.fallowIrr.netIrrSMT = cfg.fallowIrr.netIrrSMT
  fallowWetSurf : cfg'.fallowIrr.wetSurf = cfg.fallowIrr.wetSurf
  fm : cfg'.fm = cfg.fm
  fallowFm : cfg'.fallowFm = cfg.fallowFm
  bundWater : cfg'.bundWater = cfg.bundWater
  fallowCrop : cfg'.fallowCrop = cfg.fallowCrop
  co2Cur : cfg'.co2Cur = cfg.co2Cur
  thini : cfg'.thini = cfg.thini
  init : cfg'.init = cfg.init

/-- **the forcing of day `t`**: the weather row, the water-table depth (read only with a water
table) and the irrigation-schedule entries of the day -/
structure DayEq (cfg cfg' : RunCfg α) (t : Nat) : Prop where
  weather : cfg'.weather t = cfg.weather t
  zgw : cfg.W0.waterTable = 1 → cfg'.zgw t = cfg.zgw t
  sched : cfg'.irr.sched t = cfg.irr.sched t
  fallowSched : cfg'.fallowIrr.sched t = cfg.fallowIrr.sched t

/-- the crop of season `k` (nothing for `k < 0`: the fallow filler crop is static) -/
def CropEq (cfg cfg' : RunCfg α) (k : Int) : Prop :=
  0 ≤ k → cfg'.seasonCrop k.toNat = cfg.seasonCrop k.toNat

theorem StaticEq.refl (cfg : RunCfg α) : StaticEq cfg cfg :=
  ⟨rfl, rfl, rfl, rfl, rfl, rfl, rfl, rfl, rfl, rfl, rfl, rfl, rfl, rfl, rfl, rfl⟩

theorem StaticEq.symm {cfg cfg' : RunCfg α} (h : StaticEq cfg cfg') : StaticEq cfg' cfg :=
  ⟨h.offSeason.symm, h.W0.symm, h.zGerm.symm, h.irr.symm, h.netIrrSMT.symm, h.wetSurf.symm,
   h.fallowIrr.symm, h.fallowNetIrrSMT.symm, h.fallowWetSurf.symm, h.fm.symm, h.fallowFm.symm,
   h.bundWater.symm, h.fallowCrop.symm, h.co2Cur.symm, h.thini.symm, h.init.symm⟩

theorem DayEq.symm {cfg cfg' : RunCfg α} (hs : StaticEq cfg cfg') {t : Nat} (h : DayEq cfg cfg' t) :
    DayEq cfg' cfg t :=
  ⟨h.weather.symm, fun hw => (h.zgw (by rw [← hs.W0]; exact hw)).symm, h.sched.symm,
   h.fallowSched.symm⟩

theorem CropEq.symm {cfg cfg' : RunCfg α} {k : Int} (h : CropEq cfg cfg' k) : CropEq cfg' cfg k :=
  fun hk => (h hk).symm

/-! ## 2. one step, decomposed -/

section step
variable {F : Fn α} {T : TrigFn α} {cfg cfg' : RunCfg α} {s : RunState α}

theorem cropOf_agree (h : StaticEq cfg cfg') {season : Int} (hc : CropEq cfg cfg' season) :
    cropOf cfg' season = cropOf cfg season := by
  unfold cropOf
  by_cases h0 : 0 ≤ season
  · rw [if_pos h0, if_pos h0, hc h0]
  · rw [if_neg h0, if_neg h0, h.fallowCrop]

theorem paramsOf_agree (h : StaticEq cfg cfg') {season : Int} (hc : CropEq cfg cfg' season)
    (gs : Bool) : paramsOf cfg' season gs = paramsOf cfg season gs := by
  unfold paramsOf
  by_cases h0 : 0 ≤ season
  · simp only [if_pos h0, cropOf_agree h hc, h.W0, h.irr, h.netIrrSMT, h.wetSurf, h.fm, h.fallowFm,
      h.zGerm, h.co2Cur]
  · simp only [if_neg h0, cropOf_agree h hc, h.W0, h.fallowIrr, h.fallowNetIrrSMT, h.fallowWetSurf,
      h.fm, h.fallowFm, h.zGerm, h.co2Cur]

theorem dayInOf_agree (h : StaticEq cfg cfg') (hd : DayEq cfg cfg' s.t) (ph : Option (Nat × Int)) :
    dayInOf cfg' s ph = dayInOf cfg s ph := by
  rw [dayInOf_congr ph (by rw [h.W0]) hd.weather hd.zgw]
  unfold dayInOf irrSetOf
  by_cases h0 : 0 ≤ s.season
  · simp only [if_pos h0, hd.sched]
  · simp only [if_neg h0, hd.fallowSched]

theorem solution_agree (h : StaticEq cfg cfg') (hd : DayEq cfg cfg' s.t)
    (hc : CropEq cfg cfg' s.season) (ph : Option (Nat × Int)) :
    solution F T cfg' s ph = solution F T cfg s ph := by
  unfold solution
  simp only [dayInOf_agree h hd ph, paramsOf_agree h hc]

theorem solStep_agree (h : StaticEq cfg cfg') (hd : DayEq cfg cfg' s.t)
    (hc : CropEq cfg cfg' s.season)
    (hinfo : seasonInfo cfg'.clock s.season = seasonInfo cfg.clock s.season) :
    solStep F T cfg' s = solStep F T cfg s := by
  unfold solStep
  rw [hinfo]
  by_cases hf : s.finished = true
  · rw [if_pos hf, if_pos hf]
  · rw [if_neg hf, if_neg hf]
    cases seasonInfo cfg.clock s.season with
    | error e => rfl
    | ok ph => exact solution_agree h hd hc ph

theorem resetState_agree (h : StaticEq cfg cfg') (crop : CropParams α) (st : DayState' α) :
    resetState cfg' crop st = resetState cfg crop st := by
  unfold resetState resetPond
  rw [h.offSeason, h.thini, h.fm, h.bundWater]

/-- the result of `update_time` under a configuration that gives the new season another crop -/
def reCrop (cfg cfg' : RunCfg α) (u a : RunState α) : RunState α :=
  if a.season = u.season then a
  else { a with day := resetState cfg (cfg'.seasonCrop a.season.toNat) u.day }

theorem updateTimeR_agree (h : StaticEq cfg cfg') (hclk : cfg'.clock = cfg.clock)
    (u : RunState α) :
    updateTimeR cfg' u = (updateTimeR cfg u).map (reCrop cfg cfg' u) := by
  unfold updateTimeR
  rw [hclk]
  cases updateTime cfg.clock u.clockOf with
  | error e => rfl
  | ok c' =>
    simp only
    by_cases hs : c'.season = u.season
    · rw [if_pos hs, if_pos hs]
      simp only [Except.map, reCrop, if_true]
    · rw [if_neg hs, if_neg hs]
      simp only [Except.map, reCrop, if_neg hs, resetState_agree h]

theorem reCrop_fields (u a : RunState α) :
    (reCrop cfg cfg' u a).t = a.t ∧ (reCrop cfg cfg' u a).season = a.season ∧
      (reCrop cfg cfg' u a).finished = a.finished ∧ (reCrop cfg cfg' u a).daysRev = a.daysRev := by
  unfold reCrop
  by_cases hs : a.season = u.season
  · rw [if_pos hs]; exact ⟨rfl, rfl, rfl, rfl⟩
  · rw [if_neg hs]; exact ⟨rfl, rfl, rfl, rfl⟩

theorem checkFinishedR_agree (hclk : cfg'.clock = cfg.clock) (s1 : RunState α) :
    checkFinishedR cfg' s1 = checkFinishedR cfg s1 := by
  unfold checkFinishedR
  rw [hclk]

def AgreeStep (cfg cfg' : RunCfg α) (s a a' : RunState α) : Prop :=
  a'.t = a.t ∧ a'.season = a.season ∧ a'.finished = a.finished ∧ a'.daysRev = a.daysRev ∧
    ((a.season = s.season ∨ cfg'.seasonCrop a.season.toNat = cfg.seasonCrop a.season.toNat) →
      a' = a)

theorem performR_agree (h : StaticEq cfg cfg') (hclk : cfg'.clock = cfg.clock)
    (hd : DayEq cfg cfg' s.t) (hc : CropEq cfg cfg' s.season) :
    Steps.Rel (AgreeStep cfg cfg' s) (performR F T cfg s) (performR F T cfg' s) := by
  rw [performR_eq_solStep, performR_eq_solStep, solStep_agree h hd hc (by rw [hclk])]
  refine (Steps.Rel.diag (P := fun s1 => solStep F T cfg s = .ok s1) fun _ h1 => h1).bind ?_
  rintro s1 s1' ⟨e, h1⟩
  · rw [e, checkFinishedR_agree hclk, updateTimeR_agree h hclk]
    cases ha : updateTimeR cfg (checkFinishedR cfg s1) with
    | error e => exact rfl
    | ok a =>
    obtain ⟨_, _, hs1, _⟩ := solStep_ok h1
    have hu : (checkFinishedR cfg s1).season = s.season := hs1
    obtain ⟨f1, f2, f3, f4⟩ := reCrop_fields (cfg := cfg) (cfg' := cfg') (checkFinishedR cfg s1) a
    refine ⟨f1, f2, f3, f4, ?_⟩
    intro hcase
    unfold reCrop
    by_cases hs : a.season = (checkFinishedR cfg s1).season
    · rw [if_pos hs]
    · rw [if_neg hs]
      have hne : ¬ a.season = s.season := by rw [← hu]; exact hs
      have hce : cfg'.seasonCrop a.season.toNat = cfg.seasonCrop a.season.toNat := by
        rcases hcase with h' | h'
        · exact absurd h' hne
        · exact h'
      obtain ⟨c', _, _, _, _, hcs⟩ := updateTimeR_ok ha
      rcases hcs with ⟨e1, _⟩ | ⟨e1, e2⟩
      · exact absurd e1 hs
      · rw [hce, ← e2]

theorem performR_eq_of_agree (h : StaticEq cfg cfg') (hclk : cfg'.clock = cfg.clock)
    (hd : DayEq cfg cfg' s.t) (hcrop : cfg'.seasonCrop = cfg.seasonCrop) :
    performR F T cfg' s = performR F T cfg s :=
  (performR_agree h hclk hd fun _ => by rw [hcrop]).eq fun _ _ hR =>
    hR.2.2.2.2 (Or.inr (by rw [hcrop]))

end step

/-! ## 3. the clock never leaves the window (no well-formedness needed) -/

/-- `update_time` keeps `time_step_counter + 2 ≤ n_steps`: it evaluates `time_span[t + 1]` for the
new counter -/
theorem updateTime_tn {c : Cfg} {s c' : St} (h : updateTime c s = .ok c') (ht : s.t + 2 ≤ c.n) :
    c'.t + 2 ≤ c.n := by
  rcases updateTime_ok h with ⟨rfl, _⟩ | ⟨_, _, p, _, hp, _, rfl⟩ | ⟨_, _, h3, _, rfl⟩
  · exact ht
  · exact hp
  · exact h3

section window
variable {F : Fn α} {T : TrigFn α} {cfg cfg' : RunCfg α} {s : RunState α}

theorem runInit_tn {s0 : RunState α} (h : runInit cfg = .ok s0) : s0.t + 2 ≤ cfg.clock.n := by
  rw [(runInit_ok h).1]
  exact two_le_n_of_init (runInit_ok h).2

theorem performR_tn {a : RunState α} (h : performR F T cfg s = .ok a) (ht : s.t + 2 ≤ cfg.clock.n) :
    a.t + 2 ≤ cfg.clock.n := by
  obtain ⟨ph, r, s1, _, _, _, hs1, hu⟩ := performR_ok h
  obtain ⟨c', hc', hcl, _⟩ := updateTimeR_ok hu
  have h1 : (checkFinishedR cfg s1).clockOf.t = s.t := by rw [hs1]; rfl
  have := updateTime_tn hc' (by rw [h1]; exact ht)
  rw [← hcl] at this
  exact this

theorem run_tn (hr : RunReach F T cfg s) : s.t + 2 ≤ cfg.clock.n := by
  induction hr with
  | init h0 => exact runInit_tn h0
  | step _ hp ih => exact performR_tn hp ih

/-- two configurations that agree on everything the run can read: the static part, the clock, the
season crops, and the forcing of the days `t < n − 1` -/
structure AgreeInWindow (cfg cfg' : RunCfg α) : Prop where
  static : StaticEq cfg cfg'
  clock : cfg'.clock = cfg.clock
  crop : cfg'.seasonCrop = cfg.seasonCrop
  day : ∀ t, t + 2 ≤ cfg.clock.n → DayEq cfg cfg' t

theorem AgreeInWindow.sim (h : AgreeInWindow cfg cfg') :
    Steps.Sim (performR F T cfg) RunState.finished (performR F T cfg') RunState.finished
      (fun a a' => a' = a ∧ a.t + 2 ≤ cfg.clock.n) where
  step := fun ⟨e, ht⟩ => by
    rw [e, performR_eq_of_agree h.static h.clock (h.day _ ht) h.crop]
    exact Steps.Rel.diag fun a hp => performR_tn hp ht
  fin hR := by rw [hR.1]

theorem run_weather_outside_window (h : AgreeInWindow cfg cfg') (k : Nat) (s : RunState α)
    (ht : s.t + 2 ≤ cfg.clock.n) : runModel F T cfg' k s = runModel F T cfg k s := by
  rw [runModelR_eq, runModelR_eq]
  exact (h.sim.model _ k ⟨rfl, ht⟩).eq fun _ _ hR => hR.1

theorem runInit_window (h : AgreeInWindow cfg cfg') :
    Steps.Rel (fun a a' : RunState α => a' = a ∧ a.t + 2 ≤ cfg.clock.n) (runInit cfg)
      (runInit cfg') := by
  rw [runInit_congr h.clock h.static.init]
  exact Steps.Rel.diag fun a h0 => runInit_tn h0

theorem run_weather_outside_window_init (h : AgreeInWindow cfg cfg') (k : Nat) :
    (runInit cfg').bind (runModel F T cfg' k) = (runInit cfg).bind (runModel F T cfg k) := by
  refine Steps.Rel.eq (R := fun a a' => a' = a ∧ a.t + 2 ≤ cfg.clock.n) ?_ fun _ _ hR => hR.1
  exact (runInit_window h).bind fun a a' hR => by
    rw [runModelR_eq, runModelR_eq]; exact h.sim.model _ k hR

theorem reach_weather_outside_window (h : AgreeInWindow cfg cfg') (hr : RunReach F T cfg s) :
    RunReach F T cfg' s := by
  obtain ⟨s', hr', rfl, _⟩ := hr.sim (runInit_window h) (h.sim (F := F) (T := T)).step
  exact hr'

end window
end Aqua

#print axioms Aqua.performR_agree
#print axioms Aqua.run_tn
#print axioms Aqua.run_weather_outside_window
#print axioms Aqua.run_weather_outside_window_init
#print axioms Aqua.reach_weather_outside_window
