import AquaVerif.Proofs.SeasonIndep
import AquaVerif.Proofs.CropCalendar
import AquaVerif.Generated.ResetFields
import AquaVerif.Proofs.ResponseMono
/-
Property C08 — seasons are independent when the off-season is skipped.

What the models carry, and what is proved of them:

1. **Clock / season state machine** (`Aqua.Clock`, biophysics abstracted to an oracle
   `ev : Nat → Bool × Bool`).  For **every** well-formed configuration `c` with the off-season
   skipped, **every** oracle, **every** season `k` and **every** reachable first day `s` of season
   `k` (hence every history of earlier seasons): the clock-level state components are the reset
   ones (`dap = 0`, `crop_mature`, `crop_dead`, `harvest_flag` cleared), and every in-season
   execution path from `s` is matched step for step by the single-season configuration
   `single c k` started on that planting date with the shifted oracle — same
   `(dap, growing-season flag, mature, dead, end-of-season condition)` rows, the summary row
   written on the same relative day, the season ending in both or in neither.  So the rows of
   season `k` depend only on the planting index, the latest harvest date, the window end and the
   oracle restricted to the season — on nothing written before.
   NOT proved at this level: that the *oracle* of season `k` (maturity / death as decided by the
   biophysics) is itself independent of the earlier seasons — that is parts 3 and 4.
2. **CO2 factor**: the copy of the code executed at the start of seasons `k ≥ 1`
   (`reset_initial_conditions`) computes the same `crop.fCO2` as the copy executed for season 0
   (`compute_variables`) wherever it is defined; it is undefined (Python `UnboundLocalError`)
   exactly for `550 < CO2conc ≤ CO2ref`.
3. **The reset, as data** (`Model/Reset.lean`): every attribute of the state object is either
   assigned by `reset_initial_conditions`, or overwritten on the first in-season day before it is
   read (justification per field in `Model/Reset.lean`, by reading the code), or never written
   after initialisation, or listed in `knownLeaks` (empty).  The lists are transcribed from the
   Python by hand; `decide` checks the *coverage*, not the justifications; the generated tables of
   `Generated/ResetFields.lean` tie the list of attributes and the list of reset ones to the source.
   For a thermal-time crop the calendar the reset recomputes is the one a fresh initialisation
   computes (`later_season_calendar_is_fresh_calendar`).
4. **Run level** (`Model/Run.lean`): on its first day a season does not read the fields the reset
   leaves alone, and the reset makes all other fields equal; hence the day records of season `k`
   of a multi-season run are, one by one, those of the run of the fresh single-season
   configuration (`season_k_equals_fresh_run`).

A functional model cannot see aliasing of `th`/`thini`; that part of C08 rests on the tie and the
multi-season differential.
-/

namespace Aqua.C08
open Aqua Aqua.Clock Aqua.Reset

/-! ## 1. Clock level -/

variable {c : Cfg} {ev : Ev}

/-- Whenever a step changes the season counter the clock-level state is reset: `dap = 0`,
`crop_mature`, `crop_dead`, `harvest_flag` cleared, the counter advanced by exactly one and the
clock standing on the new season's planting date. -/
theorem every_season_change_resets {s s' : St} (hw : WF c) (hr : Reach c ev s)
    (hp : perform c ev s = .ok s') (hne : s'.season ≠ s.season) :
    Fresh s' ∧ s'.season = s.season + 1 ∧ s'.t = c.pl s'.season.toNat ∧ s'.finished = false :=
  season_change_resets hw hr hp hne

/-- Every growing season starts from the reset clock state: a reachable unfinished state standing
on the planting date of its season has `dap = 0` and the three flags cleared — whatever happened
in the seasons before. -/
theorem every_season_starts_reset {s : St} (hw : WF c) (hr : Reach c ev s)
    (hf : s.finished = false) (h0 : 0 ≤ s.season) (ht : s.t = c.pl s.season.toNat) : Fresh s :=
  season_start_fresh hw hr hf h0 ht

/-- The single-season configuration started on the planting date of season `k` is well formed and
starts in the fresh state. -/
theorem single_season_run_is_well_formed (hw : WF c) {k : Nat} (hk : k < c.planting.length) :
    WF (single c k) ∧ init (single c k) = .ok freshSt :=
  ⟨wf_single hw hk, init_single hw hk⟩

/-- One day, off-season skipped, season `k`'s latest harvest date not after the next planting date:
from related states (same counters and flags, clocks shifted by the planting index) the two runs
write the same row up to the day index and the season label, write the summary row on the same
relative day or not at all, and stay related — or the season is over in both. -/
theorem season_day_shift_invariant {k : Nat} {s s1 s' : St} (hw : WF c)
    (hk : k < c.planting.length) (hoff : c.offSeason = false)
    (hnext : k + 1 < c.planting.length → c.hv k ≤ (c.pl (k + 1) : Int))
    (hS : Sim c k s s1) (hp : perform c ev s = .ok s') :
    ∃ s1', perform (single c k) (shiftEv ev (c.pl k)) s1 = .ok s1' ∧
      (∃ r r1, s'.rowsRev = r :: s.rowsRev ∧ s1'.rowsRev = r1 :: s1.rowsRev ∧
        RowSh (c.pl k) k r r1) ∧
      ((s'.summaryRev = s.summaryRev ∧ s1'.summaryRev = s1.summaryRev) ∨
        (s'.summaryRev = ((k : Int), s.t) :: s.summaryRev ∧
          s1'.summaryRev = (0, s1.t) :: s1.summaryRev)) ∧
      ((s'.finished = false ∧ s'.season = (k : Int) ∧ Sim c k s' s1') ∨
        ((s'.finished = true ∨ s'.season = (k : Int) + 1) ∧ s1'.finished = true)) :=
  step_shift hw hk hoff hnext hS hp

/-- **Season `k` of a multi-season run equals a single-season run started on its planting date**
(clock level).  For a valid configuration with the off-season skipped, every reachable first day
`s` of season `k` and every in-season execution path `s ⟶ s'` of the multi-season run, the
single-season run `single c k` with the shifted oracle has a path from its *initial* state whose
daily rows (`rs1`) agree one by one with the rows the multi-season run wrote on the path (`rs`) up
to the shift of the day index and the season label, whose summary rows agree likewise, and which
is finished whenever the multi-season run has finished or left the season. -/
theorem season_rows_shift_invariant {k : Nat} {s s' : St} (hv : Valid c)
    (hoff : c.offSeason = false) (hr : Reach c ev s) (hf : s.finished = false)
    (hs : s.season = (k : Int)) (ht : s.t = c.pl k)
    (hpath : SeasonPath c ev (k : Int) s s') :
    ∃ s1' rs rs1 sm sm1, SeasonPath (single c k) (shiftEv ev (c.pl k)) 0 freshSt s1' ∧
      s'.rowsRev = rs ++ s.rowsRev ∧ s1'.rowsRev = rs1 ∧
      Pairs (RowSh (c.pl k) k) rs rs1 ∧
      s'.summaryRev = sm ++ s.summaryRev ∧ s1'.summaryRev = sm1 ∧
      Pairs (SumSh (c.pl k) k) sm sm1 ∧
      ((s'.finished = false ∧ s'.season = (k : Int) ∧ Sim c k s' s1') ∨
        ((s'.finished = true ∨ s'.season = (k : Int) + 1) ∧ s1'.finished = true)) := by
  have hw := hv.wf
  have hk : k < c.planting.length := by
    have := ((good_of_reach hw hr).live hf).shi
    rw [hs, nSeasons_eq] at this; omega
  have hnext : k + 1 < c.planting.length → c.hv k ≤ (c.pl (k + 1) : Int) := hv.hv_le_next
  obtain ⟨s1', rs, rs1, sm, sm1, h1, h2, h3, h4, h5, h6, h7, h8⟩ :=
    season_path_shift hw hk hoff hnext (sim_at_season_start hv hr hf hs ht) hpath
  exact ⟨s1', rs, rs1, sm, sm1, h1, h2, by simpa [freshSt] using h3, h4, h5,
    by simpa [freshSt] using h6, h7, h8⟩

/-! ## 2. The CO2 factor of later seasons -/

section co2
variable {α : Type} [Field α] [LinearOrder α] [IsStrictOrderedRing α]

/-- The two copies of the CO2 code agree wherever the reset copy is defined, i.e. unless
`550 < CO2conc ≤ CO2ref`. -/
theorem fco2_reset_eq_init (F : Fn α) {conc ref : α} (bsted bface fsink wp : α)
    (h : ¬ (550 < conc ∧ conc ≤ ref)) :
    fco2Reset F conc ref bsted bface fsink wp = fco2Init F conc ref bsted bface fsink wp :=
  fco2Init_eq_fco2Reset F bsted bface fsink wp h

/-- … in particular for every concentration when the reference is at most 550 ppm (default
369.41). -/
theorem fco2_reset_eq_init_for_default_reference (F : Fn α) {ref : α}
    (conc bsted bface fsink wp : α) (href : ref ≤ 550) :
    fco2Reset F conc ref bsted bface fsink wp = fco2Init F conc ref bsted bface fsink wp :=
  fco2Init_eq_fco2Reset_of_ref_le F conc bsted bface fsink wp href

/-- The exact exception: the reset copy raises (`UnboundLocalError: fCO2old`) iff
`550 < CO2conc ≤ CO2ref` — while the season-0 copy never fails. -/
theorem fco2_reset_fails_exactly_when (F : Fn α) (conc ref bsted bface fsink wp : α) :
    (fco2Reset F conc ref bsted bface fsink wp = none ↔ (550 < conc ∧ conc ≤ ref)) ∧
      (fco2Init F conc ref bsted bface fsink wp).isSome :=
  ⟨fco2Reset_eq_none_iff F conc ref bsted bface fsink wp,
   fco2Init_isSome F conc ref bsted bface fsink wp⟩

end co2

/-! ## 3. The reset as data -/

/-- The four classes, written one after the other, are a rearrangement of the declared attributes.
(`Perm` is evaluated by looking each attribute up in what is left of the other list: the lists being
nearly in the same order, that compares far fewer strings than the memberships one by one.) -/
theorem classes_rearrange_all_fields :
    allFields.Perm (resetFields ++ rewrittenBeforeRead ++ neverWrittenAfterInit ++ knownLeaks) := by
  decide +kernel

/-- An attribute is declared iff it is in one of the four classes. -/
theorem mem_allFields_iff {f : String} : f ∈ allFields ↔
    f ∈ resetFields ∨ f ∈ rewrittenBeforeRead ∨ f ∈ neverWrittenAfterInit ∨ f ∈ knownLeaks := by
  simpa only [List.mem_append, or_assoc] using classes_rearrange_all_fields.mem_iff

/-- Every attribute of the state object is reset at season start, or overwritten before it is read
on the first in-season day, or never written after initialisation, or a recorded leak. -/
theorem reset_covers_all : ∀ f ∈ allFields,
    f ∈ resetFields ∨ f ∈ rewrittenBeforeRead ∨ f ∈ neverWrittenAfterInit ∨ f ∈ knownLeaks :=
  fun _ => mem_allFields_iff.mp

/-- The four classes are pairwise disjoint and contain only declared attributes; the two
conditional resets (`th`, `surface_storage`) are among the reset fields. -/
theorem reset_classes_disjoint_and_declared :
    (∀ f ∈ resetFields, f ∈ allFields ∧ f ∉ rewrittenBeforeRead ∧ f ∉ neverWrittenAfterInit ∧
      f ∉ knownLeaks) ∧
    (∀ f ∈ rewrittenBeforeRead, f ∈ allFields ∧ f ∉ neverWrittenAfterInit ∧ f ∉ knownLeaks) ∧
    (∀ f ∈ neverWrittenAfterInit, f ∈ allFields ∧ f ∉ knownLeaks) ∧
    (∀ f ∈ knownLeaks, f ∈ allFields) ∧
    (∀ f ∈ resetOnlyWhenOffSeasonSkipped, f ∈ resetFields) := by
  have disjoint :
      (∀ f ∈ resetFields, f ∉ rewrittenBeforeRead ∧ f ∉ neverWrittenAfterInit ∧ f ∉ knownLeaks) ∧
      (∀ f ∈ rewrittenBeforeRead, f ∉ neverWrittenAfterInit ∧ f ∉ knownLeaks) ∧
      (∀ f ∈ neverWrittenAfterInit, f ∉ knownLeaks) ∧
      (∀ f ∈ resetOnlyWhenOffSeasonSkipped, f ∈ resetFields) := by
    decide +kernel
  exact ⟨fun f hf => ⟨mem_allFields_iff.mpr (.inl hf), disjoint.1 f hf⟩,
    fun f hf => ⟨mem_allFields_iff.mpr (.inr (.inl hf)), disjoint.2.1 f hf⟩,
    fun f hf => ⟨mem_allFields_iff.mpr (.inr (.inr (.inl hf))), disjoint.2.2.1 f hf⟩,
    fun f hf => mem_allFields_iff.mpr (.inr (.inr (.inr hf))), disjoint.2.2.2⟩

/-- No attribute is left unjustified: the list of recorded leaks is empty. -/
theorem known_leaks_are : knownLeaks = [] := rfl

/-- `e_pot` and `t_pot` (yesterday's potential evaporation / transpiration, read by `irrigation`
on the first day of the next season) are among the reset fields. -/
theorem evaporation_and_transpiration_demand_reset : "e_pot" ∈ resetFields ∧ "t_pot" ∈ resetFields := by
  decide +kernel

/-- Tie to the source, re-proved on every run: the state object of /repo has exactly the reviewed
fields (table regenerated by `harness/translate/resetfields.py`) … -/
theorem state_fields_match_source :
    (∀ f ∈ Aqua.Generated.allFieldsGen, f ∈ allFields) ∧ (∀ f ∈ allFields, f ∈ Aqua.Generated.allFieldsGen) :=
  Aqua.Generated.allFields_match

/-- … and `reset_initial_conditions` in /repo assigns exactly the reviewed reset fields: a dropped
or added reset, or a new state field, breaks this obligation. -/
theorem reset_fields_match_source :
    (∀ f ∈ Aqua.Generated.resetFieldsGen, f ∈ resetFields) ∧ (∀ f ∈ resetFields, f ∈ Aqua.Generated.resetFieldsGen) :=
  Aqua.Generated.resetFields_match

/-! ### The crop calendar of a later season

`Model/CropCalendar.lean`; both code sites are tied to the Python: `compute_crop_calendar` by the
`crop_calendar` replay, the thermal-calendar block of `reset_initial_conditions` by the
`reset_calendar` replay. -/

section calendar
variable {α : Type} [Field α] [LinearOrder α] [IsStrictOrderedRing α]

/-- **Crop-calendar clause.**  For a thermal-time crop the calendar that the season-start reset
recomputes from the temperature records from that season's planting date on — days to maturity, to
maximum canopy, to the end of canopy development, to the start and end of yield formation, the length
of yield formation and of flowering, and the harvest-index growth coefficients derived from them —
is exactly what the initialisation of a run started on that planting date computes (`calendarInitHI`:
`compute_crop_calendar` followed by the harvest-index block of `compute_variables`), errors included.
Premise: `Tbase ≤ Tupp` or `0 ≤ Maturity` (with `Tupp < Tbase` pandas and numpy clip differently; the
calendars then still agree unless the maturity threshold is negative —
`Aqua.CalExample.reset_ne_init`). -/
theorem later_season_calendar_is_fresh_calendar (F : Fn α) (fuel : Nat) (c : CalGDDIn α)
    (h : c.tbase ≤ c.tupp ∨ 0 ≤ c.maturity) (hi0 hiIni : α) (temps : List (α × α)) :
    calendarReset F fuel (c.toReset F hi0 hiIni) temps
      = (calendarInitHI F fuel c hi0 hiIni temps).map CalResetOut.ofInit :=
  reset_eq_init F fuel c h hi0 hiIni temps

/-- the daily degree days counted by the reset are those of the daily `growing_degree_day` process,
for every method and with no premise — the thermal clock of a later season runs as in a fresh run -/
theorem reset_degree_days_are_the_daily_ones (m : GddMethod) (tbase tupp tmin tmax : α) :
    growingDegreeDay m.toNat tupp tbase tmax tmin = some (gddDayReset m tbase tupp tmin tmax) :=
  gddDayReset_eq_daily m tbase tupp tmin tmax

/-- and so are the ones counted at initialisation when `Tbase ≤ Tupp` -/
theorem init_degree_days_are_the_daily_ones (m : GddMethod) {tbase tupp : α} (h : tbase ≤ tupp)
    (tmin tmax : α) :
    growingDegreeDay m.toNat tupp tbase tmax tmin = some (gddDayInit m tbase tupp tmin tmax) := by
  rw [gddDayInit_eq_reset m h]
  exact gddDayReset_eq_daily m tbase tupp tmin tmax
end calendar

/-! ## 4. Run level: season `k` of a multi-season run is a fresh single-season run -/

section run
variable {α : Type} [Field α] [LinearOrder α] [IsStrictOrderedRing α]
  {F : Fn α} {T : TrigFn α} {cfg : RunCfg α} {k : Nat} {init' : DayState' α}

/-- **On its first day of a season the day function does not read what an earlier season left in
the fields the reset does not assign.**  From any two start states that agree on the live fields
(`StEq`: everything except `FluxOut`, `th_fc_Adj` under a water table, `w_surf`, `evap_z`,
`stage2`, `w_stage_2`, `z_root`, `hi_ref`, `yield_form`, `depletion`, `taw`, `z_gw`, `wt_in_soil`,
`YieldPot`) a successful first day after planting (growing season, `dap` becomes 1, off-season not
simulated, known crop type) gives the same state, rows, summary row and — up to the stale `FluxOut`
in the trace of steps 1 and 3 — ghost outputs. -/
theorem first_day_ignores_unreset_fields {P : DayParams α} {st st' : DayState' α} {D : DayIn' α}
    {r : DayResult α} (h : fullDay F T P st D = .ok r) (he : StEq P.W.waterTable st st')
    (hfd : FirstDay P st D) :
    ∃ r', fullDay F T P st' D = .ok r' ∧ r'.noFlux = r.noFlux ∧ r'.state = r.state :=
  fullDay_congr_dead h he hfd

/-- **The reset erases the history**: with the off-season skipped, the states
`reset_initial_conditions` makes of two run states (same compartments; without a water table the
same adjusted field capacity) agree on every live field.  Together with the previous theorem:
every attribute of the state object is reset, constant along the run, or not read. -/
theorem reset_erases_history (crop : CropParams α) {X Y : DayState' α}
    (hoff : cfg.clock.offSeason = false) (hX : CellsInv cfg X) (hY : CellsInv cfg Y)
    (hlen : cfg.init.cells.length ≤ cfg.thini.length) :
    StEq cfg.W0.waterTable (resetState cfg crop X) (resetState cfg crop Y) :=
  resetState_stEq crop hoff hX hY hlen

/-- **Season `k` of a multi-season run equals the single-season run started on its planting date**
(run model, every `F`, `T`).  Under `SeasonPre` (off-season not simulated, known crop type, the
fresh run starting from the reset state on the live fields, season `k` starting with a reset): for
every reachable state `s` of the multi-season run there is a reachable state `s1` of the fresh run
for season `k` whose day records are, index for index, those of season `k` in `s` — same parameters
and inputs, same state after each day, same `water_storage` / `water_flux` / `crop_growth` rows and
summary row up to the `time_step_counter` and `season_counter` labels; once the multi-season run
has left season `k` the fresh run is finished. -/
theorem season_k_equals_fresh_run {s : RunState α} (hP : SeasonPre cfg k init')
    (hr : RunReach F T cfg s) :
    ∃ s1, RunReach F T (freshCfgI cfg k init') s1 ∧
      List.Forall₂ (RecSh cfg.W0.waterTable (cfg.clock.pl k) k)
        (seasonRecs (k : Int) s.daysRev) s1.daysRev ∧
      (((k : Int) < s.season ∨ (s.season = (k : Int) ∧ s.finished = true)) →
        s1.finished = true) :=
  season_independent hP hr

/-- … in terms of the output tables: the rows of season `k` of the `water_flux` and `crop_growth`
tables and the summary row of season `k` are the rows of the fresh run with the day counter
shifted by the planting index and the season label replaced. -/
theorem season_k_tables_equal_fresh_run {s : RunState α} (hP : SeasonPre cfg k init')
    (hr : RunReach F T cfg s) :
    ∃ s1, RunReach F T (freshCfgI cfg k init') s1 ∧
      s.fluxTable.filter (fun x => decide (x.season = (k : Int))) =
        s1.fluxTable.map (fun x => { x with tsc := x.tsc + cfg.clock.pl k, season := (k : Int) }) ∧
      s.growthTable.filter (fun x => decide (x.season = (k : Int))) =
        s1.growthTable.map (fun x => { x with tsc := x.tsc + cfg.clock.pl k, season := (k : Int) }) ∧
      s.summaryTable.filter (fun x => decide (x.season = (k : Int))) =
        s1.summaryTable.map (fun x => { x with tsc := x.tsc + cfg.clock.pl k, season := (k : Int) }) ∧
      (((k : Int) < s.season ∨ (s.season = (k : Int) ∧ s.finished = true)) →
        s1.finished = true) := by
  obtain ⟨s1, hr1, hF0, hfin⟩ := season_independent hP hr
  have hdays := run_days hr
  have hdays1 := run_days hr1
  have hF := forall₂_and_right hF0 hdays1
  refine ⟨s1, hr1, ?_, ?_, ?_, hfin⟩
  · unfold RunState.fluxTable
    rw [List.map_map, filter_map_of _ _ (fun d => decide (d.D.season = (k : Int))) _ (fun d hd => by
        rw [(fullDay_labels (hdays d (List.mem_reverse.mp hd))).1]),
      List.filter_reverse, List.map_reverse, List.map_reverse]
    congr 1
    apply forall₂_map_eq _ hF
    intro d d1 h
    rw [h.1.flux, Function.comp, (fullDay_labels h.2).2.1]
  · unfold RunState.growthTable
    rw [List.map_map, filter_map_of _ _ (fun d => decide (d.D.season = (k : Int))) _ (fun d hd => by
        rw [(fullDay_labels (hdays d (List.mem_reverse.mp hd))).2.2.1]),
      List.filter_reverse, List.map_reverse, List.map_reverse]
    congr 1
    apply forall₂_map_eq _ hF
    intro d d1 h
    rw [h.1.growth, Function.comp, (fullDay_labels h.2).2.2.2.1]
  · unfold RunState.summaryTable
    have e0 : (s.daysRev.filterMap (·.r.summary)).filter (fun x => decide (x.season = (k : Int))) =
        (seasonRecs (k : Int) s.daysRev).filterMap (·.r.summary) :=
      filter_filterMap_of _ _ _ _ (fun d hd x hx => by
        rw [((fullDay_labels (hdays d hd)).2.2.2.2.2 x hx).1])
    have e1 : ∀ l : List (DayRec α), l.reverse.filterMap (·.r.summary) =
        (l.filterMap (·.r.summary)).reverse := fun l => List.filterMap_reverse
    rw [e1, e1, List.filter_reverse, e0, List.map_reverse]
    congr 1
    rw [List.map_filterMap]
    apply forall₂_filterMap_eq _ hF
    intro d d1 h
    rw [h.1.summary]
    cases hsum : d1.r.summary with
    | none => rfl
    | some x =>
      have hx := fullDay_summary h.2
      have := (hx.2.2.2 x hsum).2.1
      simp only [Option.map_some, this]

/-- **No state of an earlier season leaks into a later one**: under `SeasonPre`, two runs whose
weather and water-table records differ only before the planting date of season `k`, taken at states
with equally many recorded days of season `k`, have the same day records in season `k` (start
states compared on the live fields). -/
theorem no_state_leaks_into_later_season {s s2 : RunState α} {w2 : Nat → Weather α} {z2 : Nat → α}
    (hP : SeasonPre cfg k init')
    (hw2 : ∀ t, cfg.clock.pl k ≤ t → w2 t = cfg.weather t)
    (hz2 : ∀ t, cfg.clock.pl k ≤ t → z2 t = cfg.zgw t)
    (hr : RunReach F T cfg s) (hr2 : RunReach F T (withForcing cfg w2 z2) s2)
    (hlen : (seasonRecs (k : Int) s.daysRev).length = (seasonRecs (k : Int) s2.daysRev).length) :
    List.Forall₂ (RecSame cfg.W0.waterTable) (seasonRecs (k : Int) s.daysRev)
      (seasonRecs (k : Int) s2.daysRev) := by
  obtain ⟨s1, hr1, hF, _⟩ := season_independent hP hr
  obtain ⟨s1', hr1', hF', _⟩ := season_independent (hP.withForcing w2 z2) hr2
  rw [freshCfgI_withForcing hw2 hz2] at hr1'
  have hl : s1.daysRev.length = s1'.daysRev.length := by
    rw [← hF.length_eq, ← hF'.length_eq]; exact hlen
  have e := reach_unique_of_length hr1 hr1' hl
  subst e
  exact forall₂_join (fun a b c h h' => h.same h') hF hF'

/-- under `SeasonPre` the state the first day of season `k` starts from is, on every live field,
`init'`: the initial state of the fresh single-season configuration -/
theorem season_starts_from_initial_conditions {s : RunState α} (hP : SeasonPre cfg k init')
    (hr : RunReach F T cfg s) (d : DayRec α)
    (hd : (seasonRecs (k : Int) s.daysRev).getLast? = some d) :
    StEq cfg.W0.waterTable d.st init' := by
  obtain ⟨s1, hr1, hF, _⟩ := season_independent hP hr
  obtain ⟨d1, hd1, hR⟩ := forall₂_getLast? hF hd
  rcases reach_first_rec hr1 with ⟨e, _⟩ | ⟨d1', hd1', hst⟩
  · rw [e] at hd1; cases hd1
  · rw [hd1] at hd1'
    cases hd1'
    have := hR.st
    rw [hst] at this
    exact this

end run

/-- Example of a leak of `hi_ref` for a crop of type 0, which the package never builds: on one
such in-season day `HIref_current_day` hands the stored `hi_ref` through (0.2 gives 0.2, 0.3
gives 0.3). -/
theorem hi_ref_leaks_only_for_unknown_crop_type :
    (hiRefCurrentDay DayExample.Fq hiLeakCrop (hiLeakIn 0.2) true).hiRef = 0.2 ∧
      (hiRefCurrentDay DayExample.Fq hiLeakCrop (hiLeakIn 0.3) true).hiRef = 0.3 := by
  decide +kernel

end Aqua.C08
