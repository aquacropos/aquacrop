import AquaVerif.Model.RainPartition
import AquaVerif.Proofs.PowSq

namespace Aqua
variable {α : Type} [Field α] [LinearOrder α] [IsStrictOrderedRing α]

theorem scsS_nonneg {cn : α} (hcn : 0 < cn) (hcn' : cn ≤ 100) : 0 ≤ 25400 / cn - 254 := by
  rw [sub_nonneg, le_div_iff₀ hcn]; linarith only [hcn']

theorem scsSplit_of_le (F : Fn α) {p cn : α} (h : p ≤ 5 / 100 * (25400 / cn - 254)) :
    scsSplit F p cn = (0, p) := by
  unfold scsSplit
  extract_lets s term
  rw [if_pos (sub_nonpos.2 h)]

theorem scsSplit_sum (F : Fn α) (p cn : α) : (scsSplit F p cn).1 + (scsSplit F p cn).2 = p := by
  unfold scsSplit
  exact ite_ind (fun q : α × α => q.1 + q.2 = p) (fun _ => zero_add p) fun _ => add_sub_cancel _ p

theorem scsSplit_bounds {F : Fn α} (hF : PowSqLaw F) (p cn : α) (hp : 0 ≤ p) (hcn : 0 < cn)
    (hcn' : cn ≤ 100) : 0 ≤ (scsSplit F p cn).1 ∧ (scsSplit F p cn).1 ≤ p := by
  unfold scsSplit
  extract_lets s term r
  have hS : 0 ≤ s := scsS_nonneg hcn hcn'
  have ht : term = p - 5 / 100 * s := rfl
  have hr : r = term * term / (p + (1 - 5 / 100) * s) := congrArg (· / _) (hF.pow_two term)
  by_cases h : term ≤ 0
  · rw [if_pos h]; exact ⟨le_refl _, hp⟩
  · rw [if_neg h, hr]
    rw [not_le] at h
    -- `term² ≤ p·(p + 0.95·S)` factor by factor: `0 < term ≤ p` and `term ≤ p + 0.95·S`
    have h95 : (0:α) ≤ (1 - 5 / 100) * s := mul_nonneg (by norm_num) hS
    have htp : term ≤ p := ht ▸ sub_le_self _ (mul_nonneg (by norm_num) hS)
    have hden : 0 < p + (1 - 5 / 100) * s := add_pos_of_pos_of_nonneg (h.trans_le htp) h95
    exact ⟨div_nonneg (mul_self_nonneg _) hden.le,
      (div_le_iff₀ hden).2 (mul_le_mul htp (htp.trans (le_add_of_nonneg_right h95)) h.le hp)⟩

theorem scsSplit_zero (F : Fn α) {cn : α} (hcn : 0 < cn) (hcn' : cn ≤ 100) :
    scsSplit F 0 cn = (0, 0) :=
  scsSplit_of_le F (mul_nonneg (by norm_num) (scsS_nonneg hcn hcn'))

/-! ### `rainfall_partition`: the bypass, or the SCS split at the effective curve number -/

/-- the curve number the SCS split uses, from `cn0 = CN·(1 + pct/100)`: `cn0` itself, or its
antecedent-moisture adjustment by the relative wetness of the top soil down to `z_cn` (`none`: the
wetness loop indexes past the profile) -/
def effCN (F : Fn α) (cells : List (Cell α)) (cn0 : α) (adjCN : Bool) (zCN : α) : Option α :=
  if adjCN then
    (wetTopLoop F zCN (countBelow zCN cells + 1) cells 0 0).map fun wt0 =>
      F.round0 ((cnBounds F cn0).1 + ((cnBounds F cn0).2 - (cnBounds F cn0).1) *
        (if 1 < wt0 then 1 else if wt0 < 0 then 0 else wt0))
  else some cn0

section
variable {F : Fn α} {p : α} {cells : List (Cell α)} {daySub : Nat} {srInhb bunds : Bool}
  {zBund pct soilCN zCN : α} {adjCN : Bool} {r : RainOut α}

theorem rainPartition_eq (F : Fn α) (p : α) (cells : List (Cell α)) (daySub : Nat)
    (srInhb bunds : Bool) (zBund pct soilCN : α) (adjCN : Bool) (zCN : α) :
    rainPartition F p cells daySub srInhb bunds zBund pct soilCN adjCN zCN =
      if srInhb = false ∧ (bunds = false ∨ zBund < 0.001) then
        (effCN F cells (soilCN * (1 + pct / 100)) adjCN zCN).map fun cn =>
          { runoff := (scsSplit F p cn).1, infl := (scsSplit F p cn).2, daySub := 0, cn := cn }
      else some { runoff := 0, infl := p, daySub := daySub, cn := 0 } := by
  unfold rainPartition effCN
  refine if_congr Iff.rfl ?_ rfl
  cases adjCN with
  | false => rfl
  | true =>
    dsimp only
    rw [if_pos rfl, if_pos rfl]
    cases wetTopLoop F zCN (countBelow zCN cells + 1) cells 0 0 <;> rfl

theorem rainPartition_cases
    (h : rainPartition F p cells daySub srInhb bunds zBund pct soilCN adjCN zCN = some r) :
    (¬ (srInhb = false ∧ (bunds = false ∨ zBund < 0.001)) ∧ r.runoff = 0 ∧ r.infl = p ∧
        r.daySub = daySub ∧ r.cn = 0) ∨
    ((srInhb = false ∧ (bunds = false ∨ zBund < 0.001)) ∧ r.runoff = (scsSplit F p r.cn).1 ∧
        r.infl = (scsSplit F p r.cn).2 ∧ r.daySub = 0 ∧
        effCN F cells (soilCN * (1 + pct / 100)) adjCN zCN = some r.cn) := by
  rw [rainPartition_eq] at h
  by_cases hb : srInhb = false ∧ (bunds = false ∨ zBund < 0.001)
  · rw [if_pos hb] at h
    obtain ⟨cn, hcn, rfl⟩ := Option.map_eq_some_iff.1 h
    exact Or.inr ⟨hb, rfl, rfl, rfl, hcn⟩
  · rw [if_neg hb] at h
    cases h
    exact Or.inl ⟨hb, rfl, rfl, rfl, rfl⟩

theorem rainPartition_sum
    (h : rainPartition F p cells daySub srInhb bunds zBund pct soilCN adjCN zCN = some r) :
    r.runoff + r.infl = p := by
  rcases rainPartition_cases h with ⟨_, h1, h2, _, _⟩ | ⟨_, h1, h2, _⟩
  · rw [h1, h2]; simp
  · rw [h1, h2]; exact scsSplit_sum F p r.cn

theorem rainPartition_bounds (hF : PowSqLaw F)
    (h : rainPartition F p cells daySub srInhb bunds zBund pct soilCN adjCN zCN = some r)
    (hp : 0 ≤ p)
    (hcn : (srInhb = false ∧ (bunds = false ∨ zBund < 0.001)) → 0 < r.cn ∧ r.cn ≤ 100) :
    0 ≤ r.runoff ∧ r.runoff ≤ p ∧ 0 ≤ r.infl ∧ r.infl ≤ p := by
  have hr : 0 ≤ r.runoff ∧ r.runoff ≤ p := by
    rcases rainPartition_cases h with ⟨_, h1, _⟩ | ⟨hb, h1, _⟩
    · rw [h1]; exact ⟨le_refl _, hp⟩
    · obtain ⟨c1, c2⟩ := hcn hb
      rw [h1]; exact scsSplit_bounds hF p r.cn hp c1 c2
  have hi : r.infl = p - r.runoff := eq_sub_of_add_eq' (rainPartition_sum h)
  rw [hi]
  exact ⟨hr.1, hr.2, sub_nonneg.2 hr.2, sub_le_self _ hr.1⟩

theorem effCN_range {cn0 cn : α} (h : effCN F cells cn0 adjCN zCN = some cn)
    (hplain : adjCN = false → 0 < cn0 ∧ cn0 ≤ 100)
    (hadj : adjCN = true → ∀ wt, 0 ≤ wt → wt ≤ 1 →
      0 < F.round0 ((cnBounds F cn0).1 + ((cnBounds F cn0).2 - (cnBounds F cn0).1) * wt) ∧
      F.round0 ((cnBounds F cn0).1 + ((cnBounds F cn0).2 - (cnBounds F cn0).1) * wt) ≤ 100) :
    0 < cn ∧ cn ≤ 100 := by
  unfold effCN at h
  cases adjCN with
  | false => cases h; exact hplain rfl
  | true =>
    rw [if_pos rfl] at h
    obtain ⟨wt0, _, rfl⟩ := Option.map_eq_some_iff.1 h
    exact hadj rfl _ (clamp01_bounds wt0).1 (clamp01_bounds wt0).2

end

end Aqua
