import AquaVerif.Proofs.SoilTable
import AquaVerif.Proofs.InitWC
import AquaVerif.Proofs.RunClosed

/-
The fields of `CfgOK` about the initial profile (**soil side**), for a
profile produced by the model of the profile builder (`soilProfile`, `Model/SoilBuild.lean`) from
layers satisfying the table obligation (in particular the built-in soils of
`Generated/SoilTable.lean`) and an initial water content produced by `initWC`
(`Model/InitWC.lean`, `Layer` method).

A. **what is asked of the layers and of a profile**: `SpecOK` of the arguments of an `add_layer`
   call (the built-in soils satisfy it: `specOK_of_builtin`), and `CompsOK`, a well-formed profile
   (`dzsum` the running sum of positive thicknesses, hydraulic order, the compartments of one layer
   share their hydraulic values, layer numbers climb from 1).
B. **the initial water content**: `initWC` with the `Layer` method returns one value per
   compartment; with every layer named by a data point whose value lies within
   `[th_dry, th_s]` of that layer (`Prop` type: `WP`/`FC`/`SAT`; `Pct` type: `0 ≤ pct`,
   `wp + pct/100·(fc − wp) ≤ s`; `Num` type: the number itself) the result satisfies `ThiniOK`,
   without water table and with one (`F.round3` the identity, as for `realFn`: adjusted field
   capacity within `[th_fc, th_s]`, saturation below the table).
C. **the cells**: a profile of the builder (`Built`, `Proofs/SoilBuild.lean`) from positive
   thicknesses and `SpecOK` layers is well-formed, since every layer number is assigned by exactly
   one `add_layer` call (`Built.compsOK`); `initCells comps th fcAdj`, and for them `cells0`
   (`DrainPre`), `geom` (`TrGeom 0`), `aer0`, `pen`, `layers` (`TrLayersOK`), `thini` (`ThiniOK`):
   `initCells_ok`.
D. **totality without a water table**: `soilProfile_ok_noWT`, `initWC_layer_ok_noWT`.
-/

set_option linter.unusedSectionVars false
namespace Aqua
open Aqua.Generated

/-! ## A. the layers and a well-formed profile -/

variable {α : Type} [Field α] [LinearOrder α] [IsStrictOrderedRing α]

/-! ### the specification of the layers -/

/-- what the arguments of one `add_layer` call have to satisfy (`add_layer` validates nothing):
`0 < wp < fc < s`, `0 ≤ Ksat`, `0 ≤ penetrability ≤ 100` -/
def SpecOK {τ : Type} (sp : LayerSpec α τ) : Prop :=
  0 < sp.wp ∧ sp.wp < sp.fc ∧ sp.fc < sp.s ∧ 0 ≤ sp.ksat ∧ 0 ≤ sp.pen ∧ sp.pen ≤ 100

/-! ### a well-formed profile -/

structure LayerFn (cs : List (Comp α)) (wp fc s : Nat → α) : Prop where
  wp : ∀ c ∈ cs, c.thWP = wp c.layer
  fc : ∀ c ∈ cs, c.thFC = fc c.layer
  s : ∀ c ∈ cs, c.thS = s c.layer

/-- a profile row as a cell without state.  The run-level predicates on the geometry and the layers
of a profile (`TrGeom`, `TrLayersOK`) read the rows only, so they are stated of the bare rows and
carried to any cells on these rows by `trGeom_of_map_c`, `trLayersOK_of_map_c`. -/
def Comp.bare (c : Comp α) : Cell α := { c := c, th := 0, fcAdj := 0, flux := 0, aer := 0 }

theorem map_c_bare (cs : List (Comp α)) : (cs.map Comp.bare).map (·.c) = cs := by
  rw [List.map_map]; exact List.map_id' cs

/-- what the run-level premises ask of the rows of a profile, whoever built it. -/
structure CompsOK (cs : List (Comp α)) : Prop where
  geom : TrGeom 0 (cs.map Comp.bare)
  hyd : ∀ c ∈ cs, 0 ≤ c.thDry ∧ c.thDry ≤ c.thWP ∧ c.thWP < c.thFC ∧ c.thFC < c.thS ∧
    0 ≤ c.tau ∧ c.tau ≤ 1 ∧ 0 ≤ c.ksat ∧ 0 ≤ c.pen ∧ c.pen ≤ 100
  layers : ∃ wp fc s : Nat → α, LayerFn cs wp fc s ∧ TrLayersOK wp fc 0 (cs.map Comp.bare)

/-! ### the built-in soils -/

/-- the `add_layer` arguments of a table layer (thickness in cm as given; penetrability 100 as in
every built-in soil of `soil.py`) -/
def BLayer.toSpec (l : BLayer) (thickCm : Nat) : LayerSpec α Nat :=
  { thick := thickCm, wp := (l.wp : α), fc := (l.fc : α), s := (l.s : α), ksat := (l.ksat : α),
    pen := 100 }

theorem specOK_of_builtin {l : BLayer} (h : l ∈ builtinLayersGen) (thickCm : Nat) :
    SpecOK (l.toSpec thickCm : LayerSpec α Nat) := by
  obtain ⟨h1, h2, h3, _, _, _, _, h8, _⟩ := builtinLayersGen_ok l h
  have h10 := (builtinLayersGen_ok' l h).1
  exact ⟨Rat.cast_pos.2 (lt_trans h1 h2), Rat.cast_lt.2 h3, Rat.cast_lt.2 h10,
    Rat.cast_nonneg.2 h8.le, by norm_num [BLayer.toSpec], le_refl _⟩


/-! ## B. the initial water content (`Layer` method) -/

section iwc

def ThBound (cs : List (Comp α)) (vs : List α) : Prop :=
  List.Forall₂ (fun c v => c.thDry ≤ v ∧ v ≤ c.thS) cs vs

def FcBound (cs : List (Comp α)) (vs : List α) : Prop :=
  List.Forall₂ (fun c v => c.thFC ≤ v ∧ v ≤ c.thS) cs vs

theorem ThBound.thiniOK : ∀ {cs : List (Comp α)} {vs : List α}, ThBound cs vs → ThiniOK cs vs
  | [], [], _ => trivial
  | c :: cs, v :: vs, h => by
    cases h with
    | cons h1 h2 => exact ⟨h1.1, h1.2, ThBound.thiniOK h2⟩

theorem FcBound.thBound {cs : List (Comp α)} {vs : List α} (h : FcBound cs vs)
    (hwf : ∀ c ∈ cs, c.thDry ≤ c.thFC) : ThBound cs vs := by
  induction h with
  | nil => exact List.Forall₂.nil
  | @cons c v cs vs h1 _ ih =>
    exact List.Forall₂.cons ⟨le_trans (hwf c (by simp)) h1.1, h1.2⟩
      (ih (fun c' hc' => hwf c' (List.mem_cons_of_mem _ hc')))

/-- what a `Layer` specification has to satisfy, point by point:
`Prop`: one of `WP`, `FC`, `SAT`; `Pct`: `0 ≤ pct` and `wp + pct/100·(fc − wp) ≤ s` (in particular
`0 ≤ pct ≤ 100`); `Num`: the number within `[th_dry, th_s]` of the layer -/
def PointSpecOK (cs : List (Comp α)) (wp fc s : Nat → α) (ty : WcType) (p : WcPoint α) : Prop :=
  match ty with
  | .prop => p.prop ≠ .other
  | .pct => 0 ≤ p.num ∧ wp p.lay + p.num / 100 * (fc p.lay - wp p.lay) ≤ s p.lay
  | .num => ∀ c ∈ cs, c.layer = p.lay → c.thDry ≤ p.num ∧ p.num ≤ c.thS

theorem pointSpecOK_pct_of_le_100 (cs : List (Comp α)) {wp fc s : Nat → α} {p : WcPoint α}
    (h0 : 0 ≤ p.num) (h1 : p.num ≤ 100) (hwf : wp p.lay ≤ fc p.lay) (hfs : fc p.lay ≤ s p.lay) :
    PointSpecOK cs wp fc s .pct p := by
  refine ⟨h0, ?_⟩
  have hq : p.num / 100 ≤ 1 := by rw [div_le_one (by norm_num)]; exact h1
  have := mul_le_mul_of_nonneg_right hq (sub_nonneg.mpr hwf)
  linarith

theorem pointValue_layer_bounds {cs : List (Comp α)} {wp fc s : Nat → α} (hL : LayerFn cs wp fc s)
    (hwf : ∀ c ∈ cs, c.thDry ≤ c.thWP ∧ c.thWP ≤ c.thFC ∧ c.thFC ≤ c.thS) {ty : WcType}
    {p : WcPoint α} (hs : PointSpecOK cs wp fc s ty p) {v : α}
    (hval : pointValue ty .layer cs p = .ok v) {c : Comp α} (hc : c ∈ cs) (hlay : c.layer = p.lay) :
    c.thDry ≤ v ∧ v ≤ c.thS := by
  have hrow : hydRow p.lay cs = some (wp p.lay, fc p.lay, s p.lay) :=
    hydRow_const p.lay cs _ _ _ ⟨c, hc, hlay⟩ (fun c' hc' hl' => by
      rw [hL.wp c' hc', hL.fc c' hc', hL.s c' hc', hl']
      exact ⟨rfl, rfl, rfl⟩)
  obtain ⟨w1, w2, w3⟩ := hwf c hc
  rw [hL.wp c hc, hlay] at w1 w2
  rw [hL.fc c hc, hlay] at w2 w3
  rw [hL.s c hc, hlay] at w3 ⊢
  cases ty with
  | num =>
    rw [← Except.ok.inj hval, ← hlay, ← hL.s c hc]
    exact hs c hc hlay
  | pct =>
    rw [pointValue_layer_pct cs p _ _ _ hrow] at hval
    rw [← Except.ok.inj hval]
    have := mul_nonneg (div_nonneg hs.1 (by norm_num : (0 : α) ≤ 100)) (sub_nonneg.2 w2)
    exact ⟨by linarith, hs.2⟩
  | prop =>
    rw [pointValue_layer_prop cs p _ _ _ hrow] at hval
    rw [← Except.ok.inj hval]
    cases hpp : p.prop with
    | sat => exact ⟨w1.trans (w2.trans w3), le_refl _⟩
    | fc => exact ⟨w1.trans w2, w3⟩
    | wp => exact ⟨w1, w2.trans w3⟩
    | other => exact absurd hpp hs

theorem layerValue_pointValues (P : α → Prop) (l : Nat) (ty : WcType) (me : WcMethod)
    (cs : List (Comp α)) (pts : List (WcPoint α)) (vals : List α) (d : α)
    (hv : pointValues ty me cs pts = .ok vals)
    (hP : ∀ p ∈ pts, p.lay = l → ∀ v, pointValue ty me cs p = .ok v → P v)
    (hd : (∃ p ∈ pts, p.lay = l) ∨ P d) : P (layerValue l ((pts.map (·.lay)).zip vals) d) := by
  fun_induction pointValues ty me cs pts generalizing vals d with
  | case1 => cases hv; exact hd.resolve_left (by simp)
  | case2 => cases hv
  | case3 => cases hv
  | case4 p ps v hpv vs hvs ih =>
    cases hv
    refine ih vs _ hvs (fun q hq => hP q (List.mem_cons_of_mem _ hq)) ?_
    by_cases e : l = p.lay
    · simp only [e, beq_self_eq_true, if_true]
      exact Or.inr (hP p (by simp) e.symm v hpv)
    · simp only [beq_iff_eq, e, if_false]
      rcases hd with ⟨q, hq, hl⟩ | hd
      · rcases List.mem_cons.1 hq with rfl | hq
        · exact absurd hl.symm e
        · exact Or.inl ⟨q, hq, hl⟩
      · exact Or.inr hd

/-! ### the adjusted field capacity with a water table -/

/-- above the early exit the loop applies `gwFcAdj` (`check_groundwater_table`'s formula; the
divisor is `xmax ** 2` here and `xmax * xmax` there) -/
theorem fcAdjUp_bound {F : Fn α} (hS : PowSqLaw F) (zgw : α) :
    ∀ rs : List (Comp α), (∀ c ∈ rs, c.thFC ≤ c.thS) →
      List.Forall₂ (fun c v => c.thFC ≤ v ∧ v ≤ c.thS) rs (fcAdjUp F zgw rs)
  | [], _ => List.Forall₂.nil
  | c :: above, hwf => by
    have hc := hwf c (by simp)
    have habove : ∀ c' ∈ above, c'.thFC ≤ c'.thS := fun c' h' => hwf c' (List.mem_cons_of_mem _ h')
    by_cases h1 : zgw < 0 ∨ xmaxOf F c.thFC ≤ zgw - c.zMid
    · rw [fcAdjUp, if_pos h1]
      exact List.Forall₂.cons ⟨le_refl _, hc⟩
        (List.forall₂_map_right_iff.2 (List.forall₂_same.2 fun c' h' => ⟨le_refl _, habove c' h'⟩))
    · rw [fcAdjUp, if_neg h1]
      refine List.Forall₂.cons ?_ (fcAdjUp_bound hS zgw above habove)
      have e := gwFcAdj_range hS zgw (xmaxOf F c.thFC) c hc (not_le.1 (not_or.1 h1).2)
      simpa only [gwFcAdj, hS.pow_two] using e

theorem fcAdjInit_bound {F : Fn α} (wt : Bool)
    (hR : wt = true → (∀ x, F.round3 x = x) ∧ PowSqLaw F) (zgw : α) (cs : List (Comp α))
    (hwf : ∀ c ∈ cs, c.thFC ≤ c.thS) : FcBound cs (fcAdjInit F wt zgw cs) := by
  unfold fcAdjInit FcBound
  cases wt with
  | false =>
    simp only [Bool.false_eq_true, if_false]
    exact List.forall₂_map_right_iff.2 (List.forall₂_same.2 fun c hc => ⟨le_refl _, hwf c hc⟩)
  | true =>
    obtain ⟨r3, hsq⟩ := hR rfl
    simp only [if_true]
    have hid : ((fcAdjUp F zgw cs.reverse).reverse).map F.round3 =
        (fcAdjUp F zgw cs.reverse).reverse := by
      rw [List.map_congr_left (fun x _ => r3 x), List.map_id']
    rw [hid]
    have := fcAdjUp_bound hsq zgw cs.reverse (fun c hc => hwf c (List.mem_reverse.mp hc))
    have h2 := List.rel_reverse this
    rwa [List.reverse_reverse] at h2

theorem saturateFrom_bound (lo : Comp α → α) {all : List (Comp α)} {wp fc s : Nat → α}
    (hL : LayerFn all wp fc s) (hlo : ∀ c ∈ all, lo c ≤ c.thS) :
    ∀ (n : Nat) (cs : List (Comp α)) (ts : List α), (∀ c ∈ cs, c ∈ all) →
      List.Forall₂ (fun c v => lo c ≤ v ∧ v ≤ c.thS) cs ts →
      List.Forall₂ (fun c v => lo c ≤ v ∧ v ≤ c.thS) cs (saturateFrom n all cs ts)
  | _, [], [], _, _ => by cases ‹Nat› <;> exact List.Forall₂.nil
  | 0, c :: cs, t :: ts, hm, h => by
    cases h with
    | cons h1 h2 =>
      simp only [saturateFrom]
      have hc := hm c (by simp)
      have e : layerMean c.layer (·.thS) all = c.thS :=
        layerMean_const c.layer _ all c.thS ⟨c, hc, rfl⟩ (fun c' hc' hl' => by
          rw [hL.s c' hc', hL.s c hc, hl'])
      rw [e]
      exact List.Forall₂.cons ⟨hlo c hc, le_refl _⟩
        (saturateFrom_bound lo hL hlo 0 cs ts (fun c' h' => hm c' (List.mem_cons_of_mem _ h')) h2)
  | n + 1, c :: cs, t :: ts, hm, h => by
    cases h with
    | cons h1 h2 =>
      simp only [saturateFrom]
      exact List.Forall₂.cons h1
        (saturateFrom_bound lo hL hlo n cs ts (fun c' h' => hm c' (List.mem_cons_of_mem _ h')) h2)

theorem initWC_layer_bounds {F : Fn α} {cs : List (Comp α)} (wt : Bool)
    (zgw zSoil : α) (ty : WcType) (pts : List (WcPoint α)) (o : InitOut α) (hC : CompsOK cs)
    (hR : wt = true → (∀ x, F.round3 x = x) ∧ PowSqLaw F)
    (hnamed : ∀ c ∈ cs, ∃ p ∈ pts, p.lay = c.layer)
    (hspec : ∀ wp fc s : Nat → α, LayerFn cs wp fc s → ∀ p ∈ pts, PointSpecOK cs wp fc s ty p)
    (h : initWC F cs wt zgw zSoil ty .layer pts = .ok o) :
    ThBound cs o.th ∧ FcBound cs o.fcAdjInit := by
  obtain ⟨wp, fc, s, hL, _⟩ := hC.layers
  have hspec := hspec wp fc s hL
  have hwf : ∀ c ∈ cs, c.thDry ≤ c.thWP ∧ c.thWP ≤ c.thFC ∧ c.thFC ≤ c.thS := fun c hc => by
    obtain ⟨_, f2, f3, f4, _⟩ := hC.hyd c hc
    exact ⟨f2, f3.le, f4.le⟩
  have hfs : ∀ c ∈ cs, c.thFC ≤ c.thS := fun c hc => (hwf c hc).2.2
  have hdf : ∀ c ∈ cs, c.thDry ≤ c.thFC := fun c hc => le_trans (hwf c hc).1 (hwf c hc).2.1
  have hfcI := fcAdjInit_bound wt hR zgw cs hfs
  unfold initWC at h
  cases hv : pointValues ty .layer cs pts with
  | error e => simp [hv] at h
  | ok vals =>
    have hth0 : ThBound cs (fillLayers cs ((pts.map (·.lay)).zip vals) (cs.map (fun _ => 0))) := by
      rw [fillLayers_map]
      refine List.forall₂_map_right_iff.2 (List.forall₂_same.2 fun c hc => ?_)
      exact layerValue_pointValues (fun v => c.thDry ≤ v ∧ v ≤ c.thS) c.layer ty .layer cs pts vals 0 hv
        (fun p hp hl v hval => pointValue_layer_bounds hL hwf (hspec p hp) hval hc hl.symm)
        (Or.inl (hnamed c hc))
    simp only [hv] at h
    split at h
    · cases h
    · rename_i al _
      have hth1 : ThBound cs (if al = true then fcAdjInit F wt zgw cs else
          fillLayers cs ((pts.map (·.lay)).zip vals) (cs.map (fun _ => 0))) := by
        split_ifs
        · exact hfcI.thBound hdf
        · exact hth0
      split at h
      · split at h
        · cases h
        · rename_i idx _
          simp only [Except.ok.injEq] at h
          subst h
          simp only
          refine ⟨saturateFrom_bound (·.thDry) hL (fun c hc => le_trans (hdf c hc) (hfs c hc)) idx cs _
            (fun c hc => hc) hth1, ?_⟩
          split_ifs with hal
          · exact saturateFrom_bound (·.thFC) hL hfs idx cs _ (fun c hc => hc) hfcI
          · exact hfcI
      · simp only [Except.ok.injEq] at h
        subst h
        exact ⟨hth1, hfcI⟩

end iwc

/-! ## C. the builder's profile is well-formed; the cells of the initial state -/

section cells

/-- the cells `_initialize` leaves: profile row, `InitCond.th`, `InitCond.th_fc_Adj`, no flux,
`aer_days_comp = 0` -/
def initCells : List (Comp α) → List α → List α → List (Cell α)
  | c :: cs, t :: ts, f :: fs =>
    { c := c, th := t, fcAdj := f, flux := 0, aer := 0 } :: initCells cs ts fs
  | _, _, _ => []

theorem geoMatch_trGeom (cs : List (Comp α)) (gs : List GComp) (acc : Nat) (h : GeoMatch cs gs)
    (hs : gs.map (·.dzsum) = prefixSums acc (gs.map (·.dz))) (hp : ∀ g ∈ gs, 0 < g.dz) :
    TrGeom (cmToM acc) (cs.map Comp.bare) := by
  fun_induction GeoMatch cs gs generalizing acc with
  | case1 => trivial
  | case2 c cs g gs ih =>
    obtain ⟨e1, e2, h3⟩ := h
    simp only [List.map_cons, prefixSums, List.cons.injEq] at hs
    obtain ⟨s1, s2⟩ := hs
    show 0 < c.dz ∧ c.dzsum = cmToM acc + c.dz ∧ TrGeom c.dzsum (cs.map Comp.bare)
    refine ⟨?_, ?_, ?_⟩
    · rw [e1]; exact cmToM_pos (hp g (by simp))
    · rw [e2, e1, s1]; exact cmToM_add _ _
    · rw [e2, s1]
      exact ih (acc + g.dz) h3 s2 (fun g' h' => hp g' (List.mem_cons_of_mem _ h'))
  | case3 => exact h.elim

theorem hydMatch_trLayers {τ : Type} (F : Fn α) (specs : List (LayerSpec α τ)) (wp fc : Nat → α)
    (cs : List (Comp α)) (lay : List (Nat × Nat)) (pl : Nat) (h : HydMatch F specs cs lay)
    (hu : List.IsChain (· ≤ ·) (pl :: lay.map Prod.fst)) (h1 : ∀ lk ∈ lay, 1 ≤ lk.1)
    (hl : ∀ c ∈ cs, c.thWP = wp c.layer ∧ c.thFC = fc c.layer) :
    TrLayersOK wp fc pl (cs.map Comp.bare) := by
  fun_induction HydMatch F specs cs lay generalizing pl with
  | case1 => trivial
  | case2 c cs lk ls ih =>
    have e : c.layer = lk.1 := h.1.1
    obtain ⟨u1, u2⟩ := List.isChain_cons_cons.1 hu
    exact ⟨e ▸ u1, e ▸ h1 lk (by simp), (hl c (by simp)).1, (hl c (by simp)).2,
      ih c.layer h.2 (e ▸ u2) (fun lk' h' => h1 lk' (List.mem_cons_of_mem _ h'))
        (fun c' h' => hl c' (List.mem_cons_of_mem _ h'))⟩
  | case3 => exact h.elim

theorem initCells_spec : ∀ {cs : List (Comp α)} {th fcA : List α}, ThBound cs th → FcBound cs fcA →
    List.Forall₂ (fun c x => x.c = c ∧ x.aer = 0 ∧ (c.thDry ≤ x.th ∧ x.th ≤ c.thS) ∧
      c.thFC ≤ x.fcAdj ∧ x.fcAdj ≤ c.thS) cs (initCells cs th fcA)
  | [], [], [], _, _ => .nil
  | _ :: _, _ :: _, _ :: _, .cons a1 a2, .cons b1 b2 =>
    .cons ⟨rfl, rfl, a1, b1⟩ (initCells_spec a2 b2)

theorem initCells_comps {cs : List (Comp α)} {th fcA : List α} (hth : ThBound cs th)
    (hfc : FcBound cs fcA) : (initCells cs th fcA).map (·.c) = cs :=
  (forall₂_map_eq (f := id) (fun _ _ r => r.1.symm) (initCells_spec hth hfc)).symm.trans
    (List.map_id cs)

theorem compOf_facts {τ : Type} (F : Fn α) (specs : List (LayerSpec α τ)) (c : Comp α)
    (lk : Nat × Nat) (h : CompOf F specs c lk) (hspec : ∀ sp ∈ specs, SpecOK sp) :
    0 ≤ c.thDry ∧ c.thDry ≤ c.thWP ∧ c.thWP < c.thFC ∧ c.thFC < c.thS ∧ 0 ≤ c.tau ∧ c.tau ≤ 1 ∧
      0 ≤ c.ksat ∧ 0 ≤ c.pen ∧ c.pen ≤ 100 := by
  obtain ⟨_, sp, hsp, e1, e2, e3, e4, e5, e6, e7⟩ := h
  obtain ⟨p1, p2, p3, p4, p5, p6⟩ := hspec sp (nthSpec_mem specs lk.2 sp hsp)
  have ht := tauOf_bounds F sp.ksat
  rw [e1, e2, e3, e4, e5, e6, e7]
  exact ⟨(half_pos p1).le, (half_lt_self p1).le, p2, p3, ht.1, ht.2, p4, p5, p6⟩

/-- the call that assigned layer `l` -/
def callOf (lay : List (Nat × Nat)) (l : Nat) : Option Nat :=
  (lay.find? (fun lk => lk.1 == l)).map Prod.snd

theorem callOf_eq {lay : List (Nat × Nat)} (hc : ∀ l c c', (l, c) ∈ lay → (l, c') ∈ lay → c = c')
    {l k : Nat} (h : (l, k) ∈ lay) : callOf lay l = some k := by
  unfold callOf
  cases hf : lay.find? (fun lk => lk.1 == l) with
  | none =>
    have := List.find?_eq_none.mp hf (l, k) h
    simp at this
  | some x =>
    have hm := List.mem_of_find?_eq_some hf
    have hx := List.find?_some hf
    simp only [beq_iff_eq] at hx
    obtain ⟨x1, x2⟩ := x
    simp only at hx
    subst hx
    simp only [Option.map_some, Option.some.injEq]
    exact hc _ _ _ hm h

/-- every layer number is assigned by exactly one `add_layer` call (`assignLayersG_good`), hence the
compartments of one layer share their hydraulic values -/
theorem Built.compsOK {τ : Type} {F : Fn α} {ge1 : τ → Nat → Bool} {ge2 : τ → Nat → Nat → Bool}
    (h1 : ∀ t, Anti (ge1 t)) (h2 : ∀ t l, Anti (ge2 t l)) {more : Nat → Bool} {dz : List Nat}
    {specs : List (LayerSpec α τ)} {wt : Bool} {lay : List (Nat × Nat)} {o : SoilOut α}
    (hlay : assignLayersG ge1 ge2 ((buildGeometry dz).map (·.dzsum)) (specs.map (·.thick)) = .ok lay)
    (b : Built F specs more dz wt lay o) (hdz : ∀ d ∈ dz, 0 < d) (hspec : ∀ sp ∈ specs, SpecOK sp) :
    CompsOK o.comps := by
  obtain ⟨_, k, hst, hcons⟩ :=
    assignLayersG_good ge1 ge2 h1 h2 _ (buildGeometry_mono dz) _ lay hlay
  have hmem := hydMatch_mem F specs o.comps lay b.hyd
  let spOf : Nat → Option (LayerSpec α τ) := fun l => (callOf lay l).bind (nthSpec specs)
  have hL : LayerFn o.comps (fun l => match spOf l with | some sp => sp.wp | none => 0)
      (fun l => match spOf l with | some sp => sp.fc | none => 0)
      (fun l => match spOf l with | some sp => sp.s | none => 0) := by
    refine ⟨?_, ?_, ?_⟩
    all_goals
      intro c hc
      obtain ⟨lk, hl, hl1, sp, hsp, e1, e2, e3, _⟩ := hmem c hc
      have hco : callOf lay c.layer = some lk.2 := by
        apply callOf_eq hcons
        rw [hl1]; exact hl
      have : spOf c.layer = some sp := by
        show (callOf lay c.layer).bind (nthSpec specs) = some sp
        rw [hco]; exact hsp
      simp only [this]
      assumption
  exact
    { geom := by simpa [cmToM] using geoMatch_trGeom o.comps o.geo 0 b.rows b.sums (b.pos hdz)
      hyd := fun c hc => by
        obtain ⟨lk, _, hco⟩ := hmem c hc
        exact compOf_facts F specs c lk hco hspec
      layers := ⟨_, _, _, hL, hydMatch_trLayers F specs _ _ _ lay 0 b.hyd
        (hst.chain.imp fun {a b} h => by omega)
        (fun lk hlk => (hst.mem lk.1 (List.mem_map_of_mem hlk)).2.2)
        (fun c hc => ⟨hL.wp c hc, hL.fc c hc⟩)⟩ }

/-- the fields of `CfgOK` about the initial profile -/
structure SoilInitOK (cells : List (Cell α)) (thini : List α) : Prop where
  cells0 : ∀ x ∈ cells, DrainPre x
  geom : TrGeom 0 cells
  aer0 : ∀ x ∈ cells, 0 ≤ x.aer
  pen : ∀ x ∈ cells, 0 ≤ x.c.pen ∧ x.c.pen ≤ 100
  layers : ∃ wp fc : Nat → α, TrLayersOK wp fc 0 cells
  thini : ThiniOK (cells.map (·.c)) thini

theorem initCells_ok {cs : List (Comp α)} {th fcA : List α} (hC : CompsOK cs) (hth : ThBound cs th)
    (hfc : FcBound cs fcA) : SoilInitOK (initCells cs th fcA) th := by
  obtain ⟨wp, fc, s, _, hlay⟩ := hC.layers
  have hcs : (initCells cs th fcA).map (·.c) = (cs.map Comp.bare).map (·.c) := by
    rw [initCells_comps hth hfc, map_c_bare]
  have hrow := fun x hx => forall₂_mem_right (initCells_spec hth hfc) (y := x) hx
  exact
    { cells0 := fun x hx => by
        obtain ⟨_, hc, rfl, _, ht, hf⟩ := hrow x hx
        obtain ⟨f1, f2, f3, f4, f5, f6, f7, _⟩ := hC.hyd x.c hc
        obtain ⟨g1, g2⟩ := trGeom_mem _ 0 hC.geom (le_refl _) x.c.bare (List.mem_map_of_mem hc)
        exact ⟨⟨⟨g1, f1, f2, f3, f4.le, f5, f6, f7⟩, ht.1, ht.2, hf.1, hf.2⟩, g2, f4⟩
      geom := trGeom_of_map_c hcs hC.geom
      aer0 := fun x hx => by
        obtain ⟨_, _, _, h0, _⟩ := hrow x hx
        rw [h0]
      pen := fun x hx => by
        obtain ⟨_, hc, rfl, _⟩ := hrow x hx
        obtain ⟨_, _, _, _, _, _, _, f8, f9⟩ := hC.hyd x.c hc
        exact ⟨f8, f9⟩
      layers := ⟨wp, fc, trLayersOK_of_map_c wp fc hcs hlay⟩
      thini := by rw [initCells_comps hth hfc]; exact hth.thiniOK }

end cells

/-! ## D. totality without a water table (used for the non-vacuity example) -/

section totality

theorem mkComps_ok {τ : Type} (F : Fn α) (specs : List (LayerSpec α τ)) :
    ∀ (geo : List GComp) (lay : List (Nat × Nat)), geo.length = lay.length →
      (∀ lk ∈ lay, (nthSpec specs lk.2).isSome = true) →
      ∃ cs, mkComps F specs geo lay = .ok cs ∧ cs.map (·.layer) = lay.map Prod.fst
  | [], [], _, _ => ⟨[], rfl, rfl⟩
  | [], _ :: _, h, _ => by simp at h
  | _ :: _, [], h, _ => by simp at h
  | g :: gs, (l, k) :: ls, h, hs => by
    obtain ⟨r, hr, e⟩ := mkComps_ok F specs gs ls (by simpa using h)
      (fun lk hlk => hs lk (List.mem_cons_of_mem _ hlk))
    obtain ⟨sp, hsp⟩ := Option.isSome_iff_exists.1 (hs (l, k) (by simp))
    simp only [mkComps, hsp, hr]
    exact ⟨_, rfl, by simp only [List.map_cons, e]⟩

theorem soilProfile_ok_noWT {τ : Type} (F : Fn α) (ge1 : τ → Nat → Bool)
    (ge2 : τ → Nat → Nat → Bool) (more : Nat → Bool) (fuel : Nat) (d0 : Nat) (ds : List Nat)
    (specs : List (LayerSpec α τ)) (adjRew : Bool) (rew zSurf cn zTopArg : α)
    (lay : List (Nat × Nat)) (dz' : List Nat) (k : Nat) (cs0 : List (Comp α))
    (hl : assignLayersG ge1 ge2 ((buildGeometry (d0 :: ds)).map (·.dzsum)) (specs.map (·.thick))
      = .ok lay)
    (hd : deepen more fuel (d0 :: ds) 0 = .ok (dz', k))
    (hm : mkComps F specs (refreshFrom 0 (buildGeometry (d0 :: ds)) dz') lay = .ok cs0)
    (hne : cs0 ≠ []) :
    ∃ so, soilProfile F ge1 ge2 more fuel (d0 :: ds) specs false adjRew false rew zSurf cn zTopArg
      = .ok so ∧ so.comps = cs0 := by
  cases cs0 with
  | nil => exact absurd rfl hne
  | cons c0 rest =>
    unfold soilProfile
    simp only [hl, hd, hm, Bool.false_eq_true, if_false, cnOf]
    exact ⟨_, rfl, rfl⟩

theorem pointValues_layer_ok (ty : WcType) (cs : List (Comp α)) :
    ∀ pts : List (WcPoint α), (∀ p ∈ pts, ∃ c ∈ cs, c.layer = p.lay) →
      ∃ vals, pointValues ty .layer cs pts = .ok vals
  | [], _ => ⟨[], rfl⟩
  | p :: ps, h => by
    obtain ⟨vs, hvs⟩ := pointValues_layer_ok ty cs ps (fun q hq => h q (List.mem_cons_of_mem _ hq))
    obtain ⟨c, hc, hl⟩ := h p (by simp)
    have hany : cs.any (fun c => c.layer == p.lay) = true :=
      List.any_eq_true.mpr ⟨c, hc, by simpa using hl⟩
    have hv : ∃ v, pointValue ty .layer cs p = .ok v := by
      cases ty with
      | num => exact ⟨_, rfl⟩
      | pct => simp only [pointValue, hydRow, hany, if_true]; exact ⟨_, rfl⟩
      | prop => simp only [pointValue, hydRow, hany, if_true]; exact ⟨_, rfl⟩
    obtain ⟨v, hv⟩ := hv
    exact ⟨v :: vs, by simp only [pointValues, hv, hvs]⟩

theorem initWC_layer_ok_noWT (F : Fn α) (cs : List (Comp α)) (zgw zSoil : α) (ty : WcType)
    (pts : List (WcPoint α)) (h : ∀ p ∈ pts, ∃ c ∈ cs, c.layer = p.lay) :
    ∃ o, initWC F cs false zgw zSoil ty .layer pts = .ok o := by
  obtain ⟨vals, hv⟩ := pointValues_layer_ok ty cs pts h
  rw [initWC_layer_noWT, hv]
  exact ⟨_, rfl⟩

end totality

end Aqua

section AxiomAudit
open Aqua
#print axioms deepen_pos
#print axioms Built.compsOK
#print axioms initCells_ok
#print axioms specOK_of_builtin
#print axioms pointValue_layer_bounds
#print axioms fcAdjInit_bound
#print axioms initWC_layer_bounds
#print axioms soilProfile_ok_noWT
#print axioms initWC_layer_ok_noWT
end AxiomAudit
