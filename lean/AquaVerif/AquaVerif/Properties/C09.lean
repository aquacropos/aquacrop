import AquaVerif.Proofs.Session
/-
Property C09 — step-wise execution equals one uninterrupted run.

`runModel k` is the model of `run_model(num_steps=k, initialize_model=False)`, `runCalls ks` a
sequence of such calls, `runTill` the model of `run_model(till_termination=True)`; the state
`St` carries the clock, the flags and the complete daily rows and summary written so far, so
equality of states is equality of all observable outputs.  For every oracle (day function) and
every list of step counts; for every configuration where only the shape of the loops matters, for
every well-formed one (`WF`) where the run has to exist.
-/

namespace Aqua.C09
open Aqua.Clock

variable {c : Cfg} {ev : Ev}

/-- Two calls equal one call with the sum of the step counts (as long as the first did not end
the simulation). -/
theorem steps_compose {a b : Nat} {s s1 : St} (h1 : runSteps c ev a s = .ok s1)
    (hf : s1.finished = false) : runSteps c ev (a + b) s = runSteps c ev b s1 :=
  runSteps_add' h1 hf

/-- A step count that overshoots the end stops at termination. -/
theorem overshoot_stops_at_termination {a : Nat} (b : Nat) {s s1 : St} (hs : s.finished = false)
    (h1 : runSteps c ev a s = .ok s1) (hf : s1.finished = true) :
    runSteps c ev (a + b) s = .ok s1 := overshoot_stops b hs h1 hf

/-- **Any** sequence of run calls that leaves the model finished produces exactly the state —
daily rows, summary, clock, completion status — of one run to termination. -/
theorem any_partition_equals_one_run (hw : WF c) (ev : Ev) {s₀ s : St} (hi : init c = .ok s₀)
    {ks : List Nat} (h : runCalls c ev ks s₀ = .ok s) (hf : s.finished = true) :
    runTill c ev s₀ = .ok s := calls_eq_till hw ev hi h hf

/-- Every way of cutting the run exists: a call with a positive step count on an unfinished
reachable state never raises. -/
theorem positive_step_calls_never_raise (hw : WF c) (ev : Ev) {s : St} (hr : Reach c ev s)
    (hf : s.finished = false) (k : Nat) (hk : 1 ≤ k) :
    ∃ s', runModel c ev k s = .ok s' ∧ Reach c ev s' :=
  runModel_ok_of_unfinished hw ev hr hf k hk

/-- Until termination the model is unfinished: every intermediate call result of a sequence
that goes on is unfinished. -/
theorem unfinished_until_termination {k k2 : Nat} {ks : List Nat} {s₀ s1 s : St}
    (h1 : runModel c ev k s₀ = .ok s1) (h : runCalls c ev (k2 :: ks) s1 = .ok s) :
    s1.finished = false := by
  rw [runCalls_eq] at h
  exact Steps.calls_cons_unfinished (step := perform c ev) (fun _ _ => unfinished_of_perform_ok) h

/-- At every reachable state the summary rows are in strictly increasing season order. -/
theorem summary_only_grows_in_order (hw : WF c) {s : St} (hr : Reach c ev s) :
    s.summary.Pairwise (fun a b => a.1 < b.1) := summary_sorted hw hr

/-! ### the public API as a state machine (`Model/Session.lean`, replayed by the `session` tie on real `AquaCropModel` objects) -/

section api
open Aqua.Clock Aqua.Session
/-- **API level.** A new `AquaCropModel`, first call `run_model(num_steps=k₀)`, then any calls
`run_model(num_steps=kᵢ, initialize_model=False)` (all `kᵢ ≥ 1`, no `process_outputs`) whose step
counts add up to at least the window length: the calls return `True` until the run has ended
(`m + 1` of them), every later call raises the table-write exception `tw c` (`ValueError`;
`InvalidIndexError` for a 3-step window) (`p` of them), and the
object ends with the flags, clock, daily rows, summary and table kind of one
`run_model(till_termination=True)` — identical state if no call was made after the end. -/
theorem api_partition_equals_one_run {c : Cfg} (hw : WF c) (ev : Ev) {s₀ : St}
    (hi : Clock.init c = .ok s₀) (k₀ : Nat) (ks : List Nat) (hk₀ : 1 ≤ k₀)
    (hks : ∀ k ∈ ks, 1 ≤ k) (htot : c.n ≤ k₀ + ks.sum) :
    ∃ sT m p, runTill c ev s₀ = .ok sT ∧ sT.finished = true ∧
      session c ev [.run 0 true true false] = (ofClock sT, [.retTrue]) ∧
      (session c ev (.run k₀ false true false :: ks.map stepCall)).2 =
        List.replicate (m + 1) .retTrue ++ List.replicate p (tw c) ∧
      VisOf (session c ev (.run k₀ false true false :: ks.map stepCall)).1 sT ∧
      (p = 0 → (session c ev (.run k₀ false true false :: ks.map stepCall)).1 = ofClock sT) := by
  obtain ⟨sT, hT, hfT, hrT, hrun⟩ := run_till_init hw ev hi
  have h0 := (live_init hw hi).notFin
  -- the first call
  obtain ⟨st1, hm1, hr1, hb1⟩ := runBody_progress (c := c) (ev := ev) hw (Reach.init hi) h0 k₀ hk₀
    (s0 := { fresh with obj := some { clock := s₀, converted := false, desync := false } })
    rfl (by rw [objOf_unfinished h0])
  have hfirst : step c ev (.run k₀ false true false) fresh = (ofClock st1, .retTrue) := by
    simp only [step, run, if_true, initObj, hi]; exact hb1
  have ht1 : Tracks c ev s₀ k₀ 0 (ofClock st1) st1 :=
    ⟨(runModel_ok hm1).2, hr1, visOf_ofClock st1, fun _ => rfl, fun h => by omega⟩
  obtain ⟨m, p, stL, _, _, h3, h4⟩ := tracks_calls (c := c) (ev := ev) hw hi ks k₀ 0 _ st1 ht1 hks
  -- the total number of steps reaches the end
  obtain ⟨sE, hE1, hE2, hE3⟩ := terminates hw ev hi
  have hsT : sE = sT := by rw [hT] at hE2; cases hE2; rfl
  subst hsT
  obtain rfl : stL = sE := by
    obtain ⟨d, hd⟩ : ∃ d, k₀ + ks.sum = c.n + d := ⟨k₀ + ks.sum - c.n, by omega⟩
    have := overshoot_stops d h0 hE1 hE3
    rw [← hd, h3.steps] at this
    cases this; rfl
  refine ⟨stL, m, p, hT, hfT, ?_, ?_⟩
  · unfold session
    simp only [runOps, step]
    rw [hrun 0 false fresh]
  · unfold session
    simp only [runOps, hfirst]
    refine ⟨?_, h3.vis, h3.exact⟩
    rw [h4, Nat.sub_zero, List.replicate_succ]; rfl

/-- what a `run_model(num_steps=k, initialize_model=False)` call, `k ≥ 1`, does after the end:
raises `tw c`, changes nothing observable -/
theorem api_call_after_end {c : Cfg} {ev : Ev} (hw : WF c) {st : St} (hr : Reach c ev st)
    (hf : st.finished = true) {s : SSt} (hv : VisOf s st) (k : Nat) (hk : 1 ≤ k) :
    (run c ev k false false false s).2 = tw c ∧ VisOf (run c ev k false false false s).1 st :=
  run_after_termination hw hr hf hv k hk

/-- a `num_steps = k` call performs `min k (days to termination)` days, harvests or not -/
theorem api_steps_performed {c : Cfg} (hw : WF c) (ev : Ev) {st sT : St} (hr : Reach c ev st)
    (hf : st.finished = false) {f : Nat} (hT : runTillF c ev f st = .ok sT) (k : Nat) (hk : 1 ≤ k) :
    ∃ st', step c ev (stepCall k) (ofClock st) = (ofClock st', .retTrue) ∧
      st'.rowsRev.length = st.rowsRev.length + min k (sT.rowsRev.length - st.rowsRev.length) := by
  obtain ⟨s', h1, h2⟩ := runSteps_days hw k hr hf hT
  obtain ⟨st', hm, _, hb⟩ := runBody_progress (c := c) (ev := ev) hw hr hf k hk
    (s0 := ofClock st) rfl rfl
  have : st' = s' := by
    have := (runModel_ok hm).2
    rw [h1] at this; cases this; rfl
  subst this
  refine ⟨st', ?_, h2⟩
  simp only [stepCall, step, run, Bool.false_eq_true, if_false]; exact hb

example := api_partition_equals_one_run (c := small) (by decide) noEv (s₀ := _) rfl 2 [5, 1] (by decide)
  (by decide) (by decide)
example := api_steps_performed (c := exCfg) (by decide) exEv
  (st := { t := 0, season := -1, dap := 0, mature := false, dead := false, harvestFlag := false,
           finished := false, rowsRev := [], summaryRev := [] })
  (Reach.init rfl) rfl (f := 40) (sT := _) rfl 12 (by decide)

end api

end Aqua.C09
