import AquaVerif.Proofs.WeatherBind
/-
Property C15 — weather is bound by date and by column name.

`bindTable` is the model of `core._initialize`'s selection of the five required columns by name
(`weather_df[["MinTemp", "MaxTemp", "Precipitation", "ReferenceET", "Date"]]`); rows are bound by
date through `clip` (`read_weather_inputs`).  The `bind_*` theorems speak of the first shape and
`extra_rows_outside_window` of the second, the `impl_*` theorems of `weatherMatrix`, the code as
executed (`Model/WeatherBind.lean`).  Invariance under column permutation needs distinct column
names.
-/

namespace Aqua.C15
open Aqua.RunShape

variable {κ : Type}

open Aqua.WeatherBind in
/-- two tables in which each of the five names selects the same columns are bound to the same
(`bindTable` takes the first column of each selection) -/
theorem bindTable_congr {t t' : Table κ} (h : ∀ n ∈ required, sel n t.cols = sel n t'.cols) :
    bindTable t = bindTable t' := by
  simp only [bindTable, col_eq_head_sel]
  rw [h "MinTemp" (by decide), h "MaxTemp" (by decide), h "Precipitation" (by decide),
    h "ReferenceET" (by decide), h "Date" (by decide)]

/-- Reordering the columns of a table with distinct column names does not change what is bound. -/
theorem bind_perm_columns (t t' : Table κ) (hp : t.cols.Perm t'.cols)
    (hnd : (t.cols.map (·.1)).Nodup) : bindTable t = bindTable t' :=
  bindTable_congr fun n _ => Aqua.WeatherBind.sel_perm hp hnd n

/-- Adding unrelated columns (names other than the five required ones), anywhere in the table,
does not change what is bound. -/
theorem bind_extra_columns (pre extra post : List (String × List κ))
    (hx : ∀ c ∈ extra, c.1 ∉ required) :
    bindTable ⟨pre ++ extra ++ post⟩ = bindTable ⟨pre ++ post⟩ :=
  bindTable_congr fun n hn =>
    Aqua.WeatherBind.sel_insert pre extra post n fun c hc heq => hx c hc (heq ▸ hn)

/-- Re-indexing the table does not change what is bound (the index is never consulted). -/
theorem bind_reindex {ι : Type} (t : Table κ) (index : List ι) :
    bindTable (reindex t index) = bindTable t := rfl

/-- Extra leading or trailing rows (dates outside the window) do not change the records used:
they are clipped away before the run. -/
theorem extra_rows_outside_window {ω : Type} (lo hi : Int) (pre mid post : List (Int × ω))
    (hpre : ∀ p ∈ pre, p.1 < lo) (hpost : ∀ p ∈ post, hi < p.1) :
    clip lo hi (pre ++ mid ++ post) = clip lo hi mid := by
  have h1 : clip lo hi pre = [] := by
    simp only [clip, List.filter_eq_nil_iff, Bool.and_eq_true, decide_eq_true_eq, not_and]
    intro p hp h; have := hpre p hp; omega
  have h2 : clip lo hi post = [] := by
    simp only [clip, List.filter_eq_nil_iff, Bool.and_eq_true, decide_eq_true_eq, not_and]
    intro p hp _; have := hpost p hp; omega
  simp only [clip, List.filter_append] at *
  rw [h1, h2]; simp

/-- Taking the columns by position (`cols.map (·.2)`) is *not* invariant under column permutation:
there are two tables with the same distinct-named columns in different order whose column lists
differ. -/
theorem positional_binding_is_not_invariant :
    ∃ (t t' : Table Nat), t.cols.Perm t'.cols ∧ (t.cols.map (·.1)).Nodup ∧
      t.cols.map (·.2) ≠ t'.cols.map (·.2) :=
  ⟨⟨[("MinTemp", [1]), ("MaxTemp", [2])]⟩, ⟨[("MaxTemp", [2]), ("MinTemp", [1])]⟩,
    List.Perm.swap _ _ _, by decide, by decide⟩

/-- non-vacuity: a five-column table with an extra column, permuted -/
example : bindTable (κ := Nat) ⟨[("Date", [7]), ("Wind", [0]), ("ReferenceET", [4]), ("Precipitation", [3]),
      ("MaxTemp", [2]), ("MinTemp", [1])]⟩ = some [[1], [2], [3], [4], [7]] := by decide

/-! ### tie of the shapes to the code (`Model/WeatherBind.lean`, replayed by the `weather_bind` tie) -/

section impl
open Aqua.WeatherBind

/-- Reordering the columns of a `weather_df` with distinct names does not change the matrix that
`read_weather_inputs` and the selection in `_initialize` produce, nor the error they raise. -/
theorem impl_perm_columns {κ ι ι' : Type} (s e : Int) (t : WTable κ ι) (t' : WTable κ ι')
    (hp : t.cols.Perm t'.cols) (hnd : (t.cols.map (·.1)).Nodup) :
    weatherMatrix s e t = weatherMatrix s e t' :=
  weatherMatrix_congr s e (fun n _ => sel_perm hp hnd n)

/-- Columns with names other than the five required ones, anywhere in `weather_df`, do not change
that matrix or error (nor does the index). -/
theorem impl_extra_columns {κ ι ι' : Type} (s e : Int) (pre extra post : List (String × List (WCell κ)))
    (idx : List ι) (idx' : List ι') (hx : ∀ c ∈ extra, c.1 ∉ required) :
    weatherMatrix s e ({ cols := pre ++ extra ++ post, index := idx } : WTable κ ι) =
      weatherMatrix s e ({ cols := pre ++ post, index := idx' } : WTable κ ι') :=
  weatherMatrix_congr s e
    (fun n hn => sel_insert pre extra post n (fun c hc heq => hx c hc (heq ▸ hn)))

/-- The index of `weather_df` is never consulted: any other index, of any type, gives the same matrix
or error. -/
theorem impl_reindex {κ ι ι' : Type} (s e : Int) (t : WTable κ ι) (idx' : List ι') :
    weatherMatrix s e ({ cols := t.cols, index := idx' } : WTable κ ι') = weatherMatrix s e t :=
  weatherMatrix_congr s e (fun _ _ => rfl)

/-- `weatherMatrix` of a table with distinct labels and proper dates = positional checks, then
`bindTable` on the unclipped table, then `clip` (C14's shape) on the dated rows -/
theorem impl_eq_bind_clip {κ ι : Type} (s e : Int) {t : WTable κ ι} {ds : List Int}
    (hnd : (t.cols.map (·.1)).Nodup) (h : sel "Date" t.cols = [ds.map .date]) :
    weatherMatrix s e t =
      match ds.head?, ds.getLast? with
      | some d0, some d1 =>
        if s < d0 then .error "E:first-date"
        else if d1 < e then .error "E:last-date"
        else match bindTable t.toTable with
          | none => .error "E:key"
          | some cs => .ok ((clip s e (ds.zip (rowsOf cs))).map (·.2))
      | _, _ => .error "E:index" := by
  rw [weatherMatrix_eq_clip s e h,
    selectCols_eq_bindTable t.toTable (fun n _ => sel_length_le_one hnd n)]
  cases bindTable t.toTable <;> rfl

/-- rows are bound by date when the table is sorted, gap-free, duplicate-free and covers the window
(counter-examples for tables with a gap, unsorted rows or a duplicate in `Proofs/WeatherBind.lean`
§5 — the implementation binds rows by position after clipping) -/
theorem impl_rows_by_date {κ ι : Type} (s e d0 : Int) (n : Nat) {t : WTable κ ι}
    (h : sel "Date" t.cols = [(contig d0 n).map .date]) (h0 : d0 ≤ s) (h1 : e < d0 + n)
    {m : List (List (WCell κ))} (hm : weatherMatrix s e t = .ok m) (k : Nat) (r : List (WCell κ))
    (hr : dayRow m k = .ok r) : r.getLast? = some (.date (s + k)) := by
  rw [weatherMatrix_single s e h] at hm
  obtain ⟨cs, hsel, rfl⟩ := wmSingle_ok hm
  obtain ⟨pre, rfl⟩ : ∃ pre, cs = pre ++ [(contig d0 n).map .date] := by
    refine ⟨["MinTemp", "MaxTemp", "Precipitation", "ReferenceET"].flatMap (sel · t.cols), ?_⟩
    rw [selectCols_ok hsel, ← h]
    simp only [required, List.flatMap_cons, List.flatMap_nil, List.append_nil, List.append_assoc]
  unfold dayRow at hr
  split at hr
  · rename_i r' hk
    cases hr
    -- masking the rows = masking every column: the last column stays the (masked) `Date` column
    rw [← rowsOf_keep, List.map_append, List.map_cons, List.map_nil] at hk
    obtain ⟨x, hx, hl⟩ := rowsOf_getLast _ _ k r hk
    rw [hl]
    congr 1
    rw [keep_map_self, List.filter_map] at hx
    have hf : (contig d0 n).filter (inWin s e ∘ WCell.date (κ := κ)) =
        (contig d0 n).filter (fun d => decide (s ≤ d) && decide (d ≤ e)) := rfl
    rw [hf, filter_contig d0 s e n h0 h1, List.getElem?_map, contig_getElem?] at hx
    split at hx
    · simpa using hx.symm
    · cases hx
  · cases hr
end impl

end Aqua.C15
