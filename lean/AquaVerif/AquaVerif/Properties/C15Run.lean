import AquaVerif.Proofs.RunForcingBind
/-
Property C15, run-level companion file: **the binding of the weather table, followed through to the
run** (`Proofs/RunForcingBind.lean`).  `Properties/C15.lean` proves that
`weatherMatrix` (the implementation's `read_weather_inputs` + matrix line, `Model/WeatherBind.lean`)
is invariant under column permutation, extra columns, re-indexing and extra out-of-window rows;
here the matrix is what `RunCfg.weather` is read from (`cfgOfMatrix`: day `t` ↦
`dayVars (dayRow m t)`), so the invariance is an equality of whole runs of `runModel`.
-/
set_option linter.unusedSectionVars false

namespace Aqua.C15
open Aqua.RunShape

/-! ### the full run model (`Model/Run.lean`): from the table to `runModel` -/

section run
open Aqua Aqua.Clock Aqua.WeatherBind
variable {α : Type} [Field α] [LinearOrder α] [IsStrictOrderedRing α]
  {F : Fn α} {T : TrigFn α} {ι ι' : Type}

/-- **Binding invariance of the whole run.**  `runOfTable` = `weatherMatrix` (`read_weather_inputs`
+ the matrix line of `_initialize`), `runInit`, `run_model(num_steps = k)`, the day `t` reading
`dayVars (dayRow m t)`.  Two tables on which the set-up computes the same thing (`SameBinding`:
obtained from `impl_perm_columns`, `impl_extra_columns`, `impl_reindex`,
`C14.impl_outside_window_irrelevant` and chains of them) give the same outcome: the same set-up
error, the same run error, or the same final state with every day record. -/
theorem run_invariant_under_rebinding (cfg : RunCfg α) (dflt : Weather α) {s e : Int}
    {t : WTable α ι} {t' : WTable α ι'} (h : SameBinding s e t t') (k : Nat) :
    runOfTable F T cfg dflt s e t' k = runOfTable F T cfg dflt s e t k :=
  Aqua.run_binding_invariant cfg dflt h k

/-- The outcome of the whole run is the same after reordering the columns of a weather table with
distinct names. -/
theorem run_perm_columns (cfg : RunCfg α) (dflt : Weather α) (s e : Int) (t : WTable α ι)
    (t' : WTable α ι') (hp : t.cols.Perm t'.cols) (hnd : (t.cols.map (·.1)).Nodup) (k : Nat) :
    runOfTable F T cfg dflt s e t' k = runOfTable F T cfg dflt s e t k :=
  Aqua.run_binding_invariant cfg dflt (sameBinding_perm_columns s e t t' hp hnd) k

/-- … after adding columns with names other than the five required ones, whatever the two indexes. -/
theorem run_extra_columns (cfg : RunCfg α) (dflt : Weather α) (s e : Int)
    (pre extra post : List (String × List (WCell α))) (idx : List ι) (idx' : List ι')
    (hx : ∀ c ∈ extra, c.1 ∉ required) (k : Nat) :
    runOfTable F T cfg dflt s e ({ cols := pre ++ extra ++ post, index := idx } : WTable α ι) k =
      runOfTable F T cfg dflt s e ({ cols := pre ++ post, index := idx' } : WTable α ι') k :=
  Aqua.run_binding_invariant cfg dflt (sameBinding_extra_columns s e pre extra post idx idx' hx) k

/-- … whatever the index of the weather table. -/
theorem run_reindex (cfg : RunCfg α) (dflt : Weather α) (s e : Int) (t : WTable α ι)
    (idx' : List ι') (k : Nat) :
    runOfTable F T cfg dflt s e ({ cols := t.cols, index := idx' } : WTable α ι') k =
      runOfTable F T cfg dflt s e t k :=
  Aqua.run_binding_invariant cfg dflt (sameBinding_reindex s e t idx') k

/-- … after adding rows that the window mask rejects (dated outside the window, `NaT`, missing),
provided the two positional date checks come out the same: the premises of
`C14.impl_outside_window_irrelevant`. -/
theorem run_extra_rows (cfg : RunCfg α) (dflt : Weather α) (s e : Int) (t : WTable α ι)
    (t' : WTable α ι') (m : List Bool)
    (hview : ∀ n ∈ required, sel n t.cols = (sel n t'.cols).map (keep m))
    (hout : ∀ c ∈ sel "Date" t'.cols, Forall2 (fun b x => b = false → Outside s e x) m c)
    (hfirst : dateEdgeTest false (fun d => decide (s < d)) t' =
              dateEdgeTest false (fun d => decide (s < d)) t)
    (hlast : dateEdgeTest true (fun d => decide (d < e)) t' =
             dateEdgeTest true (fun d => decide (d < e)) t) (k : Nat) :
    runOfTable F T cfg dflt s e t' k = runOfTable F T cfg dflt s e t k :=
  Aqua.run_binding_invariant cfg dflt (sameBinding_extra_rows s e t t' m hview hout hfirst hlast) k

/-- the day reads row `t` of the matrix: its first four cells are `MinTemp`, `MaxTemp`,
`Precipitation`, `ReferenceET` of day `t` (that row `t` is the row dated `start + t` is
`impl_rows_by_date`, under its premises) -/
theorem run_reads_row (cfg : RunCfg α) (dflt : Weather α) {m : List (List (WCell α))} {t : Nat} {a b c d : α}
    {rest : List (WCell α)} (h : m[t]? = some (.num a :: .num b :: .num c :: .num d :: rest)) :
    (cfgOfMatrix cfg dflt m).weather t = { tmin := a, tmax := b, rain := c, et0 := d } :=
  weatherOfMatrix_row dflt h

/-- `RunCfg.weather` is total; where the Python would raise (missing row, short row, non-numeric
cell) the model has the value `dflt` — which is never observed when the rows `t < n − 1` are there -/
theorem run_default_never_observed (cfg : RunCfg α) {m : List (List (WCell α))}
    (hm : MatrixOK m cfg.clock.n) (d1 d2 : Weather α) (k : Nat) :
    (runInit (cfgOfMatrix cfg d2 m)).bind (runModel F T (cfgOfMatrix cfg d2 m) k) =
      (runInit (cfgOfMatrix cfg d1 m)).bind (runModel F T (cfgOfMatrix cfg d1 m) k) :=
  run_weather_outside_window_init
    { static := staticEq_cfgOfMatrix cfg d1 d2 m m, clock := rfl, crop := rfl,
      day := fun _ ht => ⟨weatherOfMatrix_default hm d2 d1 ht, fun _ => rfl, rfl, rfl⟩ } k

end run

end Aqua.C15
