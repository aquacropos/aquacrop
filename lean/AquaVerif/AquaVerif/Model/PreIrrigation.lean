import AquaVerif.Model.Profile
/-
Model of `aquacrop/solution/pre_irrigation.py`: on the first day after planting in net
irrigation mode (`irrigation_method == 4`, `dap == 1`) the compartments of the root zone are
raised to the threshold `thCrit = th_wp + NetIrrSMT/100 · (th_fc − th_wp)`.

`compRz = argwhere(dzsum >= rootdepth)[0]` and the loop is `range(compRz)`: the compartment that
contains the bottom of the root zone is *excluded* (mirrored as written).
`IndexError` when the rounded root depth exceeds the profile depth → `none`.

`rootdepth = round(max(z_root, Zmin), 2)`: the rounding applied depends on the *runtime type* of
the value `max` returns.  `Crop.Zmin` is a Python float; `NewCond.z_root` is a Python float on
some days (in particular on `dap == 1`, where `root_development` has just set it to
`float(Crop.Zmin)`) and a numpy scalar on others.  A numpy scalar is rounded by
scale-rint-unscale (`F.round2`), a Python float by correctly rounded decimal rounding
(`F.pyRound2`); the two differ on some 3-decimal inputs (0.645 → 0.64 resp. 0.65) and then select
different compartments.  The model is therefore parameterised by the rounding function
(`preIrrigationR`); `preIrrigationT` picks it from a flag the encoder derives from the runtime
type, `preIrrigation` is the numpy-scalar instance.  All lemmas hold for any rounding function.
-/

namespace Aqua
section
variable {α : Type} [Add α] [Sub α] [Mul α] [Div α] [Neg α] [LT α] [LE α]
  [DecidableLT α] [DecidableLE α] [OfScientific α] [OfNat α 0] [OfNat α 1] [OfNat α 100]
  [OfNat α 1000]

/-- `thCrit` of one compartment. -/
def preIrrCrit (smt : α) (c : Comp α) : α :=
  c.thWP + ((smt / 100) * (c.thFC - c.thWP))

/-- `for ii in range(compRz)`; accumulator `PreIrr`. -/
def preIrrLoop (smt : α) : Nat → List (Cell α) → α → List (Cell α) × α
  | 0, cs, acc => (cs, acc)
  | _+1, [], acc => ([], acc)
  | n+1, x :: xs, acc =>
    let thCrit := preIrrCrit smt x.c
    if x.th < thCrit then
      let r := preIrrLoop smt n xs (acc + ((thCrit - x.th) * 1000 * x.c.dz))
      ({ x with th := thCrit } :: r.1, r.2)
    else
      let r := preIrrLoop smt n xs acc
      (x :: r.1, r.2)

/-- `pre_irrigation(prof, Crop, InitCond, growing_season, IrrMngt)` reading `irrigation_method`,
`NetIrrSMT`, `InitCond.dap`, `.z_root`, `.th`, `Crop.Zmin`; returns `(cells, PreIrr)`.
`none` = `IndexError`. -/
def preIrrigationR (rnd : α → α) (cells : List (Cell α)) (gs : Bool) (irrMethod : Nat) (dap : Int)
    (zRoot zMin netIrrSMT : α) : Option (List (Cell α) × α) :=
  if gs then
    if irrMethod ≠ 4 ∨ dap ≠ 1 then some (cells, 0)
    else
      let rootdepth := rnd (pmax zRoot zMin)
      match firstGE rootdepth cells with
      | none => none
      | some compRz => some (preIrrLoop netIrrSMT compRz cells 0)
  else some (cells, 0)

/-- `npRound = true`: `max(z_root, Zmin)` is a numpy scalar (numpy rounding);
`false`: a Python float (Python's `round`). -/
def preIrrigationT (F : Fn α) (npRound : Bool) (cells : List (Cell α)) (gs : Bool)
    (irrMethod : Nat) (dap : Int) (zRoot zMin netIrrSMT : α) : Option (List (Cell α) × α) :=
  preIrrigationR (if npRound then F.round2 else F.pyRound2) cells gs irrMethod dap zRoot zMin
    netIrrSMT

/-- the numpy-scalar instance. -/
def preIrrigation (F : Fn α) (cells : List (Cell α)) (gs : Bool) (irrMethod : Nat) (dap : Int)
    (zRoot zMin netIrrSMT : α) : Option (List (Cell α) × α) :=
  preIrrigationT F true cells gs irrMethod dap zRoot zMin netIrrSMT

end
end Aqua
