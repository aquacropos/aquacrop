import AquaVerif.Proofs.PrepareGdd
/-
`prepare_gdd` and "no look-ahead" (property C14).

Each converted stage threshold is the mean / median, over ALL seasons in the window
`pl_date … time_span[-1]`, of the cumulative growing degrees at the stage's calendar-day position.
Hence extending the end of the simulation (appending the rows of a further season) changes the
thresholds used from the FIRST season on: for `SwitchGDD == 1` crops the initial state depends on
future weather by design.

The theorems are in `Properties/C14.lean`; here are the witness over ℚ (two seasons of four days) and
the two facts about the season loop they use: it depends on the rows only through the per-season
degree lists (`allSeasons_congr`), and rows that all carry one label form one season
(`uniqLabels_const`).
-/

namespace Aqua

/-! ## 1. the witness -/

/-- calendar-day positions 0, 1, 2, 3 -/
def lookaheadStages : GddStagesIn ℚ :=
  { emergenceCD := 0, canopy10PctCD := 1, maxRootingCD := 2, maxCanopyCD := 3,
    canopyDevEndCD := 3, senescenceCD := 3, maturityCD := 3, hiStartCD := 1, hiEndCD := 2,
    floweringEndCD := 2, hiStart := 1, hiEnd := 2 }

/-- previous attribute values (irrelevant for `'mean'`) -/
def lookaheadOld : GddStages ℚ :=
  { emergence := 0, canopy10Pct := 0, maxRooting := 0, maxCanopy := 0, canopyDevEnd := 0,
    senescence := 0, maturity := 0, hiStart := 0, hiEnd := 0, yieldFormation := 0,
    floweringEnd := 0, floweringDuration := 0 }

/-- season 0: four days of 1 degree-day -/
def lookaheadRows₁ : List (Option Nat × ℚ) := [(some 0, 1), (some 0, 1), (some 0, 1), (some 0, 1)]
/-- season 1: four days of 3 degree-days -/
def lookaheadExt : List (Option Nat × ℚ) := [(some 1, 3), (some 1, 3), (some 1, 3), (some 1, 3)]

/-! ## 2. the conversion sees the per-season degree lists only -/

variable {α : Type} [Field α] [LinearOrder α] [IsStrictOrderedRing α]

omit [LinearOrder α] [IsStrictOrderedRing α] in
theorem allSeasons_congr (toInt : α → Int) (cropType : Nat) (s : GddStagesIn α)
    {rows rows' : List (Option Nat × α)} (hs : ∀ k, seasonGdd rows k = seasonGdd rows' k)
    (ks : List (Option Nat)) :
    allSeasons toInt cropType s rows ks = allSeasons toInt cropType s rows' ks := by
  induction ks with
  | nil => rfl
  | cons k ks ih => simp only [allSeasons, hs k, ih]

/-! ## 3. rows of one season -/

theorem uniqLabels_const {l : List (Option Nat)} {c : Option Nat} (h : ∀ x ∈ l, x = c)
    (hne : l ≠ []) : uniqLabels l = [c] := by
  cases l with
  | nil => exact absurd rfl hne
  | cons x xs =>
    have hx : x = c := h x (by simp)
    subst hx
    simp only [uniqLabels, List.cons.injEq, true_and, List.filter_eq_nil_iff]
    intro y hy
    have : y = x := h y (by simp [(mem_uniqLabels xs y).mp hy])
    simp [this]

end Aqua
