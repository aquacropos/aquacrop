import AquaVerif.Model.Profile
/-
Model of `aquacrop/solution/infiltration.py`.

Structure (mirrors the Python top to bottom):

* `infSurface`  – the bunds / no-bunds split of the day's intake into the amount offered to the
                  soil (`ToStore`), the initial runoff (`RunoffIni`) and the new ponding depth.
                  Bunds with `zBund ≤ 0.001` are treated as no bunds, as in the source.
                  `prof.Ksat[0]` on an empty profile → `E:index`.
* `infCell`     – body of the main `while` loop for one compartment up to (and including)
                  `ToStore = ToStore - excess`.
* `backUp`      – the `while (excess > 0) and (precomp != 0)` loop, structural over the visited
                  cells reversed (nearest first; its head is the *current* compartment, whose
                  `FluxOut` is reduced by the excess as well — as in the source).
* `infLoop`     – the main `while (ToStore > 0) and (ii < nComp-1)` loop, structural over the
                  remaining cells.
* `infiltration`– entry point.

Ghost outputs (not part of the Python return value): `inflIn`, `runoffIni`, `toStore0`,
`backup`, `lost`, `branch`.  `lost` is the water the Python drops silently:
  (a) bunds present, `Infl + SurfaceStorage ≤ 0`: the day's intake `Infl` is neither stored nor
      turned into runoff (only possible with a negative ponding depth, or when it is 0);
  (b) `ToStore ≤ 0` after the surface split (only negative when `Ksat[0] < 0`): `ToStore` is
      discarded.
-/

namespace Aqua
section
variable {α : Type} [Add α] [Sub α] [Mul α] [Div α] [Neg α] [LT α] [LE α]
  [DecidableLT α] [DecidableLE α] [OfScientific α] [OfNat α 0] [OfNat α 1] [OfNat α 100]
  [OfNat α 1000]

/-- result of the surface split -/
structure Surf (α : Type) where
  toStore   : α
  runoffIni : α
  pond      : α
  lost      : α     -- ghost: intake dropped (case (a) above)
  branch    : Nat   -- ghost: which branch was taken (1..9)

/-- bunds: overtopping check after the Ksat split (`pond1` = water left ponding). -/
def overtop (toStore pond1 zBund : α) (br : Nat) : Surf α :=
  if zBund < pond1 then
    { toStore := toStore, runoffIni := pond1 - zBund, pond := zBund * 1, lost := 0, branch := br }
  else
    { toStore := toStore, runoffIni := 0, pond := pond1, lost := 0, branch := br + 2 }

/-- the no-bunds branch: `(ToStore, RunoffIni)` from the Ksat split, ponded water released as
runoff; ghost branch id `br` (Ksat-limited) or `br + 1`. -/
def noBunds (ksat0? : Option α) (pond infl : α) (br : Nat) : Except String (Surf α) :=
  match ksat0? with
  | none => .error "E:index"
  | some k =>
    if k < infl then
      .ok { toStore := k, runoffIni := infl - k + pond, pond := 0, lost := 0, branch := br }
    else
      .ok { toStore := infl, runoffIni := 0 + pond, pond := 0, lost := 0, branch := br + 1 }

/-- Surface part: `ksat0? = prof.Ksat[0]` if the profile is non-empty, `pond` the incoming
surface storage, `infl` the (efficiency-adjusted, asserted non-negative) intake.

Python: `if Bunds: if zBund > 0.001: <bund block>` followed by
`if (not Bunds) or (zBund <= 0.001): <no-bunds block>`.  The two guards are mutually exclusive
(also at `Float`), so the two consecutive `if`s are modelled as a chain.  Neither guard holds only
for `Bunds` with `zBund = NaN`; then `ToStore` is unbound at `if ToStore > 0` (`E:unbound`) — in
an ordered field that case does not exist (`infSurface_ne_unbound`). -/
def infSurface (ksat0? : Option α) (pond infl : α) (bunds : Bool) (zBund : α) :
    Except String (Surf α) :=
  if bunds = true ∧ 0.001 < zBund then
    let inflTot := infl + pond
    if 0 < inflTot then
      match ksat0? with
      | none => .error "E:index"
      | some k =>
        if k < inflTot then .ok (overtop k (inflTot - k) zBund 1)
        else .ok (overtop inflTot 0 zBund 2)
    else
      .ok { toStore := 0, runoffIni := 0, pond := pond, lost := infl, branch := 5 }
  else if bunds = false ∨ zBund ≤ 0.001 then
    -- no bunds, or bunds not higher than 0.001 mm (ignored)
    noBunds ksat0? pond infl (if bunds then 8 else 6)
  else
    .error "E:unbound"

/-- `(theta0, dthdt0)` after the "check drainage ability" block, for `ts = ToStore`. -/
def infTheta (F : Fn α) (x : Cell α) (ts : α) : α × α :=
  let c := x.c
  let dthdtS := c.tau * (c.thS - c.thFC)
  let dthdt0 := ts / (1000 * c.dz)
  if dthdt0 < dthdtS then
    let th0 :=
      if dthdt0 ≤ 0 then x.fcAdj
      else
        let a := 1 + ((dthdt0 * (F.exp (c.thS - c.thFC) - 1)) / (c.tau * (c.thS - c.thFC)))
        c.thFC + F.log a
    if c.thS < th0 then (c.thS, dthdt0)
    else if th0 ≤ x.fcAdj then (x.fcAdj, 0)
    else (th0, dthdt0)
  else (c.thS, dthdtS)

/-- `drainmax`: maximum water flow through the compartment, given the (limited) `dthdt0`. -/
def infDrainmax (x : Cell α) (dthdt1 : α) : α :=
  let c := x.c
  let dthdtS := c.tau * (c.thS - c.thFC)
  let factor := c.ksat / (dthdtS * 1000 * c.dz)
  let drainmax0 := factor * dthdt1 * 1000 * c.dz
  let drainage := drainmax0 + x.flux
  if c.ksat < drainage then c.ksat - x.flux else drainmax0

/-- storing in the compartment: new `(th, ToStore)`. -/
def infStore (x : Cell α) (theta0 ts : α) : α × α :=
  let diff := theta0 - x.th
  if 0 < diff then
    let th1 := x.th + (ts / (1000 * x.c.dz))
    if theta0 < th1 then (theta0, (th1 - theta0) * 1000 * x.c.dz) else (th1, 0)
  else (x.th, ts)

/-- One pass of the main loop body for compartment `x` with `ts = ToStore` on entry.
Returns the updated cell (`th`, and `FluxOut + ToStore`), the new `ToStore` (after subtraction of
the excess) and the `excess` to be redistributed upwards. -/
def infCell (F : Fn α) (x : Cell α) (ts : α) : Cell α × α × α :=
  let td := infTheta F x ts
  let drainmax := infDrainmax x td.2
  let st := infStore x td.1 ts
  let excess0 := st.2 - drainmax
  let excess := if excess0 < 0 then 0 else excess0
  ({ x with th := st.1, flux := x.flux + st.2 }, st.2 - excess, excess)

/-- Back-up of `e = excess` into the compartments above: `vis` = current compartment followed by
the ones above it, nearest first.  Returns the updated list and the excess left at the surface. -/
def backUp : List (Cell α) → α → List (Cell α) × α
  | [], e => ([], e)
  | c :: above, e =>
    if 0 < e then
      let flux' := c.flux - e
      let th1 := c.th + (e / (c.c.dz * 1000))
      if c.c.thS < th1 then
        let e' := (th1 - c.c.thS) * 1000 * c.c.dz
        let r := backUp above e'
        ({ c with th := c.c.thS, flux := flux' } :: r.1, r.2)
      else
        ({ c with th := th1, flux := flux' } :: above, 0)
    else (c :: above, e)

/-- Main loop: remaining cells, visited cells reversed, `ToStore`, accumulated `Runoff`.
Returns the whole profile (top first), the final `ToStore` and `Runoff`. -/
def infLoop (F : Fn α) : List (Cell α) → List (Cell α) → α → α → List (Cell α) × α × α
  | [], vis, ts, ro => (vis.reverse, ts, ro)
  | x :: rest, vis, ts, ro =>
    if 0 < ts then
      let r := infCell F x ts
      if 0 < r.2.2 then
        let b := backUp (r.1 :: vis) r.2.2
        let ro' := if 0 < b.2 then ro + b.2 else ro
        infLoop F rest b.1 r.2.1 ro'
      else
        infLoop F rest (r.1 :: vis) r.2.1 ro
    else (vis.reverse ++ x :: rest, ts, ro)

structure InfOut (α : Type) where
  cells     : List (Cell α)   -- `th` and `flux` updated
  pond      : α               -- NewCond_SurfaceStorage
  deepPerc  : α
  runoffTot : α
  infl      : α               -- reported infiltration `Infl - Runoff`
  -- ghost outputs
  inflIn    : α               -- intake after the application-efficiency adjustment
  runoffIni : α
  toStore0  : α               -- `ToStore` after the surface split
  backup    : α               -- runoff produced by the back-up loop (before bund re-storage)
  lost      : α               -- water dropped silently (see header)
  branch    : Nat             -- surface branch + 10·(loop entered) + 20·(back-up reached surface)
                              --   + 40·(bund re-storage) + 80·(re-storage overtopped)

/-- the day's intake: `max(Infl, 0) [+ Irr * (AppEff / 100)]` -/
def infIntake (infl irr appEff : α) (gs : Bool) : α :=
  let infl0 := pmax infl 0
  if gs then infl0 + (irr * (appEff / 100)) else infl0

/-- "Update surface storage (if bunds are present)": `(SurfaceStorage, Runoff)` given the ponding
depth after the surface split, `RunoffIni` and `Runoff = loop runoff + RunoffIni`. -/
def bundRestore (pond1 runoffIni runoff1 : α) (bunds : Bool) (zBund : α) : α × α :=
  if runoffIni < runoff1 ∧ bunds = true ∧ 0.001 < zBund then
    let p := pond1 + (runoff1 - runoffIni)
    if zBund < p then (zBund, runoffIni + (p - zBund)) else (p, runoffIni)
  else (pond1, runoff1)

/-- "Infiltrate incoming water": the main loop if `ToStore > 0`, else nothing;
`(cells, DeepPerc, Runoff)`. -/
def infRun (F : Fn α) (cells : List (Cell α)) (toStore : α) : List (Cell α) × α × α :=
  if 0 < toStore then infLoop F cells [] toStore 0 else (cells, 0, 0)

/-- everything after the surface split -/
def infFinish (F : Fn α) (cells : List (Cell α)) (s : Surf α) (infl1 : α) (bunds : Bool)
    (zBund deepPerc0 runoff0 : α) : InfOut α :=
  let r := infRun F cells s.toStore
  let lost2 : α := if 0 < s.toStore then 0 else s.toStore
  let runoff1 := r.2.2 + s.runoffIni
  let pr := bundRestore s.pond s.runoffIni runoff1 bunds zBund
  { cells := r.1, pond := pr.1, deepPerc := r.2.1 + deepPerc0,
    runoffTot := pr.2 + runoff0, infl := infl1 - pr.2,
    inflIn := infl1, runoffIni := s.runoffIni, toStore0 := s.toStore,
    backup := r.2.2, lost := s.lost + lost2,
    branch := s.branch + (if 0 < s.toStore then 10 else 0)
      + (if 0 < r.2.2 then 20 else 0)
      + (if s.runoffIni < runoff1 ∧ bunds = true ∧ 0.001 < zBund then 40 else 0)
      + (if s.runoffIni < runoff1 ∧ bunds = true ∧ 0.001 < zBund
            ∧ zBund < s.pond + (runoff1 - s.runoffIni) then 80 else 0) }

/-- `infiltration(prof, SurfaceStorage, th_fc_Adj, th, Infl, Irr, AppEff, Bunds, zBund, FluxOut,
DeepPerc0, Runoff0, growing_season)`. -/
def infiltration (F : Fn α) (cells : List (Cell α)) (pond infl irr appEff : α) (bunds : Bool)
    (zBund deepPerc0 runoff0 : α) (gs : Bool) : Except String (InfOut α) :=
  let infl1 := infIntake infl irr appEff gs
  if 0 ≤ infl1 then     -- `assert Infl >= 0`
    match infSurface (cells.head?.map (·.c.ksat)) pond infl1 bunds zBund with
    | .error e => .error e
    | .ok s => .ok (infFinish F cells s infl1 bunds zBund deepPerc0 runoff0)
  else .error "E:assert"

end
end Aqua
