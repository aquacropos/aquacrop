import AquaVerif.Proofs.InertRunNeutral
import AquaVerif.Proofs.CropCalendar
/-
Property C20 — disabled features and neutral settings are inert.

What is modelled: at process level `soil_evaporation` (`Aqua.soilEvaporation`),
`rainfall_partition` (`rainPartition`), `infiltration`, `irrigation` — the four processes that read
the switches and parameters the property names; at day and run level (section "Run level")
`fullDay` and `runModel`.  `cnAdjArg` names the call-site expression that gates the curve-number
adjustment (line 217 of `run_single_timestep.py`); `fullDay` writes that expression out, so the
statements with `cnAdjArg` are about `rainPartition` alone, and the adjustment at day and run level
is covered by `FmInert.cnAdjPct` (`run_inert`, `day_inert`) and `run_cn_adjust_zero_is_off`.

What is quantified over: **every** linearly ordered field, **every** `F : Fn α` (no law of
`exp/log/pow/round` is needed), **every** profile, state, day input and parameter record, and every
value of the parameters declared inert.  Each statement compares two calls of the same model
function.  Equalities are between complete results — all outputs *and* the error outcome — up to
the ghost `branch` ids (`Proofs/Inert.lean`, header).  The explicit-default-harvest-date clause of
C20 is stated for the calendar-day derivation (`calendar_derived_twice_equals_once`).
Only theorems live here (lemmas: `Proofs/Inert.lean`, `Proofs/RainPartition.lean`,
`Proofs/Irrigation.lean`, `Proofs/InertRun*.lean`, `Proofs/CropCalendar.lean`).
-/

set_option linter.unusedSectionVars false
namespace Aqua.C20
open Aqua
variable {α : Type} [Field α] [LinearOrder α] [IsStrictOrderedRing α]

/-! ## Mulches -/

/-- Without mulches, the mulch factor and the mulched-area percentage have no effect on soil
evaporation. -/
theorem mulch_off_ignores_params (F : Fn α) (P : EvapParams α) (S : EvapState α)
    (cells : List (Cell α)) (D : EvapDay α) (f p : α) (hm : P.mulches = false) :
    soilEvaporation F { P with fMulch := f, mulchPct := p } S cells D =
      soilEvaporation F P S cells D :=
  soilEvaporation_withSurf_of_adjust F P P.mulches f p P.wetSurf S cells D fun e => by
    unfold esPotAdjust
    simp [hm]

/-- Mulches with 0 % cover or a zero mulch factor give the same `soil_evaporation` result as no
mulches (all outputs and the error outcome, ghost branch id apart). -/
theorem mulch_neutral_is_off (F : Fn α) (P : EvapParams α) (S : EvapState α)
    (cells : List (Cell α)) (D : EvapDay α) (h0 : P.mulchPct = 0 ∨ P.fMulch = 0) :
    (soilEvaporation F P S cells D).map EvapOut.noBranch =
      (soilEvaporation F { P with mulches := false } S cells D).map EvapOut.noBranch :=
  (soilEvaporation_withAdj F P false P.fMulch P.mulchPct P.wetSurf P.irrMethod S cells D
    (fun _ => rfl) fun e => by
      unfold esPotAdjust
      have hz : e * (1 - P.fMulch * (P.mulchPct / 100)) = e := by
        rcases h0 with h | h <;> rw [h] <;> ring
      simp only [hz, ite_self, Bool.and_false, Bool.false_eq_true]).symm

/-! ## Bunds -/

/-- Without bunds the bund height has no effect on the rainfall partition … -/
theorem bunds_off_ignores_height_in_rainfall_partition (F : Fn α) (p : α) (cells : List (Cell α))
    (daySub : Nat) (srInhb : Bool) (zBund zBund' cnAdjPct soilCN : α) (adjCN : Bool) (zCN : α) :
    rainPartition F p cells daySub srInhb false zBund cnAdjPct soilCN adjCN zCN =
      rainPartition F p cells daySub srInhb false zBund' cnAdjPct soilCN adjCN zCN :=
  rainPartition_bunds_off F p cells daySub srInhb zBund zBund' cnAdjPct soilCN adjCN zCN

/-- … nor on infiltration. -/
theorem bunds_off_ignores_height_in_infiltration (F : Fn α) (cells : List (Cell α))
    (pond infl irr appEff zBund zBund' dp0 ro0 : α) (gs : Bool) :
    infiltration F cells pond infl irr appEff false zBund dp0 ro0 gs =
      infiltration F cells pond infl irr appEff false zBund' dp0 ro0 gs :=
  infiltration_bunds_off F cells pond infl irr appEff zBund zBund' dp0 ro0 gs

/-- Bunds lower than 0.001 mm (`z_bund` is held in mm) behave as no bunds, in the rainfall partition
and in infiltration. -/
theorem low_bund_is_no_bund (F : Fn α) (p : α) (cells : List (Cell α)) (daySub : Nat)
    (srInhb : Bool) (zBund cnAdjPct soilCN : α) (adjCN : Bool) (zCN : α)
    (pond infl irr appEff dp0 ro0 : α) (gs : Bool) (hz : zBund < 0.001) :
    rainPartition F p cells daySub srInhb true zBund cnAdjPct soilCN adjCN zCN =
        rainPartition F p cells daySub srInhb false zBund cnAdjPct soilCN adjCN zCN ∧
      (infiltration F cells pond infl irr appEff true zBund dp0 ro0 gs).map InfOut.noBranch =
        (infiltration F cells pond infl irr appEff false zBund dp0 ro0 gs).map InfOut.noBranch :=
  ⟨rainPartition_low_bund F p cells daySub srInhb zBund cnAdjPct soilCN adjCN zCN hz,
   infiltration_low_bund F cells pond infl irr appEff zBund dp0 ro0 gs hz.le⟩

/-! ## Curve-number adjustment -/

/-- With the curve-number adjustment switched off, the adjustment percentage has no effect: the
call site passes 0 whatever the percentage. -/
theorem cn_adjust_off (F : Fn α) (p : α) (cells : List (Cell α)) (daySub : Nat)
    (srInhb bunds : Bool) (zBund pct pct' soilCN : α) (adjCN : Bool) (zCN : α) :
    rainPartition F p cells daySub srInhb bunds zBund (cnAdjArg false pct) soilCN adjCN zCN =
      rainPartition F p cells daySub srInhb bunds zBund (cnAdjArg false pct') soilCN adjCN zCN :=
  rfl

/-- … and with the argument 0 at the call site (written `cnAdjArg false 0`; `cnAdjArg true 0` is the
same number) the soil's own curve number is used (shown on the branch without antecedent-moisture
adjustment, where the effective curve number is an output). -/
theorem cn_adjust_zero_is_neutral (F : Fn α) (p : α) (cells : List (Cell α)) (daySub : Nat)
    (zBund soilCN zCN : α) :
    rainPartition F p cells daySub false false zBund (cnAdjArg false 0) soilCN false zCN =
      some { runoff := (scsSplit F p soilCN).1, infl := (scsSplit F p soilCN).2, daySub := 0,
             cn := soilCN } :=
  by
  rw [rainPartition_eq, if_pos ⟨rfl, Or.inl rfl⟩]
  simp [effCN, cnAdjArg]

/-- The percentage and the curve number enter only through the product `CN·(1 + pct/100)`. -/
theorem cn_adjust_enters_only_through_adjusted_cn (F : Fn α) (p : α) (cells : List (Cell α))
    (daySub : Nat) (srInhb bunds : Bool) (zBund pct soilCN : α) (adjCN : Bool) (zCN : α) :
    rainPartition F p cells daySub srInhb bunds zBund pct soilCN adjCN zCN =
      rainPartition F p cells daySub srInhb bunds zBund 0 (soilCN * (1 + pct / 100)) adjCN zCN :=
  by
  have e : soilCN * (1 + pct / 100) * (1 + (0 : α) / 100) = soilCN * (1 + pct / 100) := by ring
  rw [rainPartition_eq, rainPartition_eq, e]

/-! ## Parameters of the irrigation strategies that are not selected -/

section strategies
variable (F : Fn α) (cells : List (Cell α)) (st : Nat) (irrCum ePot tPot zRoot : α) (dap : Nat)
  (zMin aer zTop : α) (gs : Bool) (rain runoff : α)

/-- Rainfed and net irrigation: thresholds, interval, depth, schedule, application efficiency and
event maximum have no effect (two calls that share method and seasonal maximum agree). -/
theorem other_strategy_params_inert_rainfed_net {P P' : IrrParams α} (sched sched' : Option α)
    (h04 : P.method = 0 ∨ P.method = 4) (hm : P'.method = P.method)
    (hs : P'.maxSeason = P.maxSeason) :
    irrigation F P' cells st irrCum ePot tPot zRoot dap sched' zMin aer zTop gs rain runoff =
      irrigation F P cells st irrCum ePot tPot zRoot dap sched zMin aer zTop gs rain runoff :=
  by
  apply irrigation_congr F cells st irrCum ePot tPot zRoot dap zMin aer zTop gs rain runoff
    sched sched' hm hs
  intro stage dep taw
  unfold irrDemand
  rcases h04 with h | h <;> simp [hm, h]

/-- Soil-moisture thresholds: interval, depth and schedule have no effect. -/
theorem other_strategy_params_inert_threshold {P P' : IrrParams α} (sched sched' : Option α)
    (h1 : P.method = 1) (hm : P'.method = P.method) (hs : P'.maxSeason = P.maxSeason)
    (hsmt : P'.smt = P.smt) (he : P'.appEff = P.appEff) (hx : P'.maxIrr = P.maxIrr) :
    irrigation F P' cells st irrCum ePot tPot zRoot dap sched' zMin aer zTop gs rain runoff =
      irrigation F P cells st irrCum ePot tPot zRoot dap sched zMin aer zTop gs rain runoff :=
  by
  apply irrigation_congr F cells st irrCum ePot tPot zRoot dap zMin aer zTop gs rain runoff
    sched sched' hm hs
  intro stage dep taw
  unfold irrDemand irrGross
  simp [hm, h1, hsmt, he, hx]

/-- Fixed interval: thresholds, depth and schedule have no effect. -/
theorem other_strategy_params_inert_interval {P P' : IrrParams α} (sched sched' : Option α)
    (h2 : P.method = 2) (hm : P'.method = P.method) (hs : P'.maxSeason = P.maxSeason)
    (hi : P'.interval = P.interval) (he : P'.appEff = P.appEff) (hx : P'.maxIrr = P.maxIrr) :
    irrigation F P' cells st irrCum ePot tPot zRoot dap sched' zMin aer zTop gs rain runoff =
      irrigation F P cells st irrCum ePot tPot zRoot dap sched zMin aer zTop gs rain runoff :=
  by
  apply irrigation_congr F cells st irrCum ePot tPot zRoot dap zMin aer zTop gs rain runoff
    sched sched' hm hs
  intro stage dep taw
  unfold irrDemand irrGross
  simp [hm, h2, hi, he, hx]

/-- Schedule: thresholds, interval and depth have no effect. -/
theorem other_strategy_params_inert_schedule {P P' : IrrParams α} (sched : Option α)
    (h3 : P.method = 3) (hm : P'.method = P.method) (hs : P'.maxSeason = P.maxSeason)
    (hx : P'.maxIrr = P.maxIrr) :
    irrigation F P' cells st irrCum ePot tPot zRoot dap sched zMin aer zTop gs rain runoff =
      irrigation F P cells st irrCum ePot tPot zRoot dap sched zMin aer zTop gs rain runoff :=
  by
  apply irrigation_congr F cells st irrCum ePot tPot zRoot dap zMin aer zTop gs rain runoff
    sched sched hm hs
  intro stage dep taw
  unfold irrDemand
  simp [hm, h3, hx]

/-- Constant depth: thresholds, interval and schedule have no effect. -/
theorem other_strategy_params_inert_constant_depth {P P' : IrrParams α} (sched sched' : Option α)
    (h5 : P.method = 5) (hm : P'.method = P.method) (hs : P'.maxSeason = P.maxSeason)
    (hx : P'.maxIrr = P.maxIrr) (hd : P'.depth = P.depth) :
    irrigation F P' cells st irrCum ePot tPot zRoot dap sched' zMin aer zTop gs rain runoff =
      irrigation F P cells st irrCum ePot tPot zRoot dap sched zMin aer zTop gs rain runoff :=
  by
  apply irrigation_congr F cells st irrCum ePot tPot zRoot dap zMin aer zTop gs rain runoff
    sched sched' hm hs
  intro stage dep taw
  unfold irrDemand
  simp [hm, h5, hx, hd]

/-! ## Strategies at their neutral value behave as rainfed -/

/-- Constant irrigation depth 0: nothing is applied and the call returns what the rainfed call
returns. -/
theorem depth0_is_rainfed {P : IrrParams α} (sched : Option α) {out : IrrOut α}
    (h : irrigation F P cells st irrCum ePot tPot zRoot dap sched zMin aer zTop gs rain runoff
      = .ok out) (hm : P.method = 5) (hd : P.depth = 0) :
    ∃ o0, irrigation F P.rainfed cells st irrCum ePot tPot zRoot dap sched zMin aer zTop gs rain
        runoff = .ok o0 ∧ o0.core = out.core ∧ out.irr = 0 :=
  irrigation_as_rainfed_of_zero F cells st irrCum ePot tPot zRoot dap zMin aer zTop gs rain runoff
    sched h fun hg => by
      subst hg
      obtain ⟨rz, irr0, fired, -, -, -, hdm, hi, -⟩ := irrigation_spec h
      rw [irrDemand_constant P _ _ _ _ _ hm] at hdm
      simp only [Except.ok.injEq, Prod.mk.injEq] at hdm
      rw [hi, ← hdm.1, hd, pmax0_pmin_nonpos _ _ (le_refl _), irrCap_zero]

/-- Empty irrigation schedule (0 scheduled for the day): as rainfed. -/
theorem empty_schedule_is_rainfed {P : IrrParams α} {out : IrrOut α}
    (h : irrigation F P cells st irrCum ePot tPot zRoot dap (some 0) zMin aer zTop gs rain runoff
      = .ok out) (hm : P.method = 3) :
    ∃ o0, irrigation F P.rainfed cells st irrCum ePot tPot zRoot dap (some 0) zMin aer zTop gs rain
        runoff = .ok o0 ∧ o0.core = out.core ∧ out.irr = 0 :=
  irrigation_as_rainfed_of_zero F cells st irrCum ePot tPot zRoot dap zMin aer zTop gs rain runoff
    (some 0) h (fun _ => irr_schedule_zero h hm rfl)

/-- Daily irrigation maximum 0: as rainfed, whatever the strategy. -/
theorem maxirr0_is_rainfed {P : IrrParams α} (sched : Option α) {out : IrrOut α}
    (h : irrigation F P cells st irrCum ePot tPot zRoot dap sched zMin aer zTop gs rain runoff
      = .ok out) (hx : P.maxIrr = 0) :
    ∃ o0, irrigation F P.rainfed cells st irrCum ePot tPot zRoot dap sched zMin aer zTop gs rain
        runoff = .ok o0 ∧ o0.core = out.core ∧ out.irr = 0 :=
  irrigation_as_rainfed_of_zero F cells st irrCum ePot tPot zRoot dap zMin aer zTop gs rain runoff
    sched h fun hg => by
      subst hg
      exact le_antisymm (hx ▸ irr_le_max h (hx ▸ le_refl _)) (irr_nonneg h)

/-- Seasonal irrigation maximum 0 (counter non-negative): as rainfed, whatever the strategy. -/
theorem maxseason0_is_rainfed {P : IrrParams α} (sched : Option α) {out : IrrOut α}
    (h : irrigation F P cells st irrCum ePot tPot zRoot dap sched zMin aer zTop gs rain runoff
      = .ok out) (hs : P.maxSeason = 0) (hc : 0 ≤ irrCum) :
    ∃ o0, irrigation F P.rainfed cells st irrCum ePot tPot zRoot dap sched zMin aer zTop gs rain
        runoff = .ok o0 ∧ o0.core = out.core ∧ out.irr = 0 :=
  irrigation_as_rainfed_of_zero F cells st irrCum ePot tPot zRoot dap zMin aer zTop gs rain runoff
    sched h fun hg => by
      subst hg
      exact irr_zero_of_cum_above h (hs ▸ hc)

end strategies

/-! ## Without irrigation: wetted fraction and application efficiency -/

/-- Without an irrigation event (or under net irrigation) the wetted-surface fraction has no effect
on soil evaporation. -/
theorem rainfed_ignores_wetsurf (F : Fn α) (P : EvapParams α) (S : EvapState α)
    (cells : List (Cell α)) (D : EvapDay α) (w : α) (h : D.irr ≤ 0 ∨ P.irrMethod = 4) :
    soilEvaporation F { P with wetSurf := w } S cells D = soilEvaporation F P S cells D :=
  soilEvaporation_withSurf_of_adjust F P P.mulches P.fMulch P.mulchPct w S cells D fun e => by
    unfold esPotAdjust
    have hw : ¬ (0 < D.irr ∧ P.irrMethod ≠ 4) := fun ⟨h1, h2⟩ =>
      h.elim (fun h => absurd h1 (not_lt.mpr h)) h2
    simp [hw]

/-- Without irrigation the application efficiency has no effect on infiltration. -/
theorem rainfed_ignores_application_efficiency (F : Fn α) (cells : List (Cell α))
    (pond infl appEff appEff' zBund dp0 ro0 : α) (bunds gs : Bool) :
    infiltration F cells pond infl 0 appEff bunds zBund dp0 ro0 gs =
      infiltration F cells pond infl 0 appEff' bunds zBund dp0 ro0 gs :=
  infiltration_appEff_inert F cells pond infl 0 appEff' appEff zBund dp0 ro0 bunds gs
    (Or.inr (Or.inl rfl))

/-! ## Run level: whole runs under two configurations

`RunState.view` (`Proofs/InertRun.lean` §1) = clock position, state object and, per simulated day,
the start state, the forcing and the complete `DayResult` (three table rows, new state, summary
row, ghost records, all process outputs), ghost branch ids erased.  Equal views have equal tables
(`Aqua.view_tables`). -/

/-- **Parameters of switched-off features have no effect on any output of a run from a shared
state.**  `InertEq` lists them with their guards (`IrrSetInert`, `FmInert`; the fallow irrigation
record, `Aer`/`Zmin` of the fallow crop and the overwritten fields of `W0` are unconstrained) and
requires the initialised state `init` of the two configurations to be the same. -/
theorem run_inert {F : Fn α} {T : TrigFn α} {cfg cfg' : RunCfg α} (h : InertEq cfg cfg') (k : Nat)
    (s : RunState α) :
    (runModel F T cfg' k s).map RunState.view = (runModel F T cfg k s).map RunState.view :=
  Aqua.run_inert h k s

/-- … in terms of the output tables, from the same initialised model -/
theorem run_inert_outputs {F : Fn α} {T : TrigFn α} {cfg cfg' : RunCfg α} (h : InertEq cfg cfg')
    {k : Nat} {s0 r : RunState α} (h0 : runInit cfg = .ok s0)
    (hr : runModel F T cfg k s0 = .ok r) :
    runInit cfg' = .ok s0 ∧ ∃ r', runModel F T cfg' k s0 = .ok r' ∧
      r'.storageTable = r.storageTable ∧ r'.fluxTable = r.fluxTable ∧
      r'.growthTable = r.growthTable ∧ r'.summaryTable = r.summaryTable ∧
      r'.day = r.day ∧ r'.t = r.t ∧ r'.season = r.season ∧ r'.finished = r.finished :=
  ⟨by rw [runInit_inert h, h0], run_inert_tables h hr⟩

/-- … and one simulated day (`solution_single_time_step`) -/
theorem day_inert {F : Fn α} {T : TrigFn α} {P P' : DayParams α} {D D' : DayIn' α}
    (h : DayInert P P' D D') (st : DayState' α) :
    (fullDay F T P' st D').map DayResult.noBranch = (fullDay F T P st D).map DayResult.noBranch := by
  have hP : P' = P.withMgmt P'.W.irr P'.W.netIrrSMT P'.W.wetSurf P'.fm := by
    obtain ⟨W', fm', zg', cx'⟩ := P'
    obtain ⟨wt', so', cr', ir', ns', ws', et', so2', cc', cr2'⟩ := W'
    have := h.cx; have := h.zGerm; have := h.waterTable; have := h.soil; have := h.crop
    have := h.evapTimeSteps; have := h.simOffSeason; have := h.co2Cur; have := h.co2Ref
    simp only at *
    subst_vars
    rfl
  rw [hP, h.day]
  apply fullDay_of_sims
  · cases hg : D.gs with
    | false => exact irrSim_offseason
    | true => exact irrSim_of_inert F true _ _ (h.irr hg)
  · exact fmSim_of_inert F h.fm

/-- Mulches with 0 % cover or a zero mulch factor: the same run as without mulches. -/
theorem run_mulch_neutral_is_off {F : Fn α} {T : TrigFn α} {cfg : RunCfg α}
    (h0 : cfg.fm.mulchPct = 0 ∨ cfg.fm.fMulch = 0) (k : Nat) (s : RunState α) :
    (runModel F T { cfg with fm := { cfg.fm with mulches := false } } k s).map RunState.view =
      (runModel F T cfg k s).map RunState.view :=
  Aqua.run_mulch_neutral h0 k s

/-- Bunds lower than 0.001 mm: the same run as without bunds (not at exactly 0.001 mm:
`InertRunExample.bund_1mm_not_neutral`). -/
theorem run_low_bund_is_no_bund {F : Fn α} {T : TrigFn α} {cfg : RunCfg α}
    (hz : cfg.fm.zBund < 0.001) (k : Nat) (s : RunState α) :
    (runModel F T { cfg with fm := { cfg.fm with bunds := false } } k s).map RunState.view =
      (runModel F T cfg k s).map RunState.view :=
  run_sim_fm (fmSim_low_bund F cfg.fm hz) (FmSim.refl F cfg.fallowFm) k s

/-- A curve-number adjustment of 0 %: the same run as without the adjustment. -/
theorem run_cn_adjust_zero_is_off {F : Fn α} {T : TrigFn α} {cfg : RunCfg α}
    (h0 : cfg.fm.cnAdjPct = 0) (k : Nat) (s : RunState α) :
    (runModel F T { cfg with fm := { cfg.fm with cnAdj := false } } k s).map RunState.view =
      (runModel F T cfg k s).map RunState.view :=
  run_sim_fm (fmSim_cnAdj_zero F cfg.fm h0) (FmSim.refl F cfg.fallowFm) k s

/-- Constant irrigation depth 0: the same run as rain-fed. -/
theorem run_depth0_is_rainfed {F : Fn α} {T : TrigFn α} {cfg : RunCfg α}
    (hm : cfg.irr.irr.method = 5) (hd : cfg.irr.irr.depth = 0) (k : Nat) (s : RunState α) :
    (runModel F T cfg.rainfed k s).map RunState.view = (runModel F T cfg k s).map RunState.view :=
  Aqua.run_depth0_rainfed hm hd k s

/-- Empty irrigation schedule (0 on every day): the same run as rain-fed. -/
theorem run_empty_schedule_is_rainfed {F : Fn α} {T : TrigFn α} {cfg : RunCfg α}
    (hm : cfg.irr.irr.method = 3) (hs : ∀ t, cfg.irr.sched t = some 0) (k : Nat) (s : RunState α) :
    (runModel F T cfg.rainfed k s).map RunState.view = (runModel F T cfg k s).map RunState.view :=
  run_sim (Inv := fun _ => True)
    (runSim_rainfed_of_zero (by rw [hm]; decide)
      (fun st t _ => by rw [hs t]; exact zeroDemand_sched0 _ _ hm) (fun _ _ _ _ _ _ _ => trivial)
      (fun _ _ _ => trivial)) k trivial

/-- Daily irrigation maximum 0: the same run as rain-fed, provided the strategy is not net
irrigation and does not itself raise (`CfgNoIrrError`) and the state object starts with
`0 ≤ irr_cum`, `growth_stage ≤ 4`. -/
theorem run_maxirr0_is_rainfed {F : Fn α} {T : TrigFn α} {cfg : RunCfg α}
    (he : CfgNoIrrError cfg) (hx : cfg.irr.irr.maxIrr = 0) (k : Nat) {s : RunState α}
    (hI : IrrInv s.day) :
    (runModel F T cfg.rainfed k s).map RunState.view = (runModel F T cfg k s).map RunState.view :=
  run_sim (Inv := IrrInv)
    (runSim_rainfed_of_zero he.notNet
      (fun _ t hst => zeroDemand_maxIrr0 _ (he.day t hst.stage) hx)
      (fun _ _ _ _ _ hst h => irrInv_day hst h) (fun crop st _ => irrInv_reset cfg crop st)) k hI

/-- Seasonal irrigation maximum 0, under the same provisos (`CfgNoIrrError`, `0 ≤ irr_cum`,
`growth_stage ≤ 4` at the start): the same run as rain-fed — daily tables, state and the summary
with its seasonal irrigation total. -/
theorem run_maxseason0_is_rainfed {F : Fn α} {T : TrigFn α} {cfg : RunCfg α}
    (he : CfgNoIrrError cfg) (hx : cfg.irr.irr.maxSeason = 0) (k : Nat) {s : RunState α}
    (hI : IrrInv s.day) :
    (runModel F T cfg.rainfed k s).map RunState.view = (runModel F T cfg k s).map RunState.view :=
  Aqua.run_maxSeason0_rainfed he hx k hI

/-! ## Stating the model's own latest harvest date explicitly

Without a configured harvest date the package derives the crop calendar twice at initialisation
(once to obtain the default harvest date, once when the variables are computed); with one, once.
The calendar-day derivation returns the same calendar when it is applied again to the crop the first
application left: its inputs are not among the fields it rewrites (the flowering length included:
`calendar_keeps_flowering_length`; `known_findings.txt` records under C20 a version of
`compute_crop_calendar` that overwrote it).  So the number of derivations is immaterial. -/

/-- the calendar-day crop calendar derived a second time from the crop as the first derivation left
it is the same calendar -/
theorem calendar_derived_twice_equals_once {F : Fn α} {c : CalCDIn α} {o : CalCDOut α}
    (h : calendarInitCD F c = .ok o) :
    calendarInitCD F { c with floweringCD := o.floweringCD } = .ok o :=
  calendarInitCD_idempotent h

/-- … in particular the flowering length, which the derivation reads for determinant crops, comes
out as it went in -/
theorem calendar_keeps_flowering_length {F : Fn α} {c : CalCDIn α} {o : CalCDOut α}
    (h : calendarInitCD F c = .ok o) : o.floweringCD = c.floweringCD :=
  calendarInitCD_floweringCD_kept h

end Aqua.C20
