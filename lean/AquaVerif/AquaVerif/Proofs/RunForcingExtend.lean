import AquaVerif.Proofs.RunForcingPrefix
/-
**Extending the end date** (property C14).

`ClockExtends c c'`: `c'` is the clock configuration of the same simulation with a later end
date: `n ≤ n'`, the planting and latest-harvest lists of `c'` extend those of `c`, and every
*new* planting index lies at or after the old last day (`n − 1 ≤ p`; the old configuration holds
exactly the planting dates `p ≤ n − 2`).  `ExtendEnd cfg cfg'` adds: same static part, same forcing
on the days `t < n − 1` the old run reads, same crops for the old seasons.

* `performR_extend`: a step of the old run that does not finish it is the same step of the new
  run; the step that finishes the old run writes the same day record in the new run;
* `runSteps_extend`, **`run_extend_end`**: the day records of the old run are the first records of the
  new run (same `k` or more steps), hence the three daily tables and the summary table of the old
  run are prefixes of those of the new run — all days up to and including the old last day
  `n − 2`, and all summary rows the old run wrote;
* `C14.run_extension_same_state`: while the old run is unfinished the two runs are in the same state.

What changes is only the *final state* of the old run (`finished`, and the clock standing still).
-/

set_option linter.unusedSectionVars false
namespace Aqua
open Aqua.Clock
variable {α : Type} [Field α] [LinearOrder α] [IsStrictOrderedRing α]

/-! ## 1. the clock -/

/-- the same simulation with a later end date -/
structure ClockExtends (c c' : Cfg) : Prop where
  n : c.n ≤ c'.n
  planting : ∃ xs, c'.planting = c.planting ++ xs ∧ ∀ p ∈ xs, c.n ≤ p + 1
  harvest : ∃ ys, c'.harvest = c.harvest ++ ys
  offSeason : c'.offSeason = c.offSeason
  season0 : c'.season0 = c.season0

theorem pyGet_append {β : Type} {l : List β} {i : Int} {x : β} (m : List β) (h0 : 0 ≤ i)
    (h : pyGet l i = .ok x) : pyGet (l ++ m) i = .ok x := by
  unfold pyGet at h ⊢
  have e : ¬ i < 0 := by omega
  simp only [if_neg e] at h ⊢
  split at h
  · rename_i y hy
    cases h
    have hlt : i.toNat < l.length := by
      rcases List.getElem?_eq_some_iff.mp hy with ⟨hlt, _⟩
      exact hlt
    rw [List.getElem?_append_left hlt, hy]
  · cases h

theorem pyGet_append_right {β : Type} {l m : List β} {i : Int} {x : β} (h0 : (l.length : Int) ≤ i)
    (h : pyGet (l ++ m) i = .ok x) : x ∈ m := by
  unfold pyGet at h
  have e : ¬ i < 0 := by omega
  simp only [if_neg e] at h
  split at h
  · rename_i y hy
    cases h
    have hge : l.length ≤ i.toNat := by omega
    rw [List.getElem?_append_right hge] at hy
    exact List.mem_of_getElem? hy
  · cases h

section clock
variable {c c' : Cfg}

theorem seasonInfo_extend (hx : ClockExtends c c') {season : Int} {ph : Option (Nat × Int)}
    (h : seasonInfo c season = .ok ph) : seasonInfo c' season = .ok ph := by
  obtain ⟨xs, hxs, _⟩ := hx.planting
  obtain ⟨ys, hys⟩ := hx.harvest
  unfold seasonInfo at h ⊢
  by_cases h0 : season ≥ 0
  · rw [if_pos h0] at h ⊢
    simp only [bind, Except.bind] at h ⊢
    split at h
    · cases h
    · rename_i p hp
      split at h
      · cases h
      · rename_i hh hhv
        rw [hxs, hys, pyGet_append xs h0 hp]
        simp only
        rw [pyGet_append ys h0 hhv]
        exact h
  · rw [if_neg h0] at h ⊢
    exact h

theorem checkFinished_extend (hx : ClockExtends c c') {x : St}
    (hshi : x.season < c.nSeasons) (hf : (checkFinished c x).finished = false) :
    checkFinished c' x = checkFinished c x := by
  obtain ⟨xs, hxs, _⟩ := hx.planting
  have hn := hx.n
  have hlen : c'.nSeasons = c.nSeasons + (xs.length : Int) := by
    unfold Cfg.nSeasons; rw [hxs]; simp
  unfold checkFinished at hf ⊢
  simp only at hf ⊢
  by_cases h1 : (x.t : Int) + 1 < (c.n : Int) - 1
  · have h1' : (x.t : Int) + 1 < (c'.n : Int) - 1 := by omega
    rw [if_pos h1] at hf ⊢
    rw [if_pos h1']
    by_cases h2 : (x.harvestFlag && decide (x.season = c.nSeasons - 1)) = true
    · rw [if_pos h2] at hf; cases hf
    · rw [if_neg h2]
      have h2' : ¬ (x.harvestFlag && decide (x.season = c'.nSeasons - 1)) = true := by
        intro h
        apply h2
        simp only [Bool.and_eq_true, decide_eq_true_eq] at h ⊢
        refine ⟨h.1, ?_⟩
        have := h.2
        omega
      rw [if_neg h2']
  · rw [if_neg h1] at hf
    split_ifs at hf

theorem updateTime_extend (hx : ClockExtends c c') {x w : St} (hf : x.finished = false)
    (hslo : -1 ≤ x.season) (hshi : x.season < c.nSeasons)
    (hnl : ¬ (x.harvestFlag = true ∧ x.season = c.nSeasons - 1))
    (h : updateTime c x = .ok w) : updateTime c' x = .ok w := by
  obtain ⟨xs, hxs, hxp⟩ := hx.planting
  have hn := hx.n
  have hlen : c'.nSeasons = c.nSeasons + (xs.length : Int) := by
    unfold Cfg.nSeasons; rw [hxs]; simp
  have hoff := hx.offSeason
  rcases updateTime_ok h with ⟨_, hfin | ⟨hj, hn1⟩⟩ | ⟨_, hn1, p, hp, hpn, hjp, rfl⟩ |
      ⟨_, hj, ht, hp, rfl⟩
  · rw [hf] at hfin; cases hfin
  · simp only [Bool.and_eq_true] at hj
    exact absurd ⟨hj.1, by omega⟩ hnl
  · exact updateTime_season hf (by omega) (by rw [hxs]; exact pyGet_append xs (by omega) hp)
      (by omega) (by rw [hoff]; exact hjp)
  · refine updateTime_day hf (by rw [hoff]; exact hj) (by omega) (fun hn1' => ?_)
    by_cases hn1 : x.season < c.nSeasons - 1
    · obtain ⟨p, hp, hne⟩ := hp hn1
      exact ⟨p, by rw [hxs]; exact pyGet_append xs (by omega) hp, hne⟩
    · -- the last old season: a new season follows, planted at or after the old last day
      obtain ⟨k, hk⟩ : ∃ k : Nat, x.season + 1 = k := ⟨(x.season + 1).toNat, by omega⟩
      have hkl : k < c'.planting.length := by
        have : c'.nSeasons = (c'.planting.length : Int) := rfl
        omega
      have hp' := pyGet_nat c'.planting k 0 hkl
      rw [← hk] at hp'
      have hmem : c'.planting.getD k 0 ∈ xs := by
        rw [hxs] at hp' ⊢
        exact pyGet_append_right (by have : c.nSeasons = (c.planting.length : Int) := rfl; omega) hp'
      have := hxp _ hmem
      exact ⟨_, hp', by omega⟩

end clock

/-! ## 2. the run -/

/-- **`cfg'` is `cfg` with a later end date** -/
structure ExtendEnd (cfg cfg' : RunCfg α) : Prop where
  static : StaticEq cfg cfg'
  clock : ClockExtends cfg.clock cfg'.clock
  /-- the forcing of the days the old run reads -/
  day : ∀ t, t + 2 ≤ cfg.clock.n → DayEq cfg cfg' t
  /-- the crops of the old seasons -/
  crop : ∀ k, k < cfg.clock.planting.length → cfg'.seasonCrop k = cfg.seasonCrop k

section run
variable {F : Fn α} {T : TrigFn α} {cfg cfg' : RunCfg α}

theorem updateTimeR_of_updateTime {u : RunState α} {w : St}
    (h : updateTime cfg.clock u.clockOf = .ok w) :
    updateTimeR cfg u = .ok (if w.season = u.season then { u with t := w.t }
      else { u with t := w.t, season := w.season,
                    day := resetState cfg (cfg.seasonCrop w.season.toNat) u.day }) := by
  unfold updateTimeR
  rw [h]
  simp only
  split_ifs <;> rfl

theorem runInit_extend (hX : ExtendEnd cfg cfg') {s0 : RunState α} (h0 : runInit cfg = .ok s0) :
    runInit cfg' = .ok s0 := by
  obtain ⟨xs, hxs, _⟩ := hX.clock.planting
  unfold runInit at h0 ⊢
  split at h0
  · cases h0
  · rename_i c0 hc0
    cases h0
    unfold Clock.init at hc0 ⊢
    split_ifs at hc0 with h1 h2
    cases hc0
    have h1' : ¬ cfg'.clock.n < 2 := by have := hX.clock.n; omega
    have h2' : ¬ cfg'.clock.planting.isEmpty = true := by
      rw [hxs]
      intro h
      apply h2
      cases hp : cfg.clock.planting with
      | nil => rfl
      | cons a l => rw [hp] at h; simp at h
    rw [if_neg h1', if_neg h2', hX.clock.season0, hX.static.init]

theorem performR_extend (hX : ExtendEnd cfg cfg') (hw : WF cfg.clock) (hi : InitOK cfg)
    {s a : RunState α} (hr : RunReach F T cfg s) (hp : performR F T cfg s = .ok a) :
    (a.finished = false → performR F T cfg' s = .ok a) ∧
      (∀ a', performR F T cfg' s = .ok a' → a'.daysRev = a.daysRev) := by
  have hf := unfinished_of_performR_ok hp
  have hL := run_live hw hi hr hf
  have hshi : s.season < cfg.clock.nSeasons := hL.shi
  have hslo : -1 ≤ s.season := hL.slo
  have hc : CropEq cfg cfg' s.season := by
    intro h0
    apply hX.crop
    have : cfg.clock.nSeasons = (cfg.clock.planting.length : Int) := rfl
    omega
  have hd := hX.day _ (run_tn hr)
  rw [performR_eq_solStep] at hp
  -- the solution step is the same
  have hsol : solStep F T cfg' s = solStep F T cfg s := by
    apply solStep_agree hX.static hd hc
    cases hsi : seasonInfo cfg.clock s.season with
    | ok ph => exact seasonInfo_extend hX.clock hsi
    | error e =>
      exfalso
      unfold solStep at hp
      have hf' : ¬ s.finished = true := by rw [hf]; simp
      rw [if_neg hf', hsi] at hp
      cases hp
  cases h1 : solStep F T cfg s with
  | error e => rw [h1] at hp; cases hp
  | ok s1 =>
    rw [h1] at hp
    replace hp : updateTimeR cfg (checkFinishedR cfg s1) = .ok a := hp
    obtain ⟨_, hs1t, hs1s, hs1f, _⟩ := solStep_ok h1
    obtain ⟨w, hw1, hcl, hdays, hfin, _⟩ := updateTimeR_ok hp
    constructor
    · intro hfa
      have hu : (checkFinishedR cfg s1).finished = false := by rw [← hfin]; exact hfa
      have hu' : (checkFinished cfg.clock s1.clockOf).finished = false := hu
      have hshi1 : s1.clockOf.season < cfg.clock.nSeasons := by
        show s1.season < _; rw [hs1s]; exact hshi
      have hck : checkFinishedR cfg' s1 = checkFinishedR cfg s1 := by
        unfold checkFinishedR
        rw [checkFinished_extend hX.clock hshi1 hu']
      rw [performR_eq_solStep, hsol, h1]
      show updateTimeR cfg' (checkFinishedR cfg' s1) = _
      rw [hck]
      -- the clock arithmetic
      have hnl : ¬ ((checkFinishedR cfg s1).clockOf.harvestFlag = true ∧
          (checkFinishedR cfg s1).clockOf.season = cfg.clock.nSeasons - 1) := by
        intro hh
        have : (checkFinished cfg.clock s1.clockOf).finished = true := by
          unfold checkFinished
          simp only
          have e1 : s1.clockOf.harvestFlag = true := hh.1
          have e2 : s1.clockOf.season = cfg.clock.nSeasons - 1 := hh.2
          simp [e1, e2]
        rw [this] at hu'
        cases hu'
      have hw1' := updateTime_extend hX.clock (x := (checkFinishedR cfg s1).clockOf) hu
        (by show -1 ≤ s1.season; rw [hs1s]; exact hslo) hshi1 hnl hw1
      rw [updateTimeR_of_updateTime hw1', updateTimeR_of_updateTime hw1] at *
      cases hp
      congr 1
      by_cases hse : w.season = (checkFinishedR cfg s1).season
      · rw [if_pos hse, if_pos hse]
      · rw [if_neg hse, if_neg hse, resetState_agree hX.static]
        -- the season that starts is an old one
        have hLa := run_live hw hi (RunReach.step hr (by
          rw [performR_eq_solStep, h1]; exact updateTimeR_of_updateTime hw1))
          (by rw [if_neg hse]; exact hu)
        have hshia : w.season < cfg.clock.nSeasons := by
          have := hLa.shi
          rw [if_neg hse] at this
          exact this
        have hslo' : -1 ≤ w.season := by
          have := hLa.slo
          rw [if_neg hse] at this
          exact this
        have hw0 : 0 ≤ w.season := by
          rcases updateTime_cases hw1 with ⟨e, _⟩ | ⟨_, e, _⟩
          · exact absurd e hse
          · have e' : w.season = s1.season + 1 := e
            rw [e', hs1s]; omega
        rw [hX.crop _ (by
          have : cfg.clock.nSeasons = (cfg.clock.planting.length : Int) := rfl
          omega)]
    · intro a' ha'
      rw [performR_eq_solStep, hsol, h1] at ha'
      replace ha' : updateTimeR cfg' (checkFinishedR cfg' s1) = .ok a' := ha'
      obtain ⟨_, _, _, hdays', _⟩ := updateTimeR_ok ha'
      rw [hdays', hdays]
      rfl

/-- the old run beside the new one: the same state while the old run is unfinished, and the day
records of the old run are the first records of the new run -/
def ExtRel (F : Fn α) (T : TrigFn α) (cfg : RunCfg α) (s s' : RunState α) : Prop :=
  RunReach F T cfg s ∧ (s.finished = false → s' = s) ∧ ∃ new, s'.daysRev = new ++ s.daysRev

theorem performR_suffix {s a r : RunState α} (hp : performR F T cfg s = .ok a)
    (h : ∃ new, s.daysRev = new ++ r.daysRev) : ∃ new, a.daysRev = new ++ r.daysRev := by
  obtain ⟨new, hnew⟩ := h
  obtain ⟨d, hs⟩ := performR_step hp
  exact ⟨d :: new, by rw [hs.days, hnew]; rfl⟩

theorem runSteps_extend (hX : ExtendEnd cfg cfg') (hw : WF cfg.clock) (hi : InitOK cfg)
    {s0 r r' : RunState α} (h0 : runInit cfg = .ok s0) {k : Nat}
    (hrun : Steps.run (performR F T cfg) RunState.finished k s0 = .ok r)
    (hrun' : Steps.run (performR F T cfg') RunState.finished k s0 = .ok r') :
    ExtRel F T cfg r r' := by
  refine Steps.run_rel (R := ExtRel F T cfg) ?_ ?_ ?_ k ⟨.init h0, fun _ => rfl, [], rfl⟩ hrun hrun'
  · intro s s' a a' hR hp hp'
    obtain rfl := hR.2.1 (unfinished_of_performR_ok hp)
    obtain ⟨p1, p2⟩ := performR_extend hX hw hi hR.1 hp
    exact ⟨hR.1.step hp, fun hf => (by rw [p1 hf] at hp'; exact (Except.ok.inj hp').symm),
      [], p2 a' hp'⟩
  · intro s s' a hR hf' hf hp
    rw [hR.2.1 hf, hf] at hf'; cases hf'
  · intro s s' a' hR hf _ hp'
    exact ⟨hR.1, fun h => (by rw [hf] at h; cases h), performR_suffix hp' hR.2.2⟩

theorem run_extend_end_records (hX : ExtendEnd cfg cfg') (hw : WF cfg.clock) (hi : InitOK cfg)
    {s0 r r' : RunState α} (h0 : runInit cfg = .ok s0) {k k' : Nat} (hk : k ≤ k')
    (hrun : runModel F T cfg k s0 = .ok r) (hrun' : runModel F T cfg' k' s0 = .ok r') :
    ∃ new, r'.daysRev = new ++ r.daysRev := by
  rw [runModelR_eq] at hrun hrun'
  obtain ⟨d, rfl⟩ : ∃ d, k' = k + d := ⟨k' - k, by omega⟩
  have hrun' := Steps.model_run hrun'
  -- the new run: `k` steps, then — unless they ended it — `d` more
  rw [Steps.run_add k d s0 (by rw [(runInit_ok h0).1])] at hrun'
  obtain ⟨a', ha', hrest⟩ := bind_ok_iff.1 hrun'
  have hR := (runSteps_extend hX hw hi h0 (Steps.model_run hrun) ha').2.2
  rcases Steps.cont_ok hrest with ⟨_, rfl⟩ | ⟨_, hrest⟩
  · exact hR
  · exact Steps.run_preserves (P := fun b => ∃ new, b.daysRev = new ++ r.daysRev)
      (fun _ _ h hp => performR_suffix hp h) d hR hrest

theorem run_extend_end (hX : ExtendEnd cfg cfg') (hw : WF cfg.clock) (hi : InitOK cfg)
    {s0 r r' : RunState α} (h0 : runInit cfg = .ok s0) {k k' : Nat} (hk : k ≤ k')
    (hrun : runModel F T cfg k s0 = .ok r) (hrun' : runModel F T cfg' k' s0 = .ok r') :
    r.storageTable <+: r'.storageTable ∧ r.fluxTable <+: r'.fluxTable ∧
      r.growthTable <+: r'.growthTable ∧ r.summaryTable <+: r'.summaryTable := by
  obtain ⟨new, hnew⟩ := run_extend_end_records hX hw hi h0 hk hrun hrun'
  unfold RunState.storageTable RunState.fluxTable RunState.growthTable RunState.summaryTable
  rw [hnew, List.reverse_append]
  refine ⟨⟨_, (List.map_append ..).symm⟩, ⟨_, (List.map_append ..).symm⟩,
    ⟨_, (List.map_append ..).symm⟩, ⟨_, (List.filterMap_append ..).symm⟩⟩

end run
end Aqua

#print axioms Aqua.updateTime_extend
#print axioms Aqua.performR_extend
#print axioms Aqua.runSteps_extend
#print axioms Aqua.run_extend_end_records
#print axioms Aqua.run_extend_end
