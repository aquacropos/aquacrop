import AquaVerif.Model.Calendar
import AquaVerif.Proofs.ListBasic
/-
Facts about the civil-date arithmetic and the planting / harvest date logic (C07, last
sentence: seasons begin on the configured planting day of consecutive years, starting with the
first planting date on or after the start date).  `SeasonsSpec` states that sentence; the theorem
is `C07.seasons_consecutive_years_from_first_planting` (`Properties/C07.lean`), from
`seasonDates_ok`, `yearLists_spec` and `finishSeasons_spec` here.  Core Lean only.
-/

namespace Aqua.Calendar

/-! ### Civil dates -/

theorem isLeap_iff (y : Int) : isLeap y = true ↔ ((y % 4 = 0 ∧ y % 100 ≠ 0) ∨ y % 400 = 0) := by
  simp [isLeap]

theorem validDate_iff (y m d : Int) :
    validDate y m d = true ↔ 1 ≤ m ∧ m ≤ 12 ∧ 1 ≤ d ∧ d ≤ daysInMonth y m := by
  simp [validDate, and_assoc]

theorem daysInMonth_bounds (y m : Int) : 28 ≤ daysInMonth y m ∧ daysInMonth y m ≤ 31 := by
  unfold daysInMonth
  split
  · split <;> omega
  · split <;> omega

theorem daysInMonth_1990_le (y m : Int) : daysInMonth 1990 m ≤ daysInMonth y m := by
  have h90 : isLeap 1990 = false := by decide
  by_cases h2 : m = 2
  · subst h2
    simp only [daysInMonth, h90, if_true, Bool.false_eq_true, if_false]
    split <;> omega
  · simp only [daysInMonth, h2, if_false]
    split <;> omega

theorem validDate_of_1990 {m d : Int} (h : validDate 1990 m d = true) (y : Int) :
    validDate y m d = true := by
  rw [validDate_iff] at h ⊢
  have := daysInMonth_1990_le y m
  omega

theorem validDate_range {y m d : Int} (h : validDate y m d = true) :
    1 ≤ m ∧ m ≤ 12 ∧ 1 ≤ d ∧ d ≤ 31 := by
  rw [validDate_iff] at h
  have := daysInMonth_bounds y m
  omega

/-- `daysFromCivil` counts years from 1 March, so that the leap day comes last: the days before
1 March of year `y` (up to a constant) -/
def marchDay (y : Int) : Int := 365 * y + y / 4 - y / 100 + y / 400

/-- days from 1 March to the first of the `k`-th month after March -/
def monthOff (k : Int) : Int := (153 * k + 2) / 5

theorem dfc_janfeb (y : Int) {m : Int} (d : Int) (h : m ≤ 2) :
    daysFromCivil y m d = marchDay (y - 1) + monthOff (m + 9) + d - 719469 := by
  unfold daysFromCivil marchDay monthOff
  simp only [if_pos h, if_neg (show ¬ m > 2 by omega)]
  omega

theorem dfc_march (y : Int) {m : Int} (d : Int) (h : 2 < m) :
    daysFromCivil y m d = marchDay y + monthOff (m - 3) + d - 719469 := by
  unfold daysFromCivil marchDay monthOff
  simp only [if_neg (show ¬ m ≤ 2 by omega), if_pos (show m > 2 from h)]
  omega

theorem marchDay_lt {a b : Int} (h : a < b) : marchDay a + 365 ≤ marchDay b := by
  unfold marchDay; omega

theorem marchDay_succ (y : Int) : marchDay y = marchDay (y - 1) + 337 + daysInMonth y 2 := by
  unfold marchDay daysInMonth
  rw [if_pos rfl]
  by_cases h : isLeap y = true
  · rw [if_pos h]; rw [isLeap_iff] at h; omega
  · rw [if_neg h]; rw [isLeap_iff] at h; omega

theorem monthOff_mono {a b : Int} (h : a ≤ b) : monthOff a ≤ monthOff b := by
  unfold monthOff; omega

theorem monthOff_succ (y : Int) {m : Int} (h3 : 3 ≤ m) (h11 : m ≤ 11) :
    monthOff (m - 2) = monthOff (m - 3) + daysInMonth y m := by
  have hm : m = 3 ∨ m = 4 ∨ m = 5 ∨ m = 6 ∨ m = 7 ∨ m = 8 ∨ m = 9 ∨ m = 10 ∨ m = 11 := by omega
  rcases hm with rfl | rfl | rfl | rfl | rfl | rfl | rfl | rfl | rfl <;> rfl

theorem dfc_day (y m d : Int) : daysFromCivil y m d = daysFromCivil y m 1 + (d - 1) := by
  by_cases h : m ≤ 2
  · rw [dfc_janfeb y d h, dfc_janfeb y 1 h]; omega
  · rw [dfc_march y d (by omega), dfc_march y 1 (by omega)]; omega

theorem dfc_year_lt {y1 y2 m1 d1 m2 d2 a b : Int} (hy : y1 < y2)
    (h1 : validDate a m1 d1 = true) (h2 : validDate b m2 d2 = true) :
    daysFromCivil y1 m1 d1 < daysFromCivil y2 m2 d2 := by
  have r1 := validDate_range h1
  have r2 := validDate_range h2
  by_cases c1 : m1 ≤ 2 <;> by_cases c2 : m2 ≤ 2
  · rw [dfc_janfeb y1 d1 c1, dfc_janfeb y2 d2 c2]
    have := marchDay_lt (show y1 - 1 < y2 - 1 by omega)
    unfold monthOff; omega
  · rw [dfc_janfeb y1 d1 c1, dfc_march y2 d2 (by omega)]
    have := marchDay_lt (show y1 - 1 < y1 by omega)
    have := marchDay_lt hy
    unfold monthOff; omega
  · -- the only case without a full year between the two March-based years
    rw [dfc_march y1 d1 (by omega), dfc_janfeb y2 d2 c2]
    have : marchDay y1 ≤ marchDay (y2 - 1) := by
      rcases Int.lt_or_eq_of_le (show y1 ≤ y2 - 1 by omega) with h | h
      · have := marchDay_lt h; omega
      · rw [h]; exact Int.le_refl _
    unfold monthOff; omega
  · rw [dfc_march y1 d1 (by omega), dfc_march y2 d2 (by omega)]
    have := marchDay_lt hy
    unfold monthOff; omega

theorem dfc_month_step (y m : Int) (h1 : 1 ≤ m) (h2 : m ≤ 11) :
    daysFromCivil y (m + 1) 1 = daysFromCivil y m (daysInMonth y m) + 1 := by
  rcases (show m = 1 ∨ m = 2 ∨ 3 ≤ m by omega) with rfl | rfl | h3
  · rw [dfc_janfeb y _ (by omega), dfc_janfeb y _ (by omega)]
    show marchDay (y - 1) + 337 + 1 - 719469 = marchDay (y - 1) + 306 + 31 - 719469 + 1
    omega
  · rw [dfc_march y _ (by omega), dfc_janfeb y _ (by omega)]
    have := marchDay_succ y
    show marchDay y + 0 + 1 - 719469 = marchDay (y - 1) + 337 + daysInMonth y 2 - 719469 + 1
    omega
  · rw [dfc_march y _ (by omega), dfc_march y _ (by omega)]
    have := monthOff_succ y h3 h2
    have e : m + 1 - 3 = m - 2 := by omega
    rw [e]; omega

theorem dfc_first_mono (y : Int) {m1 m2 : Int} (h1 : 1 ≤ m1) (h12 : m1 ≤ m2) (h2 : m2 ≤ 12) :
    daysFromCivil y m1 1 ≤ daysFromCivil y m2 1 := by
  by_cases c2 : m2 ≤ 2
  · rw [dfc_janfeb y 1 (by omega), dfc_janfeb y 1 c2]
    have := monthOff_mono (show m1 + 9 ≤ m2 + 9 by omega); omega
  · by_cases c1 : m1 ≤ 2
    · rw [dfc_janfeb y 1 c1, dfc_march y 1 (by omega)]
      have := marchDay_lt (show y - 1 < y by omega)
      unfold monthOff; omega
    · rw [dfc_march y 1 (by omega), dfc_march y 1 (by omega)]
      have := monthOff_mono (show m1 - 3 ≤ m2 - 3 by omega); omega

theorem dfc_month_lt (y m1 m2 d1 d2 : Int) (h1 : 1 ≤ m1) (h12 : m1 < m2) (h2 : m2 ≤ 12)
    (hd1 : d1 ≤ daysInMonth y m1) (hd2 : 1 ≤ d2) :
    daysFromCivil y m1 d1 < daysFromCivil y m2 d2 := by
  have a := dfc_day y m1 d1
  have a' := dfc_day y m1 (daysInMonth y m1)
  have s := dfc_month_step y m1 h1 (by omega)
  have f := dfc_first_mono y (show 1 ≤ m1 + 1 by omega) (show m1 + 1 ≤ m2 by omega) h2
  have b := dfc_day y m2 d2
  omega

theorem dfc_lt_iff_lex {y m1 d1 m2 d2 : Int} (h1 : validDate y m1 d1 = true)
    (h2 : validDate y m2 d2 = true) :
    daysFromCivil y m1 d1 < daysFromCivil y m2 d2 ↔ (m1 < m2 ∨ (m1 = m2 ∧ d1 < d2)) := by
  rw [validDate_iff] at h1 h2
  obtain ⟨a1, a2, a3, a4⟩ := h1
  obtain ⟨b1, b2, b3, b4⟩ := h2
  by_cases hlt : m1 < m2
  · have := dfc_month_lt y m1 m2 d1 d2 a1 hlt b2 a4 b3
    constructor
    · intro _; exact Or.inl hlt
    · intro _; exact this
  · by_cases heq : m1 = m2
    · subst heq
      have := dfc_day y m1 d1
      have := dfc_day y m1 d2
      omega
    · have := dfc_month_lt y m2 m1 d2 d1 b1 (by omega) a2 b4 a3
      omega

/-- the order of two month/days does not depend on the year in which it is evaluated (this is
what justifies the repo's comparisons in the mock year 1990) -/
theorem md_order_transfer {a b m1 d1 m2 d2 : Int}
    (ha1 : validDate a m1 d1 = true) (ha2 : validDate a m2 d2 = true)
    (hb1 : validDate b m1 d1 = true) (hb2 : validDate b m2 d2 = true) :
    daysFromCivil a m1 d1 < daysFromCivil a m2 d2 ↔ daysFromCivil b m1 d1 < daysFromCivil b m2 d2 := by
  rw [dfc_lt_iff_lex ha1 ha2, dfc_lt_iff_lex hb1 hb2]

/-! ### `range`, `to_datetime` over a list -/

theorem pyRange_nil {a b : Int} (h : b ≤ a) : pyRange a b = [] := by
  unfold pyRange
  have : (b - a).toNat = 0 := by omega
  rw [this]; rfl

theorem pyRange_cons {a b : Int} (h : a < b) : pyRange a b = a :: pyRange (a + 1) b := by
  unfold pyRange
  obtain ⟨n, hn⟩ : ∃ n : Nat, (b - a).toNat = n + 1 := ⟨(b - a).toNat - 1, by omega⟩
  have hn' : (b - (a + 1)).toNat = n := by omega
  rw [hn, hn', List.range_succ_eq_map]
  simp only [List.map_cons, List.map_map, Int.natCast_zero, Int.add_zero, List.cons.injEq, true_and]
  apply List.map_congr_left
  intro i _
  simp only [Function.comp_apply, Nat.succ_eq_add_one]
  omega

theorem mem_pyRange {a b y : Int} : y ∈ pyRange a b ↔ a ≤ y ∧ y < b := by
  simp only [pyRange, List.mem_map, List.mem_range]
  constructor
  · rintro ⟨i, hi, rfl⟩; omega
  · intro h; exact ⟨(y - a).toNat, by omega, by omega⟩

theorem pyRange_tail (a b : Int) : (pyRange a b).tail = pyRange (a + 1) b := by
  by_cases h : a < b
  · rw [pyRange_cons h]; rfl
  · rw [pyRange_nil (by omega), pyRange_nil (by omega)]; rfl

theorem toDate_bind_ok {β : Type} {y m d : Int} {f : Int → Except Err β} {b : β}
    (h : (toDate y m d).bind f = .ok b) :
    validDate y m d = true ∧ f (daysFromCivil y m d) = .ok b := by
  unfold toDate at h
  split at h
  · exact ⟨‹_›, h⟩
  · cases h

theorem mapM_toDate (m d : Int) : ∀ (ys v : List Int),
    ys.mapM (fun y => toDate y m d) = .ok v →
    v = ys.map (fun y => daysFromCivil y m d) ∧ ∀ y ∈ ys, validDate y m d = true := by
  intro ys
  induction ys with
  | nil => intro v h; rw [List.mapM_nil] at h; cases h; simp
  | cons y ys ih =>
    intro v h
    rw [List.mapM_cons] at h
    simp only [bind] at h
    obtain ⟨hv, h⟩ := toDate_bind_ok h
    obtain ⟨v2, h2, h⟩ := bind_ok_iff.1 h
    cases h
    obtain ⟨rfl, hall⟩ := ih v2 h2
    exact ⟨rfl, List.forall_mem_cons.mpr ⟨hv, hall⟩⟩

/-! ### The planting / harvest year logic -/

/-- what `yearLists` returns: `plant_years = range(sy, a)`, `harvest_years = range(sy+δ, a+δ)`
with `δ = 0` for a season inside one calendar year, `δ = 1` for a season spanning New Year. -/
theorem yearLists_spec {sy ey em ed pm pd hm hd endD : Int} {py hy : List Int}
    (h : yearLists sy ey em ed pm pd hm hd endD = .ok (py, hy)) :
    validDate 1990 pm pd = true ∧ validDate 1990 hm hd = true ∧
    ((daysFromCivil 1990 pm pd < daysFromCivil 1990 hm hd ∧ validDate 1990 em ed = true ∧
        py = pyRange sy ((if daysFromCivil 1990 em ed ≤ daysFromCivil 1990 pm pd then ey - 1 else ey) + 1)
        ∧ hy = py) ∨
     (¬ daysFromCivil 1990 pm pd < daysFromCivil 1990 hm hd ∧ validDate (ey + 2) hm hd = true ∧
        ((daysFromCivil (ey + 2) hm hd < endD ∧ py = pyRange sy (ey + 1) ∧
            hy = pyRange (sy + 1) (ey + 2)) ∨
         (¬ daysFromCivil (ey + 2) hm hd < endD ∧ py = pyRange sy ey ∧
            hy = pyRange (sy + 1) (ey + 1))))) := by
  unfold yearLists at h
  simp only [bind, pure, Except.pure] at h
  obtain ⟨hv1, h⟩ := toDate_bind_ok h
  obtain ⟨hv2, h⟩ := toDate_bind_ok h
  refine ⟨hv1, hv2, ?_⟩
  split at h
  · obtain ⟨hv3, h⟩ := toDate_bind_ok h
    obtain ⟨_, h⟩ := toDate_bind_ok h
    cases h
    exact Or.inl ⟨‹_›, hv3, rfl, rfl⟩
  · obtain ⟨hv3, h⟩ := toDate_bind_ok h
    refine Or.inr ⟨‹_›, hv3, ?_⟩
    split at h
    · cases h; exact Or.inl ⟨‹_›, rfl, rfl⟩
    · cases h; exact Or.inr ⟨‹_›, rfl, rfl⟩

theorem finishSeasons_spec {start : Int} {n : Nat} {sy a δ pm pd hm hd : Int} {r : Seasons}
    (h : finishSeasons start n (pyRange sy a) (pyRange (sy + δ) (a + δ)) pm pd hm hd = .ok r) :
    ∃ y0 : Int, y0 < a ∧ validDate sy pm pd = true ∧
      ((y0 = sy ∧ start ≤ daysFromCivil sy pm pd) ∨
       (y0 = sy + 1 ∧ daysFromCivil sy pm pd < start)) ∧
      r.planting = (pyRange y0 a).map (fun y => daysFromCivil y pm pd - start) ∧
      r.harvest = (pyRange (y0 + δ) (a + δ)).map (fun y => daysFromCivil y hm hd - start) ∧
      r.season0 = (if start = daysFromCivil y0 pm pd then 0 else -1) ∧ r.n = n ∧
      (∀ y ∈ pyRange y0 a, validDate y pm pd = true) ∧
      (∀ y ∈ pyRange (y0 + δ) (a + δ), validDate y hm hd = true) := by
  unfold finishSeasons at h
  simp only [bind, pure, Except.pure, throw, throwThe, MonadExceptOf.throw] at h
  by_cases ha : sy < a
  · rw [pyRange_cons ha] at h
    simp only [Except.bind] at h
    obtain ⟨hv1, h⟩ := toDate_bind_ok h
    -- the two lists after the correction for a partial first season
    obtain ⟨y0, hy0, hpl, hhl⟩ : ∃ y0 : Int,
        ((y0 = sy ∧ start ≤ daysFromCivil sy pm pd) ∨
         (y0 = sy + 1 ∧ daysFromCivil sy pm pd < start)) ∧
        (if daysFromCivil sy pm pd < start then (sy :: pyRange (sy + 1) a).tail
          else sy :: pyRange (sy + 1) a) = pyRange y0 a ∧
        (if daysFromCivil sy pm pd < start then (pyRange (sy + δ) (a + δ)).tail
          else pyRange (sy + δ) (a + δ)) = pyRange (y0 + δ) (a + δ) := by
      by_cases hf : daysFromCivil sy pm pd < start
      · refine ⟨sy + 1, Or.inr ⟨rfl, hf⟩, by simp [hf], ?_⟩
        simp only [hf, if_true]
        rw [pyRange_tail]; congr 1; omega
      · refine ⟨sy, Or.inl ⟨rfl, by omega⟩, ?_, by simp [hf]⟩
        simp only [hf, if_false]
        rw [pyRange_cons ha]
    rw [hpl, hhl] at h
    obtain ⟨pl, h2, h⟩ := bind_ok_iff.1 h
    obtain ⟨rfl, hvp⟩ := mapM_toDate pm pd _ _ h2
    obtain ⟨hl, h3, h⟩ := bind_ok_iff.1 h
    obtain ⟨rfl, hvh⟩ := mapM_toDate hm hd _ _ h3
    by_cases hya : y0 < a
    · rw [pyRange_cons hya] at h
      simp only [List.map_cons] at h
      cases h
      refine ⟨y0, hya, hv1, hy0, ?_, ?_, rfl, rfl, hvp, hvh⟩
      · rw [pyRange_cons hya]; simp [List.map_map, Function.comp_def]
      · simp [List.map_map, Function.comp_def]
    · rw [pyRange_nil (by omega)] at h
      cases h
  · rw [pyRange_nil (by omega)] at h
    cases h

/-- The specification of a successful date set-up: there are a first planting year
`y0 ∈ {sy, sy+1}`, a bound `a` and `δ ∈ {0,1}` such that
* the planting dates are the configured month/day of the consecutive years `y0, y0+1, …, a−1`
  (at least one), the harvest dates the configured month/day of the years `y0+δ, …, a−1+δ`
  (`δ = 0` iff planting precedes harvest within the mock year);
* the first planting date is the first one on or after the start date
  (`start ≤ planting(y0)` and `planting(y0 − 1) < start`);
* the season counter starts at 0 iff the start date is that planting date, else at −1;
* `n` is the number of days of the window, at least 2; every planting date is before the end
  date. -/
def SeasonsSpec (sy sm sd ey em ed pm pd hm hd : Int) (r : Seasons) : Prop :=
    let start := daysFromCivil sy sm sd
    let endD := daysFromCivil ey em ed
    ∃ y0 a δ : Int, y0 < a ∧ (y0 = sy ∨ y0 = sy + 1) ∧ a ≤ ey + 1 ∧
      ((δ = 0 ∧ daysFromCivil 1990 pm pd < daysFromCivil 1990 hm hd) ∨
       (δ = 1 ∧ ¬ daysFromCivil 1990 pm pd < daysFromCivil 1990 hm hd)) ∧
      r.planting = (pyRange y0 a).map (fun y => daysFromCivil y pm pd - start) ∧
      r.harvest = (pyRange (y0 + δ) (a + δ)).map (fun y => daysFromCivil y hm hd - start) ∧
      start ≤ daysFromCivil y0 pm pd ∧ daysFromCivil (y0 - 1) pm pd < start ∧
      r.season0 = (if start = daysFromCivil y0 pm pd then 0 else -1) ∧
      (r.n : Int) = endD - start + 1 ∧ 2 ≤ r.n ∧
      (∀ y ∈ pyRange y0 a, daysFromCivil y pm pd < endD) ∧
      validDate 1990 pm pd = true ∧ validDate 1990 hm hd = true ∧
      validDate sy sm sd = true ∧ validDate ey em ed = true

theorem seasonDates_ok {sy sm sd ey em ed pm pd hm hd : Int} {r : Seasons}
    (h : seasonDates sy sm sd ey em ed pm pd hm hd = .ok r) :
    validDate sy sm sd = true ∧ validDate ey em ed = true ∧
    ∃ (n : Nat) (py hy : List Int), (n : Int) = daysFromCivil ey em ed - daysFromCivil sy sm sd + 1 ∧ 2 ≤ n ∧
      yearLists sy ey em ed pm pd hm hd (daysFromCivil ey em ed) = .ok (py, hy) ∧
      finishSeasons (daysFromCivil sy sm sd) n py hy pm pd hm hd = .ok r := by
  unfold seasonDates at h
  simp only [bind, throw, throwThe, MonadExceptOf.throw] at h
  split at h
  · cases h
  · obtain ⟨hvs, h⟩ := toDate_bind_ok h
    obtain ⟨hve, h⟩ := toDate_bind_ok h
    split at h
    · cases h
    · obtain ⟨⟨py, hy⟩, h3, h⟩ := bind_ok_iff.1 h
      have hn : ¬ (daysFromCivil ey em ed - daysFromCivil sy sm sd + 1).toNat < 2 := ‹_›
      exact ⟨hvs, hve, _, py, hy, by omega, Nat.le_of_not_lt hn, h3, h⟩

end Aqua.Calendar
