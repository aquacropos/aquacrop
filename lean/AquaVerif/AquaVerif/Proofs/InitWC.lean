import AquaVerif.Model.InitWC
import AquaVerif.Proofs.PowSq
/-
Lemmas about the initial water content (`Model/InitWC.lean`), property C18.
-/

set_option linter.unusedSectionVars false
namespace Aqua
variable {α : Type} [Field α] [LinearOrder α] [IsStrictOrderedRing α]

/-! ## Per-layer means (`groupby("Layer").mean()`) -/

/-- in exact arithmetic the Kahan compensation vanishes: the compensated sum is the sum. -/
theorem kahan_exact (s : α) (xs : List α) : kahan s 0 xs = s + xs.sum := by
  induction xs generalizing s with
  | nil => simp [kahan]
  | cons v vs ih =>
    simp only [kahan, sub_zero]
    have hc : (s + v - s - v : α) = 0 := by ring
    simp only [hc, le_refl, if_true]
    rw [ih]; simp [add_assoc]

theorem kmean_const (x : α) (xs : List α) (hne : xs ≠ []) (h : ∀ y ∈ xs, y = x) : kmean xs = x := by
  have hn : (xs.length : α) ≠ 0 := Nat.cast_ne_zero.2 (fun h0 => hne (List.length_eq_zero_iff.1 h0))
  rw [kmean, kahan_exact, List.eq_replicate_iff.2 ⟨rfl, h⟩, List.sum_replicate, List.length_replicate,
    nsmul_eq_mul, zero_add, mul_div_cancel_left₀ _ hn]

/-- `h` holds of `thWP`, `thFC`, `thS` on every profile of the builder (`Built.compsOK`). -/
theorem layerMean_const (l : Nat) (f : Comp α → α) (cs : List (Comp α)) (v : α)
    (hex : ∃ c ∈ cs, c.layer = l) (h : ∀ c ∈ cs, c.layer = l → f c = v) :
    layerMean l f cs = v := by
  unfold layerMean layerVals
  apply kmean_const
  · obtain ⟨c, hc, hl⟩ := hex
    intro hnil
    have : f c ∈ (cs.filter (fun c => c.layer == l)).map f :=
      List.mem_map.mpr ⟨c, List.mem_filter.mpr ⟨hc, by simpa using hl⟩, rfl⟩
    rw [hnil] at this; simp at this
  · intro y hy
    obtain ⟨c, hc, rfl⟩ := List.mem_map.mp hy
    have := List.mem_filter.mp hc
    exact h c this.1 (by simpa using this.2)

/-! ## `Layer` method -/

/-- the value the data points give to layer `l`: the **last** point naming `l` wins, `d` if none. -/
def layerValue (l : Nat) : List (Nat × α) → α → α
  | [], d => d
  | (l', v) :: rest, d => layerValue l rest (if l == l' then v else d)

theorem layerValue_single (l l' : Nat) (v d : α) :
    layerValue l [(l', v)] d = if l = l' then v else d := by
  simp only [layerValue, beq_iff_eq]

theorem fillLayers_map (cs : List (Comp α)) (pts : List (Nat × α)) (g : Comp α → α) :
    fillLayers cs pts (cs.map g) = cs.map fun c => layerValue c.layer pts (g c) := by
  induction pts generalizing g with
  | nil => rfl
  | cons p rest ih =>
    obtain ⟨l, v⟩ := p
    rw [fillLayers, List.zipWith_map_right, List.zipWith_self, ih]
    rfl

theorem pointValue_layer_prop (cs : List (Comp α)) (p : WcPoint α) (wp fc s : α)
    (h : hydRow p.lay cs = some (wp, fc, s)) :
    pointValue .prop .layer cs p = .ok (match p.prop with
      | .sat => s | .fc => fc | .wp => wp | .other => 0) := by
  simp only [pointValue, h]
  cases p.prop <;> rfl

theorem pointValue_layer_pct (cs : List (Comp α)) (p : WcPoint α) (wp fc s : α)
    (h : hydRow p.lay cs = some (wp, fc, s)) :
    pointValue .pct .layer cs p = .ok (wp + p.num / 100 * (fc - wp)) := by
  simp [pointValue, h]

theorem hydRow_const (l : Nat) (cs : List (Comp α)) (wp fc s : α)
    (hex : ∃ c ∈ cs, c.layer = l)
    (h : ∀ c ∈ cs, c.layer = l → c.thWP = wp ∧ c.thFC = fc ∧ c.thS = s) :
    hydRow l cs = some (wp, fc, s) := by
  unfold hydRow
  have hany : cs.any (fun c => c.layer == l) = true := by
    obtain ⟨c, hc, hl⟩ := hex
    exact List.any_eq_true.mpr ⟨c, hc, by simpa using hl⟩
  simp only [hany, if_true]
  rw [layerMean_const l _ cs wp hex (fun c hc hl => (h c hc hl).1),
      layerMean_const l _ cs fc hex (fun c hc hl => (h c hc hl).2.1),
      layerMean_const l _ cs s hex (fun c hc hl => (h c hc hl).2.2)]

theorem initWC_layer_noWT (F : Fn α) (cs : List (Comp α)) (zgw zSoil : α) (ty : WcType)
    (pts : List (WcPoint α)) :
    initWC F cs false zgw zSoil ty .layer pts =
      (pointValues ty .layer cs pts).map fun vals =>
        { fcAdjProf := (cs.map (·.thFC)).map F.round3, fcAdjInit := cs.map (·.thFC),
          th := fillLayers cs ((pts.map (·.lay)).zip vals) (cs.map fun _ => 0),
          wtInSoil := false, aliased := false } := by
  unfold initWC
  cases pointValues ty .layer cs pts with
  | error e => rfl
  | ok vals => simp [wtInSoil, fcAdjInit, Except.map]

theorem iwc_layer (F : Fn α) (cs : List (Comp α)) (zgw zSoil : α) (ty : WcType)
    (pts : List (WcPoint α)) (vals : List α) (o : InitOut α)
    (hv : pointValues ty .layer cs pts = .ok vals)
    (h : initWC F cs false zgw zSoil ty .layer pts = .ok o) :
    o.th = cs.map (fun c => layerValue c.layer ((pts.map (·.lay)).zip vals) 0) ∧
      o.wtInSoil = false ∧ o.fcAdjInit = cs.map (·.thFC) := by
  rw [initWC_layer_noWT, hv] at h
  cases h
  exact ⟨fillLayers_map cs _ fun _ => 0, rfl, rfl⟩

/-! ## `np.interp` -/

theorem interpGo_skip (x : α) (lo : α × α) (pre : List (α × α)) (rest : List (α × α))
    (a : α × α) (h : ∀ p ∈ pre ++ [a], p.1 ≤ x) :
    interpGo x lo (pre ++ a :: rest) = interpGo x a rest := by
  induction pre generalizing lo with
  | nil => simp [interpGo, h a (by simp)]
  | cons q qs ih =>
    have hq : q.1 ≤ x := h q (by simp)
    simp only [List.cons_append, interpGo, hq, if_true]
    exact ih q (fun p hp => h p (by simp at hp ⊢; tauto))

/-- from a data point at or left of `x` on, the walk restarts at that point -/
theorem interp_split (x : α) (pre rest : List (α × α)) (a : α × α) (hpre : ∀ p ∈ pre, p.1 ≤ x)
    (ha : a.1 ≤ x) : interp x (pre ++ a :: rest) = some (interpGo x a rest) := by
  cases pre with
  | nil => simp only [List.nil_append, interp, not_lt.mpr ha, if_false]
  | cons q qs =>
    simp only [List.cons_append, interp, not_lt.mpr (hpre q List.mem_cons_self), if_false]
    rw [interpGo_skip x q qs rest a (fun p hp => by
      rcases List.mem_append.1 hp with hp | hp
      · exact hpre p (List.mem_cons_of_mem _ hp)
      · rw [List.mem_singleton.1 hp]; exact ha)]

theorem interp_between_bounds (x : α) (a b : α × α) (ha : a.1 ≤ x) (hb : x < b.1) :
    min a.2 b.2 ≤ (b.2 - a.2) / (b.1 - a.1) * (x - a.1) + a.2 ∧
    (b.2 - a.2) / (b.1 - a.1) * (x - a.1) + a.2 ≤ max a.2 b.2 := by
  have hd : 0 < b.1 - a.1 := sub_pos.2 (lt_of_le_of_lt ha hb)
  have e : (b.2 - a.2) / (b.1 - a.1) * (x - a.1) + a.2 =
      a.2 + (x - a.1) / (b.1 - a.1) * (b.2 - a.2) := by ring
  rw [e]
  exact lerp_between (div_nonneg (sub_nonneg.2 ha) hd.le)
    ((div_le_one hd).2 (sub_le_sub_right hb.le _))

/-! ## `Depth` method -/

theorem interpAll_some (pts : List (α × α)) (xs th : List α) (h : interpAll pts xs = some th) :
    th.map some = xs.map (fun x => interp x pts) := by
  fun_induction interpAll pts xs generalizing th with
  | case1 => cases h; rfl
  | case2 => cases h
  | case3 x xs v hx ih =>
    cases hr : interpAll pts xs with
    | none => rw [hr] at h; cases h
    | some r =>
      rw [hr] at h
      cases h
      simp [hx, ih r hr]

theorem iwc_depth_is_interp (F : Fn α) (cs : List (Comp α)) (zgw zSoil : α) (ty : WcType)
    (pts : List (WcPoint α)) (o : InitOut α)
    (h : initWC F cs false zgw zSoil ty .depth pts = .ok o) :
    ∃ vals padded, pointValues ty .depth cs pts = .ok vals ∧
      padPoints zSoil ((pts.map (·.depth)).zip vals) = some padded ∧
      o.th.map some = (compMid cs).map (fun x => interp x padded) := by
  unfold initWC at h
  cases hv : pointValues ty .depth cs pts with
  | error e => simp [hv] at h
  | ok vals =>
    simp only [hv] at h
    cases hp : padPoints zSoil ((pts.map (·.depth)).zip vals) with
    | none => simp [hp] at h
    | some padded =>
      simp only [hp] at h
      cases hi : interpAll padded (compMid cs) with
      | none => simp [hi] at h
      | some th =>
        simp only [hi, wtInSoil, Bool.false_and, Bool.false_eq_true, if_false,
          Except.ok.injEq] at h
        subst h
        exact ⟨vals, padded, rfl, hp, interpAll_some padded _ th hi⟩

/-! ## Non-vacuity (a concrete 3-compartment, 2-layer profile over ℚ) -/

example : interp (3 / 2 : ℚ) [(0, 1), (1, 2), (2, 4)] = some 3 := by
  decide +kernel

private def idF : Fn ℚ :=
  ⟨id, id, id, fun x y => if y = 2 then x * x else x, id, id, id, id, id⟩
private def c1 : Comp ℚ := ⟨1/10, 1/10, 1/20, 1/2, 3/10, 1/10, 1/20, 3/4, 500, 100, 0, 0, 1⟩
private def c2 : Comp ℚ := ⟨1/10, 2/10, 3/20, 1/2, 3/10, 1/10, 1/20, 3/4, 500, 100, 0, 0, 1⟩
private def c3 : Comp ℚ := ⟨1/10, 3/10, 5/20, 46/100, 31/100, 15/100, 3/40, 3/4, 500, 100, 0, 0, 2⟩

example : PowSqLaw idF := ⟨fun x => by simp [idF]⟩

/-- layer 1 at field capacity, layer 2 at saturation -/
example : (initWC idF [c1, c2, c3] false 0 (3/10) .prop .layer
    [⟨1, 0, 0, .fc⟩, ⟨2, 0, 0, .sat⟩]).toOption.map (·.th) = some [3/10, 3/10, 46/100] := by
  decide +kernel

/-- 50 % of the available water in layer 1, layer 2 not named → 0 (below air-dry!) -/
example : (initWC idF [c1, c2, c3] false 0 (3/10) .pct .layer
    [⟨1, 0, 50, .other⟩]).toOption.map (·.th) = some [1/5, 1/5, 0] := by
  decide +kernel

end Aqua
