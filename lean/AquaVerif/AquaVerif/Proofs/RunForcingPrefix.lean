import AquaVerif.Proofs.RunForcing
/-
**No look-ahead (property C14) on the full run model**.

`AgreeBefore t₀ cfg cfg'`: the two configurations share the static part and the clock, the forcing
(weather rows, water-table depths, schedule entries) of every day `t < t₀`, and the crops of the
seasons planted before `t₀`.  Nothing is assumed about the forcing from day `t₀` on, nor about the
crops of the seasons planted on day `t₀` or later.

* `reach_prefix_determined` / **`run_prefix_determined`**: two runs of the same number of steps
  have the same day records for all days `tsc < t₀` (`recsBefore`), and are in the *same state*
  as long as one of the two clocks is before `t₀`;
* `C14.run_same_state_at` : … and also when the clock stands at `t₀` (the state in which day `t₀` starts),
  if the season planted on day `t₀` — if any — has the same crop;
* `C14.run_no_lookahead_tables`: the rows `tsc < t₀` of the three daily tables and of the summary coincide;
* `C14.run_no_lookahead_calendar_crops`: the statement for calendar-day crops (`seasonCrop` shared);
  for thermal-time crops `AgreeBefore.crop` is the explicit calendar premise: `seasonCrop k` is
  computed at the start of season `k` from the temperatures of the whole season
  (`Model/CropCalendar.lean`, `calendarReset`), so it is *not* implied by agreement of the weather
  before `t₀` when season `k` is under way on day `t₀`.

Premises on the clock: `WF cfg.clock` and `InitOK cfg` — they make the clock strictly increasing
along a run (`performR_clock_mono`), without which "the days before `t₀`" would not be a prefix of
the run.
-/

set_option linter.unusedSectionVars false
namespace Aqua
open Aqua.Clock
variable {α : Type} [Field α] [LinearOrder α] [IsStrictOrderedRing α]

/-- the records of the days before `t₀` (newest first, as `daysRev`) -/
def recsBefore (t₀ : Nat) (l : List (DayRec α)) : List (DayRec α) :=
  l.filter (fun d => decide (d.D.tsc < t₀))

/-- **the two configurations cannot be told apart before day `t₀`** -/
structure AgreeBefore (t₀ : Nat) (cfg cfg' : RunCfg α) : Prop where
  static : StaticEq cfg cfg'
  clock : cfg'.clock = cfg.clock
  /-- the forcing of the days before `t₀` -/
  day : ∀ t, t < t₀ → DayEq cfg cfg' t
  /-- the crops of the seasons planted before `t₀` (all seasons for calendar-day crops; for
  thermal-time crops: the calendar premise) -/
  crop : ∀ n, cfg.clock.pl n < t₀ → cfg'.seasonCrop n = cfg.seasonCrop n

theorem AgreeBefore.symm {t₀ : Nat} {cfg cfg' : RunCfg α} (h : AgreeBefore t₀ cfg cfg') :
    AgreeBefore t₀ cfg' cfg :=
  ⟨h.static.symm, h.clock.symm, fun t ht => (h.day t ht).symm h.static,
   fun n hn => (h.crop n (by rw [← h.clock]; exact hn)).symm⟩

theorem AgreeBefore.withForcing {t₀ : Nat} (cfg : RunCfg α) (w2 : Nat → Weather α) (z2 : Nat → α)
    (hw2 : ∀ t, t < t₀ → w2 t = cfg.weather t) (hz2 : ∀ t, t < t₀ → z2 t = cfg.zgw t) :
    AgreeBefore t₀ cfg (withForcing cfg w2 z2) :=
  ⟨⟨rfl, rfl, rfl, rfl, rfl, rfl, rfl, rfl, rfl, rfl, rfl, rfl, rfl, rfl, rfl, rfl⟩, rfl,
   fun t ht => ⟨hw2 t ht, fun _ => hz2 t ht, rfl, rfl⟩, fun _ _ => rfl⟩

theorem AgreeBefore.withSchedule {t₀ : Nat} (cfg : RunCfg α) (sc fsc : Nat → Option α)
    (h1 : ∀ t, t < t₀ → sc t = cfg.irr.sched t) (h2 : ∀ t, t < t₀ → fsc t = cfg.fallowIrr.sched t) :
    AgreeBefore t₀ cfg (withSchedule cfg sc fsc) :=
  ⟨⟨rfl, rfl, rfl, rfl, rfl, rfl, rfl, rfl, rfl, rfl, rfl, rfl, rfl, rfl, rfl, rfl⟩, rfl,
   fun t ht => ⟨rfl, fun _ => rfl, h1 t ht, h2 t ht⟩, fun _ _ => rfl⟩

/-! ## 1. the clock along a run -/

section clock
variable {F : Fn α} {T : TrigFn α} {cfg : RunCfg α} {s a : RunState α}

theorem performR_finished (hp : performR F T cfg s = .ok a) (hf : a.finished = true) :
    a.t = s.t ∧ a.season = s.season := by
  obtain ⟨ph, r, s1, _, _, _, hs1, hu⟩ := performR_ok hp
  obtain ⟨c', hc', hcl, _, hfin, _⟩ := updateTimeR_ok hu
  have hf2 : (checkFinishedR cfg s1).clockOf.finished = true := by
    show (checkFinishedR cfg s1).finished = true
    rw [← hfin]; exact hf
  unfold updateTime at hc'
  rw [if_pos hf2] at hc'
  cases hc'
  have e1 : a.clockOf.t = (checkFinishedR cfg s1).clockOf.t := by rw [hcl]
  have e2 : a.clockOf.season = (checkFinishedR cfg s1).clockOf.season := by rw [hcl]
  have e3 : (checkFinishedR cfg s1).clockOf.t = s.t := by rw [hs1]; rfl
  have e4 : (checkFinishedR cfg s1).clockOf.season = s.season := by rw [hs1]; rfl
  exact ⟨e1.trans e3, e2.trans e4⟩

theorem performR_clock_mono (hw : WF cfg.clock) (hi : InitOK cfg) (hr : RunReach F T cfg s)
    (hp : performR F T cfg s = .ok a) :
    (a.finished = false → s.t < a.t) ∧ (a.finished = true → a.t = s.t) := by
  constructor
  · intro hf
    have hL := run_live hw hi (RunReach.step hr hp) hf
    obtain ⟨d, hs⟩ := performR_step hp
    have hm : DayRec.clockRow d ∈ a.clockOf.rowsRev := by
      show DayRec.clockRow d ∈ a.daysRev.map DayRec.clockRow
      rw [hs.days]; exact List.mem_map_of_mem List.mem_cons_self
    have := (hL.rowsB _ hm).1
    have e : (DayRec.clockRow d).t = s.t := hs.tsc
    rw [e] at this
    exact this
  · intro hf
    exact (performR_finished hp hf).1

end clock

/-! ## 2. the relation between the two runs -/

/-- the states up to (and, under `E`, including) the one in which day `t₀` starts -/
def Upto (t₀ : Nat) (E : Prop) (s : RunState α) : Prop :=
  s.t < t₀ ∨ (E ∧ s.t = t₀ ∧ s.finished = false)

structure PrefixRel (t₀ : Nat) (E : Prop) (s s' : RunState α) : Prop where
  eq : Upto t₀ E s ∨ Upto t₀ E s' → s' = s
  recs : recsBefore t₀ s'.daysRev = recsBefore t₀ s.daysRev

theorem recsBefore_cons_ge {t₀ : Nat} {d : DayRec α} (h : t₀ ≤ d.D.tsc) (l : List (DayRec α)) :
    recsBefore t₀ (d :: l) = recsBefore t₀ l := by
  unfold recsBefore
  rw [List.filter_cons_of_neg]
  simp only [decide_eq_true_eq]
  omega

section rel
variable {F : Fn α} {T : TrigFn α} {cfg cfg' : RunCfg α} {t₀ : Nat} {E : Prop}

theorem step_beyond (hw : WF cfg.clock) (hi : InitOK cfg) {s a : RunState α}
    (hr : RunReach F T cfg s) (hp : performR F T cfg s = .ok a) (ht : t₀ ≤ s.t) :
    t₀ ≤ a.t ∧ ¬ Upto t₀ E a ∧ recsBefore t₀ a.daysRev = recsBefore t₀ s.daysRev := by
  obtain ⟨m1, m2⟩ := performR_clock_mono hw hi hr hp
  obtain ⟨d, hs⟩ := performR_step hp
  have hge : t₀ ≤ a.t ∧ ¬ Upto t₀ E a := by
    cases hf : a.finished with
    | false =>
      have := m1 hf
      refine ⟨by omega, ?_⟩
      rintro (h | ⟨_, h, _⟩) <;> omega
    | true =>
      have := m2 hf
      refine ⟨by omega, ?_⟩
      rintro (h | ⟨_, _, h⟩)
      · omega
      · rw [hf] at h; cases h
  refine ⟨hge.1, hge.2, ?_⟩
  rw [hs.days]
  exact recsBefore_cons_ge (by rw [hs.tsc]; exact ht) _

/-- the current season of a live clock was planted on or before the current day -/
theorem AgreeBefore.cropEq (hA : AgreeBefore t₀ cfg cfg') {s : RunState α}
    (hL : Live cfg.clock s.clockOf) (ht : s.t < t₀) : CropEq cfg cfg' s.season :=
  fun h0 => hA.crop _ (Nat.lt_of_le_of_lt (hL.cur h0) ht)

theorem initOK_agree (hs : StaticEq cfg cfg') (hi : InitOK cfg) : InitOK cfg' := by
  obtain ⟨h1, h2, h3, h4⟩ := hi
  constructor <;> rw [hs.init] <;> assumption

/-- the new states are equal if one of them is `Upto t₀ E`: the step stayed in its season, or the
season it started was planted before `t₀` (or on day `t₀`, under `E`), so that the two
configurations give it the same crop -/
theorem step_early (hA : AgreeBefore t₀ cfg cfg')
    (hE : E → ∀ n, cfg.clock.pl n = t₀ → cfg'.seasonCrop n = cfg.seasonCrop n)
    (hw : WF cfg.clock) (hi : InitOK cfg) {s a : RunState α}
    (hr : RunReach F T cfg s) (ht : s.t < t₀) (hp : performR F T cfg s = .ok a) :
    ∃ a', performR F T cfg' s = .ok a' ∧ a'.daysRev = a.daysRev ∧
      (Upto t₀ E a ∨ Upto t₀ E a' → a' = a) := by
  obtain ⟨d, hs⟩ := performR_step hp
  have hL := run_live hw hi hr hs.live
  have hag := performR_agree (F := F) (T := T) hA.static hA.clock (hA.day _ ht) (hA.cropEq hL ht)
  rw [hp] at hag
  obtain ⟨a', hp', f1, f2, f3, f4, heq⟩ := hag.ok_left
  refine ⟨a', hp', f4, fun hU => heq ?_⟩
  have hUa : Upto t₀ E a := hU.elim id fun h => by unfold Upto at h ⊢; rw [f1, f3] at h; exact h
  cases hfa : a.finished with
  | true => exact Or.inl (performR_finished hp hfa).2
  | false =>
    by_cases hse : a.season = s.season
    · exact Or.inl hse
    · right
      have hsa : a.season = s.season + 1 := by
        rcases hs.next with ⟨e, _⟩ | ⟨e, _⟩
        · exact absurd e hse
        · exact e
      have hLa := run_live hw hi (RunReach.step hr hp) hfa
      have hslo : -1 ≤ s.season := hL.slo
      have h0 : 0 ≤ a.season := by omega
      have hcur : cfg.clock.pl a.season.toNat ≤ a.t := hLa.cur h0
      rcases hUa with h | ⟨hEE, h, _⟩
      · exact hA.crop _ (by omega)
      · by_cases hpl : cfg.clock.pl a.season.toNat < t₀
        · exact hA.crop _ hpl
        · exact hE hEE _ (by omega)

theorem prefix_step (hA : AgreeBefore t₀ cfg cfg')
    (hE : E → ∀ n, cfg.clock.pl n = t₀ → cfg'.seasonCrop n = cfg.seasonCrop n)
    (hw : WF cfg.clock) (hi : InitOK cfg) {s s' a a' : RunState α}
    (hr : RunReach F T cfg s) (hr' : RunReach F T cfg' s') (hR : PrefixRel t₀ E s s')
    (hp : performR F T cfg s = .ok a) (hp' : performR F T cfg' s' = .ok a') :
    PrefixRel t₀ E a a' := by
  by_cases hlt : s.t < t₀ ∨ s'.t < t₀
  · -- the two runs are in the same state, before `t₀`
    obtain rfl : s' = s :=
      hR.eq (hlt.elim (fun h => Or.inl (Or.inl h)) (fun h => Or.inr (Or.inl h)))
    obtain ⟨a'', hp'', hd, heq⟩ := step_early hA hE hw hi hr (hlt.elim id id) hp
    rw [hp'] at hp''
    cases hp''
    exact ⟨heq, by rw [hd]⟩
  · -- both runs are at or after `t₀`
    have hw' : WF cfg'.clock := by rw [hA.clock]; exact hw
    obtain ⟨_, n1, r1⟩ := step_beyond (E := E) hw hi hr hp (show t₀ ≤ s.t by omega)
    obtain ⟨_, n2, r2⟩ := step_beyond (E := E) hw' (initOK_agree hA.static hi) hr' hp'
      (show t₀ ≤ s'.t by omega)
    exact ⟨fun h => h.elim (fun h => absurd h n1) (fun h => absurd h n2), by rw [r1, r2, hR.recs]⟩

/-- a step one run makes alone, once the two runs are in different states (both are then at or
after `t₀`), keeps the relation -/
theorem prefix_left (hw : WF cfg.clock) (hi : InitOK cfg) {s s' a : RunState α}
    (hr : RunReach F T cfg s) (hR : PrefixRel t₀ E s s') (hne : s' ≠ s)
    (hp : performR F T cfg s = .ok a) : PrefixRel t₀ E a s' := by
  have hU : ¬ (Upto t₀ E s ∨ Upto t₀ E s') := fun h => hne (hR.eq h)
  obtain ⟨_, n1, r1⟩ := step_beyond (E := E) hw hi hr hp
    (Nat.le_of_not_lt fun h => hU (Or.inl (Or.inl h)))
  exact ⟨fun h => h.elim (fun h => absurd h n1) (fun h => absurd (Or.inr h) hU),
    hR.recs.trans r1.symm⟩

theorem prefix_right (hw : WF cfg'.clock) (hi : InitOK cfg') {s s' a' : RunState α}
    (hr' : RunReach F T cfg' s') (hR : PrefixRel t₀ E s s') (hne : s' ≠ s)
    (hp' : performR F T cfg' s' = .ok a') : PrefixRel t₀ E s a' := by
  have hU : ¬ (Upto t₀ E s ∨ Upto t₀ E s') := fun h => hne (hR.eq h)
  obtain ⟨_, n1, r1⟩ := step_beyond (E := E) hw hi hr' hp'
    (Nat.le_of_not_lt fun h => hU (Or.inr (Or.inl h)))
  exact ⟨fun h => h.elim (fun h => absurd (Or.inl h) hU) (fun h => absurd h n1),
    r1.trans hR.recs⟩

end rel

/-! ## 3. the theorems -/

section main
variable {F : Fn α} {T : TrigFn α} {cfg cfg' : RunCfg α} {t₀ : Nat} {E : Prop}

/-- `PrefixRel` between reachable states: the relation of the two runs, with what its step lemmas
need of either run -/
def PrefixSim (F : Fn α) (T : TrigFn α) (cfg cfg' : RunCfg α) (t₀ : Nat) (E : Prop)
    (s s' : RunState α) : Prop :=
  RunReach F T cfg s ∧ RunReach F T cfg' s' ∧ PrefixRel t₀ E s s'

theorem prefixSim_init (hA : AgreeBefore t₀ cfg cfg') {s0 : RunState α}
    (h0 : runInit cfg = .ok s0) : PrefixSim F T cfg cfg' t₀ E s0 s0 :=
  ⟨.init h0, .init (by rw [runInit_congr hA.clock hA.static.init]; exact h0), fun _ => rfl, rfl⟩

theorem prefixSim_both (hA : AgreeBefore t₀ cfg cfg')
    (hE : E → ∀ n, cfg.clock.pl n = t₀ → cfg'.seasonCrop n = cfg.seasonCrop n)
    (hw : WF cfg.clock) (hi : InitOK cfg) {s s' a a' : RunState α}
    (hR : PrefixSim F T cfg cfg' t₀ E s s') (hp : performR F T cfg s = .ok a)
    (hp' : performR F T cfg' s' = .ok a') : PrefixSim F T cfg cfg' t₀ E a a' :=
  ⟨hR.1.step hp, hR.2.1.step hp', prefix_step hA hE hw hi hR.1 hR.2.1 hR.2.2 hp hp'⟩

theorem runSteps_prefix (hA : AgreeBefore t₀ cfg cfg')
    (hE : E → ∀ n, cfg.clock.pl n = t₀ → cfg'.seasonCrop n = cfg.seasonCrop n)
    (hw : WF cfg.clock) (hi : InitOK cfg) {s0 r r' : RunState α} (h0 : runInit cfg = .ok s0)
    {k : Nat} (hrun : runModel F T cfg k s0 = .ok r) (hrun' : runModel F T cfg' k s0 = .ok r') :
    PrefixRel t₀ E r r' := by
  rw [runModelR_eq] at hrun hrun'
  refine (Steps.run_rel (R := PrefixSim F T cfg cfg' t₀ E) (prefixSim_both hA hE hw hi) ?_ ?_ k
    (prefixSim_init hA h0) (Steps.model_run hrun) (Steps.model_run hrun')).2.2
  · intro s s' a hR hf' hf hp
    exact ⟨hR.1.step hp, hR.2.1,
      prefix_left hw hi hR.1 hR.2.2 (fun e => by rw [e, hf] at hf'; cases hf') hp⟩
  · intro s s' a' hR hf hf' hp'
    exact ⟨hR.1, hR.2.1.step hp',
      prefix_right (by rw [hA.clock]; exact hw) (initOK_agree hA.static hi) hR.2.1 hR.2.2
        (fun e => by rw [e, hf] at hf'; cases hf') hp'⟩

theorem reach_prefix (hA : AgreeBefore t₀ cfg cfg')
    (hE : E → ∀ n, cfg.clock.pl n = t₀ → cfg'.seasonCrop n = cfg.seasonCrop n)
    (hw : WF cfg.clock) (hi : InitOK cfg) {s s' : RunState α} (hr : RunReach F T cfg s)
    (hr' : RunReach F T cfg' s') (hlen : s.daysRev.length = s'.daysRev.length) :
    PrefixRel t₀ E s s' := by
  obtain ⟨s0, h0, hit⟩ := reach_iter hr
  obtain ⟨s0', h0', hit'⟩ := reach_iter hr'
  rw [runInit_congr hA.clock hA.static.init, h0] at h0'
  cases h0'
  rw [← hlen, iterR_eq_iter] at hit'
  rw [iterR_eq_iter] at hit
  exact (Steps.iter_rel (prefixSim_both hA hE hw hi) _ (prefixSim_init hA h0) hit hit').2.2

theorem reach_prefix_determined (hA : AgreeBefore t₀ cfg cfg') (hw : WF cfg.clock)
    (hi : InitOK cfg) {s s' : RunState α} (hr : RunReach F T cfg s) (hr' : RunReach F T cfg' s')
    (hlen : s.daysRev.length = s'.daysRev.length) :
    recsBefore t₀ s'.daysRev = recsBefore t₀ s.daysRev ∧ (s.t < t₀ ∨ s'.t < t₀ → s' = s) :=
  have hR := reach_prefix (E := False) hA (fun h => h.elim) hw hi hr hr' hlen
  ⟨hR.recs, fun h => hR.eq (h.elim (fun h => Or.inl (Or.inl h)) (fun h => Or.inr (Or.inl h)))⟩

theorem run_prefix_determined (hA : AgreeBefore t₀ cfg cfg') (hw : WF cfg.clock) (hi : InitOK cfg)
    {s0 r r' : RunState α} (h0 : runInit cfg = .ok s0) {k : Nat}
    (hrun : runModel F T cfg k s0 = .ok r) (hrun' : runModel F T cfg' k s0 = .ok r') :
    recsBefore t₀ r'.daysRev = recsBefore t₀ r.daysRev ∧ (r.t < t₀ ∨ r'.t < t₀ → r' = r) :=
  have hR := runSteps_prefix (E := False) hA (fun h => h.elim) hw hi h0 hrun hrun'
  ⟨hR.recs, fun h => hR.eq (h.elim (fun h => Or.inl (Or.inl h)) (fun h => Or.inr (Or.inl h)))⟩

theorem step_before (hA : AgreeBefore t₀ cfg cfg') (hw : WF cfg.clock) (hi : InitOK cfg)
    {s a : RunState α} (hr : RunReach F T cfg s) (hp : performR F T cfg s = .ok a)
    (ha : a.t < t₀) : s.t < t₀ ∧ performR F T cfg' s = .ok a := by
  obtain ⟨m1, m2⟩ := performR_clock_mono hw hi hr hp
  have hst : s.t < t₀ := by
    cases hf : a.finished with
    | false => have := m1 hf; omega
    | true => have := m2 hf; omega
  obtain ⟨a', hp', _, heq⟩ := step_early (E := False) hA (fun h => h.elim) hw hi hr hst hp
  rw [heq (Or.inl (Or.inl ha))] at hp'
  exact ⟨hst, hp'⟩

/-- **while the run of `cfg` has not reached day `t₀`, the run of `cfg'` exists and is the same**
(success of the second run need not be assumed) -/
theorem run_prefix_exists (hA : AgreeBefore t₀ cfg cfg') (hw : WF cfg.clock) (hi : InitOK cfg)
    {s0 : RunState α} (h0 : runInit cfg = .ok s0) :
    ∀ (j : Nat) {s : RunState α}, iterR F T cfg j s0 = .ok s → s.t < t₀ →
      iterR F T cfg' j s0 = .ok s := fun j s h hst => by
  rw [iterR_eq_iter] at h ⊢
  exact (Steps.iter_transfer (I := RunReach F T cfg) (fun hr hp => hr.step hp)
    (fun hr hp ha => step_before hA hw hi hr hp ha) j (.init h0) h hst).2

/-! ### the tables -/

theorem filter_map_recs {β : Type} (f : DayRec α → β) (key : β → Nat) (l : List (DayRec α))
    (hk : ∀ d ∈ l, key (f d) = d.D.tsc) :
    (l.reverse.map f).filter (fun x => decide (key x < t₀)) =
      ((recsBefore t₀ l).reverse).map f := by
  unfold recsBefore
  rw [← List.filter_reverse]
  exact filter_map_of f _ _ _ (fun d hd => by rw [hk d (List.mem_reverse.mp hd)])

theorem tables_of_recs {s : RunState α} (hr : RunReach F T cfg s) :
    s.storageTable.filter (fun x => decide (x.tsc < t₀)) =
        ((recsBefore t₀ s.daysRev).reverse).map (·.r.storage) ∧
    s.fluxTable.filter (fun x => decide (x.tsc < t₀)) =
        ((recsBefore t₀ s.daysRev).reverse).map (·.r.flux) ∧
    s.growthTable.filter (fun x => decide (x.tsc < t₀)) =
        ((recsBefore t₀ s.daysRev).reverse).map (·.r.growth) ∧
    s.summaryTable.filter (fun x => decide (x.tsc < t₀)) =
        ((recsBefore t₀ s.daysRev).reverse).filterMap (·.r.summary) := by
  have hd := run_days hr
  refine ⟨?_, ?_, ?_, ?_⟩
  · exact filter_map_recs (·.r.storage) (·.tsc) _ (fun d h => (fullDay_labels (hd d h)).2.2.2.2.1)
  · exact filter_map_recs (·.r.flux) (·.tsc) _ (fun d h => (fullDay_labels (hd d h)).2.1)
  · exact filter_map_recs (·.r.growth) (·.tsc) _ (fun d h => (fullDay_labels (hd d h)).2.2.2.1)
  · unfold RunState.summaryTable recsBefore
    rw [← List.filter_reverse]
    exact filter_filterMap_of _ _ _ _ (fun d h x hx => by
      rw [((fullDay_labels (hd d (List.mem_reverse.mp h))).2.2.2.2.2 x hx).2])

end main
end Aqua

#print axioms Aqua.reach_prefix_determined
#print axioms Aqua.run_prefix_determined
#print axioms Aqua.run_prefix_exists
