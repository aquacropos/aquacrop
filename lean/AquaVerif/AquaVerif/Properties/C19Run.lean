import AquaVerif.Proofs.RunLift

/-
Property C19 along a run: the theorems of `Properties/C19.lean` on every simulated day of every
run of `runModel` (the run-level lemma files rest on the day-level theorems of that file, so these
cannot stand in it).
-/

set_option linter.unusedSectionVars false
namespace Aqua.C19
open Aqua
variable {α : Type} [Field α] [LinearOrder α] [IsStrictOrderedRing α]

/-! ### every day of every run -/

/-- **Run level.** With a water table the depth reported on a day (row and state) is the value of
the configured daily series for that day, it is not negative, and the table is reported in the
profile exactly when a compartment centre lies at or below it; without one the reported depth is
0.  No premise. -/
theorem run_reported_depth {F : Fn α} {T : TrigFn α} {cfg : RunCfg α} {s : RunState α}
    (hr : RunReach F T cfg s) :
    ∀ d ∈ s.daysRev,
      (cfg.W0.waterTable = 1 →
        d.r.flux.zGW = cfg.zgw d.D.tsc ∧ d.r.state.zGW = cfg.zgw d.D.tsc ∧
        0 ≤ cfg.zgw d.D.tsc ∧
        (d.r.water.wtInSoil = true ↔ ∃ x ∈ d.st.cells, cfg.zgw d.D.tsc ≤ x.c.zMid)) ∧
      (cfg.W0.waterTable ≠ 1 → d.r.flux.zGW = 0 ∧ d.r.state.zGW = 0) :=
  run_gw_depth hr

/-- **Run level.** With a water table, under `CfgOK` and the hypothesis `ResidualW` on every
recorded day (capillary rise did not lift a compartment above saturation), at the end of every
recorded day the adjusted field capacity lies within `[th_fc, th_s]`. -/
theorem run_fcadj_range {F : Fn α} {T : TrigFn α} {cfg : RunCfg α} {s : RunState α}
    (hC : CfgOK F T cfg) (hr : RunReach F T cfg s) (hR : ∀ d ∈ s.daysRev, ResidualW d)
    (hwt : cfg.W0.waterTable = 1) :
    ∀ d ∈ s.daysRev, ∀ y ∈ d.r.state.cells, y.c.thFC ≤ y.fcAdj ∧ y.fcAdj ≤ y.c.thS := by
  obtain ⟨_, _, _, hF⟩ := run_dayFacts hC hr hR
  intro d hd
  have hc := (hF d hd).cfg
  have w := fullDay_waterOf (hF d hd).day
  rw [w.cells]
  exact C19.day_fcadj_range hC.fn.powSq w.day
    (by rw [hc.waterTable]; exact hwt) (fun x hx => ((hF d hd).pre.pre x hx).inv.wf)

/-- **Run level.** With a water table, under `CfgOK` and the hypothesis `ResidualW` on every
recorded day, at the end of every recorded day every compartment whose centre lies at or below the
configured table depth of that day is exactly saturated. -/
theorem run_below_table_saturated {F : Fn α} {T : TrigFn α} {cfg : RunCfg α} {s : RunState α}
    (hC : CfgOK F T cfg) (hr : RunReach F T cfg s) (hR : ∀ d ∈ s.daysRev, ResidualW d)
    (hwt : cfg.W0.waterTable = 1) :
    ∀ d ∈ s.daysRev, ∀ y ∈ d.r.state.cells, cfg.zgw d.D.tsc ≤ y.c.zMid → y.th = y.c.thS := by
  obtain ⟨wp, fc, _, hF⟩ := run_dayFacts hC hr hR
  intro d hd y hy hz
  have hc := (hF d hd).cfg
  have hday := (hF d hd).day
  have hw := fullDay_water hday
  have hpre := (hF d hd).pre
  have hdz := (hF d hd).dz
  have hwt' : d.P.W.waterTable = 1 := by rw [hc.waterTable]; exact hwt
  obtain ⟨a1, a2, _, a4⟩ := (run_gw_depth hr d hd).1 hwt
  have hin : d.r.water.wtInSoil = true := by
    apply a4.mpr
    have hcm := fullDay_comps hday
    have : y.c ∈ d.r.state.cells.map (·.c) := List.mem_map_of_mem hy
    rw [hcm] at this
    obtain ⟨x, hx, hxe⟩ := List.mem_map.mp this
    exact ⟨x, hx, by rw [hxe]; exact hz⟩
  have ok := (hF d hd).ok
  have hzw : d.r.water.zGW = cfg.zgw d.D.tsc := by
    rw [← (fullDay_waterOf hday).zGW]; exact a1
  have hy' : y ∈ d.r.water.cells := by rw [← (fullDay_waterOf hday).cells]; exact hy
  exact C19.day_below_table_saturated_exact hw hpre wp fc ok.tr (fun h1 => (ok.gw h1).1) (ok.gw hwt').2 hin
    y hy' (by rw [hzw]; exact hz)

/-- **Run level.** With a water table, under `CfgOK` and the hypothesis `ResidualW` on every
recorded day: on every recorded day capillary rise lowers no water content and lifts no compartment
above `th_fc_adj + 1/20000` (or leaves it where it was); the reported rise is non-negative and
differs from the water added by at most `dzFill · 1000 / 20000`. -/
theorem run_cr_le_fcadj_with_slack {F : Fn α} {T : TrigFn α} {cfg : RunCfg α} {s : RunState α}
    (hC : CfgOK F T cfg) (hr : RunReach F T cfg s) (hR : ∀ d ∈ s.daysRev, ResidualW d)
    (hwt : cfg.W0.waterTable = 1) :
    ∀ d ∈ s.daysRev,
      (∀ y ∈ d.r.water.crCells, ∃ x ∈ d.r.trace.f.cells, y.c = x.c ∧ y.fcAdj = x.fcAdj ∧
        x.th ≤ y.th ∧ y.th ≤ max x.th (x.fcAdj + 1 / 20000)) ∧
      0 ≤ d.r.flux.cr ∧ 0 ≤ d.r.water.dzFill ∧
      |d.r.flux.cr - d.r.water.crAdded| ≤ d.r.water.dzFill * 1000 * (1 / 20000) := by
  obtain ⟨_, _, _, hF⟩ := run_dayFacts hC hr hR
  intro d hd
  have hday := (hF d hd).day
  have hdz := (hF d hd).dz
  obtain ⟨hRL, hRS⟩ := hC.gw hwt
  have w := fullDay_waterOf hday
  rw [w.cr]
  refine ⟨?_, C04.day_cr_nonneg w.day hC.fn.gwExp hdz, C01.day_capillary_rise_reported w.day hRL hdz⟩
  obtain ⟨X, hs, e⟩ := fullDay_ok' hday
  have hf := forall_of_map_eq (·.c) (day_comps hs.water).f (fun c => 0 < c.dz) hdz
  have := capillaryRise_bounds F hC.fn.gwExp hRL hRS _ _ _ _ _ _ hf hs.water.hc
  rw [e]
  exact this

/-- **Run level.** Without a water table, under `CfgOK`, capillary rise and groundwater inflow are
zero on every recorded day of a run and the adjusted field capacity is left alone — no hypothesis
about computed values. -/
theorem run_no_table_zero_fluxes {F : Fn α} {T : TrigFn α} {cfg : RunCfg α} {s : RunState α}
    (hC : CfgOK F T cfg) (hr : RunReach F T cfg s) (hwt : cfg.W0.waterTable ≠ 1) :
    ∀ d ∈ s.daysRev,
      d.r.flux.cr = 0 ∧ d.r.water.crAdded = 0 ∧ d.r.flux.gwIn = 0 ∧
      d.r.water.wtInSoil = false ∧
      d.r.state.cells.map (·.fcAdj) = d.st.cells.map (·.fcAdj) := by
  obtain ⟨_, _, _, hF⟩ := run_dayFacts hC hr (run_residualW_of_no_table hwt hr)
  intro d hd
  have hc := (hF d hd).cfg
  have hday := (hF d hd).day
  have hdz := (hF d hd).dz
  have w := fullDay_waterOf hday
  rw [w.cr, w.gwIn, w.cells]
  exact C19.day_no_table_zero_fluxes w.day (by rw [hc.waterTable]; exact hwt) hdz

end Aqua.C19
