import AquaVerif.Proofs.SoilTexture
import AquaVerif.Proofs.RealInstance
/-
Non-vacuity of the law structures of `Proofs/SoilTexture.lean`: the real logarithm and power
(`realFn` of `Proofs/RealInstance.lean`: `pow = Real.rpow`, roundings = identity) satisfy
`TexPowLaws`, `TexLogPowLaws`, `TexRoundLaws`; the main lemmas instantiated at the reals carry no law
hypothesis.  (Exact half-even rounding on ℚ satisfies `TexRoundLaws` too: `texRoundLaws_FqTex`.)
-/

namespace Aqua
open Aqua.Response

theorem texPowLaws_real : TexPowLaws realFn := ⟨fun _ y hx => realFn_pow_pos hx y⟩

theorem texRoundLaws_real : TexRoundLaws realFn :=
  ⟨fun x => by show x - 1 / 2 ≤ x; linarith, fun x => by show x ≤ x + 1 / 2; linarith,
    fun x hx => hx⟩

theorem texLogPowLaws_real : TexLogPowLaws realFn where
  log_mono := fun x y hx hxy => Real.log_le_log hx hxy
  pow_ge_cube := fun x y hx hx1 hy => by
    rw [realFn_pow_of_pos hx]
    have h3 : x * x * x = Real.exp (3 * Real.log x) := by
      have := Real.exp_nat_mul (Real.log x) 3
      rw [Real.exp_log hx] at this
      rw [show ((3 : ℕ) : ℝ) = 3 by norm_num] at this
      rw [this]; ring
    rw [h3]
    apply Real.exp_le_exp.mpr
    exact mul_le_mul_of_nonpos_right hy (Real.log_nonpos hx.le hx1)

theorem texture_order_region_real {s c om df : ℝ} (h : TexRegion s c om) (hc5 : c ≤ 0.5)
    (ho1 : 1 ≤ om ∨ 0.03 ≤ c) (hd0 : 0.9 ≤ df) (hd1 : df ≤ 1) :
    ∃ wp fc ts k, hydraulicFromTexture realFn s c om df = .ok (wp, fc, ts, k) ∧
      0 < wp ∧ wp < fc ∧ fc < ts ∧ ts < 1 ∧ 0 < k :=
  texture_order_region_df texRoundLaws_real texLogPowLaws_real h hc5 ho1 hd0 hd1

theorem centroid_order_real :
    ∀ c ∈ usdaCentroids, ∃ wp fc ts k,
      hydraulicFromTexture realFn ((c.1 : ℝ) / 100) ((c.2 : ℝ) / 100) 2.5 1 = .ok (wp, fc, ts, k) ∧
        0 < wp ∧ wp < fc ∧ fc < ts ∧ ts < 1 ∧ 0 < k :=
  centroid_order texRoundLaws_real texLogPowLaws_real

#print axioms texLogPowLaws_real
#print axioms texture_order_region_real
#print axioms centroid_order_real

end Aqua
