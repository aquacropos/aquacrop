import AquaVerif.Model.Effects
import AquaVerif.Generated.EffectTable
/-
Property C12 — configured parameters and weather stay read-only while stepping.

"During time stepping the model never changes the soil profile's geometry or hydraulic properties,
the management settings, the groundwater series or the weather records it was given; a season's crop
parameters change only at that season's start (thermal-calendar conversion and CO2 adjustment)."

The statements are about `Generated.effectTable`, the table of all in-place stores that
`harness/translate/effects.py` extracts from the Python sources (region `step` =
`AquaCropModel._perform_timestep` and everything reachable from it, plus `run_model` itself).  The
table is regenerated on every check; a new store into a parameter object makes `decide` fail here.
The extractor's completeness is validated dynamically (`harness/translate/validate_effects.py`).
-/

namespace Aqua.C12
open Aqua.Effects Aqua.Effects.Generated

/-- Classes that the stepping code does store into.  Besides the carried state, the outputs and the
clock these are: `model` (`run_model` rebinding `self._clock_struct/_init_cond/_param_struct/_outputs`
to the objects returned by the step, and the private run flags), the season's crop and
`CO2.current_concentration` at a season start (`reset_initial_conditions`), and two constants stored
on the internal fallow filler crop on every day before the first season. `userCo2` is listed because
`param_struct.CO2` IS the user's `co2_concentration` object (see `userIdentities`). -/
def stepAllowed : List LocClass :=
  [.state, .outputs, .clock, .model, .paramSeasonCrop, .paramFallowCrop, .paramCo2, .userCo2]

/-- Classes never stored into while stepping: soil profile arrays, the soil object, irrigation and
field management (season and fallow), the groundwater series, the crop list, other fields of the
parameter struct, the weather, every user-owned object except the CO2 object — and nothing global
or unresolved. -/
def readOnlyWhileStepping : List LocClass :=
  [.paramSoilProfile, .paramSoil, .paramIrr, .paramFallowIrr, .paramField, .paramFallowField,
   .paramGw, .paramCropList, .paramOther, .weather, .userSoil, .userCrop, .userIrr, .userField,
   .userGw, .userIwc, .global, .unknown]

/-- The two lists together cover every location class (nothing is left unclassified). -/
theorem classes_covered : ∀ c : LocClass, c ∈ stepAllowed ∨ c ∈ readOnlyWhileStepping := by
  intro c; cases c <;> decide +kernel

/-- No class the stepping code stores into is among the read-only ones. -/
theorem classes_disjoint : ∀ c ∈ stepAllowed, c ∉ readOnlyWhileStepping := by decide +kernel

/-- The Boolean check: every `step`-region row of the effect table has a class in `stepAllowed`. -/
theorem step_writes_only_state_check : regionWithin effectTable .step stepAllowed = true := by
  decide +kernel

/-- **C12, table form.**  Every store performed while stepping lands in the carried state, the
outputs, the clock, the model's own attribute slots, the current season's crop, the fallow filler
crop or the CO2 object. -/
theorem step_writes_only_state : ∀ e ∈ effectTable, e.region = .step → e.cls ∈ stepAllowed :=
  regionWithin_spec step_writes_only_state_check

/-- **C12, negative form.**  No store performed while stepping lands in the soil profile, the soil,
irrigation / field management, the groundwater series, the crop list, the weather or a user object
(other than the CO2 object), nor in global or unresolved state. -/
theorem no_step_writes_to_profile_soil_management_weather :
    ∀ e ∈ effectTable, e.region = .step → ∀ c ∈ readOnlyWhileStepping, e.cls ≠ c := by
  intro e he hr c hc heq
  have h1 := step_writes_only_state e he hr
  rw [heq] at h1
  exact classes_disjoint c h1 hc

/-- **C12 lifted to runs.**  For every number of steps `n`, whatever the individual stores of each
step are (as long as each is one of the tabulated `step`-region stores), every read-only class has
after `n` steps the value it had before the first. -/
theorem params_unchanged_by_any_number_of_steps
    (writesOf : Nat → List Write) (hdrawn : ∀ i, DrawnFrom effectTable .step (writesOf i))
    (n : Nat) (hp : Heap) :
    ∀ c ∈ readOnlyWhileStepping, runSteps writesOf n hp c = hp c := by
  intro c hc
  apply frame_steps effectTable .step c _ writesOf hdrawn n hp
  intro e he hr
  exact no_step_writes_to_profile_soil_management_weather e he hr c hc

/-- The same for any partition of the run into `run_model(num_steps=k)` calls: a list of fragments. -/
theorem params_unchanged_by_any_sequence_of_calls
    (calls : List (List Write)) (hdrawn : ∀ ws ∈ calls, DrawnFrom effectTable .step ws) (hp : Heap) :
    ∀ c ∈ readOnlyWhileStepping, execAll calls hp c = hp c := by
  intro c hc
  apply frame_runs effectTable .step c _ calls hdrawn hp
  intro e he hr
  exact no_step_writes_to_profile_soil_management_weather e he hr c hc

/-- Who may store into the model's slots, a season's crop, the fallow filler crop and the CO2 object,
and for the last two where: the requirement on one `step` row, by its class.  Strings are compared in
the rows of those classes only. -/
def writerOK (e : Effect) : Bool :=
  match e.cls with
  | .model => e.fn == "AquaCropModel.run_model"
  | .paramSeasonCrop => e.fn == "reset_initial_conditions"
  | .paramFallowCrop => e.fn == "solution_single_time_step" &&
      (e.path == "_param_struct.Fallow_Crop.Aer" || e.path == "_param_struct.Fallow_Crop.Zmin")
  | .paramCo2 | .userCo2 => e.fn == "reset_initial_conditions" &&
      (e.path == "_param_struct.CO2.current_concentration" ||
       e.path == "co2_concentration.current_concentration")
  | _ => true

/-- The Boolean check: every `step`-region row of the effect table satisfies `writerOK`. -/
theorem step_writers_check :
    (effectTable.all fun e => match e.region with | .step => writerOK e | _ => true) = true := by
  decide +kernel

/-- Every `step`-region row of the effect table satisfies `writerOK`. -/
theorem step_writers_ok : ∀ e ∈ effectTable, e.region = .step → writerOK e = true := by
  intro e he hr
  have h := List.all_eq_true.mp step_writers_check e he
  rw [hr] at h
  exact h

/-- "A season's crop parameters change only at that season's start": every stepping store into a
season's crop is made by `reset_initial_conditions` (called by `update_time` exactly when the season
counter advances). -/
theorem season_crop_written_only_by_reset :
    ∀ e ∈ effectTable, e.region = .step → e.cls = .paramSeasonCrop →
      e.fn = "reset_initial_conditions" := by
  intro e he hr hc
  simpa [writerOK, hc] using step_writers_ok e he hr

/-- The only stepping store into the CO2 object is `current_concentration`, at a season start. -/
theorem co2_written_only_by_reset :
    ∀ e ∈ effectTable, e.region = .step → (e.cls = .paramCo2 ∨ e.cls = .userCo2) →
      e.fn = "reset_initial_conditions" ∧
      (e.path = "_param_struct.CO2.current_concentration" ∨
       e.path = "co2_concentration.current_concentration") := by
  intro e he hr hc
  rcases hc with hc | hc <;> simpa [writerOK, hc] using step_writers_ok e he hr

/-- The only stepping stores into the internal fallow filler crop are `Aer` and `Zmin`
(`Crop_.Aer = 5`, `Crop_.Zmin = 0.3`: constants, re-stored on every day before the first season). -/
theorem fallow_crop_writes_are_the_two_constants :
    ∀ e ∈ effectTable, e.region = .step → e.cls = .paramFallowCrop →
      e.fn = "solution_single_time_step" ∧
      (e.path = "_param_struct.Fallow_Crop.Aer" ∨ e.path = "_param_struct.Fallow_Crop.Zmin") := by
  intro e he hr hc
  simpa [writerOK, hc] using step_writers_ok e he hr

/-- Stores into attribute slots of the model object itself happen only in `run_model` (rebinding the
four carried structures to the step's return values; the private run flags and timers). -/
theorem model_slots_written_only_by_run_model :
    ∀ e ∈ effectTable, e.region = .step → e.cls = .model → e.fn = "AquaCropModel.run_model" := by
  intro e he hr hc
  simpa [writerOK, hc] using step_writers_ok e he hr

/-- Non-vacuity: the step region of the table is not empty and does contain season-crop stores. -/
theorem step_region_nonempty :
    (∃ e ∈ effectTable, e.region = .step ∧ e.cls = .state) ∧
    (∃ e ∈ effectTable, e.region = .step ∧ e.cls = .paramSeasonCrop) := by
  decide +kernel

end Aqua.C12
