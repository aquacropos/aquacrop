import AquaVerif.Model.CropResp
/-
The **whole parameter vector of a catalogue crop** as exact rationals, and the decidable predicate
`CropFullOK` collecting the premises that the theorems of this library put on *raw* crop
parameters.

`CropFull` has one field per parameter of `aquacrop/entities/crops/crop_params.py` together with
the program defaults that `Crop.__init__` (`aquacrop/entities/crop.py`) assigns before it merges
the catalogue entry — a crop that does not set a parameter keeps the default.  The table
`AquaVerif/Generated/CropFullTable.lean` (`cropFullTable : List CropFull`, written by
`harness/translate/cropfull.py` from the sources on every run) is expected to satisfy
`∀ c ∈ cropFullTable, CropFullOK c`, closed by `decide +kernel` in `Proofs/CropFull.lean`, where
the bridging lemmas from `CropFullOK c` to the premise structures at an arbitrary ordered field
live as well.

What is **not** here: everything initialisation derives with `log`/`exp`/`round` or from the
weather — the crop calendar (`Canopy10Pct`, `MaxCanopy`, `CanopyDevEnd`, `HIend`, their `…CD`
twins, `FloweringEnd`), `HIGC`, `tLinSwitch`, `dHILinear`, `fCO2` — whose attributes
`Crop.__init__` merely initialises to `0`.  The three quantities that
`Crop.calculate_additional_params` derives *without* transcendental functions are Lean functions
of the raw values: `CropFull.cc0`, `CropFull.sxTop`, `CropFull.sxBot`.

Numbers are `Rat` (the exact value of the decimal the Python float prints as); integer-coded
switches are `Nat`.  Core Lean only.
-/

namespace Aqua

/-- every raw parameter of one crop (`crop_params.py` + defaults of `Crop.__init__`);
the comment gives the Python attribute -/
structure CropFull where
  name : String
  -- program defaults of `Crop.__init__`
  fshapeB : Rat        -- fshape_b
  pctZmin : Rat        -- PctZmin
  fshapeEx : Rat       -- fshape_ex
  et0dorm : Rat        -- ET0dorm
  aer : Rat            -- Aer
  lagAer : Rat         -- LagAer
  beta : Rat           -- beta
  aTr : Rat            -- a_Tr
  germThr : Rat        -- GermThr
  ccMin : Rat          -- CCmin
  maxFlowPct : Rat     -- MaxFlowPct (`100 / 3` as the float prints)
  hiIni : Rat          -- HIini
  bsted : Rat          -- bsted
  bface : Rat          -- bface
  -- calendar inputs, calendar-day mode (`-9`/`-999`: not given)
  emergenceCD : Rat    -- EmergenceCD
  maxRootingCD : Rat   -- MaxRootingCD
  senescenceCD : Rat   -- SenescenceCD
  maturityCD : Rat     -- MaturityCD
  hiStartCD : Rat      -- HIstartCD
  floweringCD : Rat    -- FloweringCD
  yldFormCD : Rat      -- YldFormCD
  -- calendar inputs, growing-degree-day mode
  emergence : Rat      -- Emergence
  maxRooting : Rat     -- MaxRooting
  senescence : Rat     -- Senescence
  maturity : Rat       -- Maturity
  hiStart : Rat        -- HIstart
  flowering : Rat      -- Flowering
  yldForm : Rat        -- YldForm
  yldWC : Rat          -- YldWC
  -- temperatures
  tbase : Rat          -- Tbase
  tupp : Rat           -- Tupp
  tmaxUp : Rat         -- Tmax_up
  tmaxLo : Rat         -- Tmax_lo
  tminUp : Rat         -- Tmin_up
  tminLo : Rat         -- Tmin_lo
  gddUp : Rat          -- GDD_up
  gddLo : Rat          -- GDD_lo
  -- roots
  zmin : Rat           -- Zmin
  zmax : Rat           -- Zmax
  fshapeR : Rat        -- fshape_r
  sxTopQ : Rat         -- SxTopQ
  sxBotQ : Rat         -- SxBotQ
  -- canopy
  seedSize : Rat       -- SeedSize
  plantPop : Rat       -- PlantPop
  ccx : Rat            -- CCx
  cdc : Rat            -- CDC     (per growing degree day)
  cgc : Rat            -- CGC
  cdcCD : Rat          -- CDC_CD  (per calendar day)
  cgcCD : Rat          -- CGC_CD
  -- transpiration, biomass, harvest index
  kcb : Rat            -- Kcb
  fage : Rat           -- fage
  wp : Rat             -- WP
  wpy : Rat            -- WPy
  fsink : Rat          -- fsink
  hi0 : Rat            -- HI0
  dHIpre : Rat         -- dHI_pre
  aHI : Rat            -- a_HI
  bHI : Rat            -- b_HI
  dHI0 : Rat           -- dHI0
  exc : Rat            -- exc
  -- integer-coded switches
  etAdj : Nat          -- ETadj          (1 = thresholds adjusted for ET0)
  cropType : Nat       -- CropType       (1 leafy, 2 root/tuber, 3 fruit/grain)
  plantMethod : Nat    -- PlantMethod    (0 transplanted, 1 sown)
  calendarType : Nat   -- CalendarType   (1 calendar days, 2 growing degree days)
  switchGDD : Nat      -- SwitchGDD      (1 = convert a calendar-day crop to GDD mode)
  gddMethod : Nat      -- GDDmethod
  polHeatStress : Nat  -- PolHeatStress
  polColdStress : Nat  -- PolColdStress
  trColdStress : Nat   -- TrColdStress
  determinant : Nat    -- Determinant
  -- water-stress thresholds and shape factors (`p_up1..4`, `p_lo1..4`, `fshape_w1..4`)
  pUp : Fin 4 → Rat
  pLo : Fin 4 → Rat
  fshapeW : Fin 4 → Rat

namespace CropFull

/-! ### what `Crop.calculate_additional_params` derives (no transcendental function involved) -/

/-- `self.CC0 = self.PlantPop * self.SeedSize * 1e-8` -/
def cc0 (c : CropFull) : Rat := c.plantPop * c.seedSize * 1e-8

/-- the root-extraction terms `(SxTop, SxBot)`:
```
S1 = SxTopQ; S2 = SxBotQ
if S1 == S2: SxTop = S1; SxBot = S2
else:
    if SxTopQ < SxBotQ: S1 = SxBotQ; S2 = SxTopQ
    xx = 3 * (S2 / (S1 - S2))
    if xx < 0.5: SS1 = (4 / 3.5) * S1; SS2 = 0
    else:        SS1 = (xx + 3.5) * (S1 / (xx + 3)); SS2 = (xx - 0.5) * (S2 / xx)
    if SxTopQ > SxBotQ: SxTop = SS1; SxBot = SS2
    else:               SxTop = SS2; SxBot = SS1
``` -/
def sx (c : CropFull) : Rat × Rat :=
  if c.sxTopQ = c.sxBotQ then (c.sxTopQ, c.sxBotQ)
  else
    let s1 := if c.sxTopQ < c.sxBotQ then c.sxBotQ else c.sxTopQ
    let s2 := if c.sxTopQ < c.sxBotQ then c.sxTopQ else c.sxBotQ
    let xx := 3 * (s2 / (s1 - s2))
    let ss : Rat × Rat :=
      if xx < 0.5 then ((4 / 3.5) * s1, 0)
      else ((xx + 3.5) * (s1 / (xx + 3)), (xx - 0.5) * (s2 / xx))
    if c.sxBotQ < c.sxTopQ then ss else (ss.2, ss.1)

/-- `Crop.SxTop` -/
def sxTop (c : CropFull) : Rat := c.sx.1
/-- `Crop.SxBot` -/
def sxBot (c : CropFull) : Rat := c.sx.2

/-! ### the canopy coefficients in force

`compute_crop_calendar`: a calendar-day crop (`CalendarType == 1`) that is not converted
(`SwitchGDD == 0`) runs on `CGC = CGC_CD`, `CDC = CDC_CD`; a GDD crop on its own `CGC`, `CDC`.
(The conversion `SwitchGDD == 1` computes them with `log`/`exp` from the weather:
`calendarInitCDSwitch`, `Model/PrepareGdd.lean`; `CanopyOK` records that no catalogue crop asks for
it.) -/

def cgcUsed (c : CropFull) : Rat := if c.calendarType = 1 then c.cgcCD else c.cgc
def cdcUsed (c : CropFull) : Rat := if c.calendarType = 1 then c.cdcCD else c.cdc

/-- the largest time step `dtCC` of `canopy_cover`: one day, or a day's growing degree days,
which never exceed `Tupp − Tbase` (`gdd_range`) -/
def dtMax (c : CropFull) : Rat := if c.calendarType = 1 then 1 else c.tupp - c.tbase

/-- the FACE-weighted CO2 coefficient `bsted·fsink + bface·(1 − fsink)` -/
def co2g (c : CropFull) : Rat := c.bsted * c.fsink + c.bface * (1 - c.fsink)

/-- the projection to the record of the C17 response functions (`Model/CropResp.lean`) -/
def toResp (c : CropFull) : CropResp :=
  { name := c.name, pUp := c.pUp, pLo := c.pLo, fshapeW := c.fshapeW, tbase := c.tbase,
    tupp := c.tupp, cc0 := c.cc0, ccx := c.ccx, cgc := c.cgcUsed, cdc := c.cdcUsed, beta := c.beta,
    fshapeB := c.fshapeB, bsted := c.bsted, bface := c.bface, fsink := c.fsink }

end CropFull

/-! ## The premises on raw parameters, group by group

Each conjunct names the premise (structure field or theorem hypothesis) it serves. -/

/-- **roots and root extraction**
1. `0 ≤ Zmin`                    — `RdCrop.WF.zmin_nn`   (`Proofs/RootDevelopment.lean`; `RootPre.crop`)
2. `Zmin ≤ Zmax`                 — `RdCrop.WF.zmin_le`
3. `PctZmin ≤ 100`               — `RdCrop.WF.pct_le`
4. `0 < fshape_r`                — `RdCrop.WF.fshapeR_pos`
5. `p_up[1] < 1`                 — `RootPre.pUp1` (`Proofs/Day.lean`), `RdHyp` of `root_development`
6. `fshape_w[1] ≠ 0`             — `RootPre.fw1`
7. `0 ≤ SxTop`                   — `TrLoopP.NonnegOK.sxTop`, `DayTrPre.sxTop`, `transp_inv` (C03/C04 `hsxT`)
8. `0 ≤ SxBot`                   — `TrLoopP.NonnegOK.sxBot`, `DayTrPre.sxBot`, `transp_inv` (`hsxB`) -/
def CropFull.RootOK (c : CropFull) : Prop :=
  0 ≤ c.zmin ∧ c.zmin ≤ c.zmax ∧ c.pctZmin ≤ 100 ∧ 0 < c.fshapeR ∧
  c.pUp 1 < 1 ∧ c.fshapeW 1 ≠ 0 ∧ 0 ≤ c.sxTop ∧ 0 ≤ c.sxBot

/-- **temperatures**: `Tbase ≤ Tupp` — `CcCropPre.temp`, `RootPre.temp`, `HiPre.temp`,
`gdd_range`, `fullDay_gdd`, `ResponseOK`. -/
def CropFull.TempOK (c : CropFull) : Prop := c.tbase ≤ c.tupp

/-- **canopy**
1. `SwitchGDD = 0`               — the coefficients in force are `cgcUsed`/`cdcUsed` (see above)
2. `CalendarType ∈ {1,2}`        — `growth_stage_defined_iff` (C16), `ccTime` (`dtCC` bound), `CcCropPre.step`
3. `0 < CC0`                     — `ResetCropOK.cc0`, `CcParams.cc0_nonneg`, `ResponseOK` (`cc0_pos`)
4. `0 < CCx`                     — `ResetCropOK.ccx`, `CcCropPre.ccx0`, `ResponseOK` (`ccx_pos`)
5. `CCx ≤ 1`                     — `ResponseOK` (`ccx_le`)
6. `0 < CGC`                     — `ResponseOK` (`cgc_pos`)
7. `0 ≤ CDC`                     — `CcParams.cdc_nonneg`, `ResponseOK` (`cdc_nn`)
8. `CGC · dtMax < 1` and
9. `CC0 ≤ CCx · (1 − CGC · dtMax)` — rational sufficient condition for `CcParams.step`
   (`CC0 · exp(CGC · dt) ≤ CCx` for every `0 ≤ dt ≤ dtMax`) through `exp x ≤ 1/(1 − x)`. -/
def CropFull.CanopyOK (c : CropFull) : Prop :=
  c.switchGDD = 0 ∧ (c.calendarType = 1 ∨ c.calendarType = 2) ∧
  0 < c.cc0 ∧ 0 < c.ccx ∧ c.ccx ≤ 1 ∧ 0 < c.cgcUsed ∧ 0 ≤ c.cdcUsed ∧
  c.cgcUsed * c.dtMax < 1 ∧ c.cc0 ≤ c.ccx * (1 - c.cgcUsed * c.dtMax)

/-- **harvest index**
1. `CropType ∈ {1,2,3}`          — `HiCrop.BuildUp.type123`
2. `0 < HIini`                   — `HiCrop.BuildUp.ini_pos`  (hence `ResetCropOK.hiIni : -0.004 ≤ HIini`)
3. `HIini < HI0`                 — `HiCrop.BuildUp.ini_lt`   (hence `ResetCropOK.hi0 : 0 ≤ HI0`, `h0` of `hiref_*`)
4. `0 < b_HI → 1 ≤ b_HI`         — `HiCrop.PostOK.bHI`, `postDwn_nonneg`
5. `0 ≤ 1 + dHI0/100`            — `HiPre.cap`, `hiMult_nonneg`
6. `CalendarType = 1 → 0 ≤ YldFormCD` — `HiCrop.PostOK.tmax2` for a calendar-day crop (raw there) -/
def CropFull.HiOK (c : CropFull) : Prop :=
  (c.cropType = 1 ∨ c.cropType = 2 ∨ c.cropType = 3) ∧ 0 < c.hiIni ∧ c.hiIni < c.hi0 ∧
  (0 < c.bHI → 1 ≤ c.bHI) ∧ 0 ≤ 1 + c.dHI0 / 100 ∧ (c.calendarType = 1 → 0 ≤ c.yldFormCD)

/-- **water-stress thresholds**
1. `p_up i ≤ p_lo i`             — `C17.water_stress_premise_from_raw_thresholds`, `ResponseOK`/`RealPremises.thr_ord`
2. `p_lo i ≤ 1`                  — `ResponseOK`/`RealPremises.thr_le_one`
3. `0 ≤ p_up i`                  — `C17.water_stress_premise_from_raw_thresholds` (`hp2`, for `i = 2`)
4. `fshape_w i ≠ 0` (`i < 3`)    — `HiPre.fsh`, `waterStress_mem` (`hf`), `ResponseOK`
5. `0 ≤ beta`, 6. `beta ≤ 100`   — `C17.water_stress_premise_from_raw_thresholds` (`hb0`), `ResponseOK` -/
def CropFull.StressOK (c : CropFull) : Prop :=
  (∀ i : Fin 4, c.pUp i ≤ c.pLo i) ∧ (∀ i : Fin 4, c.pLo i ≤ 1) ∧ (∀ i : Fin 4, 0 ≤ c.pUp i) ∧
  (∀ i : Fin 4, i.val < 3 → c.fshapeW i ≠ 0) ∧ 0 ≤ c.beta ∧ c.beta ≤ 100

/-- **pollination temperature stress and option switches**
1. `0 ≤ fshape_b`                — `C17.heat_stress_antitone_in_tmax`, `C17.cold_stress_monotone_in_tmin` (`hb`), `ResponseOK`
2. `Tmax_up ≤ Tmax_lo`           — `polH_step_of_up_le_lo`
3. `Tmin_lo < Tmin_up`           — the premise of `polC_step_of_up_le_lo` fails, as its docstring says
4. `PolHeatStress ∈ {0,1}`, 5. `PolColdStress ∈ {0,1}` — `temperature_stress_defined_iff` (C16)
6. `GDDmethod ∈ {1,2,3}`         — `growing_degree_day_defined_iff` (C16)
7. `TrColdStress ∈ {0,1}`        — `trKsCold` is defined (otherwise `KsCold` is unbound) -/
def CropFull.SwitchOK (c : CropFull) : Prop :=
  0 ≤ c.fshapeB ∧ c.tmaxUp ≤ c.tmaxLo ∧ c.tminLo < c.tminUp ∧
  (c.polHeatStress = 0 ∨ c.polHeatStress = 1) ∧ (c.polColdStress = 0 ∨ c.polColdStress = 1) ∧
  (c.gddMethod = 1 ∨ c.gddMethod = 2 ∨ c.gddMethod = 3) ∧
  (c.trColdStress = 0 ∨ c.trColdStress = 1)

/-- **aeration lag**: `LagAer` is a natural number — `LagAerIntegral` (`Proofs/WaterDay.lean`,
`C03.day_pond`), the hypothesis `hint` of `transp_trAct_nonneg`/`transp_trAct0_nonneg` (C04). -/
def CropFull.LagOK (c : CropFull) : Prop := c.lagAer.den = 1 ∧ 0 ≤ c.lagAer

/-- **biomass**: `0 ≤ WPy`, `WPy ≤ 100` — `DayCropOK.wpy0/wpy1`, `fullDay_bioInv`, `bioWPadj_bounds`
(C05, C06 `hy0 hy1`); `0 ≤ WP` — with `0 ≤ fCO2` gives `DayCropOK.wp : 0 ≤ WP·fCO2` (`hw`). -/
def CropFull.BioOK (c : CropFull) : Prop := 0 ≤ c.wpy ∧ c.wpy ≤ 100 ∧ 0 ≤ c.wp

/-- **CO2**: `CO2Params` (`Proofs/ResponseMono.lean`) at the reference concentration 369.41 ppm:
`0 < ref < 550`, `0 ≤ bsted ≤ g`, `ref·g + 550·(g − bsted) < 1`. -/
def CropFull.CO2OK (c : CropFull) : Prop :=
  0 < co2RefDefault ∧ co2RefDefault < 550 ∧ 0 ≤ c.bsted ∧ c.bsted ≤ c.co2g ∧
  co2RefDefault * c.co2g + 550 * (c.co2g - c.bsted) < 1

/-- all raw-parameter premises that every catalogue crop satisfies -/
def CropFullOK (c : CropFull) : Prop :=
  c.RootOK ∧ c.TempOK ∧ c.CanopyOK ∧ c.HiOK ∧ c.StressOK ∧ c.SwitchOK ∧ c.LagOK ∧ c.BioOK ∧ c.CO2OK

/-! ### premises that some catalogue crops violate (the exceptions are listed, by name, in
`Proofs/CropFull.lean`) -/

/-- `CropType = 1 → 0 ≤ dHI0` — `HiPre.leafy`, `hleafy` of the harvest-index theorems (C05) -/
def CropFull.LeafyOK (c : CropFull) : Prop := c.cropType = 1 → 0 ≤ c.dHI0

/-- `LagAer ≤ 3` — `aerationStress_range_of_lag_le_three` (the code divides the day counter by the
literal 3, not by `LagAer`) -/
def CropFull.LagLe3 (c : CropFull) : Prop := c.lagAer ≤ 3

/-- `YldWC ≠ 0` — `C06.fresh_yield_times_fraction`; `FreshYield = DryYield / (YldWC / 100)` divides by zero
otherwise -/
def CropFull.YldWCOK (c : CropFull) : Prop := c.yldWC ≠ 0

instance (c : CropFull) : Decidable (CropFull.RootOK c) := by unfold CropFull.RootOK; infer_instance
instance (c : CropFull) : Decidable (CropFull.TempOK c) := by unfold CropFull.TempOK; infer_instance
instance (c : CropFull) : Decidable (CropFull.CanopyOK c) := by unfold CropFull.CanopyOK; infer_instance
instance (c : CropFull) : Decidable (CropFull.HiOK c) := by unfold CropFull.HiOK; infer_instance
instance (c : CropFull) : Decidable (CropFull.StressOK c) := by unfold CropFull.StressOK; infer_instance
instance (c : CropFull) : Decidable (CropFull.SwitchOK c) := by unfold CropFull.SwitchOK; infer_instance
instance (c : CropFull) : Decidable (CropFull.LagOK c) := by unfold CropFull.LagOK; infer_instance
instance (c : CropFull) : Decidable (CropFull.BioOK c) := by unfold CropFull.BioOK; infer_instance
instance (c : CropFull) : Decidable (CropFull.CO2OK c) := by unfold CropFull.CO2OK; infer_instance
instance (c : CropFull) : Decidable (CropFullOK c) := by unfold CropFullOK; infer_instance
instance (c : CropFull) : Decidable (CropFull.LeafyOK c) := by unfold CropFull.LeafyOK; infer_instance
instance (c : CropFull) : Decidable (CropFull.LagLe3 c) := by unfold CropFull.LagLe3; infer_instance
instance (c : CropFull) : Decidable (CropFull.YldWCOK c) := by unfold CropFull.YldWCOK; infer_instance

/-! A catalogue entry written out by hand (numbers of `crop_params.py`, "Wheat"). -/

def wheatFull : CropFull :=
  { name := "Wheat", fshapeB := 13.8135, pctZmin := 70, fshapeEx := -6, et0dorm := 0, aer := 5,
    lagAer := 3, beta := 12, aTr := 1, germThr := 0.2, ccMin := 0.05,
    maxFlowPct := 33.333333333333336, hiIni := 0.01, bsted := 0.000138, bface := 0.001165,
    emergenceCD := 13, maxRootingCD := 93, senescenceCD := 158, maturityCD := 197,
    hiStartCD := 127, floweringCD := 15, yldFormCD := 67, emergence := -9, maxRooting := -9,
    senescence := -9, maturity := -9, hiStart := -9, flowering := -9, yldForm := -9, yldWC := 90,
    tbase := 0, tupp := 26, tmaxUp := 35, tmaxLo := 40, tminUp := 5, tminLo := 0, gddUp := 14,
    gddLo := 0, zmin := 0.3, zmax := 1.5, fshapeR := 1.5, sxTopQ := 0.048, sxBotQ := 0.012,
    seedSize := 1.5, plantPop := 4500000, ccx := 0.96, cdc := -9, cgc := -9, cdcCD := 0.07179,
    cgcCD := 0.04901, kcb := 1.1, fage := 0.15, wp := 15, wpy := 100, fsink := 0.5, hi0 := 0.48,
    dHIpre := 5, aHI := 10, bHI := 7, dHI0 := 15, exc := 100, etAdj := 1, cropType := 3,
    plantMethod := 1, calendarType := 1, switchGDD := 0, gddMethod := 3, polHeatStress := 1,
    polColdStress := 1, trColdStress := 1, determinant := 1,
    pUp := vec4 0.2 0.65 0.7 0.85, pLo := vec4 0.65 1 1 1, fshapeW := vec4 5 2.5 2.5 1 }

example : wheatFull.cc0 = 0.0675 ∧ wheatFull.sxTop = 0.054 ∧ wheatFull.sxBot = 0.006 := by
  decide +kernel

example : CropFullOK wheatFull ∧ wheatFull.LeafyOK ∧ wheatFull.LagLe3 ∧ wheatFull.YldWCOK := by
  decide +kernel

end Aqua
