/-
General facts about conditionals, `Except` and `List` that the proof files share: case analysis on a
conditional (`ite_ind`), the triple `Sat`, inversion of binds, maps and guards, congruence under a
bind, `okAnd`, a filter pulled through a map.  Core Lean only, so that the Mathlib-free files
(calendar, clock, session, weather binding) can import it.  What needs `List.Forall₂` or the ordered
field is in `Proofs/Basic.lean`.
-/

namespace Aqua

/-- What holds of both branches holds of the conditional.  On goals that mention the model
functions this, or `by_cases` + `rw [if_pos _]`, is preferred to `split_ifs`, which rewrites the
whole goal (with the instance terms of the bare-typeclass definitions) at every split and is slow
to check there. -/
theorem ite_ind {α : Sort _} {c : Prop} [Decidable c] {a b : α} (P : α → Prop) (ha : c → P a)
    (hb : ¬c → P b) : P (ite c a b) := by
  by_cases h : c
  · rw [if_pos h]
    exact ha h
  · rw [if_neg h]
    exact hb h

/-- Every failure of `x` satisfies `E`, every result `Q`.  A process lemma of this form names, in
`E`, the cause of each failure: the facts about a successful call, the classification of the errors
and totality (`Sat.total`) are then read off one walk through the function. -/
def Sat {ε β : Type} (x : Except ε β) (E : ε → Prop) (Q : β → Prop) : Prop :=
  (∀ e, x = .error e → E e) ∧ ∀ b, x = .ok b → Q b

namespace Sat
variable {ε β γ : Type} {E E' : ε → Prop} {P Q : β → Prop} {R : γ → Prop}

theorem ok {b : β} (h : Q b) : Sat (.ok b : Except ε β) E Q :=
  ⟨fun _ h' => (nomatch h'), fun _ h' => by cases h'; exact h⟩

theorem error {e : ε} (h : E e) : Sat (.error e : Except ε β) E Q :=
  ⟨fun _ h' => by cases h'; exact h, fun _ h' => (nomatch h')⟩

/-- Sequencing: `y` fails where `x` fails and otherwise continues from `x`'s result.  Stated for an
arbitrary `y`, with the two equations as premises, because the model's hand-written
`match x with | .error e => .error e | .ok a => …` does not unify with `Except.bind`; at a use
`herr` is `fun e he => by simp only [he]`, and `simp only [he]` opens the `ok` case. -/
theorem seq {x : Except ε β} {y : Except ε γ} (hx : Sat x E P)
    (herr : ∀ e, x = .error e → y = .error e) (hE : ∀ e, E e → E' e)
    (hok : ∀ a, x = .ok a → P a → Sat y E' R) : Sat y E' R := by
  cases h : x with
  | error e => rw [herr e h]; exact error (hE e (hx.1 e h))
  | ok a => exact hok a h (hx.2 a h)

theorem mono {x : Except ε β} (hx : Sat x E P) (hE : ∀ e, E e → E' e) (hQ : ∀ b, P b → Q b) :
    Sat x E' Q :=
  ⟨fun e h => hE e (hx.1 e h), fun b h => hQ b (hx.2 b h)⟩

theorem total {x : Except ε β} (hx : Sat x E Q) (hE : ∀ e, ¬ E e) : ∃ b, x = .ok b ∧ Q b := by
  cases h : x with
  | error e => exact absurd (hx.1 e h) (hE e)
  | ok b => exact ⟨b, rfl, hx.2 b h⟩

end Sat

/-! ### `Except`: inversion of a successful bind or map, congruence under a bind -/

section except
variable {ε β β' γ δ : Type}

theorem bind_ok_iff {x : Except ε β} {f : β → Except ε γ} {y : γ} :
    (x >>= f) = .ok y ↔ ∃ a, x = .ok a ∧ f a = .ok y := by
  cases x with
  | error e => exact ⟨fun h => (nomatch h), fun ⟨_, h, _⟩ => (nomatch h)⟩
  | ok a => exact ⟨fun h => ⟨a, rfl, h⟩, fun ⟨_, hb, h'⟩ => by cases hb; exact h'⟩

theorem ok_bind (a : β) (f : β → Except ε γ) : (Except.ok a >>= f) = f a := rfl

theorem ok_of_guard {p : Prop} [Decidable p] {e : ε} {x : Except ε β} {a : β}
    (h : (if p then .error e else x) = .ok a) : ¬ p ∧ x = .ok a := by
  by_cases hp : p
  · rw [if_pos hp] at h; cases h
  · rw [if_neg hp] at h; exact ⟨hp, h⟩

theorem exceptMap_eq_ok {f : β → γ} {x : Except ε β} {y : γ} :
    x.map f = .ok y ↔ ∃ b, x = .ok b ∧ f b = y := by
  cases x with
  | error e => exact ⟨fun h => (nomatch h), fun ⟨_, h, _⟩ => (nomatch h)⟩
  | ok b => exact ⟨fun h => ⟨b, rfl, Except.ok.inj h⟩, fun ⟨_, hb, h⟩ => by cases hb; exact congrArg _ h⟩

theorem exceptMap_isOk {f : β → γ} {x : Except ε β} :
    (∃ y, x.map f = .ok y) ↔ ∃ b, x = .ok b :=
  ⟨fun ⟨_, h⟩ => (exceptMap_eq_ok.mp h).imp fun _ hb => hb.1,
    fun ⟨b, hb⟩ => ⟨f b, exceptMap_eq_ok.mpr ⟨b, hb, rfl⟩⟩⟩

theorem exceptMap_eq_error {f : β → γ} {x : Except ε β} {e : ε} :
    x.map f = .error e ↔ x = .error e := by
  cases x with
  | error e' => exact ⟨fun h => congrArg _ (Except.error.inj h), fun h => congrArg _ (Except.error.inj h)⟩
  | ok b => exact ⟨fun h => (nomatch h), fun h => (nomatch h)⟩

theorem except_map_eq {g : β → β'} {x x' : Except ε β} (h : x'.map g = x.map g) :
    (∃ e, x' = .error e ∧ x = .error e) ∨ ∃ b b', x' = .ok b' ∧ x = .ok b ∧ g b' = g b := by
  cases x with
  | error e =>
    cases x' with
    | error e' => exact Or.inl ⟨e, congrArg _ (Except.error.inj h), rfl⟩
    | ok b' => cases h
  | ok b =>
    cases x' with
    | error e' => cases h
    | ok b' => exact Or.inr ⟨b, b', rfl, rfl, Except.ok.inj h⟩

theorem except_map_eq_ok {g : β → β'} {x' : Except ε β} {b : β}
    (h : x'.map g = (Except.ok b : Except ε β).map g) : ∃ b', x' = .ok b' ∧ g b' = g b := by
  rcases except_map_eq h with ⟨e, _, h0⟩ | ⟨b0, b', hx', h0, hb⟩
  · cases h0
  · cases h0; exact ⟨b', hx', hb⟩

theorem map_bind_congr {x : Except ε β} {k₁ k₀ : β → Except ε γ} {φ ψ : γ → δ}
    (h : ∀ a, x = .ok a → (k₁ a).map φ = (k₀ a).map ψ) :
    (x >>= k₁).map φ = (x >>= k₀).map ψ := by
  cases x with
  | error e => rfl
  | ok a => exact h a rfl

theorem sim_bind_er {x x' : Except ε β} {f f' : β → Except ε γ} (g : γ → δ) (eb : β → β')
    (hx : x'.map eb = x.map eb)
    (hf : ∀ b b', x = .ok b → x' = .ok b' → eb b' = eb b → (f' b').map g = (f b).map g) :
    (x' >>= f').map g = (x >>= f).map g := by
  rcases except_map_eq hx with ⟨e, rfl, rfl⟩ | ⟨b, b', rfl, rfl, hb⟩
  · rfl
  · exact hf b b' rfl rfl hb

end except

/-! ### a concrete computation handed to the kernel -/

/-- `x` succeeds and its result passes the test `p`: the form in which the example sections
evaluate a day or a run -/
def okAnd {ε β : Type} (x : Except ε β) (p : β → Bool) : Bool :=
  match x with
  | .ok a => p a
  | .error _ => false

theorem okAnd_iff {ε β : Type} {x : Except ε β} {p : β → Bool} :
    okAnd x p = true ↔ ∃ a, x = .ok a ∧ p a = true := by
  constructor
  · intro h
    cases x with
    | error e => cases h
    | ok a => exact ⟨a, rfl, h⟩
  · rintro ⟨a, rfl, h⟩; exact h

theorem okAnd_decide_iff {ε β : Type} {x : Except ε β} {P : β → Prop} [DecidablePred P] :
    okAnd x (fun a => decide (P a)) = true ↔ ∃ a, x = .ok a ∧ P a := by
  rw [okAnd_iff]
  exact exists_congr fun a => and_congr_right fun _ => decide_eq_true_iff

/-! ### `List`: a filter pulled through a map -/

theorem filter_map_of {β γ : Type} (f : γ → β) (p : β → Bool) (q : γ → Bool) (m : List γ)
    (h : ∀ d ∈ m, p (f d) = q d) : (m.map f).filter p = (m.filter q).map f := by
  rw [List.filter_map]
  exact congrArg _ (List.filter_congr h)

theorem filter_filterMap_of {β γ : Type} (g : γ → Option β) (p : β → Bool) (q : γ → Bool) :
    ∀ (m : List γ), (∀ d ∈ m, ∀ x, g d = some x → p x = q d) →
      (m.filterMap g).filter p = (m.filter q).filterMap g
  | [], _ => rfl
  | d :: m, h => by
    have ih := filter_filterMap_of g p q m (fun d' hd' => h d' (List.mem_cons_of_mem _ hd'))
    cases hg : g d with
    | none =>
      rw [List.filterMap_cons_none hg]
      by_cases hq : q d = true
      · rw [List.filter_cons_of_pos hq, List.filterMap_cons_none hg, ih]
      · rw [List.filter_cons_of_neg hq, ih]
    | some x =>
      have hpx := h d List.mem_cons_self x hg
      rw [List.filterMap_cons_some hg]
      by_cases hq : q d = true
      · rw [List.filter_cons_of_pos hq, List.filterMap_cons_some hg,
          List.filter_cons_of_pos (by rw [hpx]; exact hq), ih]
      · rw [List.filter_cons_of_neg hq, List.filter_cons_of_neg (by rw [hpx]; exact hq), ih]

end Aqua
