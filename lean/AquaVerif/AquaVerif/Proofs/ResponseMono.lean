import AquaVerif.Proofs.Response
/-
Response functions, continued from `Proofs/Response.lean`: the logistic curve, monotonicity of
`clip01`, `ksShape`, the water-stress coefficients and the degree days, the ET0 adjustment of the
thresholds, aeration stress, pollination temperature stress, the canopy growth curve and its
inverse `cc_required_time`, the CO2 factor of the water productivity (both copies).
-/

set_option linter.unusedSectionVars false
namespace Aqua
variable {α : Type} [Field α] [LinearOrder α] [IsStrictOrderedRing α]

/-! ## 0. arithmetic over variables

The logistic curve `up·lo / (lo + (up − lo)·e)` with `up = 1`, as a function of `e ≥ 0`. -/

theorem logistic_den_pos {lo e : α} (hlo : 0 < lo) (hlo1 : lo ≤ 1) (he : 0 ≤ e) :
    0 < lo + (1 - lo) * e :=
  add_pos_of_pos_of_nonneg hlo (mul_nonneg (sub_nonneg.mpr hlo1) he)

theorem logistic_range {lo e : α} (hlo : 0 < lo) (hlo1 : lo ≤ 1) (he : 0 ≤ e) :
    0 < 1 * lo / (lo + (1 - lo) * e) ∧ 1 * lo / (lo + (1 - lo) * e) ≤ 1 := by
  have hD := logistic_den_pos hlo hlo1 he
  rw [one_mul]
  exact ⟨div_pos hlo hD,
    (div_le_one hD).mpr (le_add_of_nonneg_right (mul_nonneg (sub_nonneg.mpr hlo1) he))⟩

theorem logistic_anti {lo e e' : α} (hlo : 0 < lo) (hlo1 : lo ≤ 1) (he : 0 ≤ e) (h : e ≤ e') :
    1 * lo / (lo + (1 - lo) * e') ≤ 1 * lo / (lo + (1 - lo) * e) := by
  rw [one_mul]
  exact div_le_div_of_nonneg_left hlo.le (logistic_den_pos hlo hlo1 he)
    (add_le_add le_rfl (mul_le_mul_of_nonneg_left h (sub_nonneg.mpr hlo1)))

theorem logistic_ge {lo e : α} (hlo : 0 < lo) (hlo1 : lo ≤ 1) (he : 0 ≤ e) (he1 : e ≤ 1) :
    lo ≤ 1 * lo / (lo + (1 - lo) * e) := by
  have hD := logistic_den_pos hlo hlo1 he
  have h1 : lo + (1 - lo) * e ≤ 1 := by
    have := mul_le_mul_of_nonneg_left he1 (sub_nonneg.mpr hlo1)
    linarith
  rw [one_mul, le_div_iff₀ hD]
  exact mul_le_of_le_one_right hlo.le h1

/-- for `k ≤ 0` the correction `k·(lp − lq)` goes the right way, otherwise it is too small to
reverse the order -/
theorem add_mul_le_of_lip {p q k lp lq c : α} (hpq : p ≤ q) (hd : lq ≤ lp)
    (hlip : lp - lq ≤ c * (9 * (q - p))) (hk : k * (9 * c) ≤ 1) : p + k * lp ≤ q + k * lq := by
  by_cases hkn : k ≤ 0
  · have := mul_nonpos_of_nonpos_of_nonneg hkn (sub_nonneg.mpr hd)
    linarith
  · have h1 := mul_le_mul_of_nonneg_left hlip (not_le.mp hkn).le
    have h2 := mul_le_mul_of_nonneg_right hk (sub_nonneg.mpr hpq)
    linarith

/-! ## 1. `clip01` -/

theorem clip01_mono {p q : α} (h : p ≤ q) : clip01 p ≤ clip01 q := by
  rw [clip01_eq, clip01_eq]
  exact min_le_min_right 1 (max_le_max_right 0 h)

theorem clip01_sub_le {p q : α} (h : p ≤ q) : clip01 q - clip01 p ≤ q - p := by
  have d := sub_nonneg.mpr h
  have h1 : max q 0 ≤ max p 0 + (q - p) :=
    max_le (by linarith [le_max_left p 0]) (by linarith [le_max_right p 0])
  have h2 : min (max q 0) 1 ≤ min (max p 0) 1 + (q - p) := by
    rw [← min_add_add_right]
    exact min_le_min h1 (le_add_of_nonneg_right d)
  rw [clip01_eq, clip01_eq]
  linarith

/-! ## 2. `ksShape`, `waterStress`, the ET0 adjustment, aeration stress -/

theorem ksShape_antitone {F : Fn α} (hF : ExpOrdLaws F) {d d' f : α} (hf : f ≠ 0) (h : d ≤ d') :
    ksShape F d' f ≤ ksShape F d f := by
  have := expRatio_mono hF hf h
  rw [ksShape_eq, ksShape_eq]; linarith

theorem ksShape_at_zero {F : Fn α} (hF : ExpOrdLaws F) (f : α) : ksShape F 0 f = 1 := by
  rw [ksShape_eq, expRatio_zero hF]; ring

theorem ksShape_at_one {F : Fn α} (hF : ExpOrdLaws F) {f : α} (hf : f ≠ 0) : ksShape F 1 f = 0 := by
  rw [ksShape_eq, expRatio_one hF hf]; ring

theorem waterStress_antitone {F : Fn α} (hF : ExpOrdLaws F) (pUp pLo fsh : Fin 4 → α)
    (etAdj : Bool) (betaPct tEarlySen taw et0 : α) (betaFlag : Bool) {dr dr' : α}
    (hf : ∀ i : Fin 4, i.val < 3 → fsh i ≠ 0) (hdr : dr ≤ dr') :
    let k := waterStress F pUp pLo fsh etAdj betaPct tEarlySen dr taw et0 betaFlag
    let k' := waterStress F pUp pLo fsh etAdj betaPct tEarlySen dr' taw et0 betaFlag
    k'.exp ≤ k.exp ∧ k'.sto ≤ k.sto ∧ k'.sen ≤ k.sen ∧ k'.pol ≤ k.pol ∧ k'.stoLin ≤ k.stoLin := by
  rw [waterStress_eq, waterStress_eq]
  have m := fun i => drel_mono (wsUp F pUp etAdj betaPct tEarlySen et0 betaFlag i)
    (wsLo F pLo etAdj et0 i) taw hdr
  exact ⟨ksShape_antitone hF (hf 0 (by decide)) (m 0),
    ksShape_antitone hF (hf 1 (by decide)) (m 1),
    ksShape_antitone hF (hf 2 (by decide)) (m 2),
    sub_le_sub_left (m 3) 1, sub_le_sub_left (m 1) 1⟩

/-- Sufficient condition for the ET0 adjustment to preserve the order of two thresholds:
`log10` monotone on the arguments used and `c`-Lipschitz there with `9·|k|·c ≤ 1`
for `k = 0.04·(5 − et0)` (over the reals `c = 1/ln 10 ≈ 0.434` on `[1, 10]`, so any
`et0 ≥ −1.4` qualifies). -/
theorem etAdjust_mono_of (F : Fn α) {p q et0 c : α} (hpq : p ≤ q)
    (hmono : F.log10 (10 - 9 * q) ≤ F.log10 (10 - 9 * p))
    (hlip : F.log10 (10 - 9 * p) - F.log10 (10 - 9 * q) ≤ c * (9 * (q - p)))
    (hk : 0.04 * (5 - et0) * (9 * c) ≤ 1) :
    etAdjust F p et0 ≤ etAdjust F q et0 := by
  unfold etAdjust
  exact add_mul_le_of_lip hpq hmono hlip hk

/-- the day counter is divided by the hard-coded 3, not by `LagAer`: the range needs `LagAer ≤ 3`
(the built-in `LagAer` is 3) -/
theorem aerationStress_range_of_lag_le_three {aerDays lagAer thAct thS thAer : α}
    (h1 : thAer < thS) (h2 : thAct ≤ thS) (h0 : 0 ≤ aerDays) (hl : lagAer ≤ 3) :
    0 ≤ (aerationStress aerDays lagAer thAct thS thAer).1 ∧
      (aerationStress aerDays lagAer thAct thS thAer).1 ≤ 1 := by
  unfold aerationStress
  by_cases a : thAer < thAct
  · rw [if_pos a]
    dsimp only
    obtain ⟨r0, r1⟩ := (ratio_range h1 a.le h2).2
    by_cases b : aerDays < lagAer
    · rw [if_pos b]
      have d0 : 0 ≤ aerDays / 3 := div_nonneg h0 (by norm_num)
      have d1 : aerDays / 3 ≤ 1 := (div_le_one (by norm_num)).mpr (b.le.trans hl)
      exact ⟨sub_nonneg.mpr (mul_le_one₀ d1 (sub_nonneg.mpr r1) (sub_le_self 1 r0)),
        sub_le_self 1 (mul_nonneg d0 (sub_nonneg.mpr r1))⟩
    · rw [if_neg b]
      exact ⟨r0, r1⟩
  · rw [if_neg a]
    exact ⟨zero_le_one, le_refl _⟩

/-! ## 3. growing degree days -/

theorem gdd_mono {m : Nat} {tupp tbase tmax tmin tmax' tmin' g g' : α} (hx : tmax ≤ tmax')
    (hn : tmin ≤ tmin')
    (hg : growingDegreeDay m tupp tbase tmax tmin = some g)
    (hg' : growingDegreeDay m tupp tbase tmax' tmin' = some g') : g ≤ g' := by
  have clamp : ∀ {x y : α}, x ≤ y → max (min x tupp) tbase ≤ max (min y tupp) tbase :=
    fun hxy => max_le_max_right tbase (min_le_min_right tupp hxy)
  rcases gdd_cases hg with ⟨rfl, rfl⟩ | ⟨rfl, rfl⟩ | ⟨rfl, rfl⟩
  · rw [gdd_method1] at hg'
    rw [← Option.some.inj hg']
    exact sub_le_sub_right (clamp (by linarith)) tbase
  · rw [gdd_method2] at hg'
    rw [← Option.some.inj hg']
    have a := clamp hx
    have b := clamp hn
    linarith
  · rw [gdd_method3] at hg'
    rw [← Option.some.inj hg']
    have a := clamp hx
    have b := min_le_min_right tupp hn
    exact sub_le_sub_right (max_le_max_right tbase (by linarith)) tbase

theorem gdd_mono_tmax {m : Nat} {tupp tbase tmax tmin tmax' g g' : α} (hx : tmax ≤ tmax')
    (hg : growingDegreeDay m tupp tbase tmax tmin = some g)
    (hg' : growingDegreeDay m tupp tbase tmax' tmin = some g') : g ≤ g' :=
  gdd_mono hx (le_refl _) hg hg'

theorem gdd_mono_tmin {m : Nat} {tupp tbase tmax tmin tmin' g g' : α} (hn : tmin ≤ tmin')
    (hg : growingDegreeDay m tupp tbase tmax tmin = some g)
    (hg' : growingDegreeDay m tupp tbase tmax tmin' = some g') : g ≤ g' :=
  gdd_mono (le_refl _) hn hg hg'

/-! ## 4. pollination temperature stress -/

theorem polLogistic_range {F : Fn α} (hF : ExpOrdLaws F) (b t : α) :
    0 < polLogistic F b t ∧ polLogistic F b t ≤ 1 := by
  unfold polLogistic
  exact logistic_range (by norm_num) (by norm_num) (hF.exp_pos _).le

theorem polLogistic_antitone {F : Fn α} (hF : ExpOrdLaws F) {b t t' : α} (hb : 0 ≤ b) (h : t ≤ t') :
    polLogistic F b t' ≤ polLogistic F b t := by
  unfold polLogistic
  have harg : (-b) * (1 - t) ≤ (-b) * (1 - t') :=
    mul_le_mul_of_nonpos_left (sub_le_sub_left h 1) (neg_nonpos.mpr hb)
  exact logistic_anti (by norm_num) (by norm_num) (hF.exp_pos _).le (hF.exp_le harg)

theorem polH_range {F : Fn α} (hF : ExpOrdLaws F) (tmaxUp tmaxLo b tmax : α) :
    0 ≤ polHeat F tmaxUp tmaxLo b tmax ∧ polHeat F tmaxUp tmaxLo b tmax ≤ 1 := by
  unfold polHeat
  split_ifs
  · exact ⟨zero_le_one, le_refl _⟩
  · exact ⟨le_refl _, zero_le_one⟩
  · exact ⟨(polLogistic_range hF _ _).1.le, (polLogistic_range hF _ _).2⟩

theorem polCold_eq_polHeat (F : Fn α) (tminUp tminLo b tmin : α) :
    polCold F tminUp tminLo b tmin = polHeat F (-tminLo) (-tminUp) b (-tmin) := by
  unfold polCold polHeat
  simp only [neg_le_neg_iff, neg_sub_neg]

theorem polC_range {F : Fn α} (hF : ExpOrdLaws F) (tminUp tminLo b tmin : α) :
    0 ≤ polCold F tminUp tminLo b tmin ∧ polCold F tminUp tminLo b tmin ≤ 1 := by
  rw [polCold_eq_polHeat]
  exact polH_range hF _ _ _ _

/-- The built-in crops have `Tmax_up < Tmax_lo` (e.g. 40 < 45): the code tests
`temp_max <= Tmax_lo` first and `temp_max >= Tmax_up` second, so for that ordering the
logistic branch is unreachable and the coefficient is a step at `Tmax_lo`. -/
theorem polH_step_of_up_le_lo (F : Fn α) {tmaxUp tmaxLo : α} (b tmax : α) (h : tmaxUp ≤ tmaxLo) :
    polHeat F tmaxUp tmaxLo b tmax = if tmax ≤ tmaxLo then 1 else 0 := by
  unfold polHeat
  by_cases a1 : tmax ≤ tmaxLo
  · rw [if_pos a1, if_pos a1]
  · rw [if_neg a1, if_neg a1]
    rw [not_le] at a1
    rw [if_pos (by linarith)]

/-- same degenerate behaviour of the cold coefficient if `Tmin_up ≤ Tmin_lo` (not the case for
the built-in crops). -/
theorem polC_step_of_up_le_lo (F : Fn α) {tminUp tminLo : α} (b tmin : α) (h : tminUp ≤ tminLo) :
    polCold F tminUp tminLo b tmin = if tminUp ≤ tmin then 1 else 0 := by
  rw [polCold_eq_polHeat, polH_step_of_up_le_lo F b _ (neg_le_neg h)]
  simp only [neg_le_neg_iff]

/-! ## 5. the canopy growth curve; monotonicity of the decline curve -/

/-- the growth curve before the cap at `CCx` (exponential stage, or decay stage once the
exponential stage exceeds `CCx/2`) -/
def ccStage (F : Fn α) (cco ccx cgc dt : α) : α :=
  if ccx / 2 < cco * F.exp (cgc * dt) then ccx - 0.25 * (ccx / cco) * ccx * F.exp ((-cgc) * dt)
  else cco * F.exp (cgc * dt)

theorem ccUpper_bounds {F : Fn α} (hF : ExpOrdLaws F) (hA : ExpAddLaw F) {cco ccx cgc dt : α}
    (hcco : 0 < cco) (hccx : 0 < ccx) (h : ccx / 2 < cco * F.exp (cgc * dt)) :
    ccx / 2 < ccx - 0.25 * (ccx / cco) * ccx * F.exp ((-cgc) * dt) ∧
      ccx - 0.25 * (ccx / cco) * ccx * F.exp ((-cgc) * dt) < ccx := by
  -- the subtracted term is `CCx/2` times the ratio `(CCx/2)/(CCo·exp(CGC·dt))`, which is in `(0,1)`
  have hE := hF.exp_pos (cgc * dt)
  have hden : 0 < cco * F.exp (cgc * dt) := mul_pos hcco hE
  have hx : 0 < ccx / 2 := half_pos hccx
  have e1 : 0.25 * (ccx / cco) * ccx * F.exp ((-cgc) * dt) =
      ccx / 2 * (ccx / 2 / (cco * F.exp (cgc * dt))) := by
    rw [neg_mul, hA.exp_neg hF]
    field_simp
    ring
  rw [e1]
  have h0 := mul_pos hx (div_pos hx hden)
  have h1 := mul_lt_mul_of_pos_left ((div_lt_one hden).mpr h) hx
  constructor <;> linarith

theorem ccStage_bounds {F : Fn α} (hF : ExpOrdLaws F) (hA : ExpAddLaw F) {cco ccx cgc : α} (dt : α)
    (hcco : 0 < cco) (hccx : 0 < ccx) :
    0 < ccStage F cco ccx cgc dt ∧ ccStage F cco ccx cgc dt < ccx := by
  unfold ccStage
  by_cases h : ccx / 2 < cco * F.exp (cgc * dt)
  · rw [if_pos h]
    obtain ⟨a, b⟩ := ccUpper_bounds hF hA hcco hccx h
    exact ⟨(half_pos hccx).trans a, b⟩
  · rw [if_neg h]
    exact ⟨mul_pos hcco (hF.exp_pos _), (not_lt.mp h).trans_lt (half_lt_self hccx)⟩

/-- over a field the cap `if canopy_cover > CCx` never fires (it only matters in floating
point, where `exp(-CGC·dt)` underflows). -/
theorem ccGrowth_eq_stage {F : Fn α} (hF : ExpOrdLaws F) (hA : ExpAddLaw F) {cco ccx cgc : α} (dt : α)
    (hcco : 0 < cco) (hccx : 0 < ccx) :
    ccGrowth F cco ccx cgc dt = ccStage F cco ccx cgc dt := by
  exact if_neg (not_lt.mpr (ccStage_bounds hF hA dt hcco hccx).2.le)

theorem ccGrowth_range {F : Fn α} (hF : ExpOrdLaws F) (hA : ExpAddLaw F) {cco ccx cgc : α} (dt : α)
    (hcco : 0 < cco) (hccx : 0 < ccx) :
    0 < ccGrowth F cco ccx cgc dt ∧ ccGrowth F cco ccx cgc dt < ccx := by
  rw [ccGrowth_eq_stage hF hA dt hcco hccx]; exact ccStage_bounds hF hA dt hcco hccx

theorem ccGrowth_mono_in_dt {F : Fn α} (hF : ExpOrdLaws F) (hA : ExpAddLaw F) {cco ccx cgc dt dt' : α}
    (hcco : 0 < cco) (hccx : 0 < ccx) (hcgc : 0 ≤ cgc) (h : dt ≤ dt') :
    ccGrowth F cco ccx cgc dt ≤ ccGrowth F cco ccx cgc dt' := by
  rw [ccGrowth_eq_stage hF hA dt hcco hccx, ccGrowth_eq_stage hF hA dt' hcco hccx]
  have harg : cgc * dt ≤ cgc * dt' := mul_le_mul_of_nonneg_left h hcgc
  have hE : cco * F.exp (cgc * dt) ≤ cco * F.exp (cgc * dt') :=
    mul_le_mul_of_nonneg_left (hF.exp_le harg) hcco.le
  unfold ccStage
  by_cases a : ccx / 2 < cco * F.exp (cgc * dt)
  · have a' : ccx / 2 < cco * F.exp (cgc * dt') := lt_of_lt_of_le a hE
    rw [if_pos a, if_pos a']
    have hneg : (-cgc) * dt' ≤ (-cgc) * dt := mul_le_mul_of_nonpos_left h (neg_nonpos.mpr hcgc)
    have hc : 0 ≤ 0.25 * (ccx / cco) * ccx :=
      mul_nonneg (mul_nonneg (by norm_num) (div_pos hccx hcco).le) hccx.le
    exact sub_le_sub_left (mul_le_mul_of_nonneg_left (hF.exp_le hneg) hc) ccx
  · rw [if_neg a]
    by_cases a' : ccx / 2 < cco * F.exp (cgc * dt')
    · rw [if_pos a']
      rw [not_lt] at a
      have := (ccUpper_bounds hF hA hcco hccx a').1
      linarith
    · rw [if_neg a']; exact hE

theorem ccDecline_antitone {F : Fn α} (hF : ExpOrdLaws F) {ccx cdc ccx0 dt dt' : α} (hcdc : 0 ≤ cdc)
    (hccx0 : 0 < ccx0 + 2.29) (h : dt ≤ dt') :
    ccDecline F ccx cdc dt' ccx0 ≤ ccDecline F ccx cdc dt ccx0 := by
  by_cases h1 : ccx < 0.001
  · rw [ccDecline_of_lt _ _ _ h1, ccDecline_of_lt _ _ _ h1]
  · rw [ccDecline_of_ge _ _ _ h1, ccDecline_of_ge _ _ _ h1]
    exact mul_le_mul_of_nonneg_left (declD_anti hF (declK_nonneg hcdc hccx0) h)
      (le_trans (by norm_num) (not_lt.mp h1))

theorem ccDecline_at_zero {F : Fn α} (hF : ExpOrdLaws F) {ccx cdc ccx0 : α} (h : ¬ ccx < 0.001) :
    ccDecline F ccx cdc 0 ccx0 = ccx := by
  rw [ccDecline_of_ge _ _ _ h, declD_zero hF, mul_one]

/-! ## 6. `cc_required_time` inverts the growth curve -/

/-- both regimes are covered: the value is `≤ CCx/2` exactly in the exponential stage, and
`cc_required_time` switches formula on the same test -/
theorem requiredTime_inverts_growth {F : Fn α} (hF : ExpOrdLaws F) (hA : ExpAddLaw F) (hL : LogExpLaws F)
    {cco ccx cgc : α} (cdc dt ccx0 : α) (hcco : 0 < cco) (hccx : 0 < ccx) (hccx1 : ccx ≤ 1)
    (hcgc : cgc ≠ 0) :
    ccRequiredTime F (ccDevelopment F cco ccx cgc cdc dt .growth ccx0) cco ccx cgc cdc .cgc
      = dt := by
  obtain ⟨g0, g1⟩ := ccGrowth_range hF hA (cgc := cgc) dt hcco hccx
  have hdev : ccDevelopment F cco ccx cgc cdc dt .growth ccx0 = ccStage F cco ccx cgc dt := by
    unfold ccDevelopment
    simp only []
    rw [clipCC_eq_clip01, clip01_of_mem g0.le (by linarith), ccGrowth_eq_stage hF hA dt hcco hccx]
  rw [hdev]
  have hE := hF.exp_pos (cgc * dt)
  unfold ccRequiredTime ccStage
  simp only []
  by_cases a : ccx / 2 < cco * F.exp (cgc * dt)
  · obtain ⟨u1, u2⟩ := ccUpper_bounds hF hA hcco hccx a
    rw [if_pos a, if_neg (not_le.mpr u1)]
    rw [neg_mul, hA.exp_neg hF]
    have e1 : 0.25 * ccx * ccx / cco /
        (ccx - (ccx - 0.25 * (ccx / cco) * ccx * (F.exp (cgc * dt))⁻¹)) = F.exp (cgc * dt) := by
      have hx : ccx ≠ 0 := hccx.ne'
      have hc : cco ≠ 0 := hcco.ne'
      have he : F.exp (cgc * dt) ≠ 0 := hE.ne'
      field_simp
      ring
    rw [e1, hL.log_exp]
    field_simp
  · rw [if_neg a, if_pos (not_lt.mp a)]
    have e1 : cco * F.exp (cgc * dt) / cco = F.exp (cgc * dt) := by
      field_simp
    rw [e1, hL.log_exp]
    field_simp

/-- The `"CDC"` mode of `cc_required_time` (never called in the repository) is **not** the
inverse of the `"Decline"` curve of `cc_development`: applied to a value of that curve it
returns `dt · 3.33·CCx/(CCx0 + 2.29)` instead of `dt` (shown for values still above 0). -/
theorem requiredTime_cdc_of_decline {F : Fn α} (hF : ExpOrdLaws F) (hL : LogExpLaws F)
    {ccx cdc ccx0 : α} (cco cgc dt : α) (hccx : ¬ ccx < 0.001) (hcdc : cdc ≠ 0)
    (hccx0 : 0 < ccx0 + 2.29) :
    ccRequiredTime F (ccDecline F ccx cdc dt ccx0) cco ccx cgc cdc .cdc
      = dt * (3.33 * ccx / (ccx0 + 2.29)) := by
  have hx : ccx ≠ 0 := (lt_of_lt_of_le (by norm_num) (not_lt.mp hccx)).ne'
  rw [ccDecline_of_ge _ _ _ hccx, declD, declK]
  unfold ccRequiredTime
  dsimp only
  have e1 : 1 + (1 - ccx * (1 - 0.05 * (F.exp (dt * (cdc * 3.33 / (ccx0 + 2.29))) - 1)) / ccx) /
      0.05 = F.exp (dt * (cdc * 3.33 / (ccx0 + 2.29))) := by
    field_simp
    ring
  rw [e1, hL.log_exp]
  have := hccx0.ne'
  field_simp

/-! ## 7. CO2 factor of the water productivity -/

/-- `fCO2old` as a function of the concentration (weighting factor substituted) -/
def fco2OldW (c ref bsted bface fsink : α) : α :=
  fco2Old c ref (fco2Weight c ref) bsted bface fsink

/-- the selected coefficient `fCO2` as a total function: what *both* copies compute wherever
they are defined. -/
def fco2Sel (F : Fn α) (c ref bsted bface fsink : α) : α :=
  if c ≤ ref then fco2OldW c ref bsted bface fsink
  else if c ≤ 550 ∧ fco2OldW c ref bsted bface fsink < fco2New F c ref fsink then
    fco2OldW c ref bsted bface fsink
  else fco2New F c ref fsink

theorem fco2InitSel_eq (F : Fn α) (c ref bsted bface fsink : α) :
    fco2InitSel F c ref bsted bface fsink = some (fco2Sel F c ref bsted bface fsink) := by
  unfold fco2InitSel fco2Sel fco2OldW
  simp only []
  by_cases h : c ≤ ref
  · rw [if_pos h, if_pos h]
  · rw [if_neg h, if_neg h, if_pos (not_le.mp h)]
    simp only []
    split_ifs <;> rfl

theorem fco2ResetSel_none {F : Fn α} {c ref : α} (bsted bface fsink : α) (h1 : 550 < c)
    (h2 : c ≤ ref) : fco2ResetSel F c ref bsted bface fsink = none := by
  unfold fco2ResetSel
  simp only []
  rw [if_pos h2, if_neg (not_le.mpr h1)]

theorem fco2ResetSel_eq (F : Fn α) {c ref : α} (bsted bface fsink : α)
    (h : ¬ (550 < c ∧ c ≤ ref)) :
    fco2ResetSel F c ref bsted bface fsink = some (fco2Sel F c ref bsted bface fsink) := by
  unfold fco2ResetSel fco2Sel fco2OldW
  simp only []
  by_cases h1 : c ≤ ref
  · have h2 : c ≤ 550 := by
      by_contra hc
      exact h ⟨not_le.mp hc, h1⟩
    rw [if_pos h1, if_pos h1, if_pos h2]
  · rw [if_neg h1, if_neg h1, if_pos (not_le.mp h1)]
    simp only []
    by_cases h2 : c ≤ 550
    · simp only [h2, if_true, true_and]
      by_cases h3 : fco2Old c ref (fco2Weight c ref) bsted bface fsink < fco2New F c ref fsink
      · simp only [h3, if_true]
      · simp only [h3, if_false]
    · rw [if_neg h2]
      simp only [h2, false_and, if_false]

theorem fco2Init_eq (F : Fn α) (c ref bsted bface fsink wp : α) :
    fco2Init F c ref bsted bface fsink wp =
      some (1 + fco2Type wp * (fco2Sel F c ref bsted bface fsink - 1)) := by
  unfold fco2Init
  rw [fco2InitSel_eq]
  rfl

theorem fco2Init_isSome (F : Fn α) (c ref bsted bface fsink wp : α) :
    (fco2Init F c ref bsted bface fsink wp).isSome := by
  rw [fco2Init_eq]; rfl

/-- the copy in `reset_initial_conditions` reads the unassigned `fCO2old`
(`UnboundLocalError`) exactly when `550 < CO2conc ≤ CO2ref` -/
theorem fco2Reset_eq_none_iff (F : Fn α) (c ref bsted bface fsink wp : α) :
    fco2Reset F c ref bsted bface fsink wp = none ↔ (550 < c ∧ c ≤ ref) := by
  unfold fco2Reset
  constructor
  · intro hn
    by_contra hc
    rw [fco2ResetSel_eq F bsted bface fsink hc] at hn
    simp at hn
  · rintro ⟨h1, h2⟩
    rw [fco2ResetSel_none bsted bface fsink h1 h2]
    rfl

theorem fco2Init_eq_fco2Reset (F : Fn α) {c ref : α} (bsted bface fsink wp : α)
    (h : ¬ (550 < c ∧ c ≤ ref)) :
    fco2Reset F c ref bsted bface fsink wp = fco2Init F c ref bsted bface fsink wp := by
  unfold fco2Reset fco2Init
  rw [fco2ResetSel_eq F bsted bface fsink h, fco2InitSel_eq]

theorem fco2Init_eq_fco2Reset_of_ref_le (F : Fn α) {ref : α} (c bsted bface fsink wp : α)
    (href : ref ≤ 550) :
    fco2Reset F c ref bsted bface fsink wp = fco2Init F c ref bsted bface fsink wp :=
  fco2Init_eq_fco2Reset F bsted bface fsink wp (fun ⟨h1, h2⟩ => by linarith)

theorem fco2Reset_some_imp {F : Fn α} {c ref bsted bface fsink wp v : α}
    (h : fco2Reset F c ref bsted bface fsink wp = some v) :
    fco2Init F c ref bsted bface fsink wp = some v := by
  by_cases hc : 550 < c ∧ c ≤ ref
  · rw [(fco2Reset_eq_none_iff F c ref bsted bface fsink wp).mpr hc] at h
    simp at h
  · rw [← fco2Init_eq_fco2Reset F bsted bface fsink wp hc]; exact h

theorem fco2OldW_at_ref {ref : α} (bsted bface fsink : α) (href : ref ≠ 0) :
    fco2OldW ref ref bsted bface fsink = 1 := by
  unfold fco2OldW fco2Old fco2Weight
  rw [if_pos (le_refl _), div_self href, sub_self, zero_mul, add_zero, div_one]

theorem fco2Sel_at_ref (F : Fn α) {ref : α} (bsted bface fsink : α) (href : ref ≠ 0) :
    fco2Sel F ref ref bsted bface fsink = 1 := by
  unfold fco2Sel
  rw [if_pos (le_refl _), fco2OldW_at_ref _ _ _ href]

theorem fco2Type_range (wp : α) : 0 ≤ fco2Type wp ∧ fco2Type wp ≤ 1 := by
  unfold fco2Type
  by_cases h1 : 40 ≤ wp
  · rw [if_pos h1]
    exact ⟨le_refl _, zero_le_one⟩
  · rw [if_neg h1]
    by_cases h2 : wp ≤ 20
    · rw [if_pos h2]
      exact ⟨zero_le_one, le_refl _⟩
    · rw [if_neg h2]
      exact (ratio_range (by norm_num) (not_le.mp h2).le (not_le.mp h1).le).2

theorem fco2Shape_neg (fsink : α) : fco2Shape fsink < 0 := by
  unfold fco2Shape
  nlinarith [sq_nonneg (fsink + 0.3228)]

theorem fco2Weight_eq {ref : α} (c : α) (href : ref < 550) :
    fco2Weight c ref = clip01 ((c - ref) / (550 - ref)) := by
  have hW := sub_pos.mpr href
  unfold fco2Weight
  by_cases h1 : c ≤ ref
  · rw [if_pos h1, clip01_eq,
      max_eq_right (div_nonpos_of_nonpos_of_nonneg (sub_nonpos.mpr h1) hW.le),
      min_eq_left zero_le_one]
  · rw [if_neg h1]
    by_cases h2 : 550 ≤ c
    · have h : 1 ≤ (c - ref) / (550 - ref) := (one_le_div hW).mpr (sub_le_sub_right h2 ref)
      rw [if_pos h2, clip01_eq, max_eq_left (zero_le_one.trans h), min_eq_right h]
    · obtain ⟨a, b⟩ := (ratio_range href (not_le.mp h1).le (not_le.mp h2).le).1
      rw [if_neg h2, one_sub_div hW.ne', sub_sub_sub_cancel_left, clip01_of_mem a b]

theorem fco2Weight_range {ref : α} (c : α) (href : ref < 550) :
    0 ≤ fco2Weight c ref ∧ fco2Weight c ref ≤ 1 := by
  rw [fco2Weight_eq c href]
  exact clip01_range _

theorem fco2Weight_lip {c c' ref : α} (href : ref < 550) (h : c ≤ c') :
    fco2Weight c ref ≤ fco2Weight c' ref ∧
      (fco2Weight c' ref - fco2Weight c ref) * (550 - ref) ≤ c' - c := by
  have hW := sub_pos.mpr href
  have hx : (c - ref) / (550 - ref) ≤ (c' - ref) / (550 - ref) :=
    div_le_div_of_nonneg_right (sub_le_sub_right h ref) hW.le
  rw [fco2Weight_eq c href, fco2Weight_eq c' href]
  refine ⟨clip01_mono hx, ?_⟩
  have := mul_le_mul_of_nonneg_right (clip01_sub_le hx) hW.le
  rw [← sub_div, div_mul_cancel₀ _ hW.ne'] at this
  linarith

/-- premises on the CO2 parameters under which `fCO2old` is increasing on `[0, 550]`:
`g = bsted·fsink + bface·(1 − fsink)` is the FACE-weighted coefficient. -/
structure CO2Params (ref bsted bface fsink : α) : Prop where
  ref_pos : 0 < ref
  ref_lt : ref < 550
  bsted_nn : 0 ≤ bsted
  g_ge : bsted ≤ bsted * fsink + bface * (1 - fsink)
  small : ref * (bsted * fsink + bface * (1 - fsink)) +
    550 * (bsted * fsink + bface * (1 - fsink) - bsted) < 1

def fco2Den (c ref bsted bface fsink : α) : α :=
  1 + (c - ref) * ((1 - fco2Weight c ref) * bsted +
    fco2Weight c ref * ((bsted * fsink) + (bface * (1 - fsink))))

theorem fco2OldW_eq (c ref bsted bface fsink : α) :
    fco2OldW c ref bsted bface fsink = (c / ref) / fco2Den c ref bsted bface fsink := rfl

theorem fco2Den_pos {c ref bsted bface fsink : α} (hp : CO2Params ref bsted bface fsink)
    (hc : 0 ≤ c) : 0 < fco2Den c ref bsted bface fsink := by
  obtain ⟨hr0, hr, hb, hg, hs⟩ := hp
  obtain ⟨w0, w1⟩ := fco2Weight_range c hr
  unfold fco2Den
  set g := bsted * fsink + bface * (1 - fsink)
  set w := fco2Weight c ref with hw
  have hm0 : 0 ≤ (1 - w) * bsted + w * g := by
    have : 0 ≤ g := le_trans hb hg
    have := mul_nonneg (sub_nonneg.mpr w1) hb
    have := mul_nonneg w0 ‹0 ≤ g›
    linarith
  by_cases h : c ≤ ref
  · have : w = 0 := by rw [hw]; unfold fco2Weight; rw [if_pos h]
    rw [this]
    have h1 : ref * bsted ≤ ref * g := mul_le_mul_of_nonneg_left hg hr0.le
    have h2 : 0 ≤ 550 * (g - bsted) := mul_nonneg (by norm_num) (sub_nonneg.mpr hg)
    have h3 : 0 ≤ c * bsted := mul_nonneg hc hb
    linarith
  · rw [not_le] at h
    have : 0 ≤ (c - ref) * ((1 - w) * bsted + w * g) := mul_nonneg (by linarith) hm0
    linarith

theorem fco2OldW_mono {c c' ref bsted bface fsink : α} (hp : CO2Params ref bsted bface fsink)
    (hc : 0 ≤ c) (h : c ≤ c') (h550 : c' ≤ 550) :
    fco2OldW c ref bsted bface fsink ≤ fco2OldW c' ref bsted bface fsink := by
  have hD := fco2Den_pos hp hc
  have hD' := fco2Den_pos hp (le_trans hc h)
  obtain ⟨hr0, hr, hb, hg, hs⟩ := hp
  obtain ⟨_, w1⟩ := fco2Weight_range c hr
  obtain ⟨wm, wl⟩ := fco2Weight_lip hr h
  rw [fco2OldW_eq, fco2OldW_eq, div_le_div_iff₀ hD hD', div_mul_eq_mul_div, div_mul_eq_mul_div]
  refine div_le_div_of_nonneg_right ?_ hr0.le
  unfold fco2Den
  generalize bsted * fsink + bface * (1 - fsink) = g at hg hs ⊢
  generalize fco2Weight c ref = w at w1 wm wl ⊢
  generalize fco2Weight c' ref = w' at wm wl ⊢
  have hΔ : 0 ≤ c' - c := sub_nonneg.mpr h
  have hdw : 0 ≤ w' - w := sub_nonneg.mpr wm
  have hgb : 0 ≤ g - bsted := sub_nonneg.mpr hg
  have k1 : (c' - ref) * (w' - w) ≤ c' - c :=
    (mul_le_mul_of_nonneg_right (sub_le_sub_right h550 ref) hdw).trans
      ((mul_comm _ _).trans_le wl)
  have k2 : c * (g - bsted) * ((c' - ref) * (w' - w)) ≤ 550 * (g - bsted) * (c' - c) :=
    (mul_le_mul_of_nonneg_left k1 (mul_nonneg hc hgb)).trans
      (mul_le_mul_of_nonneg_right (mul_le_mul_of_nonneg_right (h.trans h550) hgb) hΔ)
  -- with `m = (1 − w)·b + w·g = g − (1 − w)(g − b)` for the denominator at `c` and `m'` for the one at `c'`:
  -- `c'(1 + (c − ref)m) − c(1 + (c' − ref)m') = (c' − c)(1 − ref·m) − c(g − b)((c' − ref)(w' − w))`
  have n1 : 0 ≤ (c' - c) * (ref * ((1 - w) * (g - bsted))) :=
    mul_nonneg hΔ (mul_nonneg hr0.le (mul_nonneg (sub_nonneg.mpr w1) hgb))
  have n2 : 0 ≤ (c' - c) * (1 - ref * g - 550 * (g - bsted)) := mul_nonneg hΔ (by linarith)
  linarith

theorem fco2New_of_ge {F : Fn α} {c : α} (ref fsink : α) (h : 2000 ≤ c) :
    fco2New F c ref fsink = 1.58 :=
  if_pos h

/-- below 2000 ppm the version-7 curve is the `expRatio` shape of the water-stress curves (with
a negative shape factor) in the relative concentration -/
theorem fco2New_of_lt {F : Fn α} {c : α} (ref fsink : α) (h : ¬ 2000 ≤ c) :
    fco2New F c ref fsink =
      1 + 0.58 * expRatio F ((c - ref) / (2000 - ref)) (fco2Shape fsink) :=
  if_neg h

theorem fco2Rel_range {F : Fn α} (hF : ExpOrdLaws F) {c ref : α} (fsink : α) (hcr : ref ≤ c)
    (h : c ≤ 2000) (href : ref < 2000) :
    0 ≤ expRatio F ((c - ref) / (2000 - ref)) (fco2Shape fsink) ∧
      expRatio F ((c - ref) / (2000 - ref)) (fco2Shape fsink) ≤ 1 :=
  have r := (ratio_range href hcr h).1
  expRatio_range hF (fco2Shape_neg fsink).ne r.1 r.2

theorem fco2New_ge_one {F : Fn α} (hF : ExpOrdLaws F) {c ref : α} (fsink : α) (hcr : ref ≤ c)
    (href : ref < 2000) : 1 ≤ fco2New F c ref fsink := by
  by_cases h1 : 2000 ≤ c
  · rw [fco2New_of_ge _ _ h1]
    norm_num
  · rw [fco2New_of_lt _ _ h1]
    exact le_add_of_nonneg_right
      (mul_nonneg (by norm_num) (fco2Rel_range hF fsink hcr (not_le.mp h1).le href).1)

theorem fco2New_mono {F : Fn α} (hF : ExpOrdLaws F) {c c' ref : α} (fsink : α) (hcr : ref ≤ c)
    (href : ref < 2000) (h : c ≤ c') : fco2New F c ref fsink ≤ fco2New F c' ref fsink := by
  by_cases a : 2000 ≤ c
  · rw [fco2New_of_ge _ _ a, fco2New_of_ge _ _ (le_trans a h)]
  · rw [fco2New_of_lt _ _ a]
    by_cases a' : 2000 ≤ c'
    · rw [fco2New_of_ge _ _ a']
      have := (fco2Rel_range hF fsink hcr (not_le.mp a).le href).2
      linarith
    · rw [fco2New_of_lt _ _ a']
      have hrel : (c - ref) / (2000 - ref) ≤ (c' - ref) / (2000 - ref) :=
        div_le_div_of_nonneg_right (sub_le_sub_right h ref) (sub_pos.mpr href).le
      exact add_le_add le_rfl (mul_le_mul_of_nonneg_left
        (expRatio_mono hF (fco2Shape_neg fsink).ne hrel) (by norm_num))

theorem fco2Sel_le {F : Fn α} {c ref : α} (bsted bface fsink : α) (h : ref < c) :
    fco2Sel F c ref bsted bface fsink ≤ fco2New F c ref fsink ∧
      (c ≤ 550 → fco2Sel F c ref bsted bface fsink ≤ fco2OldW c ref bsted bface fsink) := by
  unfold fco2Sel
  rw [if_neg (not_le.mpr h)]
  split_ifs with h2
  · exact ⟨h2.2.le, fun _ => le_refl _⟩
  · refine ⟨le_refl _, fun h5 => ?_⟩
    by_contra hc
    exact h2 ⟨h5, not_le.mp hc⟩

/-- `fCO2old` is 1 at the reference, and both curves are non-decreasing -/
theorem fco2Sel_ge_one_of_ref_le {F : Fn α} (hF : ExpOrdLaws F) {c ref bsted bface fsink : α}
    (hp : CO2Params ref bsted bface fsink) (h : ref ≤ c) :
    1 ≤ fco2Sel F c ref bsted bface fsink := by
  unfold fco2Sel
  by_cases a : c ≤ ref
  · rw [if_pos a, le_antisymm a h, fco2OldW_at_ref _ _ _ hp.ref_pos.ne']
  · rw [if_neg a]
    by_cases h2 : c ≤ 550 ∧ fco2OldW c ref bsted bface fsink < fco2New F c ref fsink
    · rw [if_pos h2, ← fco2OldW_at_ref bsted bface fsink hp.ref_pos.ne']
      exact fco2OldW_mono hp hp.ref_pos.le h h2.1
    · rw [if_neg h2]
      exact fco2New_ge_one hF fsink h (hp.ref_lt.trans (by norm_num))

theorem fco2Sel_mono {F : Fn α} (hF : ExpOrdLaws F) {c c' ref bsted bface fsink : α}
    (hp : CO2Params ref bsted bface fsink) (hc : 0 ≤ c) (h : c ≤ c') :
    fco2Sel F c ref bsted bface fsink ≤ fco2Sel F c' ref bsted bface fsink := by
  have hr0 := hp.ref_pos
  have hr := hp.ref_lt
  have hr2 : ref < 2000 := by linarith
  by_cases a : c ≤ ref
  · -- below the reference: fCO2old, which is ≤ 1 there
    have hle1 : fco2Sel F c ref bsted bface fsink ≤ 1 := by
      unfold fco2Sel
      rw [if_pos a, ← fco2OldW_at_ref bsted bface fsink hr0.ne']
      exact fco2OldW_mono hp hc a hr.le
    by_cases a' : c' ≤ ref
    · unfold fco2Sel
      rw [if_pos a, if_pos a']
      exact fco2OldW_mono hp hc h (le_trans a' hr.le)
    · exact hle1.trans (fco2Sel_ge_one_of_ref_le hF hp (not_le.mp a').le)
  · rw [not_le] at a
    have a' : ref < c' := lt_of_lt_of_le a h
    obtain ⟨s1, s2⟩ := fco2Sel_le (F := F) bsted bface fsink a
    have hnew := fco2New_mono hF fsink a.le hr2 h
    show fco2Sel F c ref bsted bface fsink ≤ fco2Sel F c' ref bsted bface fsink
    conv_rhs => unfold fco2Sel
    rw [if_neg (not_le.mpr a')]
    split_ifs with h2
    · have hc550 : c ≤ 550 := le_trans h h2.1
      exact le_trans (s2 hc550) (fco2OldW_mono hp hc h h2.1)
    · exact le_trans s1 hnew

theorem fco2Init_mono {F : Fn α} (hF : ExpOrdLaws F) {c c' ref bsted bface fsink : α} (wp : α)
    (hp : CO2Params ref bsted bface fsink) (hc : 0 ≤ c) (h : c ≤ c') :
    ∃ v v', fco2Init F c ref bsted bface fsink wp = some v ∧
      fco2Init F c' ref bsted bface fsink wp = some v' ∧ v ≤ v' := by
  refine ⟨_, _, fco2Init_eq F c ref bsted bface fsink wp,
    fco2Init_eq F c' ref bsted bface fsink wp, ?_⟩
  have := fco2Sel_mono hF hp hc h
  have := mul_le_mul_of_nonneg_left (sub_le_sub_right this 1) (fco2Type_range wp).1
  linarith

/-- the selected curve `s` is non-negative (`fCO2old` as a quotient of non-negatives, `fCO2new` is
at least 1), and `1 + t·(s − 1) = (1 − t) + t·s` with `0 ≤ t ≤ 1` -/
theorem fco2Init_nonneg {F : Fn α} (hF : ExpOrdLaws F) {c ref bsted bface fsink wp v : α}
    (hp : CO2Params ref bsted bface fsink) (hc : 0 ≤ c)
    (h : fco2Init F c ref bsted bface fsink wp = some v) : 0 ≤ v := by
  have hold : 0 ≤ fco2OldW c ref bsted bface fsink := by
    rw [fco2OldW_eq]
    exact div_nonneg (div_nonneg hc hp.ref_pos.le) (fco2Den_pos hp hc).le
  have hs : 0 ≤ fco2Sel F c ref bsted bface fsink := by
    unfold fco2Sel
    by_cases h1 : c ≤ ref
    · rw [if_pos h1]; exact hold
    · rw [if_neg h1]
      by_cases h2 : c ≤ 550 ∧ fco2OldW c ref bsted bface fsink < fco2New F c ref fsink
      · rw [if_pos h2]; exact hold
      · rw [if_neg h2]
        exact zero_le_one.trans
          (fco2New_ge_one hF fsink (not_le.mp h1).le (hp.ref_lt.trans (by norm_num)))
  rw [fco2Init_eq, Option.some.injEq] at h
  obtain ⟨t0, t1⟩ := fco2Type_range wp
  rw [← h, mul_sub, mul_one, ← add_sub_assoc, add_sub_right_comm]
  exact add_nonneg (sub_nonneg.mpr t1) (mul_nonneg t0 hs)

theorem fco2Reset_nonneg {F : Fn α} (hF : ExpOrdLaws F) {c ref bsted bface fsink wp v : α}
    (hp : CO2Params ref bsted bface fsink) (hc : 0 ≤ c)
    (h : fco2Reset F c ref bsted bface fsink wp = some v) : 0 ≤ v :=
  fco2Init_nonneg hF hp hc (fco2Reset_some_imp h)

/-- non-vacuity: the repository's default parameters (`ref_concentration = 369.41`,
`bsted = 0.000138`, `bface = 0.001165`) satisfy `CO2Params` for the catalogue's `fsink = 0.5`
and even for the extreme `fsink = 0` (margin 0.005). -/
example : CO2Params (369.41 : α) 0.000138 0.001165 0.5 :=
  ⟨by norm_num, by norm_num, by norm_num, by norm_num, by norm_num⟩
example : CO2Params (369.41 : α) 0.000138 0.001165 0 :=
  ⟨by norm_num, by norm_num, by norm_num, by norm_num, by norm_num⟩

end Aqua

#print axioms Aqua.fco2Init_nonneg
#print axioms Aqua.fco2Reset_nonneg
