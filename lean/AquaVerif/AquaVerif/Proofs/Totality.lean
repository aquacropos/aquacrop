import AquaVerif.Proofs.Irrigation
/-
What `Properties/C16.lean` (totality) needs about `irrigation` beyond `Proofs/Irrigation.lean`: when
`smtIndex` returns a value, and which `IrrErr` the strategy chain and `irrigation` raise under which
condition (`irrDemand_error_iff`, `irrigation_error_iff`).
-/

set_option linter.unusedSectionVars false
namespace Aqua
variable {α : Type} [Field α] [LinearOrder α] [IsStrictOrderedRing α]

theorem smtIndex_isSome_of_le (s : Nat) (h : s ≤ 4) : ∃ i, smtIndex s = some i := by
  rcases s with _ | _ | _ | _ | _ | s
  · exact ⟨3, rfl⟩
  · exact ⟨0, rfl⟩
  · exact ⟨1, rfl⟩
  · exact ⟨2, rfl⟩
  · exact ⟨3, rfl⟩
  · omega

theorem smtIndex_eq_none_iff (s : Nat) : smtIndex s = none ↔ 4 < s := by
  rcases s with _ | _ | _ | _ | _ | s <;> simp [smtIndex]

theorem irrDemand_error_iff (P : IrrParams α) (stage : Nat) (dep taw : α) (dap : Nat)
    (sched : Option α) (e : IrrErr) :
    irrDemand P stage dep taw dap sched = .error e ↔
      (e = .index ∧ ((P.method = 1 ∧ 4 < stage) ∨ (P.method = 3 ∧ sched = none))) ∨
      (e = .zerodiv ∧ P.method = 2 ∧ P.interval = 0) ∨
      (e = .assert ∧ P.method = 3 ∧ ∃ s, sched = some s ∧ s < 0) ∨
      (e = .unbound ∧ 5 < P.method) := by
  by_cases h0 : P.method = 0
  · rw [irrDemand_rainfed P stage dep taw dap sched h0]; simp [h0]
  by_cases h1 : P.method = 1
  · rw [irrDemand_smt P stage dep taw dap sched h1]
    cases hs : smtIndex stage with
    | none =>
      have := (smtIndex_eq_none_iff stage).mp hs
      simp [this, h1]; exact eq_comm
    | some i =>
      have : ¬ 4 < stage := fun h => by rw [(smtIndex_eq_none_iff stage).mpr h] at hs; cases hs
      simp only []
      split_ifs <;> simp [this, h1]
  by_cases h2 : P.method = 2
  · rw [irrDemand_interval P stage dep taw dap sched h2]
    by_cases hi : P.interval = 0
    · simp [hi, h2]; exact eq_comm
    · simp only [hi, if_false]
      split_ifs <;> simp [h2]
  by_cases h3 : P.method = 3
  · rw [irrDemand_schedule P stage dep taw dap sched h3]
    cases sched with
    | none => simp [h3]; exact eq_comm
    | some s =>
      simp only []
      by_cases hs : 0 ≤ s
      · have : ¬ s < 0 := not_lt.mpr hs
        simp [hs, this, h3]
      · have : s < 0 := not_le.mp hs
        simp [hs, this, h3]; exact eq_comm
  by_cases h4 : P.method = 4
  · rw [irrDemand_net P stage dep taw dap sched h4]; simp [h4]
  by_cases h5 : P.method = 5
  · rw [irrDemand_constant P stage dep taw dap sched h5]; simp [h5]
  have h6 : 5 < P.method := by omega
  unfold irrDemand
  simp only [h0, h1, h2, h3, h4, h5, if_false]
  simp [h6]; exact eq_comm

theorem irrigation_error_iff (F : Fn α) (P : IrrParams α) (cells : List (Cell α)) (st : Nat)
    (irrCum ePot tPot zRoot : α) (dap : Nat) (sched : Option α) (zMin aer zTop : α) (gs : Bool)
    (rain runoff : α) (e : IrrErr) :
    irrigation F P cells st irrCum ePot tPot zRoot dap sched zMin aer zTop gs rain runoff = .error e ↔
      gs = true ∧
      ((e = .rootZone ∧ rootZoneWater F cells zRoot zTop zMin aer = none) ∨
       (rootZoneWater F cells zRoot zTop zMin aer ≠ none ∧
        ((e = .index ∧ ((P.method = 1 ∧ 4 < (if dap = 1 then 1 else st)) ∨
            (P.method = 3 ∧ sched = none))) ∨
         (e = .zerodiv ∧ P.method = 2 ∧ P.interval = 0) ∨
         (e = .assert ∧ P.method = 3 ∧ ∃ s, sched = some s ∧ s < 0) ∨
         (e = .unbound ∧ 5 < P.method)))) := by
  unfold irrigation
  cases gs with
  | false => simp
  | true =>
    simp only [if_true, true_and]
    cases hrz : rootZoneWater F cells zRoot zTop zMin aer with
    | none =>
      simp only [Except.error.injEq, ne_eq, not_true_eq_false, false_and, or_false, and_true]
      exact eq_comm
    | some rz =>
      simp only [reduceCtorEq, and_false, false_or, ne_eq, not_false_eq_true, true_and]
      rw [← irrDemand_error_iff P (if dap = 1 then 1 else st)
        (irrDepletion rz ePot tPot zRoot zMin rain runoff) rz.tawRz dap sched e]
      cases hd : irrDemand P (if dap = 1 then 1 else st)
          (irrDepletion rz ePot tPot zRoot zMin rain runoff) rz.tawRz dap sched with
      | error e' => simp
      | ok r => simp

end Aqua
