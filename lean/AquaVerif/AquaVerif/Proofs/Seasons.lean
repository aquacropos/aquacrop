import AquaVerif.Proofs.Clock
/-
Season independence at the level of the clock / season state machine (property C08, clock part).

`single c k` is the single-season configuration that starts on the planting date of season `k` of
the multi-season configuration `c` (window cut at that date, same end date, same latest harvest
date, off-season skipped); `shiftEv ev p` is the day oracle re-indexed to that start.

One `_perform_timestep` from two states related by `Sim` (same flags and counters, clocks shifted
by the planting index) writes the same row and the summary row on the same relative day, and either
keeps the states related or ends the season in both runs (`step_shift`; along every in-season path,
`season_path_shift`).  A step that changes the season counter leaves the reset state
(`season_change_resets`), so every reachable first day of a season is related to the *initial* state
of `single c k` (`season_start_fresh`, `sim_at_season_start`).
Core Lean only.
-/

namespace Aqua.Clock

/-- the single-season configuration started on the planting date of season `k` of `c` -/
def single (c : Cfg) (k : Nat) : Cfg :=
  { n := c.n - c.pl k, planting := [0], harvest := [c.hv k - (c.pl k : Int)], offSeason := false,
    season0 := 0 }

/-- the day oracle seen from a run that starts `p` days later -/
def shiftEv (ev : Ev) (p : Nat) : Ev := fun t => ev (t + p)

@[simp] theorem single_pl0 (c : Cfg) (k : Nat) : (single c k).pl 0 = 0 := rfl
@[simp] theorem single_hv0 (c : Cfg) (k : Nat) : (single c k).hv 0 = c.hv k - (c.pl k : Int) := rfl
@[simp] theorem single_n (c : Cfg) (k : Nat) : (single c k).n = c.n - c.pl k := rfl
@[simp] theorem single_nSeasons (c : Cfg) (k : Nat) : (single c k).nSeasons = 1 := rfl
@[simp] theorem single_off (c : Cfg) (k : Nat) : (single c k).offSeason = false := rfl

theorem wf_single {c : Cfg} (hw : WF c) {k : Nat} (hk : k < c.planting.length) :
    WF (single c k) := by
  have := hw.pl_in hk
  refine ⟨by simp only [single_n]; omega, by simp [single], by simp [single], by simp [single],
    ?_, by simp [single]⟩
  intro p hp
  simp only [single, List.mem_singleton] at hp
  subst hp
  simp only [single]; omega

/-- the fresh initial state of `single c k` -/
def freshSt : St :=
  { t := 0, season := 0, dap := 0, mature := false, dead := false, harvestFlag := false,
    finished := false, rowsRev := [], summaryRev := [] }

theorem init_single {c : Cfg} (hw : WF c) {k : Nat} (hk : k < c.planting.length) :
    init (single c k) = .ok freshSt := by
  have := hw.pl_in hk
  unfold init
  have e1 : ¬ (single c k).n < 2 := by show ¬ c.n - c.pl k < 2; omega
  rw [if_neg e1]
  rfl

/-- two rows that agree up to the shift of the day index and the season label -/
def RowSh (p : Nat) (k : Nat) (r r1 : Row) : Prop :=
  r.t = r1.t + p ∧ r.season = (k : Int) ∧ r1.season = 0 ∧ r.dap = r1.dap ∧ r.gs = r1.gs ∧
    r.mature = r1.mature ∧ r.dead = r1.dead ∧ r.endc = r1.endc

/-- two summary rows that agree up to the shift -/
def SumSh (p : Nat) (k : Nat) (e e1 : Int × Nat) : Prop :=
  e.1 = (k : Int) ∧ e1.1 = 0 ∧ e.2 = e1.2 + p

/-- `R` holds between the two lists position by position (same length): Mathlib's `List.Forall₂`,
which core Lean does not have -/
inductive Pairs {α β : Type} (R : α → β → Prop) : List α → List β → Prop
  | nil : Pairs R [] []
  | cons {a : α} {b : β} {as : List α} {bs : List β} : R a b → Pairs R as bs →
      Pairs R (a :: as) (b :: bs)

/-- simulation relation between a state of the multi-season run inside season `k` and a state
of the single-season run (a relation on states; `Steps.Sim` is a property of such relations) -/
structure Sim (c : Cfg) (k : Nat) (s s1 : St) : Prop where
  live : Live c s
  live1 : Live (single c k) s1
  t : s.t = s1.t + c.pl k
  season : s.season = (k : Int)
  season1 : s1.season = 0
  dap : s.dap = s1.dap
  mature : s.mature = s1.mature
  dead : s.dead = s1.dead
  flag : s.harvestFlag = s1.harvestFlag
  /-- the latest harvest date has not been passed while the harvest flag is still down -/
  before : s.harvestFlag = false → (s.t : Int) + 1 ≤ c.hv k

section
variable {c : Cfg} {ev : Ev} {k : Nat} {s s1 : St}

theorem Sim.gs (h : Sim c k s s1) : gsOf c s = gsOf (single c k) s1 := by
  have ht := h.t
  have p0 : (single c k).pl (Int.toNat 0) = 0 := rfl
  have v0 : (single c k).hv (Int.toNat 0) = c.hv k - (c.pl k : Int) := rfl
  unfold gsOf
  rw [h.season, h.season1, h.mature, h.dead, Bool.eq_iff_iff]
  simp only [Bool.and_eq_true, decide_eq_true_eq, Int.toNat_natCast, p0, v0]
  constructor <;>
  · rintro ⟨⟨⟨⟨_, _⟩, h3⟩, h4⟩, h5⟩
    exact ⟨⟨⟨⟨by omega, by omega⟩, by omega⟩, h4⟩, h5⟩

theorem Sim.evAt (h : Sim c k s s1) : shiftEv ev (c.pl k) s1.t = ev s.t := by
  unfold shiftEv; rw [h.t]

theorem Sim.mat (h : Sim c k s s1) : matOf c ev s = matOf (single c k) (shiftEv ev (c.pl k)) s1 := by
  unfold matOf; rw [h.gs, h.mature, h.evAt]

theorem Sim.deadOf (h : Sim c k s s1) :
    deadOf c ev s = Clock.deadOf (single c k) (shiftEv ev (c.pl k)) s1 := by
  unfold Clock.deadOf; rw [h.gs, h.dead, h.evAt]

theorem Sim.endc (h : Sim c k s s1) :
    endcOf c ev s = endcOf (single c k) (shiftEv ev (c.pl k)) s1 := by
  have ht := h.t
  have v0 : (single c k).hv (Int.toNat 0) = c.hv k - (c.pl k : Int) := rfl
  unfold endcOf
  rw [h.mat, h.deadOf, h.season, h.season1, Bool.eq_iff_iff]
  simp only [Bool.and_eq_true, Bool.or_eq_true, decide_eq_true_eq, Int.toNat_natCast, v0]
  constructor <;>
  · rintro ⟨_, h2⟩
    refine ⟨by omega, ?_⟩
    rcases h2 with h2 | h2
    · exact Or.inl h2
    · exact Or.inr (by omega)

theorem Sim.dapOf (h : Sim c k s s1) : dapOf c s = Clock.dapOf (single c k) s1 := by
  unfold Clock.dapOf; rw [h.gs, h.dap]

theorem Sim.row (h : Sim c k s s1) :
    RowSh (c.pl k) k (rowOf c ev s) (rowOf (single c k) (shiftEv ev (c.pl k)) s1) :=
  ⟨h.t, h.season, h.season1, h.dapOf, h.gs, h.mat, h.deadOf, h.endc⟩

theorem Sim.fin1_of (h : Sim c k s s1)
    (hx : finOf c ev s = true ∨ (s.harvestFlag || endcOf c ev s) = true) :
    finOf (single c k) (shiftEv ev (c.pl k)) s1 = true := by
  have ht := h.t
  have htn := h.live.tn
  have hn1 : (single c k).n = c.n - c.pl k := rfl
  have hs1 : (single c k).nSeasons = 1 := rfl
  unfold finOf
  rw [← h.endc (ev := ev), ← h.flag, h.season1, hs1]
  simp only [Bool.or_eq_true, Bool.and_eq_true, decide_eq_true_eq]
  rcases hx with hx | hx
  · unfold finOf at hx
    simp only [Bool.or_eq_true, Bool.and_eq_true, decide_eq_true_eq] at hx
    rcases hx with hx | ⟨hx, _⟩
    · left
      split at hx
      · cases hx
      · rename_i hlt
        rw [if_neg]; rw [hn1]; omega
    · right; exact ⟨hx, by omega⟩
  · right; exact ⟨by simpa using hx, by omega⟩

theorem Sim.fin1_false (h : Sim c k s s1) (hfin : finOf c ev s = false)
    (hfl : (s.harvestFlag || endcOf c ev s) = false) :
    finOf (single c k) (shiftEv ev (c.pl k)) s1 = false := by
  have ht := h.t
  have h3 := (finOf_false hfin).1
  have hn1 : (single c k).n = c.n - c.pl k := rfl
  unfold finOf
  rw [← h.endc (ev := ev), ← h.flag, hfl]
  simp only [Bool.false_and, Bool.or_false]
  rw [if_pos]; rw [hn1]; omega

end

/-- `hnext` is the clause of `Valid` that the latest harvest date of season `k` is not after the next
planting date; it excludes that the multi-season run enters season `k+1` on a day on which season `k`
has not ended. -/
theorem step_shift {c : Cfg} {ev : Ev} {k : Nat} {s s1 s' : St} (hw : WF c)
    (hk : k < c.planting.length) (hoff : c.offSeason = false)
    (hnext : k + 1 < c.planting.length → c.hv k ≤ (c.pl (k + 1) : Int))
    (hS : Sim c k s s1) (hp : perform c ev s = .ok s') :
    ∃ s1', perform (single c k) (shiftEv ev (c.pl k)) s1 = .ok s1' ∧
      (∃ r r1, s'.rowsRev = r :: s.rowsRev ∧ s1'.rowsRev = r1 :: s1.rowsRev ∧
        RowSh (c.pl k) k r r1) ∧
      ((s'.summaryRev = s.summaryRev ∧ s1'.summaryRev = s1.summaryRev) ∨
        (s'.summaryRev = ((k : Int), s.t) :: s.summaryRev ∧
          s1'.summaryRev = (0, s1.t) :: s1.summaryRev)) ∧
      ((s'.finished = false ∧ s'.season = (k : Int) ∧ Sim c k s' s1') ∨
        ((s'.finished = true ∨ s'.season = (k : Int) + 1) ∧ s1'.finished = true)) := by
  have hw1 := wf_single hw hk
  have hL := hS.live
  have hL1 := hS.live1
  rw [perform_eq hw ev hL] at hp
  cases hp
  refine ⟨stepT (single c k) (shiftEv ev (c.pl k)) s1, perform_eq hw1 _ hL1, ?_, ?_, ?_⟩
  · refine ⟨rowOf c ev s, rowOf (single c k) (shiftEv ev (c.pl k)) s1, ?_, ?_, hS.row⟩
    · rw [stepT_rows]; rfl
    · rw [stepT_rows]; rfl
  · rw [stepT_summary, stepT_summary, sol_summary, sol_summary, ← hS.endc (ev := ev), ← hS.flag,
      hS.season, hS.season1]
    cases (endcOf c ev s && !s.harvestFlag) <;> simp
  · cases hfin : finOf c ev s with
    | true =>
      right
      have hf1 := hS.fin1_of (ev := ev) (Or.inl hfin)
      rw [stepT_fin c ev s hfin, stepT_fin _ _ s1 hf1]
      exact ⟨Or.inl rfl, rfl⟩
    | false =>
      obtain ⟨h3, hlast⟩ := finOf_false hfin
      cases hfl : (s.harvestFlag || endcOf c ev s) with
      | true =>
        right
        have hf1 := hS.fin1_of (ev := ev) (Or.inr hfl)
        have hj : ((s.harvestFlag || endcOf c ev s) && !c.offSeason) = true := by
          rw [hfl, hoff]; rfl
        have hn : s.season < c.nSeasons - 1 := by
          have := hL.shi
          by_cases hs : s.season = c.nSeasons - 1
          · have := hlast hs; rw [hfl] at this; cases this
          · omega
        rw [stepT_jump c ev s hfin hj hn, stepT_fin _ _ s1 hf1]
        refine ⟨Or.inr ?_, rfl⟩
        show s.season + 1 = (k : Int) + 1
        rw [hS.season]
      | false =>
        left
        have hf1 := hS.fin1_false (ev := ev) hfin hfl
        have hj : ((s.harvestFlag || endcOf c ev s) && !c.offSeason) = false := by
          rw [hfl]; rfl
        have hfl1 : (s1.harvestFlag || endcOf (single c k) (shiftEv ev (c.pl k)) s1) = false := by
          rw [← hS.endc (ev := ev), ← hS.flag]; exact hfl
        have hj1 : ((s1.harvestFlag || endcOf (single c k) (shiftEv ev (c.pl k)) s1) &&
            !(single c k).offSeason) = false := by rw [hfl1]; rfl
        obtain ⟨hflag, hend⟩ := Bool.or_eq_false_iff.mp hfl
        -- the latest harvest date is not tomorrow, hence still ahead
        have hne : c.hv k ≠ (s.t : Int) + 1 := by
          intro he
          unfold endcOf at hend
          rw [hS.season] at hend
          simp only [Int.toNat_natCast, Bool.and_eq_false_iff, Bool.or_eq_false_iff,
            decide_eq_false_iff_not] at hend
          rcases hend with h | ⟨_, h⟩
          · omega
          · exact h he
        have hbef := hS.before hflag
        have hnp : ¬ (s.season < c.nSeasons - 1 ∧ s.t + 1 = c.pl (s.season + 1).toNat) := by
          rintro ⟨hn, hpl⟩
          rw [hS.season, nSeasons_eq] at hn
          have hk1 : k + 1 < c.planting.length := by omega
          have := hnext hk1
          rw [hS.season] at hpl
          have e : ((k : Int) + 1).toNat = k + 1 := by omega
          rw [e] at hpl
          omega
        have hnp1 : ¬ (s1.season < (single c k).nSeasons - 1 ∧
            s1.t + 1 = (single c k).pl (s1.season + 1).toNat) := by
          rintro ⟨hn, _⟩
          rw [hS.season1, single_nSeasons] at hn
          omega
        have e := stepT_same c ev s hfin hj hnp
        have e1 := stepT_same (single c k) (shiftEv ev (c.pl k)) s1 hf1 hj1 hnp1
        have hfs : (stepT c ev s).finished = false := by rw [e]
        have hfs1 : (stepT (single c k) (shiftEv ev (c.pl k)) s1).finished = false := by rw [e1]
        refine ⟨hfs, by rw [e]; exact hS.season, ?_⟩
        refine ⟨(live_step hw ev hL hfs).1, (live_step hw1 _ hL1 hfs1).1, ?_, ?_, ?_, ?_, ?_, ?_,
          ?_, ?_⟩
        · rw [e, e1]; show s.t + 1 = s1.t + 1 + c.pl k; have := hS.t; omega
        · rw [e]; exact hS.season
        · rw [e1]; exact hS.season1
        · rw [e, e1]; exact hS.dapOf
        · rw [e, e1]; exact hS.mat
        · rw [e, e1]; exact hS.deadOf
        · rw [e, e1]
          show (s.harvestFlag || endcOf c ev s) =
            (s1.harvestFlag || endcOf (single c k) (shiftEv ev (c.pl k)) s1)
          rw [hfl, hfl1]
        · intro _
          rw [e]; show ((s.t + 1 : Nat) : Int) + 1 ≤ c.hv k
          omega

/-- in-season execution paths: every step is taken from an unfinished state of season `k` -/
inductive SeasonPath (c : Cfg) (ev : Ev) (k : Int) : St → St → Prop
  | refl (s : St) : SeasonPath c ev k s s
  | step {s s' s'' : St} : SeasonPath c ev k s s' → s'.finished = false → s'.season = k →
      perform c ev s' = .ok s'' → SeasonPath c ev k s s''

theorem season_path_shift {c : Cfg} {ev : Ev} {k : Nat} {s s1 s' : St} (hw : WF c)
    (hk : k < c.planting.length) (hoff : c.offSeason = false)
    (hnext : k + 1 < c.planting.length → c.hv k ≤ (c.pl (k + 1) : Int))
    (hS : Sim c k s s1) (hpath : SeasonPath c ev (k : Int) s s') :
    ∃ s1' rs rs1 sm sm1, SeasonPath (single c k) (shiftEv ev (c.pl k)) 0 s1 s1' ∧
      s'.rowsRev = rs ++ s.rowsRev ∧ s1'.rowsRev = rs1 ++ s1.rowsRev ∧
      Pairs (RowSh (c.pl k) k) rs rs1 ∧
      s'.summaryRev = sm ++ s.summaryRev ∧ s1'.summaryRev = sm1 ++ s1.summaryRev ∧
      Pairs (SumSh (c.pl k) k) sm sm1 ∧
      ((s'.finished = false ∧ s'.season = (k : Int) ∧ Sim c k s' s1') ∨
        ((s'.finished = true ∨ s'.season = (k : Int) + 1) ∧ s1'.finished = true)) := by
  induction hpath with
  | refl =>
    exact ⟨s1, [], [], [], [], SeasonPath.refl s1, rfl, rfl, Pairs.nil, rfl, rfl,
      Pairs.nil, Or.inl ⟨hS.live.notFin, hS.season, hS⟩⟩
  | @step s' s'' hpre hf hs hp ih =>
    obtain ⟨s1', rs, rs1, sm, sm1, hp1, hr, hr1, hrr, hm, hm1, hmm, hcase⟩ := ih
    have hS' : Sim c k s' s1' := by
      rcases hcase with ⟨_, _, h⟩ | ⟨h, _⟩
      · exact h
      · rcases h with h | h
        · rw [hf] at h; cases h
        · rw [hs] at h; omega
    obtain ⟨s1'', hq, ⟨r, r1, hrow, hrow1, hrs⟩, hsum, hcase'⟩ :=
      step_shift hw hk hoff hnext hS' hp
    have hp1' := SeasonPath.step hp1 hS'.live1.notFin hS'.season1 hq
    rcases hsum with ⟨hs0, hs1⟩ | ⟨hs0, hs1⟩
    · exact ⟨s1'', r :: rs, r1 :: rs1, sm, sm1, hp1', by rw [hrow, hr]; rfl, by rw [hrow1, hr1]; rfl,
        Pairs.cons hrs hrr, by rw [hs0, hm], by rw [hs1, hm1], hmm, hcase'⟩
    · exact ⟨s1'', r :: rs, r1 :: rs1, ((k : Int), s'.t) :: sm, (0, s1'.t) :: sm1, hp1',
        by rw [hrow, hr]; rfl, by rw [hrow1, hr1]; rfl, Pairs.cons hrs hrr,
        by rw [hs0, hm]; rfl, by rw [hs1, hm1]; rfl,
        Pairs.cons ⟨rfl, rfl, hS'.t⟩ hmm, hcase'⟩

/-! ### Every season starts reset -/

/-- the clock-level state components `reset_initial_conditions` resets -/
def Fresh (s : St) : Prop :=
  s.dap = 0 ∧ s.mature = false ∧ s.dead = false ∧ s.harvestFlag = false

theorem fresh_resetSeason (s : St) : Fresh (resetSeason s) := ⟨rfl, rfl, rfl, rfl⟩

theorem fresh_init {c : Cfg} {s : St} (h : init c = .ok s) : Fresh s := by
  cases init_eq h
  exact ⟨rfl, rfl, rfl, rfl⟩

theorem season_change_resets {c : Cfg} {ev : Ev} {s s' : St} (hw : WF c) (hr : Reach c ev s)
    (hp : perform c ev s = .ok s') (hne : s'.season ≠ s.season) :
    Fresh s' ∧ s'.season = s.season + 1 ∧ s'.t = c.pl s'.season.toNat ∧ s'.finished = false := by
  obtain ⟨hL, rfl⟩ := reach_perform hw hr hp
  rcases stepT_cases ev hL with ⟨_, e⟩ | ⟨_, _, _, e⟩ | ⟨_, _, _, hpl, e⟩ | ⟨_, _, _, e⟩ <;>
    rw [e] at hne ⊢
  · exact absurd rfl hne
  · exact ⟨fresh_resetSeason _, rfl, rfl, rfl⟩
  · exact ⟨fresh_resetSeason _, rfl, hpl, rfl⟩
  · exact absurd rfl hne

theorem season_start_fresh {c : Cfg} {ev : Ev} {s : St} (hw : WF c) (hr : Reach c ev s)
    (hf : s.finished = false) (h0 : 0 ≤ s.season) (ht : s.t = c.pl s.season.toNat) : Fresh s := by
  cases hr with
  | init hi => exact fresh_init hi
  | @step s₀ _ hr₀ hp =>
    by_cases hne : s.season = s₀.season
    · -- same season: the previous day lies before the planting date — impossible
      exfalso
      obtain ⟨hL, rfl⟩ := reach_perform hw hr₀ hp
      rcases stepT_cases ev hL with ⟨_, e⟩ | ⟨_, _, _, e⟩ | ⟨_, _, _, _, e⟩ | ⟨_, _, _, e⟩ <;>
        rw [e] at hf hne ht h0
      · cases hf
      · have : s₀.season + 1 = s₀.season := hne
        omega
      · have : s₀.season + 1 = s₀.season := hne
        omega
      · have h0' : 0 ≤ s₀.season := h0
        have ht' : s₀.t + 1 = c.pl s₀.season.toNat := ht
        have := hL.cur h0'
        omega
    · exact (season_change_resets hw hr₀ hp hne).1

/-- `Valid` gives `Sim.before`: the planting date lies before the latest harvest date. -/
theorem sim_at_season_start {c : Cfg} {ev : Ev} {k : Nat} {s : St} (hv : Valid c)
    (hr : Reach c ev s) (hf : s.finished = false) (hs : s.season = (k : Int))
    (ht : s.t = c.pl k) : Sim c k s freshSt := by
  have hw := hv.wf
  have hL := (good_of_reach hw hr).live hf
  have hk : k < c.planting.length := by
    have := hL.shi; rw [hs, nSeasons_eq] at this; omega
  have hfr := season_start_fresh hw hr hf (by rw [hs]; omega) (by rw [hs]; simpa using ht)
  have hL1 : Live (single c k) freshSt := live_init (wf_single hw hk) (init_single hw hk)
  refine ⟨hL, hL1, by rw [ht]; simp [freshSt], hs, rfl, hfr.1, hfr.2.1, hfr.2.2.1, hfr.2.2.2, ?_⟩
  intro _
  have := hv.pl_lt_hv hk
  rw [ht]; omega

end Aqua.Clock
