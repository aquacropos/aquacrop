import AquaVerif.Model.Clock
/-
The public API of `AquaCropModel` (`aquacrop/core.py`) as a state machine over *sessions*: one
object, a sequence of public calls

    run_model(num_steps, till_termination, initialize_model, process_outputs)
    get_simulation_results()  get_water_storage()  get_water_flux()  get_crop_growth()
    get_additional_information()

Each operation maps the object state to a new state and an *observation* (the class of the value
returned, or the exception raised).  The clock / season machine of one day is `Aqua.Clock`
(`Model/Clock.lean`): the biophysics of a day is the oracle `ev : Nat → Bool × Bool`.

Mirrors, branch by branch:
  * the three private class attributes `__steps_are_finished`, `__has_model_executed`,
    `__has_model_finished`; `_initialize` clears `__steps_are_finished` as its first statement
    (repo commit 4f049e5) and does **not** touch the other two, which only `run_model` sets;
  * the rest of `_initialize` as an opaque atomic step: `Clock.init c` either raises (clock,
    conditions, tables untouched) or replaces them by fresh ones;
  * `run_model`: `_initialize` first, then either the `while` loop or — **after** the optional
    `_initialize` — the `num_steps < 1` test and the `for` loop, in which `__steps_are_finished`
    is set *before* the last `_perform_timestep` when `process_outputs` is true and stays set until
    the next `_initialize`;
  * `_perform_timestep` *with its partial effects when it raises*: the object stays in use after an
    exception, so the model returns the state the exception leaves behind
      - `solution_single_time_step` works on `NewCond = init_cond` **in place**: when the daily table
        write raises (the tables have been turned into DataFrames) `dap`, `crop_mature`, `crop_dead`
        have already been updated, the rows / summary / `harvest_flag` / clock have not;
      - `update_time` increments `season_counter` before `time_span.get_loc` can raise;
  * `outputs_when_model_is_finished`: the three daily tables become DataFrames after a step that
    leaves `model_is_finished` true **or** while `__steps_are_finished` is true;
  * the five getters.

Core Lean only.
-/

namespace Aqua.Session
open Aqua.Clock

/-- exception classes (what the caller of the public method sees) -/
inductive Exc where
  /-- `ValueError("num_steps must be equal to or greater than 1.")` -/
  | numSteps
  /-- `ValueError("You cannot get results without running the model. …")` (getter, nothing run yet) -/
  | noRun
  /-- `AttributeError` (`'AquaCropModel' object has no attribute '_clock_struct'` / `'_weather'`):
      `run_model(initialize_model=False)` on an object on which `_initialize` never succeeded -/
  | attr
  /-- `ValueError("Length of values (3) does not match length of index (n)")`: the table write of
      `solution_single_time_step` on tables that are DataFrames -/
  | tableWrite
  /-- `pandas.errors.InvalidIndexError`: the same write when `n_steps = 3` (the length test passes
      by accident) -/
  | tableKey
  /-- `IndexError` (`time_span[i]`, `planting_dates[i]`, `harvest_dates[i]`) -/
  | index
  /-- `KeyError` (`time_span.get_loc(planting_date)`) -/
  | key
  /-- model artefact: fuel of the `while` loop exhausted (never for a well-formed clock) -/
  | fuel
  /-- model artefact: an `IndexError` inside `update_time` left `step_end_time` behind
      `time_step_counter`; the model does not follow such an object until the next `_initialize` -/
  | desync
  deriving DecidableEq, Repr, Inhabited

def Exc.toString : Exc → String
  | .numSteps => "E:numsteps"
  | .noRun => "E:norun"
  | .attr => "E:attr"
  | .tableWrite => "E:tablewrite"
  | .tableKey => "E:tablekey"
  | .index => "E:index"
  | .key => "E:key"
  | .fuel => "E:fuel"
  | .desync => "E:desync"

def Exc.ofClock : Clock.Err → Exc
  | .index => .index
  | .key => .key
  | .finished => .tableWrite
  | .numSteps => .numSteps
  | .fuel => .fuel

/-- which daily table a getter returns -/
inductive Table where
  | storage | flux | growth
  deriving DecidableEq, Repr, Inhabited

/-- What the caller observes. -/
inductive Obs where
  /-- `run_model` returned (it returns `True` on every non-raising path) -/
  | retTrue
  /-- `get_simulation_results()` returned `False` (run, but not finished) -/
  | retFalse
  /-- `get_simulation_results()` returned `final_stats`: rows (season label, harvest step) -/
  | summary (rows : List (Int × Nat))
  /-- a daily table: `df` = it is a `DataFrame` (else a numpy array); `n` = number of rows of the
      table (`len(time_span)`); `rows` = the rows written so far, by row index, last write wins -/
  | table (k : Table) (df : Bool) (n : Nat) (rows : List Row)
  /-- `get_additional_information()["has_model_finished"]` -/
  | info (finished : Bool)
  | raised (e : Exc)
  deriving DecidableEq, Repr, Inhabited

/-- What `_initialize` creates: clock + conditions + `Output`. -/
structure Obj where
  /-- `_clock_struct`, the flags of `_init_cond`, the rows of `_outputs` -/
  clock : St
  /-- the three daily tables of `_outputs` are DataFrames -/
  converted : Bool
  /-- model artefact, see `Exc.desync` -/
  desync : Bool
  deriving Repr

/-- The API object. -/
structure SSt where
  /-- `__steps_are_finished` -/
  stepsAreFinished : Bool
  /-- `__has_model_executed` -/
  executed : Bool
  /-- `__has_model_finished` -/
  hasFinished : Bool
  /-- `none`: `_initialize` has never succeeded on this object (no `_clock_struct`, `_weather`,
      `_outputs` attributes) -/
  obj : Option Obj
  deriving Repr

/-- a newly constructed `AquaCropModel` (class attributes `False`, nothing initialised) -/
def fresh : SSt := { stepsAreFinished := false, executed := false, hasFinished := false, obj := none }

/-- `update_time` with the state it leaves behind when it raises:
(clock, lock-step lost, exception). -/
def updateTimeP (c : Cfg) (s : St) : St × Bool × Option Exc :=
  if s.finished then (s, false, none) else
  if s.harvestFlag && !c.offSeason then
    if s.season < c.nSeasons - 1 then
      -- `season_counter = season_counter + 1` comes first
      let season' := s.season + 1
      let s1 := { s with season := season' }
      match pyGet c.planting season' with
      | .error e => (s1, false, some (Exc.ofClock e))
      | .ok p =>
        -- `time_span.get_loc(planting_date)`
        if p ≥ c.n then (s1, false, some .key) else
        -- `time_step_counter`, `step_start_time` assigned; `time_span[time_step_counter + 1]`
        if p + 1 ≥ c.n then ({ s1 with t := p }, true, some .index) else
        (resetSeason { s1 with t := p }, false, none)
    else (s, false, none)
  else
    let t' := s.t + 1
    let s1 := { s with t := t' }
    if t' ≥ c.n then (s1, true, some .index) else
    if t' + 1 ≥ c.n then (s1, true, some .index) else
    if s.season < c.nSeasons - 1 then
      match pyGet c.planting (s.season + 1) with
      | .error e => (s1, false, some (Exc.ofClock e))
      | .ok p => if t' = p then (resetSeason { s1 with season := s.season + 1 }, false, none)
                 else (s1, false, none)
    else (s1, false, none)

/-- `_perform_timestep` (`saf` = the current `__steps_are_finished`): new object and the exception
raised, if any. -/
def performP (c : Cfg) (ev : Ev) (saf : Bool) (o : Obj) : Obj × Option Exc :=
  if o.desync then (o, some .desync) else
  -- `planting_dates[season_counter]`, `harvest_dates[season_counter]` : before any mutation
  match seasonInfo c o.clock.season with
  | .error e => (o, some (Exc.ofClock e))
  | .ok ph =>
    let s1 := solCore ev o.clock ph
    if o.converted then
      -- `outputs.water_storage[row_day, :3] = …` on a DataFrame raises; `NewCond` *is* `init_cond`
      ({ o with clock := { o.clock with dap := s1.dap, mature := s1.mature, dead := s1.dead } },
       some (if c.n = 3 then .tableKey else .tableWrite))
    else
      match updateTimeP c (checkFinished c s1) with
      | (s3, d, some e) => ({ clock := s3, converted := false, desync := d }, some e)
      | (s3, _, none) =>
        -- `outputs_when_model_is_finished(model_is_finished, …, __steps_are_finished)`
        ({ clock := s3, converted := s3.finished || saf, desync := false }, none)

/-- `while self._clock_struct.model_is_finished is False: self._perform_timestep()` -/
def tillLoop (c : Cfg) (ev : Ev) (saf : Bool) : Nat → Obj → Obj × Option Exc
  | 0, o => if o.clock.finished then (o, none) else (o, some .fuel)
  | f + 1, o =>
    if o.clock.finished then (o, none) else
    match performP c ev saf o with
    | (o', none) => tillLoop c ev saf f o'
    | r => r

/-- fuel of the `while` loop, sized by the thought that the season counter increases at every jump and
the day counter at every other step; what is proved and used is `c.n ≤ fuel c`, which is enough for
well-formed configurations (`Proofs/Session.lean`, `run_till_init`) -/
def fuel (c : Cfg) : Nat := c.n * (c.planting.length + 2) + 2

/-- how the `for` loop of `run_model` ends -/
inductive LoopEnd where
  | raised (e : Exc)
  /-- `if self._clock_struct.model_is_finished: … return True` -/
  | finished
  /-- the `for` loop ran out -/
  | exhausted
  deriving DecidableEq, Repr

/-- `for i in range(num_steps): …` with `k` iterations left; returns `__steps_are_finished`,
the object and how the loop ended. -/
def stepsLoop (c : Cfg) (ev : Ev) (po : Bool) : Nat → Bool → Option Obj → Bool × Option Obj × LoopEnd
  | 0, saf, o => (saf, o, .exhausted)
  | k + 1, saf, o =>
    -- `if (i == range(num_steps)[-1]) and (process_outputs is True): self.__steps_are_finished = True`
    let saf' := saf || (po && decide (k = 0))
    match o with
    | none => (saf', none, .raised .attr)      -- `self._weather`
    | some ob =>
      match performP c ev saf' ob with
      | (ob', some e) => (saf', some ob', .raised e)
      | (ob', none) =>
        if ob'.clock.finished then (saf', some ob', .finished)
        else stepsLoop c ev po k saf' (some ob')

/-- `if initialize_model: self._initialize()`.  Its first statement clears
`__steps_are_finished` (before anything can raise); the rest is atomic: `Clock.init c` either
raises (clock, conditions, tables untouched) or replaces them by fresh ones.  The other two
private flags are left alone.  Returns the object and the exception raised, if any. -/
def initObj (c : Cfg) (s : SSt) : SSt × Option Exc :=
  let s1 := { s with stepsAreFinished := false }
  match Clock.init c with
  | .error e => (s1, some (Exc.ofClock e))
  | .ok s0 => ({ s1 with obj := some { clock := s0, converted := false, desync := false } }, none)

/-- `run_model` after the optional `_initialize`: the `while` loop, or the `num_steps` test and
the `for` loop; the private flags are assigned only on the non-raising paths. -/
def runBody (c : Cfg) (ev : Ev) (numSteps : Int) (till po : Bool) (s0 : SSt) : SSt × Obs :=
  if till then
    match s0.obj with
    | none => (s0, .raised .attr)           -- `self._clock_struct`
    | some o =>
      match tillLoop c ev s0.stepsAreFinished (fuel c) o with
      | (o', some e) => ({ s0 with obj := some o' }, .raised e)
      | (o', none) => ({ s0 with obj := some o', executed := true, hasFinished := true }, .retTrue)
  else if numSteps < 1 then (s0, .raised .numSteps)
  else
    match stepsLoop c ev po numSteps.toNat s0.stepsAreFinished s0.obj with
    | (saf, o, .raised e) => ({ s0 with stepsAreFinished := saf, obj := o }, .raised e)
    | (saf, o, .finished) =>
      ({ stepsAreFinished := saf, obj := o, executed := true, hasFinished := true }, .retTrue)
    | (saf, o, .exhausted) =>
      ({ stepsAreFinished := saf, obj := o, executed := true, hasFinished := false }, .retTrue)

/-- `run_model(num_steps, till_termination, initialize_model, process_outputs)` -/
def run (c : Cfg) (ev : Ev) (numSteps : Int) (till ini po : Bool) (s : SSt) : SSt × Obs :=
  if ini then
    match initObj c s with
    | (s1, some e) => (s1, .raised e)
    | (s0, none) => runBody c ev numSteps till po s0
  else runBody c ev numSteps till po s

/-- the rows of a daily table of `n` rows: for every row index the last write -/
def tableRows (n : Nat) (rowsRev : List Row) : List Row :=
  (List.range n).filterMap (fun t => rowsRev.find? (fun r => r.t == t))

/-- `get_water_storage` / `get_water_flux` / `get_crop_growth` -/
def getTable (c : Cfg) (k : Table) (s : SSt) : Obs :=
  if s.executed then
    match s.obj with
    | none => .raised .attr                    -- `self._outputs` (unreachable, `Session.Inv.exec`)
    | some o => .table k o.converted c.n (tableRows c.n o.clock.rowsRev)
  else .raised .noRun

/-- `get_simulation_results` -/
def getResults (s : SSt) : Obs :=
  if s.executed then
    if s.hasFinished then
      match s.obj with
      | none => .raised .attr
      | some o => .summary (finalStats o.clock.summary)
    else .retFalse
  else .raised .noRun

/-- `get_additional_information` (the execution time is not modelled) -/
def getInfo (s : SSt) : Obs :=
  if s.executed then .info s.hasFinished else .raised .noRun

/-- one public call -/
inductive Op where
  | run (numSteps : Int) (tillTermination init processOutputs : Bool)
  | getResults
  | getStorage
  | getFlux
  | getGrowth
  | getInfo
  deriving DecidableEq, Repr, Inhabited

def Op.isGetter : Op → Bool
  | .run .. => false
  | _ => true

def step (c : Cfg) (ev : Ev) : Op → SSt → SSt × Obs
  | .run k till ini po, s => run c ev k till ini po s
  | .getResults, s => (s, getResults s)
  | .getStorage, s => (s, getTable c .storage s)
  | .getFlux, s => (s, getTable c .flux s)
  | .getGrowth, s => (s, getTable c .growth s)
  | .getInfo, s => (s, getInfo s)

/-- a session: the observations in call order and the final state -/
def runOps (c : Cfg) (ev : Ev) : List Op → SSt → SSt × List Obs
  | [], s => (s, [])
  | op :: ops, s =>
    let r := step c ev op s
    let r' := runOps c ev ops r.1
    (r'.1, r.2 :: r'.2)

/-- a session on a newly constructed object -/
def session (c : Cfg) (ev : Ev) (ops : List Op) : SSt × List Obs := runOps c ev ops fresh

end Aqua.Session
