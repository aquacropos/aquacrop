/-
Civil-date arithmetic (proleptic Gregorian calendar, pure integer) and the planting / harvest
date logic of `aquacrop/initialize/read_model_parameters.py` (lines 100–203) together with the
window set-up of `read_clocks_parameters.py`.  Not modelled: the branch `crop.harvest_date is None`
(lines 112–125), which computes the harvest month/day from `MaturityCD + 30`; `hm hd` are given.

`daysFromCivil y m d` = days since 1970-01-01 (Python: `date(y,m,d).toordinal() - 719163`).

Core Lean only.
-/

namespace Aqua.Calendar

/-- Where the Python raises. -/
inductive Err where
  /-- `IndexError`: `time_span[1]` (window shorter than two days), `plant_years[0]` or
      `planting_dates[0]` (no planting date in the window) -/
  | index
  /-- `ValueError`/`DateParseError` from `pd.to_datetime` on a non-existing date
      (29 February in the mock year 1990 or in a non-leap year, month/day out of range) -/
  | date
  /-- `ValueError`: simulation period longer than 580 years -/
  | value
  deriving DecidableEq, Repr, Inhabited

def Err.toString : Err → String
  | .index => "E:index"
  | .date => "E:date"
  | .value => "E:value"

/-- days since 1970-01-01 of the civil date `y-m-d` (months 1..12). -/
def daysFromCivil (y m d : Int) : Int :=
  let y' := if m ≤ 2 then y - 1 else y
  let era := y' / 400
  let yoe := y' - era * 400
  let mp := if m > 2 then m - 3 else m + 9
  let doy := (153 * mp + 2) / 5 + d - 1
  let doe := yoe * 365 + yoe / 4 - yoe / 100 + doy
  era * 146097 + doe - 719468

/-- inverse of `daysFromCivil`: (year, month, day). -/
def civilFromDays (z : Int) : Int × Int × Int :=
  let z := z + 719468
  let era := z / 146097
  let doe := z - era * 146097
  let yoe := (doe - doe / 1460 + doe / 36524 - doe / 146096) / 365
  let y := yoe + era * 400
  let doy := doe - (365 * yoe + yoe / 4 - yoe / 100)
  let mp := (5 * doy + 2) / 153
  let d := doy - (153 * mp + 2) / 5 + 1
  let m := if mp < 10 then mp + 3 else mp - 9
  (if m ≤ 2 then y + 1 else y, m, d)

def isLeap (y : Int) : Bool := (y % 4 == 0 && y % 100 != 0) || y % 400 == 0

def daysInMonth (y m : Int) : Int :=
  if m = 2 then (if isLeap y then 29 else 28)
  else if m = 4 ∨ m = 6 ∨ m = 9 ∨ m = 11 then 30 else 31

def validDate (y m d : Int) : Bool :=
  decide (1 ≤ m) && decide (m ≤ 12) && decide (1 ≤ d) && decide (d ≤ daysInMonth y m)

/-- `pd.to_datetime("y/m/d")` as a day number; raises on a non-existing date. -/
def toDate (y m d : Int) : Except Err Int :=
  if validDate y m d then .ok (daysFromCivil y m d) else .error .date

/-- Python `list(range(a, b))` over the integers. -/
def pyRange (a b : Int) : List Int := (List.range (b - a).toNat).map (fun (i : Nat) => a + (i : Int))

structure Seasons where
  /-- `n_steps` -/
  n : Nat
  /-- planting dates as day numbers relative to the simulation start date -/
  planting : List Int
  /-- harvest dates, same convention -/
  harvest : List Int
  /-- initial `season_counter` -/
  season0 : Int
  deriving Repr

/-- `plant_years`, `harvest_years` before the correction for a partial first season
(`read_model_parameters` lines 126–161).  `endD` = day number of the end date. -/
def yearLists (sy ey em ed pm pd hm hd endD : Int) : Except Err (List Int × List Int) := do
  -- single_year: planting before harvest in the mock year 1990
  let p90 ← toDate 1990 pm pd
  let h90 ← toDate 1990 hm hd
  if p90 < h90 then
    -- "Check if the simulation in the following year does not exceed planting date."
    let mockEnd ← toDate 1990 em ed
    let mockStart ← toDate 1990 pm pd
    let ey' := if mockEnd ≤ mockStart then ey - 1 else ey
    let py := pyRange sy (ey' + 1)
    pure (py, py)
  else
    let hLate ← toDate (ey + 2) hm hd
    if hLate < endD then
      pure (pyRange sy (ey + 1), pyRange (sy + 1) (ey + 2))
    else
      pure (pyRange sy ey, pyRange (sy + 1) (ey + 1))

/-- lines 163–203: drop a first planting date that lies before the start, build the date lists,
initialise the season counter. `start` = day number of the start date. -/
def finishSeasons (start : Int) (n : Nat) (plantYears harvestYears : List Int) (pm pd hm hd : Int) :
    Except Err Seasons := do
  -- "Correct for partial first growing season": plant_years[0]
  let y0 ← match plantYears with
    | [] => throw Err.index
    | y :: _ => pure y
  let first ← toDate y0 pm pd
  let plantYears := if first < start then plantYears.tail else plantYears
  let harvestYears := if first < start then harvestYears.tail else harvestYears
  -- assert len(plant_years) == len(harvest_years): holds by construction
  let planting ← plantYears.mapM (fun y => toDate y pm pd)
  let harvest ← harvestYears.mapM (fun y => toDate y hm hd)
  -- season counter: planting_dates[0]
  let p0 ← match planting with
    | [] => throw Err.index
    | p :: _ => pure p
  let season0 : Int := if start = p0 then 0 else -1
  pure { n := n, planting := planting.map (· - start), harvest := harvest.map (· - start),
         season0 := season0 }

/-- `read_clock_parameters` (window) followed by `read_model_parameters` lines 100–203.
Arguments: start `sy/sm/sd`, end `ey/em/ed` (existing dates), planting `pm/pd`, harvest `hm/hd`
(the crop's `planting_date`, `harvest_date` as month/day). -/
def seasonDates (sy sm sd ey em ed pm pd hm hd : Int) : Except Err Seasons := do
  -- check_max_simulation_days
  if ey - sy > 580 then throw Err.value
  let start ← toDate sy sm sd
  let endD ← toDate ey em ed
  -- time_span = date_range(start, end); step_end_time = time_span[1]
  let n := (endD - start + 1).toNat
  if n < 2 then throw Err.index
  let (plantYears, harvestYears) ← yearLists sy ey em ed pm pd hm hd endD
  finishSeasons start n plantYears harvestYears pm pd hm hd

end Aqua.Calendar
