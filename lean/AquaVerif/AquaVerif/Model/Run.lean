import AquaVerif.Model.Day
import AquaVerif.Model.Clock
/-
The **whole run**: the clock / season state machine of `Model/Clock.lean` driving `fullDay`
(`Model/Day.lean`) — `AquaCropModel._perform_timestep` (`aquacrop/core.py`) =
`solution_single_time_step` → `check_model_is_finished` → `update_time`
(+ `reset_initial_conditions` at a season start), and `run_model(num_steps = k)`.

Compared with `Model/Clock.lean` the oracle is gone: `crop_mature` / `crop_dead` are the flags
`fullDay` produces.  The clock arithmetic itself is *reused*: `update_time` is
`Clock.updateTime` on the clock projection of the state (`clockOf`), and a season start — the
only place where `reset_initial_conditions` is called — is recognised by the season counter
having changed.

`reset_initial_conditions` is mirrored for the state fields (`resetState`; the list is
`Model/Reset.lean`'s `resetFields`).  Its CO2 / thermal-calendar part, which rewrites the season's
crop object (`fCO2`, the calendar-day equivalents of a GDD crop, `HIGC`, `tLinSwitch`, …) and
`CO2.current_concentration`, enters as the parameter functions `seasonCrop`, `co2Cur`:
`seasonCrop k` is the crop of season `k` *as the reset leaves it* (for season 0 of a run that
starts on the planting date: as `compute_variables` leaves it — no reset is called then).

Which records the day uses (`solution_single_time_step`, lines 93–129): from the first season on
the season's crop and `IrrMngt`, before it the fallow filler crop (`Aer = 5`, `Zmin = 0.3`) and
`FallowIrrMngt`; `FieldMngt` in the growing season, `FallowFieldMngt` otherwise.
-/

namespace Aqua

/-- the crop of a season: what the water processes read and what the crop processes read -/
structure CropParams (α : Type) where
  cw : CropW α
  cx : CropX α

/-- `IrrMngt` / `FallowIrrMngt` -/
structure IrrSet (α : Type) where
  irr : IrrParams α
  netIrrSMT : α
  wetSurf : α
  /-- `Schedule[time_step_counter]` -/
  sched : Nat → Option α

/-- one line of the weather table -/
structure Weather (α : Type) where
  tmin : α
  tmax : α
  rain : α
  et0 : α

structure RunCfg (α : Type) where
  clock : Clock.Cfg
  /-- soil, clock flags, water-table flag, reference CO2 (`crop`, `irr`, `netIrrSMT`, `wetSurf`,
  `co2Cur` of this record are overwritten per day) -/
  W0 : WaterParams α
  zGerm : α
  irr : IrrSet α
  fallowIrr : IrrSet α
  fm : FieldMngt α
  fallowFm : FieldMngt α
  /-- `FieldMngt.bund_water` -/
  bundWater : α
  fallowCrop : CropParams α
  seasonCrop : Nat → CropParams α
  /-- `CO2.current_concentration` while the season counter has the given value -/
  co2Cur : Int → α
  weather : Nat → Weather α
  /-- `param_struct.z_gw[t]` -/
  zgw : Nat → α
  /-- `InitCond.thini` -/
  thini : List α
  /-- the state object `_initialize` leaves -/
  init : DayState' α

/-- everything about one simulated day (ghost record: inputs and result) -/
structure DayRec (α : Type) where
  P : DayParams α
  st : DayState' α
  D : DayIn' α
  r : DayResult α

structure RunState (α : Type) where
  /-- `time_step_counter` -/
  t : Nat
  /-- `season_counter` -/
  season : Int
  /-- `model_is_finished` -/
  finished : Bool
  /-- `InitialCondition` -/
  day : DayState' α
  /-- the simulated days so far, newest first (the three daily tables and the summary are
  projections of it: `storageTable`, `fluxTable`, `growthTable`, `summaryTable`) -/
  daysRev : List (DayRec α)

namespace DayRec
variable {α : Type}
/-- the row of `Model/Clock.lean` for this day -/
def clockRow (d : DayRec α) : Clock.Row :=
  { t := d.D.tsc, season := d.D.season, dap := d.r.state.dap, gs := d.D.gs,
    mature := d.r.state.cropMature, dead := d.r.state.cropDead, endc := d.r.endc }
def clockSummary (d : DayRec α) : Option (Int × Nat) := d.r.summary.map (fun x => (x.season, x.tsc))
end DayRec

namespace RunState
variable {α : Type}
def storageTable (s : RunState α) : List (StorageRow α) := s.daysRev.reverse.map (·.r.storage)
def fluxTable (s : RunState α) : List (FluxRow α) := s.daysRev.reverse.map (·.r.flux)
def growthTable (s : RunState α) : List (GrowthRow α) := s.daysRev.reverse.map (·.r.growth)
def summaryTable (s : RunState α) : List (SummaryRow α) := s.daysRev.reverse.filterMap (·.r.summary)

/-- the clock state of `Model/Clock.lean` this state projects to -/
def clockOf (s : RunState α) : Clock.St :=
  { t := s.t, season := s.season, dap := s.day.dap, mature := s.day.cropMature,
    dead := s.day.cropDead, harvestFlag := s.day.harvestFlag, finished := s.finished,
    rowsRev := s.daysRev.map DayRec.clockRow,
    summaryRev := s.daysRev.filterMap DayRec.clockSummary }
end RunState

section
variable {α : Type} [Add α] [Sub α] [Mul α] [Div α] [Neg α] [LT α] [LE α]
  [DecidableLT α] [DecidableLE α] [OfScientific α] [OfNat α 0] [OfNat α 1] [OfNat α 2] [OfNat α 3]
  [OfNat α 4] [OfNat α 5] [OfNat α 8] [OfNat α 9] [OfNat α 10] [OfNat α 14] [OfNat α 20]
  [OfNat α 40] [OfNat α 99] [OfNat α 100] [OfNat α 254] [OfNat α 550] [OfNat α 1000]
  [OfNat α 2000] [OfNat α 25400]

/-- `Crop_.Aer = 5; Crop_.Zmin = 0.3` on the fallow filler crop (the water processes read both
through `CropW.tr`; no crop process reads them off season) -/
def fallowAdjust (c : CropParams α) : CropParams α :=
  { c with cw := { c.cw with tr := { c.cw.tr with aer := 5, zMin := 0.3 } } }

/-- the crop the day uses -/
def cropOf (cfg : RunCfg α) (season : Int) : CropParams α :=
  if 0 ≤ season then cfg.seasonCrop season.toNat else fallowAdjust cfg.fallowCrop

/-- the parameter record of a day (lines 93–129 of `run_single_timestep.py`) -/
def paramsOf (cfg : RunCfg α) (season : Int) (gs : Bool) : DayParams α :=
  let c := cropOf cfg season
  let i := if 0 ≤ season then cfg.irr else cfg.fallowIrr
  { W := { cfg.W0 with crop := c.cw, irr := i.irr, netIrrSMT := i.netIrrSMT,
                        wetSurf := i.wetSurf, co2Cur := cfg.co2Cur season },
    fm := if gs then cfg.fm else cfg.fallowFm,
    zGerm := cfg.zGerm, cx := c.cx }

/-- "Check if growing season is active on current time step":
`planting_date <= CurrentDate and harvest_date > CurrentDate and not crop_mature and not crop_dead` -/
def gsOfDay (ph : Option (Nat × Int)) (t : Nat) (mature dead : Bool) : Bool :=
  match ph with
  | some (p, h) => decide ((p : Int) ≤ t) && decide ((t : Int) < h) && !mature && !dead
  | none => false

/-- `harvest_dates[season_counter] == step_end_time` -/
def lastDayOf (ph : Option (Nat × Int)) (t : Nat) : Bool :=
  match ph with
  | some (_, h) => decide (h = (t : Int) + 1)
  | none => false

/-- forcing and calendar position of the day about to be simulated -/
def dayInOf (cfg : RunCfg α) (s : RunState α) (ph : Option (Nat × Int)) : DayIn' α :=
  let w := cfg.weather s.t
  let i := if 0 ≤ s.season then cfg.irr else cfg.fallowIrr
  { gs := gsOfDay ph s.t s.day.cropMature s.day.cropDead, tsc := s.t, season := s.season,
    rain := w.rain, et0 := w.et0, tmax := w.tmax, tmin := w.tmin,
    zGW := if cfg.W0.waterTable = 1 then cfg.zgw s.t else 0,
    sched := i.sched s.t, lastDay := lastDayOf ph s.t }

/-- `solution_single_time_step` on the run state -/
def solution (F : Fn α) (T : TrigFn α) (cfg : RunCfg α) (s : RunState α)
    (ph : Option (Nat × Int)) : Except String (RunState α) :=
  let D := dayInOf cfg s ph
  let P := paramsOf cfg s.season D.gs
  match fullDay F T P s.day D with
  | .error e => .error e
  | .ok r => .ok { s with day := r.state,
                          daysRev := { P := P, st := s.day, D := D, r := r } :: s.daysRev }

/-- `check_model_is_finished` -/
def checkFinishedR (cfg : RunCfg α) (s : RunState α) : RunState α :=
  { s with finished := (Clock.checkFinished cfg.clock s.clockOf).finished }

/-- surface storage at a season start when the off-season is not simulated:
`min(bund_water, z_bund)` with bunds higher than 0.001 mm, else 0 -/
def resetPondOf (bunds : Bool) (zBund bundWater : α) : α :=
  if bunds = true ∧ 0.001 < zBund then pmin bundWater zBund else 0

def resetPond (cfg : RunCfg α) : α := resetPondOf cfg.fm.bunds cfg.fm.zBund cfg.bundWater

/-- `th = np.copy(thini)` -/
def setTh : List (Cell α) → List α → List (Cell α)
  | x :: xs, v :: vs => { x with th := v } :: setTh xs vs
  | xs, _ => xs

/-- the state part of `reset_initial_conditions`, from what it reads: `sim_off_season`, `thini`,
the surface storage to restore, `crop.CC0`, `crop.HI0` of the season that starts.  `th` and
`surface_storage` are restored only when the off-season is skipped.
Untouched: `hi_ref`, `yield_form`, `stage2`, `w_surf`, `evap_z`, `w_stage_2`, `z_root`,
`th_fc_Adj`, `z_gw`, `wt_in_soil`, `depletion`, `taw`, `YieldPot` (`Model/Reset.lean` says why
none of them can leak into the new season).  `aer_days_comp = np.zeros(int(Soil.nComp))` is
modelled as zeroing the counter of every compartment (`nComp` = number of compartments). -/
def resetStateCore (offSeason : Bool) (thini : List α) (pond0 cc0 hi0 : α) (st : DayState' α) :
    DayState' α :=
  let cells0 := st.cells.map (fun x => { x with aer := 0 })
  { st with
    cells := if offSeason then cells0 else setTh cells0 thini,
    pond := if offSeason then st.pond else pond0,
    ageDays := 0, ageDaysNS := 0, aerDays := 0, irrCum := 0, delayedGdds := 0, delayedCds := 0,
    pctLagPhase := 0, tEarlySen := 0, gddCum := 0, daySubmerged := 0, irrNetCum := 0, dap := 0,
    ePot := 0, tPot := 0,
    preAdj := false, cropMature := false, cropDead := false, germination := false,
    prematSenes := false, harvestFlag := false,
    fPre := 1, fPost := 1, fpostDwn := 1, fpostUpp := 1, fPol := 0, sCor1 := 0, sCor2 := 0,
    growthStage := 0, trRatio := 1, rCor := 1,
    cc := 0, ccAdj := 0, ccNS := 0, ccAdjNS := 0, biomass := 0, biomassNS := 0, hi := 0,
    hiAdj := 0, ccxAct := 0, ccxActNS := 0, ccxW := 0, ccxWNS := 0, ccxEarlySen := 0,
    ccPrev := 0, protectedSeed := false, cc0Adj := cc0, hiFinal := hi0,
    dryYield := 0, freshYield := 0 }

/-- `reset_initial_conditions` (state part) for the crop of the season that starts -/
def resetState (cfg : RunCfg α) (crop : CropParams α) (st : DayState' α) : DayState' α :=
  resetStateCore cfg.clock.offSeason cfg.thini (resetPond cfg) crop.cx.cc.cc0 crop.cx.hi.hi0 st

/-- `update_time`: the clock arithmetic of `Clock.updateTime`; `reset_initial_conditions` exactly
when the season counter advanced -/
def updateTimeR (cfg : RunCfg α) (s : RunState α) : Except String (RunState α) :=
  match Clock.updateTime cfg.clock s.clockOf with
  | .error e => .error e.toString
  | .ok c' =>
    if c'.season = s.season then .ok { s with t := c'.t }
    else .ok { s with t := c'.t, season := c'.season,
                      day := resetState cfg (cfg.seasonCrop c'.season.toNat) s.day }

/-- `_perform_timestep` -/
def performR (F : Fn α) (T : TrigFn α) (cfg : RunCfg α) (s : RunState α) :
    Except String (RunState α) :=
  if s.finished then .error "E:finished" else
  match Clock.seasonInfo cfg.clock s.season with
  | .error e => .error e.toString
  | .ok ph =>
    match solution F T cfg s ph with
    | .error e => .error e
    | .ok s1 => updateTimeR cfg (checkFinishedR cfg s1)

/-- the state after `_initialize` -/
def runInit (cfg : RunCfg α) : Except String (RunState α) :=
  match Clock.init cfg.clock with
  | .error e => .error e.toString
  | .ok c => .ok { t := c.t, season := c.season, finished := c.finished, day := cfg.init,
                   daysRev := [] }

/-- `for i in range(k): _perform_timestep(); if model_is_finished: return` -/
def runStepsR (F : Fn α) (T : TrigFn α) (cfg : RunCfg α) : Nat → RunState α →
    Except String (RunState α)
  | 0, s => .ok s
  | k + 1, s =>
    match performR F T cfg s with
    | .error e => .error e
    | .ok s' => if s'.finished then .ok s' else runStepsR F T cfg k s'

/-- **`run_model(num_steps = k, initialize_model = False)`**; the weather is `cfg.weather` -/
def runModel (F : Fn α) (T : TrigFn α) (cfg : RunCfg α) (k : Nat) (s : RunState α) :
    Except String (RunState α) :=
  if k < 1 then .error "E:numsteps" else runStepsR F T cfg k s

end
end Aqua
