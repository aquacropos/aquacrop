import AquaVerif.Properties.C16
import AquaVerif.Model.CropFull
import AquaVerif.Generated.CropFullTable
import AquaVerif.Proofs.Run
import AquaVerif.Proofs.ResponseMono
import Mathlib.Data.Rat.Cast.Order
/-
The crop-parameter premises of the theorems, tied to the repository's crop catalogue.

**A.  The catalogue satisfies them.**  `catalogue_ok : ∀ c ∈ cropFullTable, CropFullOK c` — every
crop that `crop_params.py` defines (table generated by `harness/translate/cropfull.py`)
satisfies every conjunct of `CropFullOK` (`Model/CropFull.lean`).  The kernel evaluates
`CropFull.RowOK` over the table (`catalogue_rowOK`); `RowOK` collects everything the development
asks of a single row, and the named statements about every row, here and in
`Proofs/CatalogueCrop.lean`, `CatalogueDerived.lean`, `RunTotalCatalogue.lean`, are its conjuncts
(`catalogue_names` and `catalogue_ageMax_sharp` are evaluations of their own).
`RespAgree` is the decidable field-by-field equality of response records in which
`C17.response_table_is_projection_of_full_table` compares this table with `Generated.cropTable`.
Four premises found in the library are *violated* by some catalogue crops.  `RowOK` records for each
exactly which crops; `catalogue_exceptions` states it for the first three, and for `DevEndOK`
(Barley, BarleyGDD, PaddyRice, PaddyRiceGDD) see `Proofs/CatalogueDerived.lean`:

  * `LeafyOK`  (`CropType = 1 → 0 ≤ dHI0`, `HiPre.leafy`)      — SugarCane (leafy, `dHI0 = -9`);
  * `LagLe3`   (`LagAer ≤ 3`, `aerationStress_range_of_lag_le_three`) — the three rice crops
    (`LagAer = 1e10`, `Aer = -1e10`: aeration stress switched off);
  * `YldWCOK`  (`YldWC ≠ 0`, `C06.fresh_yield_times_fraction`)             — PotatoLocalGDD, localpaddy,
    MaizeChampionGDD, Cassava (no `YldWC`: the default `0` makes `FreshYield` divide by zero).

**B.  Bridging lemmas.**  For an arbitrary linearly ordered field `α`, the parameter records of the
process models are built from a `c : CropFull` by the cast `ℚ → α` (`CropFull.rdCrop`, `.ccCrop`,
`.hiCrop`, `.hikCrop`, `.bioCrop`, `.trCrop`, `.cropW`, `.cropX`, `.cropParams`); what
initialisation *derives* (crop calendar, `HIGC`, `dHILinear`, `fCO2`, … — out of scope of the raw
table) enters through the argument `K : CropDerived α`, and where a premise structure constrains a
derived value that constraint stays a hypothesis of the lemma.  From `CropFullOK c`:
`RdCrop.WF`, `RootPre`, `HiCrop.BuildUp`, `HiCrop.PostOK`, `HiPre`, `ResetCropOK`, `CcParams`,
`CcCropPre`, the three biomass premises, `DayCropOK`, the sink-term premises of `DayTrPre` /
`TrLoopP.NonnegOK`, `LagAerIntegral`, `CO2Params`, `ResponseOK` (C17), and the C16 "defined"
statements for the option switches.

**C.**  The sink-term premise for every catalogue crop, through the bridge; and the bridge at `ℚ`
for Wheat (non-vacuity).

The one premise involving `exp` that is a property of raw parameters, `CcParams.step`
(`CC0·exp(CGC·dt) ≤ CCx`), is derived from the rational condition `CC0 ≤ CCx·(1 − CGC·dtMax)`
under the additional law `ExpGeomLaw F : exp x · (1 − x) ≤ 1` on `[0,1)` (true of the real
exponential: `Proofs/CropFullReal.lean`).
-/

set_option linter.unusedSectionVars false
namespace Aqua
open Aqua.Generated

/-! ## A. the catalogue -/

/-! The raw-parameter premises beyond `CropFullOK`: `RunOK` for the closed run theorems
(`Proofs/CatalogueCrop.lean`), `CalOK`, `DevEndOK`, `HigcOK` for the initialisation routines
(`Proofs/CatalogueDerived.lean`). -/

/-- the bound on the days since maximum canopy (`age_days`) the catalogue is checked for -/
def ageMax : ℚ := 358

/-- **raw-parameter premises of the closed run theorems that are not part of `CropFullOK`**
1. `0 < Zmin`     — `CropOK.zminPos`, `CropOK.rdPos` (`round(max(z_root, Zmin), 2) > 0`)
2. `0 ≤ Kcb`      — `TrCropOK.kcb`
3. `0 ≤ fage`     — `TrCropOK.fage`
4. `(ageMax − 5)·fage/100·CCx ≤ Kcb` — `TrCropOK.aged` for `A = ageMax` -/
def CropFull.RunOK (c : CropFull) : Prop :=
  0 < c.zmin ∧ 0 ≤ c.kcb ∧ 0 ≤ c.fage ∧ (ageMax - 5) * (c.fage / 100) * c.ccx ≤ c.kcb

instance (c : CropFull) : Decidable (CropFull.RunOK c) := by unfold CropFull.RunOK; infer_instance

/-- **calendar inputs** (all decidable; `Rat.den = 1`: the value is a whole number)
calendar-day crops (`CalendarType = 1`):
 1. `HIstartCD`, `SenescenceCD`, `EmergenceCD` whole numbers, `0 ≤ EmergenceCD`
 2. `CC0 ≤ 0.1`, `0.008 ≤ CCx`            — `Emergence ≤ Canopy10Pct ≤ MaxCanopy`
 3. determinant: `0 ≤ FloweringCD`; otherwise `HIstartCD ≤ SenescenceCD` — `HIstartCD ≤ CanopyDevEndCD`
thermal-time crops (`CalendarType = 2`):
 4. `HIstart`, `Maturity`, `Senescence` whole numbers
 5. `0 ≤ YldForm`, `HIstart + YldForm ≤ Maturity`  — `0 ≤ YldFormCD`
 6. determinant: `0 ≤ Flowering`, `HIstart + Flowering/2 ≤ Maturity`;
    otherwise `HIstart ≤ Senescence ≤ Maturity`     — `HIstartCD ≤ CanopyDevEndCD` -/
def CropFull.CalOK (c : CropFull) : Prop :=
  (c.calendarType = 1 →
    c.hiStartCD.den = 1 ∧ c.senescenceCD.den = 1 ∧ c.emergenceCD.den = 1 ∧ 0 ≤ c.emergenceCD ∧
    c.cc0 ≤ 0.1 ∧ 0.008 ≤ c.ccx ∧ (c.determinant = 1 → 0 ≤ c.floweringCD) ∧
    (c.determinant ≠ 1 → c.hiStartCD ≤ c.senescenceCD)) ∧
  (c.calendarType = 2 →
    c.hiStart.den = 1 ∧ c.maturity.den = 1 ∧ c.senescence.den = 1 ∧ 0 ≤ c.yldForm ∧
    c.hiStart + c.yldForm ≤ c.maturity ∧
    (c.determinant = 1 → 0 ≤ c.flowering ∧ c.hiStart + c.flowering / 2 ≤ c.maturity) ∧
    (c.determinant ≠ 1 → c.hiStart ≤ c.senescence ∧ c.senescence ≤ c.maturity))

/-- `CanopyDevEnd ≤ Senescence` on raw parameters: for a determinant crop
`HIstart + Flowering/2 ≤ Senescence` in the crop's calendar mode (a non-determinant crop has
`CanopyDevEnd = Senescence`) -/
def CropFull.DevEndOK (c : CropFull) : Prop :=
  c.determinant = 1 →
    (c.calendarType = 1 → c.hiStartCD + c.floweringCD / 2 ≤ c.senescenceCD) ∧
    (c.calendarType = 2 → c.hiStart + c.flowering / 2 ≤ c.senescence)

instance (c : CropFull) : Decidable (CropFull.CalOK c) := by unfold CropFull.CalOK; infer_instance
instance (c : CropFull) : Decidable (CropFull.DevEndOK c) := by
  unfold CropFull.DevEndOK; infer_instance

/-- fuel for the `calculate_HIGC` loop (steps of `0.001` in `HIGC`) -/
def higcFuel : Nat := 10000000

/-- for a calendar-day crop `YldFormCD` is a whole number of days within the fuel, and the
logistic build-up curve reaches `0.98·HI0` within the fuel (`calculateHIGC_isSome`) -/
def CropFull.HigcOK (c : CropFull) : Prop :=
  c.calendarType = 1 → c.yldFormCD.den = 1 ∧ c.yldFormCD ≤ (higcFuel : ℚ) ∧
    49 * (c.hi0 - c.hiIni) < c.hiIni * (1 + (0.001 + (higcFuel : ℚ) * 0.001) * c.yldFormCD)

instance (c : CropFull) : Decidable (CropFull.HigcOK c) := by unfold CropFull.HigcOK; infer_instance

/-- **everything the development asks of a row of the generated crop table**: the premises that
hold for every crop, and for each premise that does not, exactly which crops violate it -/
def CropFull.RowOK (c : CropFull) : Prop :=
  CropFullOK c ∧ c.RunOK ∧ c.CalOK ∧ c.HigcOK ∧ 0 < c.sxBot ∧
  (c.LeafyOK ↔ c.name ∉ ["SugarCane"]) ∧
  (c.LagLe3 ↔ c.name ∉ ["PaddyRice", "PaddyRiceGDD", "localpaddy"]) ∧
  (c.YldWCOK ↔ c.name ∉ ["PotatoLocalGDD", "localpaddy", "MaizeChampionGDD", "Cassava"]) ∧
  (c.DevEndOK ↔ c.name ∉ ["Barley", "BarleyGDD", "PaddyRice", "PaddyRiceGDD"]) ∧
  (c.name ∈ ["Barley", "BarleyGDD", "PaddyRice", "PaddyRiceGDD"] →
    (c.calendarType = 1 → c.senescenceCD + 1 ≤ c.hiStartCD + c.floweringCD / 2) ∧
    (c.calendarType = 2 → c.senescence + 1 ≤ c.hiStart + c.flowering / 2)) ∧
  (c.calendarType = 1 → c.name ∉ ["Barley", "PaddyRice"] → c.DevEndOK)

instance (c : CropFull) : Decidable c.RowOK := by unfold CropFull.RowOK CropFullOK; infer_instance

theorem catalogue_rowOK : ∀ c ∈ cropFullTable, c.RowOK := by decide +kernel

theorem CropFullOK.root {c : CropFull} (h : CropFullOK c) : c.RootOK := h.1
theorem CropFullOK.temp {c : CropFull} (h : CropFullOK c) : c.TempOK := h.2.1
theorem CropFullOK.canopy {c : CropFull} (h : CropFullOK c) : c.CanopyOK := h.2.2.1
theorem CropFullOK.hi {c : CropFull} (h : CropFullOK c) : c.HiOK := h.2.2.2.1
theorem CropFullOK.stress {c : CropFull} (h : CropFullOK c) : c.StressOK := h.2.2.2.2.1
theorem CropFullOK.switch {c : CropFull} (h : CropFullOK c) : c.SwitchOK := h.2.2.2.2.2.1
theorem CropFullOK.lag {c : CropFull} (h : CropFullOK c) : c.LagOK := h.2.2.2.2.2.2.1
theorem CropFullOK.bio {c : CropFull} (h : CropFullOK c) : c.BioOK := h.2.2.2.2.2.2.2.1
theorem CropFullOK.co2 {c : CropFull} (h : CropFullOK c) : c.CO2OK := h.2.2.2.2.2.2.2.2

theorem catalogue_ok : ∀ c ∈ cropFullTable, CropFullOK c := fun c hc =>
  (catalogue_rowOK c hc).1

theorem catalogue_ok' : ∀ c ∈ cropFullTable, CropFullOK c := catalogue_ok

theorem catalogue_exceptions : ∀ c ∈ cropFullTable,
    (c.LeafyOK ↔ c.name ∉ ["SugarCane"]) ∧
    (c.LagLe3 ↔ c.name ∉ ["PaddyRice", "PaddyRiceGDD", "localpaddy"]) ∧
    (c.YldWCOK ↔ c.name ∉ ["PotatoLocalGDD", "localpaddy", "MaizeChampionGDD", "Cassava"]) :=
  fun c hc =>
    have h := (catalogue_rowOK c hc).2.2.2.2.2
    ⟨h.1, h.2.1, h.2.2.1⟩

theorem catalogue_names : cropFullTable.map (·.name) = cropFullNames ∧ cropFullNames.Nodup := by
  decide +kernel

theorem catalogue_ok_strict : ∀ c ∈ cropFullTable,
    c.name ∉ ["SugarCane", "PaddyRice", "PaddyRiceGDD", "localpaddy", "PotatoLocalGDD",
      "MaizeChampionGDD", "Cassava"] →
    CropFullOK c ∧ c.LeafyOK ∧ c.LagLe3 ∧ c.YldWCOK := by
  intro c hc hn
  obtain ⟨h1, h2, h3⟩ := catalogue_exceptions c hc
  simp only [List.mem_cons, List.not_mem_nil, or_false, not_or] at h1 h2 h3 hn
  obtain ⟨n1, n2, n3, n4, n5, n6, n7⟩ := hn
  exact ⟨catalogue_ok c hc, h1.mpr n1, h2.mpr ⟨n2, n3, n4⟩, h3.mpr ⟨n5, n4, n6, n7⟩⟩

/-- `a = b` field by field (the records hold functions `Fin 4 → ℚ`) -/
def RespAgree (a b : CropResp) : Prop :=
  a.name = b.name ∧ (∀ i, a.pUp i = b.pUp i) ∧ (∀ i, a.pLo i = b.pLo i) ∧
  (∀ i, a.fshapeW i = b.fshapeW i) ∧ a.tbase = b.tbase ∧ a.tupp = b.tupp ∧ a.cc0 = b.cc0 ∧
  a.ccx = b.ccx ∧ a.cgc = b.cgc ∧ a.cdc = b.cdc ∧ a.beta = b.beta ∧ a.fshapeB = b.fshapeB ∧
  a.bsted = b.bsted ∧ a.bface = b.bface ∧ a.fsink = b.fsink

instance (a b : CropResp) : Decidable (RespAgree a b) := by unfold RespAgree; infer_instance

/-! ## B. bridging to the premise structures at an ordered field -/

/-- `exp x ≤ 1/(1 − x)` on `[0, 1)`, in product form -/
structure ExpGeomLaw {α : Type} [Sub α] [Mul α] [LE α] [LT α] [OfNat α 0] [OfNat α 1] (F : Fn α) :
    Prop where
  exp_geom : ∀ x, 0 ≤ x → x < 1 → F.exp x * (1 - x) ≤ 1

/-- what initialisation derives for a crop and the process models read: the crop calendar in the
crop's calendar mode and in calendar days, the harvest-index build-up coefficients, the CO2
factor; `zMinNp`: `Crop.Zmin` is a numpy scalar (see `CropX.zMinNp`) -/
structure CropDerived (α : Type) where
  emergence : α
  maxRooting : α
  senescence : α
  maturity : α
  canopyDevEnd : α
  canopy10 : α
  maxCanopy : α
  maxCanopyCD : α
  hiStartCD : α
  hiEndCD : α
  yldFormCD : α
  floweringCD : α
  canopyDevEndCD : α
  hiGC : α
  tLinSwitch : α
  dHILinear : α
  fco2 : α
  zMinNp : Bool

variable {α : Type} [Field α] [LinearOrder α] [IsStrictOrderedRing α]

namespace CropFull

def vec (v : Fin 4 → ℚ) : Fin 4 → α := fun i => ((v i : ℚ) : α)

def rdCrop (c : CropFull) (K : CropDerived α) : RdCrop α :=
  { calendarType := c.calendarType, zmin := (c.zmin : α), zmax := (c.zmax : α),
    pctZmin := (c.pctZmin : α), emergence := K.emergence, maxRooting := K.maxRooting,
    fshapeR := (c.fshapeR : α), fshapeEx := (c.fshapeEx : α), pUp1 := (c.pUp 1 : α),
    fshapeW1 := (c.fshapeW 1 : α), sxTop := (c.sxTop : α), sxBot := (c.sxBot : α) }

/-- `canopy_cover`'s parameters (`CGC`, `CDC` of the calendar mode the crop runs in) -/
def ccCrop (c : CropFull) (K : CropDerived α) : CcCrop α :=
  { calendarType := c.calendarType, emergence := K.emergence, maturity := K.maturity,
    canopyDevEnd := K.canopyDevEnd, senescence := K.senescence, cc0 := (c.cc0 : α),
    ccx := (c.ccx : α), cgc := (c.cgcUsed : α), cdc := (c.cdcUsed : α), zMin := (c.zmin : α),
    aer := (c.aer : α), pUp := vec c.pUp, pLo := vec c.pLo, fshW := vec c.fshapeW,
    etAdj := decide (c.etAdj = 1), beta := (c.beta : α) }

def hiCrop (c : CropFull) (K : CropDerived α) : HiCrop α :=
  { cropType := c.cropType, hiStartCD := K.hiStartCD, hiEndCD := K.hiEndCD,
    yldFormCD := K.yldFormCD, floweringCD := K.floweringCD, canopyDevEndCD := K.canopyDevEndCD,
    hi0 := (c.hi0 : α), hiIni := (c.hiIni : α), hiGC := K.hiGC, tLinSwitch := K.tLinSwitch,
    dHILinear := K.dHILinear, dHIpre := (c.dHIpre : α), aHI := (c.aHI : α), bHI := (c.bHI : α),
    dHI0 := (c.dHI0 : α), exc := (c.exc : α), ccMin := (c.ccMin : α) }

/-- the stress parameters `harvest_index` passes on (all raw) -/
def hikCrop (c : CropFull) : HiStressCrop α :=
  { zMin := (c.zmin : α), aer := (c.aer : α), pUp := vec c.pUp, pLo := vec c.pLo,
    etAdj := decide (c.etAdj = 1), beta := (c.beta : α), fshapeW := vec c.fshapeW,
    polHeatStress := c.polHeatStress, polColdStress := c.polColdStress,
    tmaxUp := (c.tmaxUp : α), tmaxLo := (c.tmaxLo : α), tminUp := (c.tminUp : α),
    tminLo := (c.tminLo : α), fshapeB := (c.fshapeB : α) }

def bioCrop (c : CropFull) (K : CropDerived α) : BioCrop α :=
  { cropType := c.cropType, determinant := c.determinant, hiStartCD := K.hiStartCD,
    yldFormCD := K.yldFormCD, wp := (c.wp : α), wpy := (c.wpy : α), fco2 := K.fco2 }

def trCrop (c : CropFull) (K : CropDerived α) : TrCrop α :=
  { maxCanopyCD := K.maxCanopyCD, kcb := (c.kcb : α), fage := (c.fage : α), aTr := (c.aTr : α),
    trColdStress := c.trColdStress, gddUp := (c.gddUp : α), gddLo := (c.gddLo : α),
    lagAer := (c.lagAer : α), zMin := (c.zmin : α), aer := (c.aer : α), pUp := vec c.pUp,
    pLo := vec c.pLo, fshW := vec c.fshapeW, etAdj := decide (c.etAdj = 1), beta := (c.beta : α),
    sxTop := (c.sxTop : α), sxBot := (c.sxBot : α) }

def cropW (c : CropFull) (K : CropDerived α) : CropW α :=
  { tr := c.trCrop K, calendarType := c.calendarType, senescence := K.senescence }

def cropX (c : CropFull) (K : CropDerived α) : CropX α :=
  { zMinNp := K.zMinNp, gddMethod := c.gddMethod, tupp := (c.tupp : α), tbase := (c.tbase : α),
    rd := c.rdCrop K, germThr := (c.germThr : α), sown := decide (c.plantMethod = 1),
    canopy10 := K.canopy10, maxCanopy := K.maxCanopy, cc := c.ccCrop K, hi := c.hiCrop K,
    hik := c.hikCrop, bio := c.bioCrop K, yldWC := (c.yldWC : α) }

def cropParams (c : CropFull) (K : CropDerived α) : CropParams α :=
  { cw := c.cropW K, cx := c.cropX K }

end CropFull

section bridge
variable {c : CropFull} {K : CropDerived α}

/-! ### the conjuncts, cast -/

theorem CropFull.RootOK.cast (h : CropFull.RootOK c) :
    (0 : α) ≤ (c.zmin : α) ∧ (c.zmin : α) ≤ (c.zmax : α) ∧ (c.pctZmin : α) ≤ 100 ∧
    (0 : α) < (c.fshapeR : α) ∧ (c.pUp 1 : α) < 1 ∧ (c.fshapeW 1 : α) ≠ 0 ∧
    (0 : α) ≤ (c.sxTop : α) ∧ (0 : α) ≤ (c.sxBot : α) := by
  unfold CropFull.RootOK at h
  exact_mod_cast h

theorem CropFull.TempOK.cast (h : CropFull.TempOK c) : (c.tbase : α) ≤ (c.tupp : α) := by
  unfold CropFull.TempOK at h; exact_mod_cast h

theorem dtMax_cast (c : CropFull) :
    (c.dtMax : α) = if c.calendarType = 1 then 1 else (c.tupp : α) - (c.tbase : α) := by
  unfold CropFull.dtMax
  split_ifs
  · exact Rat.cast_one
  · exact Rat.cast_sub _ _

theorem CropFull.CanopyOK.cast (h : CropFull.CanopyOK c) :
    (0 : α) < (c.cc0 : α) ∧ (0 : α) < (c.ccx : α) ∧ (c.ccx : α) ≤ 1 ∧ (0 : α) < (c.cgcUsed : α) ∧
    (0 : α) ≤ (c.cdcUsed : α) ∧ (c.cgcUsed : α) * (c.dtMax : α) < 1 ∧
    (c.cc0 : α) ≤ (c.ccx : α) * (1 - (c.cgcUsed : α) * (c.dtMax : α)) := by
  obtain ⟨_, _, h⟩ := h
  exact_mod_cast h

theorem CropFull.HiOK.cast (h : CropFull.HiOK c) :
    (0 : α) < (c.hiIni : α) ∧ (c.hiIni : α) < (c.hi0 : α) ∧
    ((0 : α) < (c.bHI : α) → 1 ≤ (c.bHI : α)) ∧ (0 : α) ≤ 1 + (c.dHI0 : α) / 100 ∧
    (c.calendarType = 1 → (0 : α) ≤ (c.yldFormCD : α)) := by
  obtain ⟨_, h⟩ := h
  exact_mod_cast h

theorem CropFull.StressOK.cast (h : CropFull.StressOK c) :
    (∀ i : Fin 4, (CropFull.vec c.pUp i : α) ≤ CropFull.vec c.pLo i) ∧
    (∀ i : Fin 4, (CropFull.vec c.pLo i : α) ≤ 1) ∧
    (∀ i : Fin 4, (0 : α) ≤ CropFull.vec c.pUp i) ∧
    (∀ i : Fin 4, i.val < 3 → (CropFull.vec c.fshapeW i : α) ≠ 0) ∧
    (0 : α) ≤ (c.beta : α) ∧ (c.beta : α) ≤ 100 := by
  unfold CropFull.StressOK at h
  unfold CropFull.vec
  exact_mod_cast h

theorem CropFull.BioOK.cast (h : CropFull.BioOK c) :
    (0 : α) ≤ (c.wpy : α) ∧ (c.wpy : α) ≤ 100 ∧ (0 : α) ≤ (c.wp : α) := by
  unfold CropFull.BioOK at h
  exact_mod_cast h

/-! ### roots -/

theorem rdCrop_wf (h : CropFullOK c) : (c.rdCrop K).WF := by
  obtain ⟨h1, h2, h3, h4, _⟩ := (h.root.cast (α := α))
  exact ⟨h1, h2, h3, h4⟩

theorem rootPre_of_ok {F : Fn α} {P : DayParams α} {cells : List (Cell α)}
    (hP : P.cx = c.cropX K) (h : CropFullOK c) (hpow : PowLaws F) (hexp : ExpOrdLaws F)
    (hskip : SkipOK F (c.zmin : α))
    (hcells : ∀ x ∈ cells, 0 < x.c.dz ∧ 0 ≤ x.c.pen ∧ x.c.pen ≤ 100 ∧ x.c.thWP < x.c.thFC) :
    RootPre F P cells := by
  obtain ⟨_, _, _, _, h5, h6, _⟩ := (h.root.cast (α := α))
  obtain ⟨W, fm, zg, cx⟩ := P
  cases hP
  exact ⟨hpow, hexp, rdCrop_wf h, h.temp.cast, h5, h6, hskip, hcells⟩

theorem trCrop_sx_nonneg (h : CropFullOK c) :
    0 ≤ (c.trCrop K).sxTop ∧ 0 ≤ (c.trCrop K).sxBot := by
  obtain ⟨_, _, _, _, _, _, h7, h8⟩ := (h.root.cast (α := α))
  exact ⟨h7, h8⟩

/-! ### aeration lag -/

/-- `LagAer` is a whole number: a day counter below it is at most `LagAer − 1` -/
theorem lagAer_succ_le (h : CropFull.LagOK c) (n : ℕ) (hn : (n : α) < (c.lagAer : α)) :
    (n : α) + 1 ≤ (c.lagAer : α) := by
  have e : c.lagAer = ((c.lagAer.num.toNat : ℕ) : ℚ) := by
    have e2 : ((c.lagAer.num.toNat : ℕ) : ℤ) = c.lagAer.num :=
      Int.toNat_of_nonneg (Rat.num_nonneg.mpr h.2)
    rw [← Rat.coe_int_num_of_den_eq_one h.1]
    exact_mod_cast e2.symm
  rw [e, Rat.cast_natCast] at hn ⊢
  rw [← Nat.cast_succ]
  exact Nat.cast_le.mpr (Nat.succ_le_of_lt (Nat.cast_lt.mp hn))

theorem lagAerIntegral_of_ok {W : WaterParams α} (hW : W.crop.tr.lagAer = (c.lagAer : α))
    (h : CropFullOK c) : LagAerIntegral W := by
  intro n hn
  rw [hW, natNum_eq_cast] at *
  exact lagAer_succ_le h.lag n hn

theorem lagAer_le_three (h : CropFull.LagLe3 c) : (c.trCrop K).lagAer ≤ 3 := by
  show ((c.lagAer : ℚ) : α) ≤ 3
  unfold CropFull.LagLe3 at h
  exact_mod_cast h

/-! ### harvest index -/

theorem hiCrop_buildUp (h : CropFullOK c) (hgc : 0 ≤ K.hiGC) (hlin : 0 ≤ K.dHILinear) :
    (c.hiCrop K).BuildUp := by
  obtain ⟨h1, h2, _⟩ := (h.hi.cast (α := α))
  exact ⟨h.hi.1, h1, h2, hgc, hlin⟩

theorem hiCrop_postOK (h : CropFullOK c) (h1 : K.hiStartCD ≤ K.canopyDevEndCD)
    (h2 : 0 ≤ K.yldFormCD) : (c.hiCrop K).PostOK := by
  obtain ⟨_, _, h3, _⟩ := (h.hi.cast (α := α))
  exact ⟨h1, h2, h3⟩

theorem yldFormCD_nonneg (h : CropFullOK c) (hc : c.calendarType = 1) :
    (0 : α) ≤ (c.yldFormCD : α) :=
  (h.hi.cast (α := α)).2.2.2.2 hc

theorem hiCrop_leafy (h : CropFull.LeafyOK c) : (c.hiCrop K).cropType = 1 → 0 ≤ (c.hiCrop K).dHI0 := by
  intro h1
  show (0 : α) ≤ ((c.dHI0 : ℚ) : α)
  exact_mod_cast h h1

/-- `hord` (`HiPre.ord`, the thresholds as used) involves `log10` when `ETadj = 1` and stays a
hypothesis; over ℝ it follows from the catalogue too (`hiPre_ord_real`, `Proofs/CropFullReal.lean`) -/
theorem hiPre_of_ok {F : Fn α} {T : TrigFn α} {P : DayParams α} {D : DayIn' α}
    (hP : P.cx = c.cropX K) (h : CropFullOK c) (hl : CropFull.LeafyOK c)
    (hexp : ExpOrdLaws F) (hsin : SinLaw T) (hpow : PowNonneg F)
    (hgc : 0 ≤ K.hiGC) (hlin : 0 ≤ K.dHILinear) (h1 : K.hiStartCD ≤ K.canopyDevEndCD)
    (h2 : 0 ≤ K.yldFormCD)
    (hord : ∀ tes i, wsUp F (c.hikCrop (α := α)).pUp (c.hikCrop (α := α)).etAdj
        (c.hikCrop (α := α)).beta tes D.et0 true i ≤
      wsLo F (c.hikCrop (α := α)).pLo (c.hikCrop (α := α)).etAdj D.et0 i) :
    HiPre F T P D := by
  obtain ⟨_, _, _, h4, _⟩ := (h.hi.cast (α := α))
  obtain ⟨_, _, _, s4, _⟩ := (h.stress.cast (α := α))
  obtain ⟨W, fm, zg, cx⟩ := P
  cases hP
  exact ⟨hexp, hsin, hpow, hiCrop_postOK h h1 h2, hiCrop_buildUp h hgc hlin, h.temp.cast, hord, s4,
    h4, hiCrop_leafy hl⟩

theorem resetCropOK_of_ok (h : CropFullOK c) : ResetCropOK (c.cropParams K) := by
  obtain ⟨c1, c2, _⟩ := (h.canopy.cast (α := α))
  obtain ⟨i1, i2, _⟩ := (h.hi.cast (α := α))
  refine ⟨c1.le, c2.le, (lt_trans i1 i2).le, ?_⟩
  show (-0.004 : α) ≤ ((c.hiIni : ℚ) : α)
  have : (-0.004 : α) ≤ 0 := by norm_num
  exact le_trans this i1.le

/-! ### canopy -/

/-- growth from `cc0` over a step `x ≤ m < 1` stays below `ccx` when `cc0 ≤ ccx·(1 − m)`:
`exp x ≤ exp m ≤ 1/(1 − m)` -/
theorem exp_growth_le {F : Fn α} (hF : ExpOrdLaws F) (hG : ExpGeomLaw F) {cc0 ccx x m : α}
    (h0 : 0 ≤ cc0) (hx : 0 ≤ ccx) (hx0 : 0 ≤ x) (hxm : x ≤ m) (hm1 : m < 1)
    (h : cc0 ≤ ccx * (1 - m)) : cc0 * F.exp x ≤ ccx :=
  calc cc0 * F.exp x ≤ cc0 * F.exp m := mul_le_mul_of_nonneg_left (hF.exp_le hxm) h0
    _ ≤ (ccx * (1 - m)) * F.exp m := mul_le_mul_of_nonneg_right h (hF.exp_pos m).le
    _ = ccx * (F.exp m * (1 - m)) := by rw [mul_assoc, mul_comm (1 - m)]
    _ ≤ ccx * 1 := mul_le_mul_of_nonneg_left (hG.exp_geom m (hx0.trans hxm) hm1) hx
    _ = ccx := mul_one _

theorem ccParams_of_ok {F : Fn α} (h : CropFullOK c) (hF : ExpOrdLaws F) (hG : ExpGeomLaw F)
    {dt : α} (h0 : 0 ≤ dt) (h1 : dt ≤ (c.dtMax : α)) : CcParams F (c.ccCrop K) dt := by
  obtain ⟨c1, c2, _, c4, c5, c6, c7⟩ := (h.canopy.cast (α := α))
  exact ⟨c1.le, c5, h0, exp_growth_le hF hG c1.le c2.le (mul_nonneg c4.le h0)
    (mul_le_mul_of_nonneg_left h1 c4.le) c6 c7⟩

theorem ccStep_of_ok {F : Fn α} (h : CropFullOK c) (hF : ExpOrdLaws F) (hG : ExpGeomLaw F) (dt : α)
    (d1 : c.calendarType = 1 → dt = 1)
    (d2 : c.calendarType = 2 → 0 ≤ dt ∧ dt ≤ (c.tupp : α) - (c.tbase : α)) :
    CcParams F (c.ccCrop K) dt := by
  rcases h.canopy.2.1 with hc | hc
  · have e : dt = 1 := d1 hc
    subst e
    exact ccParams_of_ok h hF hG zero_le_one (by rw [dtMax_cast, if_pos hc])
  · obtain ⟨a, b⟩ := d2 hc
    have hne : ¬ c.calendarType = 1 := by omega
    exact ccParams_of_ok h hF hG a (by rw [dtMax_cast, if_neg hne]; exact b)

theorem ccCropPre_of_ok {F : Fn α} {P : DayParams α} (hP : P.cx = c.cropX K) (h : CropFullOK c)
    (hF : ExpOrdLaws F) (hG : ExpGeomLaw F) : CcCropPre F P := by
  obtain ⟨_, c2, _⟩ := (h.canopy.cast (α := α))
  have ht : (c.tbase : α) ≤ (c.tupp : α) := h.temp.cast
  refine ⟨hF, ?_, ?_, ?_⟩
  · rw [hP]; exact c2.le
  · rw [hP]; exact ht
  · rw [hP]
    exact ccStep_of_ok h hF hG

/-! ### biomass -/

theorem bioCrop_premises (h : CropFullOK c) (hf : 0 ≤ K.fco2) :
    0 ≤ (c.bioCrop K).wpy ∧ (c.bioCrop K).wpy ≤ 100 ∧ 0 ≤ (c.bioCrop K).wp * (c.bioCrop K).fco2 := by
  obtain ⟨b1, b2, b3⟩ := (h.bio.cast (α := α))
  exact ⟨b1, b2, mul_nonneg b3 hf⟩

theorem yldWC_ne_zero (h : CropFull.YldWCOK c) : (c.cropX K).yldWC ≠ 0 := by
  show ((c.yldWC : ℚ) : α) ≠ 0
  unfold CropFull.YldWCOK at h
  exact_mod_cast h

/-! ### one simulated day of a run -/

/-- the parameter premises of `DayCropOK` come from the catalogue; left are the laws, the derived
values (`K`), the soil premises and the four state-dependent hypotheses of `fullDay_cropInv`
(`hrw hsw htr het`) -/
theorem dayCropOK_of_ok {F : Fn α} {T : TrigFn α} {d : DayRec α}
    (hP : d.P.cx = c.cropX K) (h : CropFullOK c) (hl : CropFull.LeafyOK c)
    (hexp : ExpOrdLaws F) (hgeo : ExpGeomLaw F) (hpw : PowLaws F) (hpn : PowNonneg F)
    (hsin : SinLaw T) (hskip : SkipOK F (c.zmin : α))
    (hcells : ∀ x ∈ d.st.cells, 0 < x.c.dz ∧ 0 ≤ x.c.pen ∧ x.c.pen ≤ 100 ∧ x.c.thWP < x.c.thFC)
    (hgc : 0 ≤ K.hiGC) (hlin : 0 ≤ K.dHILinear) (h1 : K.hiStartCD ≤ K.canopyDevEndCD)
    (h2 : 0 ≤ K.yldFormCD) (hf : 0 ≤ K.fco2)
    (hord : ∀ tes i, wsUp F (c.hikCrop (α := α)).pUp (c.hikCrop (α := α)).etAdj
        (c.hikCrop (α := α)).beta tes d.D.et0 true i ≤
      wsLo F (c.hikCrop (α := α)).pLo (c.hikCrop (α := α)).etAdj d.D.et0 i)
    (hrw : Rewatering d.P d.st d.D d.r.trace → d.r.state.ccxAct ≤ d.P.cx.cc.ccx)
    (hsw : d.D.gs = true → 0 < d.r.state.hiRef →
      BioSwitchOK d.P.cx.bio (natNum d.r.growth.dap) d.r.state.delayedCds d.r.state.pctLagPhase)
    (htr : d.D.gs = true → 0 ≤ d.r.flux.tr ∧ d.r.flux.tr ≤ d.r.water.trPotNS)
    (het : d.D.gs = true → 0 < d.D.et0) :
    DayCropOK F T d := by
  obtain ⟨b1, b2, b3⟩ := bioCrop_premises (K := K) h hf
  refine ⟨ccCropPre_of_ok hP h hexp hgeo, rootPre_of_ok hP h hpw hexp hskip hcells,
    hiPre_of_ok hP h hl hexp hsin hpn hgc hlin h1 h2 hord, ?_, ?_, ?_, hrw, hsw, htr, het⟩
  · rw [hP]; exact b1
  · rw [hP]; exact b2
  · rw [hP]; exact b3

/-! ### CO2, C17 -/

theorem co2Ref_cast : ((co2RefDefault : ℚ) : α) = 369.41 := by
  unfold co2RefDefault; norm_num

theorem co2Params_of_ok (h : CropFullOK c) :
    CO2Params (369.41 : α) (c.bsted : α) (c.bface : α) (c.fsink : α) := by
  obtain ⟨_, _, g3, g4, g5⟩ := h.co2
  unfold CropFull.co2g at g4 g5
  refine ⟨by norm_num, by norm_num, by exact_mod_cast g3, by exact_mod_cast g4, ?_⟩
  rw [← co2Ref_cast]
  exact_mod_cast g5

theorem responseOK_of_ok (h : CropFullOK c) : ResponseOK c.toResp := by
  obtain ⟨_, ht, ⟨_, _, c3, c4, c5, c6, c7, _⟩, _, ⟨s1, s2, _, s4, s5, s6⟩, ⟨w1, _⟩, _, _,
    ⟨g1, g2, g3, g4, g5⟩⟩ := h
  exact ⟨s1, s2, s4, ht, c3, c4, c5, c6, c7, s5, s6, w1, g1, g2, g3, g4, g5⟩

/-! ### option switches (C16) -/

theorem gdd_defined (h : CropFullOK c) (tmax tmin : α) :
    (growingDegreeDay (c.cropX K).gddMethod (c.cropX K).tupp (c.cropX K).tbase tmax tmin).isSome :=
  (C16.growing_degree_day_defined_iff _ _ _ _ _).mpr h.switch.2.2.2.2.2.1

theorem temperatureStress_defined (h : CropFullOK c) (F : Fn α) (tmax tmin : α) :
    (temperatureStress F (c.hikCrop (α := α)).polHeatStress (c.hikCrop (α := α)).polColdStress
      (c.hikCrop (α := α)).tmaxUp (c.hikCrop (α := α)).tmaxLo (c.hikCrop (α := α)).tminUp
      (c.hikCrop (α := α)).tminLo (c.hikCrop (α := α)).fshapeB tmax tmin).isSome :=
  (C16.temperature_stress_defined_iff F _ _ _ _ _ _ _ _ _).mpr
    ⟨h.switch.2.2.2.1, h.switch.2.2.2.2.1⟩

theorem growthStage_defined (h : CropFullOK c) (dap dc g dg c10 mx sen : α) (gs : Bool) (old : Nat) :
    (growthStage c.calendarType dap dc g dg c10 mx sen gs old).isSome = true :=
  (C16.growth_stage_defined_iff _ _ _ _ _ _ _ _ _ _).mpr (Or.inr h.canopy.2.1)

theorem trKsCold_defined (h : CropFullOK c) (F : Fn α) (gdd : α) :
    (trKsCold F (c.trCrop K).trColdStress (c.trCrop K).gddUp (c.trCrop K).gddLo gdd).isSome :=
  Option.isSome_iff_exists.mpr (trKsCold_isSome F _ _ _ gdd h.switch.2.2.2.2.2.2)

theorem polHeat_step (h : CropFullOK c) (F : Fn α) (tmax : α) :
    polHeat F (c.hikCrop (α := α)).tmaxUp (c.hikCrop (α := α)).tmaxLo (c.hikCrop (α := α)).fshapeB
      tmax = if tmax ≤ (c.hikCrop (α := α)).tmaxLo then 1 else 0 := by
  apply polH_step_of_up_le_lo
  show ((c.tmaxUp : ℚ) : α) ≤ ((c.tmaxLo : ℚ) : α)
  exact_mod_cast h.switch.2.1

theorem fshapeB_nonneg (h : CropFullOK c) : 0 ≤ (c.hikCrop (α := α)).fshapeB := by
  show (0 : α) ≤ ((c.fshapeB : ℚ) : α)
  exact_mod_cast h.switch.1

end bridge

/-! ## C. the catalogue, through the bridge -/

section catalogue
variable (K : CropDerived α)

theorem catalogue_sx_nonneg : ∀ c ∈ cropFullTable,
    0 ≤ (c.trCrop K).sxTop ∧ 0 ≤ (c.trCrop K).sxBot :=
  fun c hc => trCrop_sx_nonneg (catalogue_ok c hc)

end catalogue

/-! ## Non-vacuity: the bridge at `ℚ` itself for a catalogue entry -/

example : (wheatFull.rdCrop (α := ℚ) ⟨13, 93, 158, 197, 100, 40, 90, 90, 127, 194, 67, 15, 100, 0.1,
    30, 0.005, 1, false⟩).WF := rdCrop_wf (by decide +kernel)

section AxiomAudit
#print axioms catalogue_ok
#print axioms catalogue_ok'
#print axioms catalogue_exceptions
#print axioms catalogue_names
#print axioms catalogue_ok_strict
#print axioms rdCrop_wf
#print axioms rootPre_of_ok
#print axioms trCrop_sx_nonneg
#print axioms lagAerIntegral_of_ok
#print axioms hiCrop_buildUp
#print axioms hiCrop_postOK
#print axioms hiPre_of_ok
#print axioms resetCropOK_of_ok
#print axioms ccParams_of_ok
#print axioms ccCropPre_of_ok
#print axioms bioCrop_premises
#print axioms dayCropOK_of_ok
#print axioms co2Params_of_ok
#print axioms responseOK_of_ok
#print axioms gdd_defined
#print axioms temperatureStress_defined
#print axioms growthStage_defined
#print axioms trKsCold_defined
#print axioms polHeat_step
end AxiomAudit

end Aqua
