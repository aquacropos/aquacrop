import AquaVerif.Proofs.Yield
import AquaVerif.Proofs.Summary
import AquaVerif.Properties.C05
/-
Property C06 — yields and seasonal totals agree with the daily tables.

The property has three parts: (a) which summary rows exist, (b) the seasonal irrigation total is
the sum of the daily column, (c) the daily yield and biomass identities.  This file holds (b) and
(c) as far as they speak of single calls and imports the lemma files of those processes only;
part (a), the whole day and the run are in `Properties/C06Run.lean`.

What is modelled.
(b) `Aqua.C13.run`, a fold of the model of `irrigation` over a history of days threading `IrrCum`;
    for net irrigation one day of the model of `transpiration` and the inline step 21 / output
    block (`irrReport`).
(c) `biomassAccumulation` (model of `solution/biomass_accumulation.py`) and `yieldStep` (steps
    18–19 of `run_single_timestep.py`), `Model/Yield.lean`.

What is quantified over.  (b) every profile, parameter vector (every strategy, any seasonal cap —
binding or not), initial counter and history of day inputs; (c) every crop parameter vector and
day input at an arbitrary linearly ordered field, under the stated premises (`0 ≤ WPy ≤ 100`,
`0 ≤ WP·fCO2`, `0 ≤ Tr`, `0 < ET0`, and `BioSwitchOK`: the yield-formation switch lies in [0,1]).

The property's wording "potential yield = no-stress biomass × *reference* harvest index" differs
from the code, which multiplies by the unadjusted harvest index `NewCond.harvest_index`
(`pot_yield_eq` states what the code does).
-/

set_option linter.unusedSectionVars false
namespace Aqua.C06
open Aqua

/-! ## (b) seasonal irrigation = sum of the daily column -/

section irrigation
open Aqua.C13
variable {α : Type} [Field α] [LinearOrder α] [IsStrictOrderedRing α]

/-- Over the in-season days of a season the seasonal counter reported in the summary row is the
initial counter plus the sum of the daily irrigation depths — for every strategy and whether or not
the seasonal cap binds. -/
theorem season_total_is_sum (F : Fn α) (P : IrrParams α) (ds : List (C13.DayIn α)) (c c' : α)
    (xs : List α) (hg : ∀ d ∈ ds, d.gs = true) (h : run F P c ds = some (c', xs)) :
    c' = c + xs.sum := by
  induction ds generalizing c c' xs with
  | nil => cases h; simp
  | cons d ds ih =>
    obtain ⟨o, ys, ho, hr, rfl⟩ := run_cons h
    have h1 := counter_is_running_sum F P c d o ho (hg d (by simp))
    have h2 := ih o.irrCum c' ys (fun e he => hg e (by simp [he])) hr
    rw [h2, h1, List.sum_cons]; ring

/-- An off-season day applies nothing and resets the seasonal counter to 0. -/
theorem offseason_day_resets_total (F : Fn α) (P : IrrParams α) (c : α) (d : C13.DayIn α)
    (o : IrrOut α) (h : day F P c d = .ok o) (hg : d.gs = false) : o.irr = 0 ∧ o.irrCum = 0 :=
  offseason_day_resets F P c d o h hg

/-- After a non-empty off-season stretch the counter at the end of the following season equals the
sum of that season's daily depths, whatever it was before (and the sum over the whole history,
the off-season depths being 0). -/
theorem season_total_is_sum_after_offseason (F : Fn α) (P : IrrParams α)
    (off ds : List (C13.DayIn α)) (c c' : α) (xs : List α) (hne : off ≠ [])
    (hoff : ∀ d ∈ off, d.gs = false) (hin : ∀ d ∈ ds, d.gs = true)
    (h : run F P c (off ++ ds) = some (c', xs)) :
    c' = (xs.drop off.length).sum ∧ c' = xs.sum := by
  obtain ⟨c1, xa, xb, h1, h2, rfl⟩ := run_append F P off ds c c' xs h
  obtain ⟨hc1, hz⟩ := offseason_run_resets F P off c c1 xa hne hoff h1
  have hlen := run_length F P off c c1 xa h1
  have hs := season_total_is_sum F P ds c1 c' xb hin h2
  rw [hc1, zero_add] at hs
  constructor
  · rw [← hlen, List.drop_left]; exact hs
  · rw [List.sum_append, List.sum_eq_zero hz, zero_add]; exact hs

/-- With the counter reset at the season start (`reset_initial_conditions`: `irr_cum = 0`) the
seasonal total is exactly the sum of the daily column. -/
theorem season_total_is_sum_from_reset (F : Fn α) (P : IrrParams α) (ds : List (C13.DayIn α))
    (c' : α) (xs : List α) (hg : ∀ d ∈ ds, d.gs = true) (h : run F P 0 ds = some (c', xs)) :
    c' = xs.sum := by
  have := season_total_is_sum F P ds 0 c' xs hg h
  rwa [zero_add] at this

/-- Net irrigation: one in-season day of `transpiration` advances the cumulative net irrigation by
exactly that day's net irrigation. -/
theorem net_irrigation_counter_step {F : Fn α} {cells : List (Cell α)} {nComp : Nat} {zTop : α}
    {crop : TrCrop α} {smt : α} {st : TrState α} {et0 cur ref gdd : α} {out : TrOut α}
    (h : transpiration F cells nComp zTop crop 4 smt st et0 cur ref true gdd = .ok out) :
    out.st.irrNetCum = st.irrNetCum + out.irrNet := by
  rcases transp_cases h with ⟨hg, _⟩ | ⟨pot, sf, rz, ni, ex, tpr, cst, _, _, _, _, _, _, _, hni, rfl⟩
  · cases hg
  · rcases trNetIrr_ok_inv hni with ⟨_, _, _, _, _, _, _, _, rfl⟩ | ⟨_, _, rfl⟩ | ⟨hm, _⟩
    · rfl
    · exact (add_zero _).symm
    · exact absurd rfl hm

/-- … and with the pre-irrigation of step 21 added to both, the reported seasonal total advances
by exactly the reported daily value (`IrrDay = IrrNet + PreIrr`). -/
theorem net_irrigation_reported_total_step (irr irrCum irrNet irrNetCum0 irrNetCum preIrr : α)
    (hstep : irrNetCum = irrNetCum0 + irrNet) :
    (irrReport 4 irr irrCum irrNet irrNetCum preIrr true).2.1 =
      irrNetCum0 + (irrReport 4 irr irrCum irrNet irrNetCum preIrr true).1 := by
  simp only [irrReport, if_true]
  rw [hstep]; ring

/-- Under every other strategy the reported pair is `(Irr, IrrCum)` of `irrigation`; off season
`(0, 0)`. -/
theorem reported_irrigation_is_irrigation_output (m : Nat) (hm : m ≠ 4)
    (irr irrCum irrNet irrNetCum preIrr : α) :
    ((irrReport m irr irrCum irrNet irrNetCum preIrr true).1 = irr ∧
      (irrReport m irr irrCum irrNet irrNetCum preIrr true).2.1 = irrCum) ∧
    ((irrReport m irr irrCum irrNet irrNetCum preIrr false).1 = 0 ∧
      (irrReport m irr irrCum irrNet irrNetCum preIrr false).2.1 = 0) :=
  ⟨by simp [irrReport, hm], by simp [irrReport]⟩

end irrigation

/-! ## (c) daily identities -/

section daily
variable {α : Type} [Field α] [LinearOrder α] [IsStrictOrderedRing α]

/-- Dry yield equals biomass (t/ha → /100) times the stress-adjusted harvest index on every
in-season day. -/
theorem dry_yield_eq (bNS b hi hiAdj yldWC : α) :
    (yieldStep bNS b hi hiAdj yldWC true).dryYield = (b / 100) * hiAdj := rfl

/-- Fresh yield equals dry yield divided by the crop's dry-matter fraction `YldWC/100`. -/
theorem fresh_yield_eq (bNS b hi hiAdj yldWC : α) :
    (yieldStep bNS b hi hiAdj yldWC true).freshYield =
      (yieldStep bNS b hi hiAdj yldWC true).dryYield / (yldWC / 100) := rfl

/-- … so, for a non-zero fraction, fresh yield times the fraction gives back the dry yield. -/
theorem fresh_yield_times_fraction (bNS b hi hiAdj yldWC : α) (h : yldWC ≠ 0) :
    (yieldStep bNS b hi hiAdj yldWC true).freshYield * (yldWC / 100) =
      (yieldStep bNS b hi hiAdj yldWC true).dryYield := by
  rw [fresh_yield_eq]
  have : yldWC / 100 ≠ 0 := div_ne_zero h (by norm_num)
  field_simp

/-- Potential yield equals no-stress biomass times the (unadjusted) harvest index, on every day. -/
theorem pot_yield_eq (bNS b hi hiAdj yldWC : α) (gs : Bool) :
    (yieldStep bNS b hi hiAdj yldWC gs).yieldPot = (bNS / 100) * hi := by
  unfold yieldStep; cases gs <;> rfl

/-- Outside the growing season dry and fresh yield are zero. -/
theorem yields_zero_offseason (bNS b hi hiAdj yldWC : α) :
    (yieldStep bNS b hi hiAdj yldWC false).dryYield = 0 ∧
      (yieldStep bNS b hi hiAdj yldWC false).freshYield = 0 := ⟨rfl, rfl⟩

/-- On every in-season day the biomass gain is exactly the adjusted water productivity times
transpiration over reference ET, and the no-stress gain the same with potential transpiration. -/
theorem biomass_step_eq (crop : BioCrop α) (dap delayedCDs hiRef pctLag b bNS tr trPot et0 : α) :
    biomassAccumulation crop dap delayedCDs hiRef pctLag b bNS tr trPot et0 true =
      (b + bioWPadj crop dap delayedCDs hiRef pctLag * (tr / et0),
       bNS + bioWPadj crop dap delayedCDs hiRef pctLag * (trPot / et0)) :=
  biomass_step crop dap delayedCDs hiRef pctLag b bNS tr trPot et0

/-- The adjusted water productivity is the CO2-adjusted one scaled down by no more than the
yield-formation factor: `WP·fCO2·(WPy/100) ≤ WPadj ≤ WP·fCO2`. -/
theorem adjusted_wp_bounds (crop : BioCrop α) (dap delayedCDs hiRef pctLag : α)
    (hy0 : 0 ≤ crop.wpy) (hy1 : crop.wpy ≤ 100) (hw : 0 ≤ crop.wp * crop.fco2)
    (h : BioSwitchOK crop dap delayedCDs pctLag) :
    crop.wp * crop.fco2 * (crop.wpy / 100) ≤ bioWPadj crop dap delayedCDs hiRef pctLag ∧
      bioWPadj crop dap delayedCDs hiRef pctLag ≤ crop.wp * crop.fco2 :=
  bioWPadj_bounds crop dap delayedCDs hiRef pctLag hy1 hw fun _ => h

/-- Hence `WP·fCO2·(WPy/100)·Tr/ET0 ≤ ΔB ≤ WP·fCO2·Tr/ET0` on an in-season day, under the premises
(c) of the header. -/
theorem biomass_step_bounds (crop : BioCrop α)
    (dap delayedCDs hiRef pctLag b bNS tr trPot et0 : α)
    (hy0 : 0 ≤ crop.wpy) (hy1 : crop.wpy ≤ 100) (hw : 0 ≤ crop.wp * crop.fco2)
    (h : BioSwitchOK crop dap delayedCDs pctLag) (htr : 0 ≤ tr) (het : 0 < et0) :
    b + crop.wp * crop.fco2 * (crop.wpy / 100) * (tr / et0) ≤
        (biomassAccumulation crop dap delayedCDs hiRef pctLag b bNS tr trPot et0 true).1 ∧
      (biomassAccumulation crop dap delayedCDs hiRef pctLag b bNS tr trPot et0 true).1 ≤
        b + crop.wp * crop.fco2 * (tr / et0) := by
  rw [biomass_step]
  obtain ⟨l, u⟩ := bioWPadj_bounds crop dap delayedCDs hiRef pctLag hy1 hw fun _ => h
  have q : 0 ≤ tr / et0 := div_nonneg htr het.le
  exact ⟨add_le_add le_rfl (mul_le_mul_of_nonneg_right l q),
    add_le_add le_rfl (mul_le_mul_of_nonneg_right u q)⟩

/-- Biomass does not decrease on an in-season day, and more transpiration gives no less biomass
(premises (c) of the header). -/
theorem biomass_mono (crop : BioCrop α) (dap delayedCDs hiRef pctLag b bNS tr tr' trPot et0 : α)
    (hy0 : 0 ≤ crop.wpy) (hy1 : crop.wpy ≤ 100) (hw : 0 ≤ crop.wp * crop.fco2)
    (h : BioSwitchOK crop dap delayedCDs pctLag) (htr : 0 ≤ tr) (htr' : tr ≤ tr') (het : 0 < et0) :
    b ≤ (biomassAccumulation crop dap delayedCDs hiRef pctLag b bNS tr trPot et0 true).1 ∧
      (biomassAccumulation crop dap delayedCDs hiRef pctLag b bNS tr trPot et0 true).1 ≤
        (biomassAccumulation crop dap delayedCDs hiRef pctLag b bNS tr' trPot et0 true).1 :=
  C05.biomass_never_decreases crop dap delayedCDs hiRef pctLag b bNS tr tr' trPot et0 hy0 hy1 hw h
    htr htr' het

/-- Actual biomass stays below no-stress biomass as long as actual transpiration stays below the
potential one. -/
theorem biomass_le_nostress_biomass (crop : BioCrop α)
    (dap delayedCDs hiRef pctLag b bNS tr trPot et0 : α)
    (hy0 : 0 ≤ crop.wpy) (hy1 : crop.wpy ≤ 100) (hw : 0 ≤ crop.wp * crop.fco2)
    (h : BioSwitchOK crop dap delayedCDs pctLag) (het : 0 < et0) (htr : tr ≤ trPot) (hb : b ≤ bNS) :
    (biomassAccumulation crop dap delayedCDs hiRef pctLag b bNS tr trPot et0 true).1 ≤
      (biomassAccumulation crop dap delayedCDs hiRef pctLag b bNS tr trPot et0 true).2 := by
  rw [biomass_step]
  exact add_le_add hb (mul_le_mul_of_nonneg_left (div_le_div_of_nonneg_right htr het.le)
    (bioWPadj_nonneg crop dap delayedCDs hiRef pctLag hy0 hy1 hw fun _ => h))

/-- Outside the growing season both biomass counters are reset to zero. -/
theorem biomass_zero_offseason (crop : BioCrop α)
    (dap delayedCDs hiRef pctLag b bNS tr trPot et0 : α) :
    biomassAccumulation crop dap delayedCDs hiRef pctLag b bNS tr trPot et0 false = (0, 0) :=
  C05.biomass_zero_offseason crop dap delayedCDs hiRef pctLag b bNS tr trPot et0

/-- Non-vacuity: a Cotton-like crop (`WPy = 70`) one third into yield formation. -/
example :
    BioSwitchOK (⟨3, 0, 60, 90, 15, 70, 1.05⟩ : BioCrop ℚ) 91 0 0 ∧
      (biomassAccumulation (⟨3, 0, 60, 90, 15, 70, 1.05⟩ : BioCrop ℚ) 91 0 0.3 0 100 120 4 5 5
        true).1 = 100 + 15 * (1 - (1 - 70 / 100) * 1) * 1.05 * (4 / 5) := by
  refine ⟨⟨by decide, fun _ => by norm_num [bioHIt]⟩, ?_⟩
  norm_num [biomassAccumulation, bioWPadj, bioWPadj0, bioFswitch, bioHIt]

end daily

end Aqua.C06
