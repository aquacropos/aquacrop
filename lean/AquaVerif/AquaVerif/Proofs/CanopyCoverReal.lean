import AquaVerif.Properties.C05
import AquaVerif.Proofs.CanopyCover
import AquaVerif.Proofs.RealInstance
/-
Non-vacuity of the premises of `Proofs/CanopyCover.lean` at the reals (`Real.exp`, `Real.log`):
the built-in Wheat crop (calendar days) and MaizeGDD crop (degree days, any `0 ≤ gdd ≤ 80`) satisfy
`CcParams`; a mid-growth state satisfies `CcPre` / `NsRng`; `PowCubeNonneg` holds for the real
power.  Hence `C05.canopy_in_envelope` applies to them with no law hypothesis left.
-/

namespace Aqua.CanopyCoverReal
open Real Aqua Aqua.Response

theorem powCubeNonneg_real : PowCubeNonneg realFn :=
  ⟨fun _ hx => realFn_pow_nonneg hx 3⟩

/-- the parameters `canopy_cover` reads, built-in Wheat (`CalendarType = 1`) -/
noncomputable def wheat : CcCrop ℝ :=
  { calendarType := 1, emergence := 13, maturity := 197, canopyDevEnd := 134, senescence := 158,
    cc0 := 0.0675, ccx := 0.96, cgc := 0.04901, cdc := 0.07179, zMin := 0.3, aer := 5,
    pUp := ![0.2, 0.65, 0.7, 0.85], pLo := ![0.65, 1, 1, 1], fshW := ![5, 2.5, 2.5, 1],
    etAdj := true, beta := 12 }

/-- built-in MaizeGDD (`CalendarType = 2`) -/
noncomputable def maizeGDD : CcCrop ℝ :=
  { calendarType := 2, emergence := 80, maturity := 1700, canopyDevEnd := 970, senescence := 1400,
    cc0 := 0.004875, ccx := 0.96, cgc := 0.012494, cdc := 0.01, zMin := 0.3, aer := 5,
    pUp := ![0.14, 0.69, 0.69, 0.8], pLo := ![0.72, 1, 1, 1], fshW := ![2.9, 6, 2.7, 1],
    etAdj := true, beta := 12 }

theorem exp_le_three {x : ℝ} (hx : x ≤ 1) : Real.exp x ≤ 3 :=
  le_trans (Real.exp_le_exp.mpr hx) Real.exp_one_lt_three.le

theorem wheat_params : CcParams realFn wheat 1 := by
  refine ⟨by norm_num [wheat], by norm_num [wheat], by norm_num, ?_⟩
  show (0.0675 : ℝ) * Real.exp (0.04901 * 1) ≤ 0.96
  exact le_trans (mul_le_mul_of_nonneg_left (exp_le_three (x := 0.04901 * 1) (by norm_num))
    (by norm_num)) (by norm_num)

theorem maizeGDD_params {gdd : ℝ} (h0 : 0 ≤ gdd) (h1 : gdd ≤ 80) : CcParams realFn maizeGDD gdd := by
  refine ⟨by norm_num [maizeGDD], by norm_num [maizeGDD], h0, ?_⟩
  show (0.004875 : ℝ) * Real.exp (0.012494 * gdd) ≤ 0.96
  exact le_trans (mul_le_mul_of_nonneg_left (exp_le_three (x := 0.012494 * gdd) (by linarith))
    (by norm_num)) (by norm_num)

/-- a Wheat state in the growth stage (day 60, moderate stress history) -/
noncomputable def wheatState : CcState ℝ :=
  { dap := 60, delayedCds := 0, gddCum := 700, delayedGdds := 0, zRoot := 0.8, cc := 0.52,
    ccNS := 0.61, cc0Adj := 0.0675, ccxAct := 0.52, ccxActNS := 0.61, ccxW := 0.52, ccxWNS := 0,
    ccxEarlySen := 0, ccPrev := 0.5, tEarlySen := 0, ccAdj := 0.66, ccAdjNS := 0.74,
    prematSenes := false, cropDead := false, protectedSeed := false }

theorem wheatState_pre : CcPre wheat wheatState := by
  refine ⟨?_, ?_, ?_, ?_⟩ <;> norm_num [wheat, wheatState]

theorem wheatState_ns : NsRng wheat wheatState := by
  refine ⟨?_, ?_, ?_⟩ <;> norm_num [wheat, wheatState]

theorem wheat_paramsFor (gdd : ℝ) : CcParamsFor realFn wheat wheatState gdd :=
  ccParamsFor_of wheatState (fun _ => wheat_params) (fun h => by simp [wheat] at h)

example : CcPre wheat wheatState := wheatState_pre

example : NsRng wheat wheatState := wheatState_ns

example (gdd : ℝ) : CcParamsFor realFn wheat wheatState gdd := wheat_paramsFor gdd

/-- C05 for one Wheat day over the reals — no hypothesis about `exp` left -/
theorem wheat_day_c05 {cells : List (Cell ℝ)} {zTop gdd et0 : ℝ} {gs : Bool} {out : CcState ℝ}
    (h : canopyCover realFn wheat cells zTop wheatState gdd et0 gs = .ok out) :
    0 ≤ out.cc ∧ out.cc ≤ out.ccNS ∧ out.ccNS ≤ 0.96 ∧ out.ccAdj ≤ 1 ∧ out.ccAdjNS ≤ 1 ∧
      (gs = false → out.cc = 0 ∧ out.ccNS = 0 ∧ out.ccAdj = 0 ∧ out.ccAdjNS = 0) :=
  C05.canopy_in_envelope expOrdLaws_real (crop := wheat) (by norm_num [wheat]) (wheat_paramsFor gdd)
    wheatState_pre (by norm_num [wheat, wheatState]) wheatState_ns h

end Aqua.CanopyCoverReal

#print axioms Aqua.cc_offseason
#print axioms Aqua.ccadj_le_one
#print axioms Aqua.ccadj_nonneg
#print axioms Aqua.cc_le_ns
#print axioms Aqua.cc_range
#print axioms Aqua.cc_le_max
#print axioms Aqua.ccns_range
#print axioms Aqua.ccxact_le_of_no_rewatering
#print axioms Aqua.rewater_le
#print axioms Aqua.CanopyCoverReal.wheat_day_c05
