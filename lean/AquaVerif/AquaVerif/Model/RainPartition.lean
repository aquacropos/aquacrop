import AquaVerif.Model.Profile
/-
Model of `aquacrop/solution/rainfall_partition.py` (SCS curve-number split of the day's rain
into surface runoff and infiltration).  Operation order follows the Python expression by
expression so that the `Float` instance reproduces it bit for bit (up to libm `exp/log/pow`).

The Python clamps a local copy `dzsum_ii` of `prof.dzsum[ii]` to `z_cn`; so does the model.
-/

namespace Aqua
section
variable {α : Type} [Add α] [Sub α] [Mul α] [Div α] [Neg α] [LT α] [LE α]
  [DecidableLT α] [DecidableLE α] [OfScientific α] [OfNat α 0] [OfNat α 1]
  [OfNat α 2] [OfNat α 3] [OfNat α 5] [OfNat α 10] [OfNat α 14] [OfNat α 100] [OfNat α 254]
  [OfNat α 1000] [OfNat α 25400]

/-- antecedent-moisture bounds of the curve number: `(CNbot, CNtop)`. -/
def cnBounds (F : Fn α) (cn : α) : α × α :=
  let e14 := F.exp (-14 * F.log 10)
  ( F.round0 (1.4 * e14 + 0.507 * cn - 0.00374 * F.pow cn 2 + 0.0000867 * F.pow cn 3),
    F.round0 (5.6 * e14 + 2.33 * cn - 0.0209 * F.pow cn 2 + 0.000076 * F.pow cn 3) )

/-- relative wetness of the top soil: the two Python loops over `range(comp_sto)` fused.
`none` = the loop indexes past the last compartment (`IndexError` in Python). -/
def wetTopLoop (F : Fn α) (zCN : α) : Nat → List (Cell α) → α → α → Option α
  | 0, _, _, acc => some acc
  | _+1, [], _, _ => none
  | n+1, x :: xs, xx, acc =>
    let dzs := if zCN < x.c.dzsum then zCN else x.c.dzsum
    let wx := 1.016 * (1 - F.exp (-4.16 * (dzs / zCN)))
    let w0 := wx - xx
    let w := if w0 < 0 then 0 else if 1 < w0 then 1 else w0
    let th := pmax x.c.thWP x.th
    wetTopLoop F zCN n xs wx (acc + w * ((th - x.c.thWP) / (x.c.thFC - x.c.thWP)))

/-- the SCS split for a given curve number: `(Runoff, Infl)`.
`Runoff = (term ** 2) / (…)`: `**` on a float scalar is C `pow(term, 2.0)` → `F.pow term 2`. -/
def scsSplit (F : Fn α) (p cn : α) : α × α :=
  let s := 25400 / cn - 254
  let term := p - (5 / 100) * s
  if term ≤ 0 then (0, p)
  else
    let r := (F.pow term 2) / (p + (1 - 5 / 100) * s)
    (r, p - r)

structure RainOut (α : Type) where
  runoff : α
  infl   : α
  daySub : Nat
  cn     : α        -- effective curve number used (ghost output; 0 when the split is bypassed)

/-- `rainfall_partition`.  -/
def rainPartition (F : Fn α) (p : α) (cells : List (Cell α)) (daySub : Nat)
    (srInhb bunds : Bool) (zBund cnAdjPct soilCN : α) (adjCN : Bool) (zCN : α) :
    Option (RainOut α) :=
  if srInhb = false ∧ (bunds = false ∨ zBund < 0.001) then
    let cn0 := soilCN * (1 + cnAdjPct / 100)
    let cn? : Option α :=
      if adjCN then
        let (cnBot, cnTop) := cnBounds F cn0
        let compSto := countBelow zCN cells + 1
        match wetTopLoop F zCN compSto cells 0 0 with
        | none => none
        | some wt0 =>
          let wt := if 1 < wt0 then 1 else if wt0 < 0 then 0 else wt0
          some (F.round0 (cnBot + (cnTop - cnBot) * wt))
      else some cn0
    match cn? with
    | none => none
    | some cn =>
      let (r, i) := scsSplit F p cn
      some { runoff := r, infl := i, daySub := 0, cn := cn }
  else
    some { runoff := 0, infl := p, daySub := daySub, cn := 0 }

end
end Aqua
