import AquaVerif.Proofs.Run
import AquaVerif.Proofs.RunClosedDay

/-
The per-day premises of the run-level theorems of `Proofs/Run.lean`, derived from premises on the
configuration and the weather.

`run_inv`, `run_pond_bounds`, `run_closes` (C03/C01) assume `DayOK`, and `run_cropInv` (C05) assumes
`DayCropOK`, of every simulated day: premises about *computed* values.  Here they follow from
`CfgOK F T cfg` (laws of `F`/`T`, initial profile and state, `CropOK` of every season's crop and of
the fallow crop, irrigation and field-management parameters), `WeatherOK F cfg` (`0 < ET0` on every
day; ordered water-stress thresholds of the harvest-index routine at that `ET0`) and a residual
about each simulated day, `Residual d`, which is named explicitly.

The invariant of a run state is `RunInvW` (`WaterInv`, `aer_days_comp ≥ 0`, `r_cor ≥ 0`, and the
root envelope, which `r_cor ≥ 0` needs), together with the crop envelope `RunInvAll`; `InvW` is
`RunInvW` of the season counter and the day state, the form `run_ind_season` takes.  A day
simulated from a state inside `InvW` keeps it and satisfies `DayFacts` (`RunStep.invWDay`): all
of `DayOK` but the residual, the parameter premises of the day theorems, and `0 ≤ Tr ≤ TrPot` given
`0 ≤ TrPot`; `DayFacts.cropPre` and `dayCropOK_of_inv` give `DayCropOK`.  The inductions on the
crop side (`run_cropEnv_closed`, `run_crop_closed`) take `DayFacts` of every recorded day as their
premise.  Results: `run_invW`, `run_invAll`; `run_inv_closed`, `run_closes_closed`,
`run_pond_bounds_closed`, `run_cropInv_closed` (the conclusions of the theorems of
`Proofs/Run.lean`); `run_cropEnv_closed`, `run_flux_signs_closed`.

The three fields of `Residual d`:
* `cr` (= `ResidualW`) — with a water table, capillary rise did not lift a compartment above
  saturation that day.  Not derivable: `capillary_rise` can overshoot `th_s` by up to
  1/20000 (`Properties/C03.lean`, `capillary_rise_inv_with_slack`).  Without a water table there is
  nothing to show (`residualW_of_no_table`).  The water theorems (`run_inv_closed`,
  `run_closes_closed`, `run_pond_bounds_closed`, `run_flux_signs_closed`) need only this part.
* `rw` — on a day on which the late-season rewatering branch of `canopy_cover` runs, the
  `ccx_act := CCXadj` of `update_CCx_CDC(cc_prev, CDC, CCx, dt)` is at most `CCx`.  Not a
  consequence of `CropInv` (`cc_prev ≤ CCx` only); `Proofs/RunClosedRw.lean` proves it from a
  further invariant (the canopy lies below the decline curve from `CCx`: `CcCurve`).
* `trPot` — in season `0 ≤ TrPot ≤ TrPot_NS` (the *potential* transpirations of `transpiration`).
  `Proofs/RunClosedTr.lean` proves `0 ≤ TrPot` (canopy age bounded through the clock,
  `ccx_w ∈ [0, CCx]`, …).  `TrPot ≤ TrPot_NS` is **false for states inside the envelope**: the
  ageing term `(age−5)·fage/100·CCxW` is *larger* for the larger no-stress canopy, so with both
  adjusted canopies capped at 1 the no-stress potential is the *smaller* one
  (`Proofs/RunClosedExample.lean`, `trPot_gt_trPotNS`).  It is needed only for
  `biomass ≤ biomass_ns` (`BioInv.b_le`), which is not part of property C05: `CropEnv` (section 6)
  is `CropInv` without it, kept under the residual `ResidualE` (`0 ≤ TrPot` in place of `trPot`).
`run_crop_closed` (`Proofs/RunClosedRw.lean`) and `run_flux_closed` (`Proofs/RunClosedEs.lean`)
have `ResidualW` as their only hypothesis about computed values.
-/

set_option linter.unusedSectionVars false
namespace Aqua
open Aqua.Clock
variable {α : Type} [Field α] [LinearOrder α] [IsStrictOrderedRing α]

/-! ## 1. premises on the configuration and on the weather -/

structure FnOK (F : Fn α) (T : TrigFn α) : Prop where
  /-- `exp` positive, `exp 0 = 1`, strictly monotone -/
  expOrd : ExpOrdLaws F
  /-- `x ** y` for a positive base: non-negative, `≤ 1` on `(0,1]`, monotone in the base -/
  pow : PowLaws F
  /-- `x ** y ≥ 0` for `x ≥ 0` -/
  powNN : PowNonneg F
  /-- `x ** 2 = x · x` (the sites where the Python writes `** 2`: adjusted field capacity above a
  water table, SCS runoff, micro-advection polynomial of the canopy cover) -/
  powSq : PowSqLaw F
  /-- `-1 ≤ sin ≤ 1` -/
  sin : SinLaw T

theorem FnOK.exp {F : Fn α} {T : TrigFn α} (h : FnOK F T) : ExpLaws F := by
  refine ⟨fun x hx => ?_⟩
  rcases hx.lt_or_eq with h1 | h1
  · have := h.expOrd.exp_mono 0 x h1
    rw [h.expOrd.exp_zero] at this; exact this.le
  · rw [← h1, h.expOrd.exp_zero]

theorem FnOK.gwExp {F : Fn α} {T : TrigFn α} (h : FnOK F T) : GwExpLaws F := ⟨h.expOrd.exp_pos⟩

/-- what one crop record (a season's crop, or the fallow filler crop after `fallowAdjust`) has to
satisfy: parameter ranges only -/
structure CropOK (F : Fn α) (T : TrigFn α) (c : CropParams α) : Prop where
  -- what `transpiration` reads
  sxTop : 0 ≤ c.cw.tr.sxTop
  sxBot : 0 ≤ c.cw.tr.sxBot
  /-- Python's `round(·, 2)` of a depth of at least `Zmin` is positive (`Zmin ≥ 0.005` and a
  monotone rounding) -/
  rdPos : ∀ z, c.cw.tr.zMin ≤ z → 0 < F.pyRound2 z
  /-- `LagAer` is integral as far as the submergence counter needs it -/
  lagAer : ∀ n : Nat, (natNum n : α) < c.cw.tr.lagAer → natNum n + 1 ≤ c.cw.tr.lagAer
  -- canopy
  ccx0 : 0 ≤ c.cx.cc.ccx
  temp : c.cx.tbase ≤ c.cx.tupp
  /-- `CcParams` (`0 ≤ CC0`, `0 ≤ CDC`, `CC0·exp(CGC·dt) ≤ CCx`) for the time steps that occur -/
  ccStep : ∀ dt, (c.cx.cc.calendarType = 1 → dt = 1) →
    (c.cx.cc.calendarType = 2 → 0 ≤ dt ∧ dt ≤ c.cx.tupp - c.cx.tbase) → CcParams F c.cx.cc dt
  -- roots
  rdWF : c.cx.rd.WF
  zminPos : 0 < c.cx.rd.zmin
  rdSxTop : 0 ≤ c.cx.rd.sxTop
  rdSxBot : 0 ≤ c.cx.rd.sxBot
  pUp1 : c.cx.rd.pUp1 < 1
  fw1 : c.cx.rd.fshapeW1 ≠ 0
  skip : SkipOK F c.cx.rd.zmin
  -- harvest index
  post : c.cx.hi.PostOK
  build : c.cx.hi.BuildUp
  fsh : ∀ i : Fin 4, i.val < 3 → c.cx.hik.fshapeW i ≠ 0
  cap : 0 ≤ 1 + c.cx.hi.dHI0 / 100
  leafy : c.cx.hi.cropType = 1 → 0 ≤ c.cx.hi.dHI0
  /-- the two copies of `HIstartCD` agree -/
  hiStart : c.cx.bio.hiStartCD = c.cx.hi.hiStartCD
  -- biomass
  wpy0 : 0 ≤ c.cx.bio.wpy
  wpy1 : c.cx.bio.wpy ≤ 100
  wp : 0 ≤ c.cx.bio.wp * c.cx.bio.fco2

theorem CropOK.reset {F : Fn α} {T : TrigFn α} {c : CropParams α} (h : CropOK F T c) :
    ResetCropOK c := by
  have hb := h.build
  have hcc : 0 ≤ c.cx.cc.cc0 := by
    by_cases h1 : c.cx.cc.calendarType = 1
    · exact (h.ccStep 1 (fun _ => rfl) (fun h2 => by rw [h1] at h2; cases h2)).cc0_nonneg
    · exact (h.ccStep 0 (fun h' => absurd h' h1)
        (fun _ => ⟨le_refl _, sub_nonneg.mpr h.temp⟩)).cc0_nonneg
  exact ⟨hcc, h.ccx0, (lt_trans hb.ini_pos hb.ini_lt).le, le_trans (by norm_num) hb.ini_pos.le⟩

/-- the fallow stand-in crop (`Crop_.Aer = 5; Crop_.Zmin = 0.3`): only `rdPos` reads an
overwritten field -/
theorem cropOK_fallowAdjust {F : Fn α} {T : TrigFn α} {p : CropParams α} (h : CropOK F T p)
    (hrd : ∀ z, (0.3 : α) ≤ z → 0 < F.pyRound2 z) : CropOK F T (fallowAdjust p) :=
  { h with
    sxTop := h.sxTop
    sxBot := h.sxBot
    rdPos := hrd
    lagAer := h.lagAer }

structure CfgOK (F : Fn α) (T : TrigFn α) (cfg : RunCfg α) : Prop where
  fn : FnOK F T
  /-- with a water table: `|round(x,4) − x| ≤ 1/20000`, `round(x,4) > 0 → x > 0` -/
  gw : cfg.W0.waterTable = 1 → GwRoundLaws F ∧ GwRoundSign F
  -- the initial profile
  /-- every compartment well-formed, `th_dry ≤ th ≤ th_s`, `th_fc ≤ th_fc_Adj ≤ th_s`,
  `0 ≤ dzsum`, `th_fc < th_s` -/
  cells0 : ∀ x ∈ cfg.init.cells, DrainPre x
  /-- `dzsum` is the running sum of the thicknesses -/
  geom : TrGeom 0 cfg.init.cells
  aer0 : ∀ x ∈ cfg.init.cells, 0 ≤ x.aer
  /-- `0 ≤ Penetrability ≤ 100` -/
  pen : ∀ x ∈ cfg.init.cells, 0 ≤ x.c.pen ∧ x.c.pen ≤ 100
  /-- in net-irrigation mode the compartments of one layer share wilting point and field capacity
  and the layers are numbered from 1, non-decreasing -/
  layers : cfg.irr.irr.method = 4 ∨ cfg.fallowIrr.irr.method = 4 →
    ∃ wp fc : Nat → α, TrLayersOK wp fc 0 cfg.init.cells
  pond0 : 0 ≤ cfg.init.pond
  thini : ThiniOK (cfg.init.cells.map (·.c)) cfg.thini
  -- irrigation and field management
  smt : cfg.irr.irr.method = 4 → 0 ≤ cfg.irr.netIrrSMT ∧ cfg.irr.netIrrSMT ≤ 100
  smtF : cfg.fallowIrr.irr.method = 4 →
    0 ≤ cfg.fallowIrr.netIrrSMT ∧ cfg.fallowIrr.netIrrSMT ≤ 100
  bundWater : 0 ≤ cfg.bundWater
  -- crops: the crop of every season and (negative season counter) the adjusted fallow crop
  crop : ∀ season : Int, CropOK F T (cropOf cfg season)
  -- the initial state
  season0 : -1 ≤ cfg.clock.season0
  init : CropInv F (paramsOf cfg cfg.clock.season0 false) cfg.init
  rCor0 : 0 ≤ cfg.init.rCor

/-- premises on the weather table: positive reference evapotranspiration on every day, and — for
the crop records of the configuration — ordered water-stress thresholds after the `ET0` adjustment
of that day (`water_stress` as called by `harvest_index`) -/
structure WeatherOK (F : Fn α) (cfg : RunCfg α) : Prop where
  et0 : ∀ t, 0 < (cfg.weather t).et0
  hiOrd : ∀ t (season : Int) tes i,
    wsUp F (cropOf cfg season).cx.hik.pUp (cropOf cfg season).cx.hik.etAdj
        (cropOf cfg season).cx.hik.beta tes (cfg.weather t).et0 true i ≤
      wsLo F (cropOf cfg season).cx.hik.pLo (cropOf cfg season).cx.hik.etAdj
        (cfg.weather t).et0 i

/-- the water residual of a day: with a water table, capillary rise did not lift a compartment
above saturation -/
def ResidualW (d : DayRec α) : Prop :=
  d.P.W.waterTable = 1 → ∀ y ∈ d.r.water.crCells, y.th ≤ y.c.thS

/-- what this file assumes of a simulated day (the file header says, field by field, why, and
where `rw` and `0 ≤ TrPot` are proved) -/
structure Residual (d : DayRec α) : Prop where
  cr : ResidualW d
  rw : Rewatering d.P d.st d.D d.r.trace → d.r.state.ccxAct ≤ d.P.cx.cc.ccx
  trPot : d.D.gs = true → 0 ≤ d.r.flux.trPot ∧ d.r.flux.trPot ≤ d.r.water.trPotNS

theorem residualW_of_no_table {d : DayRec α} (h : d.P.W.waterTable ≠ 1) : ResidualW d :=
  fun h1 => absurd h1 h

theorem residual_rw_of_not_rewatering {d : DayRec α} (h : ¬ Rewatering d.P d.st d.D d.r.trace) :
    Rewatering d.P d.st d.D d.r.trace → d.r.state.ccxAct ≤ d.P.cx.cc.ccx :=
  fun h1 => absurd h1 h

section cfg
variable {F : Fn α} {T : TrigFn α} {cfg : RunCfg α}

theorem CfgOK.runPre (h : CfgOK F T cfg) : RunPre F cfg :=
  ⟨h.fn.exp, h.fn.powSq, h.cells0, h.pond0, h.smt, h.smtF, h.thini, h.bundWater⟩

theorem paramsOf_crop (cfg : RunCfg α) (season : Int) (gs : Bool) :
    (paramsOf cfg season gs).W.crop = (cropOf cfg season).cw ∧
      (paramsOf cfg season gs).cx = (cropOf cfg season).cx := ⟨rfl, rfl⟩

theorem paramsOf_waterTable (cfg : RunCfg α) (season : Int) (gs : Bool) :
    (paramsOf cfg season gs).W.waterTable = cfg.W0.waterTable := rfl

theorem paramsOf_method (cfg : RunCfg α) (season : Int) (gs : Bool) :
    (paramsOf cfg season gs).W.irr.method = 4 →
      cfg.irr.irr.method = 4 ∨ cfg.fallowIrr.irr.method = 4 :=
  irrSetOf_ind (Q := fun i => i.irr.method = 4 → _) Or.inl Or.inr season

end cfg

/-! ## 2. the invariants of a run state -/

/-- the water-side invariant; the root envelope is part of it because `r_cor ≥ 0` needs it -/
structure RunInvW (F : Fn α) (cfg : RunCfg α) (s : RunState α) : Prop where
  water : WaterInv cfg s
  aer : ∀ x ∈ s.day.cells, 0 ≤ x.aer
  rCor : 0 ≤ s.day.rCor
  root : RootInv F (paramsOf cfg s.season false) s.day
  season : -1 ≤ s.season

structure RunInvAll (F : Fn α) (cfg : RunCfg α) (s : RunState α) : Prop where
  w : RunInvW F cfg s
  crop : CropInv F (paramsOf cfg s.season false) s.day

/-! ## 3. the water-side invariant along a run: `InvW`, `DayFacts` -/

theorem resetState_aer (cfg : RunCfg α) (crop : CropParams α) (st : DayState' α) :
    ∀ y ∈ (resetState cfg crop st).cells, 0 ≤ y.aer := by
  have h0 : ∀ y ∈ st.cells.map (fun x => { x with aer := 0 }), 0 ≤ y.aer := by
    intro y hy
    obtain ⟨x, _, rfl⟩ := List.mem_map.mp hy
    exact le_refl _
  unfold resetState resetStateCore
  simp only
  cases cfg.clock.offSeason with
  | true => simpa only [if_true] using h0
  | false =>
    simp only [Bool.false_eq_true, if_false]
    exact forall_of_map_eq (·.aer) (setTh_map (·.aer) (fun _ _ => rfl) _ _) (fun a => 0 ≤ a) h0

theorem resetState_rootInv {F : Fn α} (cfg : RunCfg α) (crop : CropParams α) (st : DayState' α)
    (P : DayParams α) : RootInv F P (resetState cfg crop st) :=
  ⟨zero_le_one, le_refl _, fun h => absurd rfl h⟩

section runW
variable {F : Fn α} {T : TrigFn α} {cfg : RunCfg α} {s s' : RunState α} {d : DayRec α}

/-- `RunInvW F cfg s` is `InvW F cfg s.season s.day` (`InvW.run`): `RunInvW`, on run states, is what
the run theorems state; `InvW`, on (season counter, day state), is the record `run_ind_season`
carries -/
structure InvW (F : Fn α) (cfg : RunCfg α) (k : Int) (st : DayState' α) : Prop
    extends WaterSt cfg st where
  aer : ∀ x ∈ st.cells, 0 ≤ x.aer
  rCor : 0 ≤ st.rCor
  root : RootInv F (paramsOf cfg k false) st
  season : -1 ≤ k

theorem InvW.run (h : InvW F cfg s.season s.day) : RunInvW F cfg s :=
  ⟨h.toWaterSt.run, h.aer, h.rCor, h.root, h.season⟩

/-- what every recorded day of a run of a `CfgOK` configuration satisfies, given its water
residual; the per-day theorems about `fullDay` are lifted to runs through this record -/
structure DayFacts (F : Fn α) (T : TrigFn α) (cfg : RunCfg α) (wp fc : Nat → α) (d : DayRec α) :
    Prop where
  cfg : DayCfg cfg d
  day : fullDay F T d.P d.st d.D = .ok d.r
  dz : ∀ x ∈ d.st.cells, 0 < x.c.dz
  lagAer : LagAerIntegral d.P.W
  cc : CcCropPre F d.P
  rootPre : RootPre F d.P d.st.cells
  rootInv : RootInv F d.P d.st
  pre : DayPre F d.P.W d.st.cells d.st.water
  ok : DayOK F wp fc d
  trb : 0 ≤ d.r.flux.trPot → 0 ≤ d.r.flux.tr ∧ d.r.flux.tr ≤ d.r.flux.trPot
  inv : ∀ y ∈ d.r.state.cells, y.Inv
  pond : 0 ≤ d.r.state.pond

/-- the compartments never change (`WaterInv.comps`), so `geom`, `layers` and the penetrabilities
are those of the initial profile; `aer` and `rCor` are invariants (`r_cor ≥ 0` needs the root
envelope of the same day); the rest are parameter ranges of `CfgOK` -/
theorem RunStep.invWDay (hs : RunStep F T cfg s d s') (hC : CfgOK F T cfg) (wp fc : Nat → α)
    (hL : cfg.irr.irr.method = 4 ∨ cfg.fallowIrr.irr.method = 4 →
      TrLayersOK wp fc 0 cfg.init.cells)
    (hI : InvW F cfg s.season d.st) (hR : ResidualW d) :
    InvW F cfg s.season d.r.state ∧ DayFacts F T cfg wp fc d := by
  have hc := hC.crop s.season
  have hdz : ∀ x ∈ d.st.cells, 0 < x.c.dz := fun x hx => (hI.pre x hx).inv.wf.dz_pos
  have hlag : LagAerIntegral d.P.W := by
    unfold LagAerIntegral
    rw [hs.P]; exact hc.lagAer
  have hcc : CcCropPre F d.P := by
    rw [hs.P]; exact ⟨hC.fn.expOrd, hc.ccx0, hc.temp, hc.ccStep⟩
  have hrp : RootPre F d.P d.st.cells := by
    have hcells : ∀ x ∈ d.st.cells,
        0 < x.c.dz ∧ 0 ≤ x.c.pen ∧ x.c.pen ≤ 100 ∧ x.c.thWP < x.c.thFC :=
      forall_of_map_eq (·.c) hI.comps
        (fun c => 0 < c.dz ∧ 0 ≤ c.pen ∧ c.pen ≤ 100 ∧ c.thWP < c.thFC)
        (fun x hx => ⟨(hC.cells0 x hx).inv.wf.dz_pos, (hC.pen x hx).1, (hC.pen x hx).2,
          (hC.cells0 x hx).inv.wf.wp_fc⟩)
    rw [hs.P]
    exact ⟨hC.fn.pow, hC.fn.expOrd, hc.rdWF, hc.temp, hc.pUp1, hc.fw1, hc.skip, hcells⟩
  have hri : RootInv F d.P d.st := rootInv_of_cx_eq (by rw [hs.P]; rfl) hI.root
  obtain ⟨hrc, erc⟩ : 0 ≤ d.r.crop.rCor ∧ d.r.state.rCor = d.r.crop.rCor := by
    apply fullDay_rCor_nonneg hs.day hrp hri hI.rCor
    · rw [hs.P]; exact hc.zminPos
    · rw [hs.P]; exact hc.rdSxTop
    · rw [hs.P]; exact hc.rdSxBot
  have htr : DayTrPre F d.P.W d.r.crop d.st.cells wp fc :=
    { geom := trGeom_of_map_c hI.comps hC.geom
      aer := hI.aer
      sxTop := by rw [hs.P]; exact hc.sxTop
      sxBot := by rw [hs.P]; exact hc.sxBot
      rCor := hrc
      rd := by
        -- `max(z_root, Zmin) ≥ Zmin`, whatever the computed rooting depth
        rw [pmax_eq, hs.P]
        exact hc.rdPos _ (le_max_right _ _)
      layers := fun hm => by
        rw [hs.P] at hm
        exact trLayersOK_of_map_c wp fc hI.comps (hL (paramsOf_method cfg _ _ hm)) }
  have ok : DayOK F wp fc d :=
    { tr := htr
      gw := fun hwt => by
        have hwt' : cfg.W0.waterTable = 1 := by rw [hs.P] at hwt; exact hwt
        exact ⟨⟨hC.fn.gwExp, (hC.gw hwt').1, (hC.gw hwt').2⟩, hR hwt⟩ }
  obtain ⟨hW', hpre, hinv, hpond⟩ := hs.waterDay hC.runPre wp fc hI.toWaterSt ok
  have haer := fullDay_aer_nonneg hs.day hI.aer
  have hroot : RootInv F d.P d.r.state := fullDay_rootInv hs.day hrp hri
  exact ⟨⟨hW', haer, by rw [erc]; exact hrc, rootInv_of_cx_eq (by rw [hs.P]; rfl) hroot,
    hI.season⟩, hs.toCfg, hs.day, hdz, hlag, hcc, hrp, hri, hpre, ok,
    fun hp => by
      have w := fullDay_waterOf hs.day
      rw [w.trPot] at hp
      rw [w.tr, w.trPot]
      obtain ⟨t1, t2⟩ := C04.day_tr_bounds w.day hdz hp
      exact ⟨t2 wp fc htr hlag, t1⟩,
    hinv, hpond⟩

theorem run_invW (hC : CfgOK F T cfg) (wp fc : Nat → α)
    (hL : cfg.irr.irr.method = 4 ∨ cfg.fallowIrr.irr.method = 4 →
      TrLayersOK wp fc 0 cfg.init.cells)
    (hr : RunReach F T cfg s) (hR : ∀ d ∈ s.daysRev, ResidualW d) :
    RunInvW F cfg s ∧ ∀ d ∈ s.daysRev, DayFacts F T cfg wp fc d :=
  have h := run_ind_season (I := InvW F cfg)
    ⟨⟨rfl, hC.cells0, hC.pond0⟩, hC.aer0, hC.rCor0, hC.init.root, hC.season0⟩
    (fun _ _ hs hI hRd => hs.invWDay hC wp fc hL hI hRd)
    (fun k _ h => ⟨resetState_inv hC.runPre _ h.toWaterSt, resetState_aer _ _ _,
      zero_le_one, resetState_rootInv cfg _ _ _, by have := h.season; omega⟩) hr hR
  ⟨h.1.run, h.2⟩

/-- the layer functions of `CfgOK.layers`, arbitrary when no net irrigation is configured -/
theorem CfgOK.layerFns (hC : CfgOK F T cfg) :
    ∃ wp fc : Nat → α, cfg.irr.irr.method = 4 ∨ cfg.fallowIrr.irr.method = 4 →
      TrLayersOK wp fc 0 cfg.init.cells := by
  by_cases h : cfg.irr.irr.method = 4 ∨ cfg.fallowIrr.irr.method = 4
  · obtain ⟨wp, fc, hl⟩ := hC.layers h
    exact ⟨wp, fc, fun _ => hl⟩
  · exact ⟨fun _ => 0, fun _ => 0, fun h' => absurd h' h⟩

theorem run_dayFacts (hC : CfgOK F T cfg) (hr : RunReach F T cfg s)
    (hR : ∀ d ∈ s.daysRev, ResidualW d) :
    ∃ wp fc : Nat → α, RunInvW F cfg s ∧ ∀ d ∈ s.daysRev, DayFacts F T cfg wp fc d := by
  obtain ⟨wp, fc, hL⟩ := hC.layerFns
  exact ⟨wp, fc, run_invW hC wp fc hL hr hR⟩

theorem run_inv_closed (hC : CfgOK F T cfg) (hr : RunReach F T cfg s)
    (hR : ∀ d ∈ s.daysRev, ResidualW d) :
    WaterInv cfg s ∧ ∀ d ∈ s.daysRev, DayPre F d.P.W d.st.cells d.st.water ∧
      (∀ y ∈ d.r.state.cells, y.Inv) ∧ 0 ≤ d.r.state.pond := by
  obtain ⟨wp, fc, hI, hF⟩ := run_dayFacts hC hr hR
  exact ⟨hI.water, fun d hd => ⟨(hF d hd).pre, (hF d hd).inv, (hF d hd).pond⟩⟩

theorem run_closes_closed (hC : CfgOK F T cfg) (hr : RunReach F T cfg s)
    (hR : ∀ d ∈ s.daysRev, ResidualW d) :
    ∀ d ∈ s.daysRev,
      storage d.r.state.cells + d.r.state.pond =
        storage d.st.cells + d.st.pond + d.r.flux.infl + d.r.water.preIrr + d.r.water.irrNet
          + d.r.water.crAdded + d.r.flux.gwIn - d.r.flux.deepPerc - d.r.flux.es - d.r.flux.tr := by
  obtain ⟨wp, fc, _, hF⟩ := run_dayFacts hC hr hR
  exact run_closes hC.runPre wp fc hr fun d hd => (hF d hd).ok

theorem run_pond_bounds_closed (hC : CfgOK F T cfg) (hr : RunReach F T cfg s)
    (hR : ∀ d ∈ s.daysRev, ResidualW d) :
    ∀ d ∈ s.daysRev, (d.P.fm.bunds = false ∨ d.P.fm.zBund ≤ 0.001 → d.r.state.pond = 0) ∧
      (d.P.fm.bunds = true → d.st.pond ≤ d.P.fm.zBund → 0 ≤ d.r.flux.esPot →
        0 ≤ d.r.flux.trPot → LagAerIntegral d.P.W → d.r.state.pond ≤ d.P.fm.zBund) := by
  obtain ⟨wp, fc, _, hF⟩ := run_dayFacts hC hr hR
  exact run_pond_bounds hC.runPre wp fc hr fun d hd => (hF d hd).ok

theorem run_residualW_of_no_table (hwt : cfg.W0.waterTable ≠ 1) (hr : RunReach F T cfg s) :
    ∀ d ∈ s.daysRev, ResidualW d := fun d hd => by
  exact residualW_of_no_table (by rw [(run_dayCfg hr d hd).waterTable]; exact hwt)

end runW

/-! ## 4. the fields of `DayCropOK` -/

/-- the fields of `DayCropOK` that follow from the configuration and the weather alone -/
structure DayCropPre (F : Fn α) (T : TrigFn α) (d : DayRec α) : Prop where
  cc : CcCropPre F d.P
  root : RootPre F d.P d.st.cells
  hi : HiPre F T d.P d.D
  wpy0 : 0 ≤ d.P.cx.bio.wpy
  wpy1 : d.P.cx.bio.wpy ≤ 100
  wp : 0 ≤ d.P.cx.bio.wp * d.P.cx.bio.fco2
  sw : d.D.gs = true → 0 < d.r.state.hiRef →
    BioSwitchOK d.P.cx.bio (natNum d.r.growth.dap) d.r.state.delayedCds d.r.state.pctLagPhase
  et : d.D.gs = true → 0 < d.D.et0

section dayCropOK
variable {F : Fn α} {T : TrigFn α} {cfg : RunCfg α} {s : RunState α} {d : DayRec α}

theorem DayFacts.cropPre {wp fc : Nat → α} (hC : CfgOK F T cfg) (hW : WeatherOK F cfg)
    (hF : DayFacts F T cfg wp fc d) : DayCropPre F T d :=
  have hc := hC.crop d.D.season
  have hd := hF.cfg
  { cc := hF.cc
    root := hF.rootPre
    hi := by
      rw [hd.P]
      exact ⟨hC.fn.expOrd, hC.fn.sin, hC.fn.powNN, hc.post, hc.build, hc.temp,
        fun tes i => by rw [hd.et0]; exact hW.hiOrd d.D.tsc d.D.season tes i, hc.fsh, hc.cap,
        hc.leafy⟩
    wpy0 := by rw [hd.P]; exact hc.wpy0
    wpy1 := by rw [hd.P]; exact hc.wpy1
    wp := by rw [hd.P]; exact hc.wp
    -- a positive reference harvest index means yield formation has started
    sw := fullDay_bioSwitch hF.day (by rw [hd.P]; exact hc.build.type123)
      (by rw [hd.P]; exact hc.hiStart)
    et := fun _ => by rw [hd.et0]; exact hW.et0 d.D.tsc }

/-- `0 ≤ Tr ≤ TrPot` is proved (`DayFacts.trb`), so that `DayCropOK.tr` (`0 ≤ Tr ≤ TrPot_NS`)
follows from the residual `0 ≤ TrPot ≤ TrPot_NS` -/
theorem dayCropOK_of_inv {wp fc : Nat → α} (hC : CfgOK F T cfg) (hW : WeatherOK F cfg)
    (hF : DayFacts F T cfg wp fc d) (hR : Residual d) : DayCropOK F T d :=
  { hF.cropPre hC hW with
    rw := hR.rw
    tr := fun hg =>
      have t := hF.trb (hR.trPot hg).1
      ⟨t.1, le_trans t.2 (hR.trPot hg).2⟩ }

end dayCropOK

/-! ## 5. the combined invariant along a run; the closed crop theorem -/

section runAll
variable {F : Fn α} {T : TrigFn α} {cfg : RunCfg α} {s s' : RunState α}

theorem CfgOK.resetCrop (hC : CfgOK F T cfg) {season : Int} (h0 : 0 ≤ season) :
    ResetCropOK (cfg.seasonCrop season.toNat) := by
  have := (hC.crop season).reset
  unfold cropOf at this
  rw [if_pos h0] at this
  exact this

theorem run_cropInv_closed (hC : CfgOK F T cfg) (hW : WeatherOK F cfg) (hr : RunReach F T cfg s)
    (hR : ∀ d ∈ s.daysRev, Residual d) :
    -1 ≤ s.season ∧ CropInv F (paramsOf cfg s.season false) s.day ∧
      ∀ d ∈ s.daysRev, CropInv F d.P d.st ∧ CropInv F d.P d.r.state := by
  obtain ⟨wp, fc, hL⟩ := hC.layerFns
  obtain ⟨_, hF⟩ := run_invW hC wp fc hL hr (fun d hd => (hR d hd).cr)
  exact run_cropInv hr hC.season0 hC.init
    (fun k => by simpa using hC.resetCrop (Int.natCast_nonneg k))
    (fun d hd => dayCropOK_of_inv hC hW (hF d hd) (hR d hd))

theorem run_invAll (hC : CfgOK F T cfg) (hW : WeatherOK F cfg) (hr : RunReach F T cfg s)
    (hR : ∀ d ∈ s.daysRev, Residual d) :
    RunInvAll F cfg s ∧ ∀ d ∈ s.daysRev, CropInv F d.P d.st ∧ CropInv F d.P d.r.state := by
  obtain ⟨_, _, hI, _⟩ := run_dayFacts hC hr (fun d hd => (hR d hd).cr)
  obtain ⟨_, hc, hdays⟩ := run_cropInv_closed hC hW hr hR
  exact ⟨⟨hI, hc⟩, hdays⟩

theorem run_inv_closed' (hC : CfgOK F T cfg) (hr : RunReach F T cfg s)
    (hR : ∀ d ∈ s.daysRev, Residual d) :
    WaterInv cfg s ∧ ∀ d ∈ s.daysRev, DayPre F d.P.W d.st.cells d.st.water ∧
      (∀ y ∈ d.r.state.cells, y.Inv) ∧ 0 ≤ d.r.state.pond :=
  run_inv_closed hC hr (fun d hd => (hR d hd).cr)

end runAll

/-! ## 6. the C05 envelope without `B ≤ B_NS`: only `0 ≤ TrPot` is left of the `trPot` residual

`CropInv` contains `biomass ≤ biomass_ns` (`BioInv.b_le`), which is not part of property C05 and
needs `Tr ≤ TrPot_NS`; that comes from `TrPot ≤ TrPot_NS`, which is false inside the envelope
(`RunClosedExample.trPot_gt_trPotNS`).
`CropEnv` is `CropInv` with `0 ≤ biomass` in place of `BioInv`; it is preserved under the weaker
residual `ResidualE` (`0 ≤ TrPot` instead of `0 ≤ TrPot ≤ TrPot_NS`), and the C05 monotonicity
statements (harvest index and biomass never decrease within a season) come with it. -/

/-- the crop envelope of C05: canopy, roots, harvest index, `0 ≤ biomass` -/
structure CropEnv (F : Fn α) (P : DayParams α) (st : DayState' α) : Prop where
  cc : CcInv P.cx.cc st
  root : RootInv F P st
  hi : HiInv F P st
  b0 : 0 ≤ st.biomass

theorem CropInv.toEnv {F : Fn α} {P : DayParams α} {st : DayState' α} (h : CropInv F P st) :
    CropEnv F P st := ⟨h.cc, h.root, h.hi, h.bio.b0⟩

theorem cropEnv_of_cx_eq {F : Fn α} {P P' : DayParams α} {st : DayState' α} (h : P.cx = P'.cx)
    (hi : CropEnv F P st) : CropEnv F P' st :=
  ⟨h ▸ hi.cc, rootInv_of_cx_eq h hi.root, hiInv_of_cx_eq h hi.hi, hi.b0⟩

/-- the residual of a day for `CropEnv`: capillary-rise overshoot, rewatering cap, `0 ≤ TrPot` -/
structure ResidualE (d : DayRec α) : Prop where
  cr : ResidualW d
  rw : Rewatering d.P d.st d.D d.r.trace → d.r.state.ccxAct ≤ d.P.cx.cc.ccx
  trPot0 : d.D.gs = true → 0 ≤ d.r.flux.trPot

theorem Residual.toE {d : DayRec α} (h : Residual d) : ResidualE d :=
  ⟨h.cr, h.rw, fun hg => (h.trPot hg).1⟩

section runEnv
variable {F : Fn α} {T : TrigFn α} {cfg : RunCfg α} {s s' : RunState α} {d : DayRec α}

/-- compared with `fullDay_cropInv` only `0 ≤ Tr` is asked of the transpiration -/
theorem fullDay_cropEnv (h : fullDay F T d.P d.st d.D = .ok d.r) (hi : CropEnv F d.P d.st)
    (hp : DayCropPre F T d)
    (hrw : Rewatering d.P d.st d.D d.r.trace → d.r.state.ccxAct ≤ d.P.cx.cc.ccx)
    (htr : d.D.gs = true → 0 ≤ d.r.flux.tr) :
    CropEnv F d.P d.r.state ∧
      (d.D.gs = true → d.st.hi ≤ d.r.state.hi ∧ d.st.biomass ≤ d.r.state.biomass) := by
  obtain ⟨hH, _, _, _, _, hmono⟩ := fullDay_hiInv h hp.hi hi.hi
  obtain ⟨_, hy, _, _, _, e4, _⟩ := fullDay_yields h
  have hb : 0 ≤ d.r.state.biomass ∧ (d.D.gs = true → d.st.biomass ≤ d.r.state.biomass) := by
    cases hg : d.D.gs with
    | false =>
      obtain ⟨_, ⟨_, _, _, _, _, _, b1, _⟩, _⟩ := fullDay_offseason_zero h hg
      exact ⟨by rw [e4, b1], fun hh => by cases hh⟩
    | true =>
      -- the day's gain `WPadj · Tr / ET0` is non-negative
      obtain ⟨_, _, e1, _⟩ := hy hg
      have hW := bioWPadj_nonneg d.P.cx.bio (natNum d.r.growth.dap) d.r.state.delayedCds
        d.r.state.hiRef d.r.state.pctLagPhase hp.wpy0 hp.wpy1 hp.wp (hp.sw hg)
      have m1 := mul_nonneg hW (div_nonneg (htr hg) (hp.et hg).le)
      rw [e4, e1]
      exact ⟨add_nonneg hi.b0 m1, fun _ => le_add_of_nonneg_right m1⟩
  exact ⟨⟨fullDay_ccInv h hp.cc hi.cc hrw, fullDay_rootInv h hp.root hi.root, hH, hb.1⟩,
    fun hg => ⟨hmono hg, hb.2 hg⟩⟩

theorem RunStep.cropEnvDay {wp fc : Nat → α} (hs : RunStep F T cfg s d s') (hC : CfgOK F T cfg)
    (hW : WeatherOK F cfg) (hF : DayFacts F T cfg wp fc d)
    (hinv : CropEnv F (paramsOf cfg s.season false) d.st)
    (hRd : ResidualE d) :
    CropEnv F (paramsOf cfg s.season false) d.r.state ∧ CropEnv F d.P d.st ∧
      CropEnv F d.P d.r.state ∧
      (d.D.gs = true → d.st.hi ≤ d.r.state.hi ∧ d.st.biomass ≤ d.r.state.biomass ∧
        0 ≤ d.r.flux.tr ∧ d.r.flux.tr ≤ d.r.flux.trPot) := by
  have hin : CropEnv F d.P d.st := cropEnv_of_cx_eq (by rw [hs.P]; rfl) hinv
  have htr : d.D.gs = true → 0 ≤ d.r.flux.tr ∧ d.r.flux.tr ≤ d.r.flux.trPot :=
    fun hg => hF.trb (hRd.trPot0 hg)
  obtain ⟨hout, hmono⟩ := fullDay_cropEnv hs.day hin (hF.cropPre hC hW) hRd.rw
    (fun hg => (htr hg).1)
  exact ⟨cropEnv_of_cx_eq (by rw [hs.P]; rfl) hout, hin, hout,
    fun hg => ⟨(hmono hg).1, (hmono hg).2, htr hg⟩⟩

theorem resetState_cropEnv (hC : CfgOK F T cfg) {k : Int} (hk : -1 ≤ k) (st : DayState' α) :
    CropEnv F (paramsOf cfg (k + 1) false) (resetState cfg (cfg.seasonCrop (k + 1).toNat) st) :=
  have hpos : 0 ≤ k + 1 := by omega
  (resetState_cropInv cfg _ _ _ (congrArg CropParams.cx (cropOf_nonneg cfg hpos))
    (hC.resetCrop hpos)).toEnv

theorem run_cropEnv_closed (hC : CfgOK F T cfg) (hW : WeatherOK F cfg) (hr : RunReach F T cfg s)
    (hR : ∀ d ∈ s.daysRev, ResidualE d) :
    -1 ≤ s.season ∧ CropEnv F (paramsOf cfg s.season false) s.day ∧
      ∀ d ∈ s.daysRev, CropEnv F d.P d.st ∧ CropEnv F d.P d.r.state ∧
        (d.D.gs = true → d.st.hi ≤ d.r.state.hi ∧ d.st.biomass ≤ d.r.state.biomass ∧
          0 ≤ d.r.flux.tr ∧ d.r.flux.tr ≤ d.r.flux.trPot) := by
  -- what the water side knows of every recorded day is the premise of this induction
  obtain ⟨wp, fc, _, hF⟩ := run_dayFacts hC hr (fun d hd => (hR d hd).cr)
  obtain ⟨⟨a, b⟩, c⟩ := run_ind_season (H := fun d => DayFacts F T cfg wp fc d ∧ ResidualE d)
    (I := fun k st => -1 ≤ k ∧ CropEnv F (paramsOf cfg k false) st) ⟨hC.season0, hC.init.toEnv⟩
    (fun _ _ hs hQ hd =>
      have h := hs.cropEnvDay hC hW hd.1 hQ.2 hd.2
      ⟨⟨hQ.1, h.1⟩, h.2⟩)
    (fun k st hQ => ⟨by have := hQ.1; omega, resetState_cropEnv hC hQ.1 st⟩) hr
    (fun d hd => ⟨hF d hd, hR d hd⟩)
  exact ⟨a, b, c⟩

end runEnv

/-! ## 7. C04 along a run: signs of the fluxes, actual ≤ potential -/

section runFlux
variable {F : Fn α} {T : TrigFn α} {cfg : RunCfg α} {s s' : RunState α}

/-- C04 along a run, from `CfgOK` and the capillary-rise residual: the bounds on `Es` and `Tr` are
conditional on `0 ≤ EsPot` and `0 ≤ TrPot` (`run_flux_closed`, `Proofs/RunClosedEs.lean`, has them
without, under further premises on the configuration) -/
theorem run_flux_signs_closed (hC : CfgOK F T cfg) (hr : RunReach F T cfg s)
    (hR : ∀ d ∈ s.daysRev, ResidualW d) :
    ∀ d ∈ s.daysRev,
      0 ≤ d.r.flux.deepPerc ∧ 0 ≤ d.r.flux.cr ∧ 0 ≤ d.r.flux.gwIn ∧ 0 ≤ d.r.water.irr ∧
      (d.P.W.irr.method ≠ 4 → 0 ≤ d.r.flux.irrDay) ∧
      (0 ≤ d.r.flux.esPot → 0 ≤ d.r.flux.es ∧ d.r.flux.es ≤ d.r.flux.esPot) ∧
      (0 ≤ d.r.flux.trPot → 0 ≤ d.r.flux.tr ∧ d.r.flux.tr ≤ d.r.flux.trPot) := by
  obtain ⟨wp, fc, _, hF⟩ := run_dayFacts hC hr hR
  intro d hd
  have h := hF d hd
  have w := fullDay_waterOf h.day
  rw [w.deepPerc, w.cr, w.gwIn, w.irrDay, w.esPot, w.es]
  exact ⟨C04.day_deepperc_nonneg w.day h.pre, C04.day_cr_nonneg w.day hC.fn.gwExp h.dz,
    C04.day_gwin_nonneg w.day h.dz, (C04.day_irr_nonneg w.day).1,
    (C04.day_irr_nonneg w.day).2.1, C04.day_es_bounds_of_espot_nonneg w.day h.dz, h.trb⟩

end runFlux

end Aqua

#print axioms Aqua.run_cropEnv_closed
#print axioms Aqua.run_flux_signs_closed
#print axioms Aqua.run_invW
#print axioms Aqua.run_inv_closed
#print axioms Aqua.run_closes_closed
#print axioms Aqua.run_pond_bounds_closed
#print axioms Aqua.run_invAll
#print axioms Aqua.run_cropInv_closed
#print axioms Aqua.cropOK_fallowAdjust
