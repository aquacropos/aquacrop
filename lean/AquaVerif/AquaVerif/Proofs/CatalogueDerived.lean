import AquaVerif.Proofs.CatalogueCrop
import AquaVerif.Proofs.CropCalendar

/-
**The conjuncts of `DerivedOK` / `DerivedRunOK` discharged from the
models of the initialisation routines**, so that for values produced by those routines nothing
about derived values is left to assume.

* §1 what the catalogue sweep (`catalogue_rowOK`) says of the calendar inputs, and the cast and rounding
  steps for `CanopyDevEnd`.  The raw-parameter facts the calendars need (`Proofs/CropFull.lean`) are the
  decidable `CropFull.CalOK` (holds for the whole catalogue: `catalogue_calOK`) and `CropFull.DevEndOK`
  (`CanopyDevEnd ≤ Senescence` for determinant crops), which **fails for four catalogue crops**:
  `C05.canopyDevEnd_exceptions` (Barley, BarleyGDD, PaddyRice, PaddyRiceGDD:
  `HIstart + Flowering/2 > Senescence`).  For those four the premise `CfgRwOK.devEnd` of the
  rewatering-cap theorem is false: a finding.
* §2 `hiBlock_nonneg` — `0 ≤ HIGC`, `0 ≤ dHILinear` for whatever `calculate_HIGC` /
  `calculate_HI_linear` return (`0 < HIini < HI0`, `0 ≤ YldFormCD`).
* §3 calendar-day crops (`compute_crop_calendar`, mode 1: `calendarInitCD`): `derivedRunOK_CD`;
  §4 thermal-time crops (mode 2 at initialisation: `calendarInit`; the reset block: `calendarDays` on the
  stored thresholds): `calendarDays_devEnd`, `derivedRunOK_GDD`.
* §5 both over ℝ, where the laws of `log` and `round` assumed in §§3–4 are proved.
* §6 `exists_derivedRunOK_CD_real`: for a calendar-day catalogue crop the three routines do return
  values (`CropFull.HigcOK` bounds the search of `calculate_HIGC`), so §5 is not vacuous.
-/

set_option linter.unusedSectionVars false
namespace Aqua
open Aqua.Generated Aqua.Response Aqua.HarvestIndexReal

/-! ## 1. the catalogue sweep on the calendar inputs; casts and rounding for `CanopyDevEnd` -/

theorem catalogue_calOK : ∀ c ∈ cropFullTable, CropFull.CalOK c :=
  fun c hc => (catalogue_rowOK c hc).2.2.1

/-- all four are beyond rounding: `HIstart + Flowering/2 ≥ Senescence + 1` -/
theorem catalogue_devEnd_violations : ∀ c ∈ cropFullTable,
    c.name ∈ ["Barley", "BarleyGDD", "PaddyRice", "PaddyRiceGDD"] →
    (c.calendarType = 1 → c.senescenceCD + 1 ≤ c.hiStartCD + c.floweringCD / 2) ∧
    (c.calendarType = 2 → c.senescence + 1 ≤ c.hiStart + c.flowering / 2) :=
  fun c hc => (catalogue_rowOK c hc).2.2.2.2.2.2.2.2.2.1

theorem catalogue_CD_devEndOK : ∀ c ∈ cropFullTable, c.calendarType = 1 →
    c.name ∉ ["Barley", "PaddyRice"] → CropFull.DevEndOK c :=
  fun c hc => (catalogue_rowOK c hc).2.2.2.2.2.2.2.2.2.2

variable {α : Type} [Field α] [LinearOrder α] [IsStrictOrderedRing α]

theorem rat_cast_int_of_den {q : ℚ} (h : q.den = 1) : ((q : ℚ) : α) = ((q.num : ℤ) : α) := by
  have e : ((q.num : ℤ) : ℚ) = q := Rat.coe_int_num_of_den_eq_one h
  rw [← e]
  simp

/-- `CanopyDevEnd = round(HIstart + Flowering/2)` (determinant) or `Senescence`, above a whole
number: `round0` is monotone and fixes whole numbers -/
theorem le_devEnd {F : Fn α} (hR : CalRound0Laws F) {q : ℚ} (hq : q.den = 1) (det : Bool) (x s : α)
    (h1 : det = true → (q : α) ≤ x) (h2 : det = false → (q : α) ≤ s) :
    (q : α) ≤ if det = true then F.round0 x else s := by
  cases det
  · exact h2 rfl
  · have h := h1 rfl
    rw [rat_cast_int_of_den hq] at h ⊢
    exact (hR.round0_int _).symm.le.trans (hR.round0_mono _ _ h)

/-- … and below a whole number -/
theorem devEnd_le {F : Fn α} (hR : CalRound0Laws F) {q : ℚ} (hq : q.den = 1) (det : Bool) (x s : α)
    (h1 : det = true → x ≤ (q : α)) (h2 : det = false → s ≤ (q : α)) :
    (if det = true then F.round0 x else s) ≤ (q : α) := by
  cases det
  · exact h2 rfl
  · have h := h1 rfl
    rw [rat_cast_int_of_den hq] at h ⊢
    exact (hR.round0_mono _ _ h).trans (hR.round0_int _).le

theorem cast_add_half_le {a b c : ℚ} (h : a + b / 2 ≤ c) : (a : α) + (b : α) / 2 ≤ (c : α) := by
  exact_mod_cast h

theorem le_cast_add_half {a b : ℚ} (h : 0 ≤ b) : (a : α) ≤ (a : α) + (b : α) / 2 :=
  le_add_of_nonneg_right (div_nonneg (Rat.cast_nonneg.mpr h) zero_le_two)

/-! ## 2. `HIGC`, `dHILinear` -/

theorem hiBlock_nonneg {F : Fn α} (hF : ExpOrdLaws F) {fuel ct : Nat} {y : Int} {hi0 hiIni g t d : α}
    (h1 : 0 < hiIni) (h2 : hiIni < hi0) (hy : 0 ≤ y)
    (h : hiBlock F fuel ct y hi0 hiIni = .ok (g, t, d)) : 0 ≤ g ∧ 0 ≤ d := by
  unfold hiBlock at h
  cases hg : calculateHIGC F fuel (y : α) hi0 hiIni with
  | none => simp [hg] at h
  | some g' =>
    simp only [hg] at h
    have hg0 : 0 ≤ g' := calculateHIGC_nonneg hF h1 h2 hg
    by_cases h3 : ct = 3
    · rw [if_pos h3] at h
      cases hl : calculateHILinear F fuel (y : α) hiIni hi0 g' with
      | none => simp [hl] at h
      | some td =>
        simp only [hl, Except.ok.injEq, Prod.mk.injEq] at h
        obtain ⟨rfl, rfl, rfl⟩ := h
        exact ⟨hg0, calculateHILinear_nonneg hF h1 h2 (Int.cast_nonneg hy) hl⟩
    · rw [if_neg h3, Except.ok.injEq, Prod.mk.injEq, Prod.mk.injEq] at h
      obtain ⟨rfl, _, rfl⟩ := h
      exact ⟨hg0, le_refl _⟩

/-! ## 3. the calendar of a calendar-day crop (`compute_crop_calendar`, mode 1) -/

namespace CropFull

/-- what `compute_crop_calendar` reads of a calendar-day crop (raw values; `fe`: the previous
`FloweringEnd`) -/
def calCDIn (c : CropFull) (fe : α) : CalCDIn α :=
  { determinant := decide (c.determinant = 1), cropType := c.cropType,
    switchGDD := decide (c.switchGDD = 1), hiStartCD := (c.hiStartCD : α),
    floweringCD := (c.floweringCD : α), senescenceCD := (c.senescenceCD : α),
    emergenceCD := (c.emergenceCD : α), maxRootingCD := (c.maxRootingCD : α),
    maturityCD := (c.maturityCD : α), yldFormCD := (c.yldFormCD : α), cc0 := (c.cc0 : α),
    ccx := (c.ccx : α), cgcCD := (c.cgcCD : α), cdcCD := (c.cdcCD : α), floweringEnd := fe }

/-- the derived values of a calendar-day crop: calendar `o` (`compute_crop_calendar`), build-up
coefficients `g t d` (`calculate_HIGC`, `calculate_HI_linear`), CO2 factor `f` -/
def derivedCD (c : CropFull) (o : CalCDOut α) (g t d f : α) (np : Bool) : CropDerived α :=
  { emergence := o.emergence, maxRooting := o.maxRooting, senescence := o.senescence,
    maturity := o.maturity, canopyDevEnd := o.canopyDevEnd, canopy10 := o.canopy10Pct,
    maxCanopy := o.maxCanopy, maxCanopyCD := o.maxCanopyCD, hiStartCD := (c.hiStartCD : α),
    hiEndCD := o.hiEndCD, yldFormCD := (c.yldFormCD : α), floweringCD := o.floweringCD,
    canopyDevEndCD := o.canopyDevEndCD, hiGC := g, tLinSwitch := t, dHILinear := d, fco2 := f,
    zMinNp := np }

/-- what `compute_crop_calendar` reads of a thermal-time crop -/
def calGDDIn (c : CropFull) (fe : α) : CalGDDIn α :=
  { determinant := decide (c.determinant = 1), cropType := c.cropType, gddMethod := c.gddMethod,
    tbase := (c.tbase : α), tupp := (c.tupp : α), emergence := (c.emergence : α),
    maturity := (c.maturity : α), hiStart := (c.hiStart : α), flowering := (c.flowering : α),
    yldForm := (c.yldForm : α), senescence := (c.senescence : α), cc0 := (c.cc0 : α),
    ccx := (c.ccx : α), cgc := (c.cgc : α), floweringEnd := fe }

/-- the derived values of a thermal-time crop: thresholds `canopyDevEnd canopy10 maxCanopy`, the
calendar days `days` of the season, build-up coefficients, CO2 factor -/
def derivedGDD (c : CropFull) (canopyDevEnd canopy10 maxCanopy : α) (days : CalDays)
    (g t d f : α) (np : Bool) : CropDerived α :=
  { emergence := (c.emergence : α), maxRooting := (c.maxRooting : α),
    senescence := (c.senescence : α), maturity := (c.maturity : α), canopyDevEnd := canopyDevEnd,
    canopy10 := canopy10, maxCanopy := maxCanopy, maxCanopyCD := (days.maxCanopyCD : α),
    hiStartCD := (days.hiStartCD : α), hiEndCD := (days.hiEndCD : α),
    yldFormCD := ((days.yldFormCD : ℤ) : α), floweringCD := ((days.floweringCD : ℤ) : α),
    canopyDevEndCD := (days.canopyDevEndCD : α), hiGC := g, tLinSwitch := t, dHILinear := d,
    fco2 := f, zMinNp := np }

end CropFull

section calendarCD
variable {c : CropFull} {F : Fn α}

theorem calendarCD_facts (h : CropFullOK c) (hcal : CropFull.CalOK c) (hct : c.calendarType = 1)
    (hL : CalLogLaws F) (hR : CalRound0Laws F) {fe : α} {o : CalCDOut α}
    (ho : calendarInitCD F (c.calCDIn fe) = .ok o) :
    (c.hiStartCD : α) ≤ o.canopyDevEndCD ∧ 0 ≤ o.maxCanopyCD ∧
      (CropFull.DevEndOK c → o.canopyDevEnd ≤ o.senescence) := by
  obtain ⟨i1, i2, i3, e0, k1, k2, d1, d2⟩ := hcal.1 hct
  have hdev : o.canopyDevEndCD = if decide (c.determinant = 1) = true then
      F.round0 ((c.hiStartCD : α) + (c.floweringCD : α) / 2) else (c.senescenceCD : α) :=
    calendarInitCD_canopyDevEnd ho
  refine ⟨?_, ?_, fun hde => ?_⟩
  · rw [hdev]
    exact le_devEnd hR i1 _ _ _ (fun hd => le_cast_add_half (d1 (of_decide_eq_true hd)))
      (fun hd => Rat.cast_le.mpr (d2 (of_decide_eq_false hd)))
  · obtain ⟨cc0pos, _, _, cgcpos, _⟩ := (h.canopy.cast (α := α))
    have hcgc : (0 : α) < (c.cgcCD : α) := by
      have : c.cgcUsed = c.cgcCD := if_pos hct
      rw [← this]; exact cgcpos
    have hcc0 : ((c.cc0 : ℚ) : α) ≤ 0.1 :=
      (Rat.cast_le.mpr k1).trans_eq (Rat.cast_ofScientific _ _ _)
    have hccx : (0.008 : α) ≤ ((c.ccx : ℚ) : α) :=
      (Rat.cast_ofScientific _ _ _).symm.trans_le (Rat.cast_le.mpr k2)
    exact (Rat.cast_nonneg.mpr e0).trans
      ((calendarInitCD_emergence_le_canopy10Pct hL hR ho cc0pos hcc0 hcgc
          (rat_cast_int_of_den i3)).trans
        (calendarInitCD_canopy10Pct_le_maxCanopy hL hR ho cc0pos hccx hcgc))
  · obtain ⟨_, _, _, _, _, _, fsen, _, _, _, fde, _⟩ := calendarInitCD_fields ho
    rw [fde, fsen, hdev]
    exact devEnd_le hR i2 _ _ _ (fun hd => cast_add_half_le ((hde (of_decide_eq_true hd)).1 hct))
      (fun _ => le_refl _)

/-- `DevEndOK` fails for Barley and PaddyRice (`catalogue_devEnd_violations`) -/
theorem derivedRunOK_CD (h : CropFullOK c) (hcal : CropFull.CalOK c) (hde : CropFull.DevEndOK c)
    (hct : c.calendarType = 1) (hF : ExpOrdLaws F) (hL : CalLogLaws F) (hR : CalRound0Laws F)
    {fe : α} {o : CalCDOut α} (ho : calendarInitCD F (c.calCDIn fe) = .ok o)
    {fuel : Nat} {y : Int} (hy : ((y : ℤ) : ℚ) = c.yldFormCD) {g t d : α}
    (hb : hiBlock F fuel c.cropType y (c.hi0 : α) (c.hiIni : α) = .ok (g, t, d))
    {cur f : α} (hcur : 0 ≤ cur)
    (hf : fco2Init F cur 369.41 (c.bsted : α) (c.bface : α) (c.fsink : α) (c.wp : α) = some f)
    (np : Bool) : DerivedRunOK (c.derivedCD o g t d f np) := by
  obtain ⟨f1, f2, f3⟩ := calendarCD_facts h hcal hct hL hR ho
  obtain ⟨i1, i2, _⟩ := (h.hi.cast (α := α))
  have hy0 : (0 : ℚ) ≤ c.yldFormCD := h.hi.2.2.2.2.2 hct
  have hyI : 0 ≤ y := by
    have : (0 : ℚ) ≤ ((y : ℤ) : ℚ) := by rw [hy]; exact hy0
    exact_mod_cast this
  obtain ⟨g0, d0⟩ := hiBlock_nonneg hF i1 i2 hyI hb
  exact
    { ok :=
        { hiStart_le_devEnd := f1
          yldForm_nonneg := by
            show (0 : α) ≤ ((c.yldFormCD : ℚ) : α)
            exact_mod_cast hy0
          hiGC_nonneg := g0
          dHILinear_nonneg := d0
          fco2_nonneg := fco2Init_nonneg hF (co2Params_of_ok h) hcur hf }
      devEnd_le_senescence := f3 hde
      maxCanopyCD_nonneg := f2 }

end calendarCD

/-! ## 4. the calendar of a thermal-time crop (mode 2 and the reset block) -/

section calendarGDD
variable {c : CropFull} {F : Fn α}

theorem calendarDays_devEnd {ct : Nat} {th : CalThresh α} {cum : List α} {d : CalDays}
    (h : calendarDays ct th cum = .ok d) (h1 : th.hiStart ≤ th.canopyDevEnd)
    (h2 : th.canopyDevEnd ≤ th.maturity) : d.hiStartCD ≤ d.canopyDevEndCD := by
  obtain ⟨last, _, _, _, _, _, e3, e4, _⟩ := calendarDays_ok h
  have := firstAbove_mono h1 (calendarDays_exceeded h h2)
  omega

theorem initThresh_facts (hcal : CropFull.CalOK c) (hct : c.calendarType = 2)
    (hR : CalRound0Laws F) (fe : α) (th : CalThresh α) (hth : th = (initThresh F (c.calGDDIn fe)).1) :
    th.hiStart ≤ th.canopyDevEnd ∧ th.canopyDevEnd ≤ th.maturity ∧ th.hiStart ≤ th.hiEnd ∧
    th.hiEnd ≤ th.maturity ∧ (CropFull.DevEndOK c → th.canopyDevEnd ≤ (c.senescence : α)) := by
  obtain ⟨i1, i2, i3, y0, ym, d1, d2⟩ := hcal.2 hct
  have hthr : th.canopyDevEnd =
      if decide (c.determinant = 1) = true then F.round0 ((c.hiStart : α) + (c.flowering : α) / 2)
      else (c.senescence : α) := by rw [hth]; rfl
  have e1 : th.hiStart = (c.hiStart : α) := by rw [hth]; rfl
  have e2 : th.maturity = (c.maturity : α) := by rw [hth]; rfl
  have e3 : th.hiEnd = (c.hiStart : α) + (c.yldForm : α) := by rw [hth]; rfl
  rw [hthr, e1, e2, e3]
  refine ⟨?_, ?_, le_add_of_nonneg_right (Rat.cast_nonneg.mpr y0), by exact_mod_cast ym,
    fun hde => ?_⟩
  · exact le_devEnd hR i1 _ _ _ (fun hd => le_cast_add_half (d1 (of_decide_eq_true hd)).1)
      (fun hd => Rat.cast_le.mpr (d2 (of_decide_eq_false hd)).1)
  · exact devEnd_le hR i2 _ _ _ (fun hd => cast_add_half_le (d1 (of_decide_eq_true hd)).2)
      (fun hd => Rat.cast_le.mpr (d2 (of_decide_eq_false hd)).2)
  · exact devEnd_le hR i3 _ _ _ (fun hd => cast_add_half_le ((hde (of_decide_eq_true hd)).2 hct))
      (fun _ => le_refl _)

/-- `DevEndOK` fails for BarleyGDD and PaddyRiceGDD (`catalogue_devEnd_violations`) -/
theorem derivedRunOK_GDD (h : CropFullOK c) (hcal : CropFull.CalOK c) (hde : CropFull.DevEndOK c)
    (hct : c.calendarType = 2) (hF : ExpOrdLaws F) (hR : CalRound0Laws F) {fe : α}
    {temps : List (α × α)} {o : CalGDDOut α} (ho : calendarInit F (c.calGDDIn fe) temps = .ok o)
    {fuel : Nat} {g t d : α}
    (hb : hiBlock F fuel c.cropType o.days.yldFormCD (c.hi0 : α) (c.hiIni : α) = .ok (g, t, d))
    {cur f : α} (hcur : 0 ≤ cur)
    (hf : fco2Init F cur 369.41 (c.bsted : α) (c.bface : α) (c.fsink : α) (c.wp : α) = some f)
    (np : Bool) :
    DerivedRunOK (c.derivedGDD o.canopyDevEnd o.canopy10Pct o.maxCanopy o.days g t d f np) := by
  obtain ⟨t1, t2, t3, t4, t5⟩ := initThresh_facts (F := F) hcal hct hR fe _ rfl
  obtain ⟨m, _, hd⟩ := calendarInit_days ho
  have hdev : o.canopyDevEnd = (initThresh F (c.calGDDIn fe)).1.canopyDevEnd :=
    (congrArg CalThresh.canopyDevEnd (calendarInit_thresholds ho).1).symm
  have a1 := calendarDays_devEnd hd t1 t2
  have a2 := (calendarDays_hiStart_le_hiEnd hd t3 t4).2
  obtain ⟨i1, i2, _⟩ := (h.hi.cast (α := α))
  obtain ⟨g0, d0⟩ := hiBlock_nonneg hF i1 i2 a2 hb
  exact
    { ok :=
        { hiStart_le_devEnd := by
            show ((o.days.hiStartCD : ℕ) : α) ≤ ((o.days.canopyDevEndCD : ℕ) : α)
            exact_mod_cast a1
          yldForm_nonneg := by
            show (0 : α) ≤ ((o.days.yldFormCD : ℤ) : α)
            exact_mod_cast a2
          hiGC_nonneg := g0
          dHILinear_nonneg := d0
          fco2_nonneg := fco2Init_nonneg hF (co2Params_of_ok h) hcur hf }
      devEnd_le_senescence := by
        show o.canopyDevEnd ≤ ((c.senescence : ℚ) : α)
        rw [hdev]; exact t5 hde
      maxCanopyCD_nonneg := by
        show (0 : α) ≤ ((o.days.maxCanopyCD : ℕ) : α)
        exact Nat.cast_nonneg _ }

end calendarGDD

/-! ## 5. over the reals: no law left -/

theorem calLogLaws_real : CalLogLaws realFn :=
  ⟨Real.log_one, fun _ _ hx hxy => Real.log_le_log hx hxy⟩

theorem calRound0Laws_real : CalRound0Laws realFn := ⟨fun _ _ h => h, fun _ => rfl⟩

theorem derivedRunOK_CD_real {c : CropFull} (hc : c ∈ cropFullTable) (hde : CropFull.DevEndOK c)
    (hct : c.calendarType = 1) {fe : ℝ} {o : CalCDOut ℝ}
    (ho : calendarInitCD realFn (c.calCDIn fe) = .ok o)
    {fuel : Nat} {y : Int} (hy : ((y : ℤ) : ℚ) = c.yldFormCD) {g t d : ℝ}
    (hb : hiBlock realFn fuel c.cropType y (c.hi0 : ℝ) (c.hiIni : ℝ) = .ok (g, t, d))
    {cur f : ℝ} (hcur : 0 ≤ cur)
    (hf : fco2Init realFn cur 369.41 (c.bsted : ℝ) (c.bface : ℝ) (c.fsink : ℝ) (c.wp : ℝ) = some f)
    (np : Bool) : DerivedRunOK (c.derivedCD o g t d f np) :=
  derivedRunOK_CD (catalogue_ok c hc) (catalogue_calOK c hc) hde hct expOrdLaws_real calLogLaws_real
    calRound0Laws_real ho hy hb hcur hf np

theorem derivedRunOK_GDD_real {c : CropFull} (hc : c ∈ cropFullTable) (hde : CropFull.DevEndOK c)
    (hct : c.calendarType = 2) {fe : ℝ} {temps : List (ℝ × ℝ)} {o : CalGDDOut ℝ}
    (ho : calendarInit realFn (c.calGDDIn fe) temps = .ok o) {fuel : Nat} {g t d : ℝ}
    (hb : hiBlock realFn fuel c.cropType o.days.yldFormCD (c.hi0 : ℝ) (c.hiIni : ℝ) = .ok (g, t, d))
    {cur f : ℝ} (hcur : 0 ≤ cur)
    (hf : fco2Init realFn cur 369.41 (c.bsted : ℝ) (c.bface : ℝ) (c.fsink : ℝ) (c.wp : ℝ) = some f)
    (np : Bool) :
    DerivedRunOK (c.derivedGDD o.canopyDevEnd o.canopy10Pct o.maxCanopy o.days g t d f np) :=
  derivedRunOK_GDD (catalogue_ok c hc) (catalogue_calOK c hc) hde hct expOrdLaws_real
    calRound0Laws_real ho hb hcur hf np

/-! ## 6. existence: every calendar-day catalogue crop has such derived values -/

theorem catalogue_higcOK : ∀ c ∈ cropFullTable, CropFull.HigcOK c :=
  fun c hc => (catalogue_rowOK c hc).2.2.2.1

theorem exists_derivedRunOK_CD_real {c : CropFull} (hc : c ∈ cropFullTable)
    (hde : CropFull.DevEndOK c) (hct : c.calendarType = 1) {cur : ℝ} (hcur : 0 ≤ cur) (fe : ℝ)
    (np : Bool) :
    ∃ (o : CalCDOut ℝ) (g t d f : ℝ),
      calendarInitCD realFn (c.calCDIn fe) = .ok o ∧
      hiBlock realFn higcFuel c.cropType c.yldFormCD.num (c.hi0 : ℝ) (c.hiIni : ℝ) = .ok (g, t, d) ∧
      fco2Init realFn cur 369.41 (c.bsted : ℝ) (c.bface : ℝ) (c.fsink : ℝ) (c.wp : ℝ) = some f ∧
      DerivedRunOK (c.derivedCD o g t d f np) := by
  have h := catalogue_ok c hc
  obtain ⟨yi, yf, ybig⟩ := catalogue_higcOK c hc hct
  have hyQ : ((c.yldFormCD.num : ℤ) : ℚ) = c.yldFormCD := Rat.coe_int_num_of_den_eq_one yi
  obtain ⟨o, ho⟩ := (calendarInitCD_ok_iff realFn (c.calCDIn fe)).mpr (by
    show decide (c.switchGDD = 1) = false
    rw [h.canopy.1]; rfl)
  obtain ⟨i1, i2, _⟩ := (h.hi.cast (α := ℝ))
  have hyR : ((c.yldFormCD.num : ℤ) : ℝ) = ((c.yldFormCD : ℚ) : ℝ) := by
    rw [← hyQ]; simp
  have hle : c.yldFormCD.num ≤ ((higcFuel : ℕ) : ℤ) := by
    have : ((c.yldFormCD.num : ℤ) : ℚ) ≤ (((higcFuel : ℕ) : ℤ) : ℚ) := by rw [hyQ]; exact_mod_cast yf
    exact_mod_cast this
  have hsome : (calculateHIGC realFn higcFuel ((c.yldFormCD.num : ℤ) : ℝ) (c.hi0 : ℝ)
      (c.hiIni : ℝ)).isSome = true := by
    apply calculateHIGC_isSome expOrdLaws_real expAddLaw_real expLinLaw_real higcFuel _ _ _ i1 i2
      (by decide)
    rw [hyR]
    have : ((49 * (c.hi0 - c.hiIni) : ℚ) : ℝ) <
        ((c.hiIni * (1 + (0.001 + (higcFuel : ℚ) * 0.001) * c.yldFormCD) : ℚ) : ℝ) :=
      Rat.cast_lt.mpr ybig
    simpa only [Rat.cast_mul, Rat.cast_sub, Rat.cast_add, Rat.cast_one, Rat.cast_ofNat,
      Rat.cast_natCast, Rat.cast_ofScientific] using this
  obtain ⟨⟨g, t, d⟩, hb⟩ := (hiBlock_ok_iff realFn (ct := c.cropType) hle (c.hi0 : ℝ)
    (c.hiIni : ℝ)).mpr hsome
  have hfs := fco2Init_isSome realFn cur 369.41 (c.bsted : ℝ) (c.bface : ℝ) (c.fsink : ℝ) (c.wp : ℝ)
  obtain ⟨f, hf⟩ := Option.isSome_iff_exists.mp hfs
  exact ⟨o, g, t, d, f, ho, hb, hf, derivedRunOK_CD_real hc hde hct ho hyQ hb hcur hf np⟩

end Aqua

section AxiomAudit
open Aqua
#print axioms catalogue_calOK
#print axioms catalogue_devEnd_violations
#print axioms hiBlock_nonneg
#print axioms calendarCD_facts
#print axioms derivedRunOK_CD
#print axioms calendarDays_devEnd
#print axioms initThresh_facts
#print axioms derivedRunOK_GDD
#print axioms derivedRunOK_CD_real
#print axioms derivedRunOK_GDD_real
#print axioms catalogue_higcOK
#print axioms exists_derivedRunOK_CD_real
#print axioms catalogue_CD_devEndOK
end AxiomAudit
