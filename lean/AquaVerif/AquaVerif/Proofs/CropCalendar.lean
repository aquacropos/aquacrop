import AquaVerif.Model.CropCalendar
import AquaVerif.Proofs.Basic
import AquaVerif.Proofs.Response
import AquaVerif.Proofs.HarvestIndex

/-
Lemmas about the crop calendar (`Model/CropCalendar.lean`).

A. daily growing degrees: the reset's clipping is the daily `growing_degree_day`
   (`gddDayReset_eq_daily`); pandas' `clip` = numpy's in-place clipping when `Tbase ≤ Tupp`
   (`gddDayInit_eq_reset`, counterexample for `Tupp < Tbase`); range `[0, Tupp − Tbase]`.
B. `cumsum`: length, bounds, non-decreasing for non-negative terms, consecutive elements, the sums
   of a list are a prefix of the sums of every extension.
C. `findAbove` / `firstAbove`: characterisation (first position exceeding the threshold, `0` when
   none), monotone in the threshold; on a cumulative sum the value read at position `i` is first
   exceeded at `i + 1` (`firstAbove_cumsum_getElem`).
D. `calendarDays`: success iff the two asserts hold on a non-empty list (totality), the day fields,
   their order (`HIstartCD ≤ HIendCD`, `… ≤ MaturityCD`, `1 ≤ …`, `MaturityCD < 365`), a
   sufficient condition for `0 < YldFormCD`, its errors.
E. once `GDDmethod` is known, `calendarInit` and `calendarResetDays` are `calendarDays` on the
   cumulated series (`calendarInit_eq`, `calendarResetDays_eq`).  **`reset_eq_init`**: the reset
   block returns what the initialisation (mode 2 + harvest-index block of `compute_variables`)
   returns on the same temperature list (C08, "crop calendar").
F. totality of `calendarResetDays`, `calendarReset`; the harvest-index block fails only with
   `E:fuel`; the order and positivity lemmas of D at the reset.
G. mode 1: `calendarInitCD` is `noSwitchOut` unless `SwitchGDD` is set; its fields; the order
   `EmergenceCD ≤ Canopy10PctCD ≤ MaxCanopyCD` (and its thermal-time analogue for `initThresh`).
-/

set_option linter.unusedSectionVars false
namespace Aqua
variable {α : Type} [Field α] [LinearOrder α] [IsStrictOrderedRing α]

/-! ## A. daily growing degrees -/

theorem GddMethod.ofNat?_toNat (m : GddMethod) : GddMethod.ofNat? m.toNat = some m := by
  cases m <;> rfl

theorem GddMethod.toNat_of_ofNat? {n : Nat} {m : GddMethod} (h : GddMethod.ofNat? n = some m) :
    n = m.toNat := by
  unfold GddMethod.ofNat? at h
  split_ifs at h with h1 h2 h3 <;> cases h <;> simp [GddMethod.toNat, *]

theorem GddMethod.ofNat?_isSome_iff (n : Nat) :
    (GddMethod.ofNat? n).isSome ↔ (n = 1 ∨ n = 2 ∨ n = 3) := by
  unfold GddMethod.ofNat?
  split_ifs with h1 h2 h3 <;> simp [*]

theorem GddMethod.ofNat?_eq_none_iff {n : Nat} :
    GddMethod.ofNat? n = none ↔ ¬ (n = 1 ∨ n = 2 ∨ n = 3) := by
  rw [← GddMethod.ofNat?_isSome_iff, Bool.not_eq_true, Option.isSome_eq_false_iff,
    Option.isNone_iff_eq_none]

theorem GddMethod.of_ofNat?_eq_some {n : Nat} {m : GddMethod} (h : GddMethod.ofNat? n = some m) :
    n = 1 ∨ n = 2 ∨ n = 3 :=
  (GddMethod.ofNat?_isSome_iff n).mp (Option.isSome_of_eq_some h)

/-- the reset's clipping **is** the daily `growing_degree_day` (`Model/Response.lean`), method by
method (note the argument order of the daily function: `Tupp Tbase temp_max temp_min`) -/
theorem gddDayReset_eq_daily (m : GddMethod) (tbase tupp tmin tmax : α) :
    growingDegreeDay m.toNat tupp tbase tmax tmin = some (gddDayReset m tbase tupp tmin tmax) := by
  cases m <;> simp [growingDegreeDay, gddDayReset, GddMethod.toNat]

theorem pdClip_eq (x lo hi : α) : pdClip x lo hi = min (max x (min lo hi)) (max lo hi) := by
  simp only [pdClip, clipUpper, clipLower, pmin_eq, pmax_eq]

theorem pdClip_of_le {lo hi : α} (h : lo ≤ hi) (x : α) : pdClip x lo hi = pmax (pmin x hi) lo := by
  rw [pdClip_eq, pmax_eq, pmin_eq, min_eq_left h, max_eq_right h, max_min_distrib_right,
    max_eq_left h]

theorem gddDayInit_eq_reset (m : GddMethod) {tbase tupp : α} (h : tbase ≤ tupp) (tmin tmax : α) :
    gddDayInit m tbase tupp tmin tmax = gddDayReset m tbase tupp tmin tmax := by
  cases m <;> simp only [gddDayInit, gddDayReset, pdClip_of_le h, clipUpper, clipLower]

theorem gddSeriesInit_eq_reset (m : GddMethod) {tbase tupp : α} (h : tbase ≤ tupp)
    (temps : List (α × α)) :
    gddSeriesInit m tbase tupp temps = gddSeriesReset m tbase tupp temps := by
  unfold gddSeriesInit gddSeriesReset
  exact List.map_congr_left (fun t _ => gddDayInit_eq_reset m h t.1 t.2)

/-- the premise `Tbase ≤ Tupp` is needed: with `Tbase = 10`, `Tupp = 5` and a day at 7 °C the
initialisation (pandas swaps the bounds) counts `-3` growing degrees, the reset `0`
(for each of the three methods) -/
example : gddDayInit .m1 (10 : ℚ) 5 7 7 = -3 ∧ gddDayReset .m1 (10 : ℚ) 5 7 7 = 0 ∧
    gddDayInit .m2 (10 : ℚ) 5 7 7 = -3 ∧ gddDayReset .m2 (10 : ℚ) 5 7 7 = 0 ∧
    gddDayInit .m3 (10 : ℚ) 5 7 7 = 0 ∧ gddDayReset .m3 (10 : ℚ) 5 7 7 = 0 ∧
    gddDayInit .m3 (10 : ℚ) 5 20 20 = 0 ∧ gddDayReset .m3 (10 : ℚ) 5 20 20 = 0 := by
  decide +kernel

theorem gddDayReset_range (m : GddMethod) {tbase tupp : α} (h : tbase ≤ tupp) (tmin tmax : α) :
    0 ≤ gddDayReset m tbase tupp tmin tmax ∧ gddDayReset m tbase tupp tmin tmax ≤ tupp - tbase :=
  gdd_range h (gddDayReset_eq_daily m tbase tupp tmin tmax)

theorem gddDayInit_range (m : GddMethod) {tbase tupp : α} (h : tbase ≤ tupp) (tmin tmax : α) :
    0 ≤ gddDayInit m tbase tupp tmin tmax ∧ gddDayInit m tbase tupp tmin tmax ≤ tupp - tbase := by
  rw [gddDayInit_eq_reset m h]; exact gddDayReset_range m h tmin tmax

theorem gddSeriesReset_range (m : GddMethod) {tbase tupp : α} (h : tbase ≤ tupp)
    (temps : List (α × α)) :
    ∀ g ∈ gddSeriesReset m tbase tupp temps, 0 ≤ g ∧ g ≤ tupp - tbase := by
  intro g hg
  unfold gddSeriesReset at hg
  obtain ⟨t, _, rfl⟩ := List.mem_map.mp hg
  exact gddDayReset_range m h t.1 t.2

theorem gddSeriesInit_range (m : GddMethod) {tbase tupp : α} (h : tbase ≤ tupp)
    (temps : List (α × α)) :
    ∀ g ∈ gddSeriesInit m tbase tupp temps, 0 ≤ g ∧ g ≤ tupp - tbase := by
  rw [gddSeriesInit_eq_reset m h]; exact gddSeriesReset_range m h temps

/-! ## B. cumulative sum -/

theorem cumsum_eq_cumsumFrom_zero (xs : List α) : cumsum xs = cumsumFrom 0 xs := by
  cases xs with
  | nil => rfl
  | cons x xs => simp [cumsum, cumsumFrom, zero_add]

theorem cumsumFrom_length (acc : α) (xs : List α) : (cumsumFrom acc xs).length = xs.length := by
  induction xs generalizing acc with
  | nil => rfl
  | cons x xs ih => simp [cumsumFrom, ih]

theorem cumsum_length (xs : List α) : (cumsum xs).length = xs.length := by
  rw [cumsum_eq_cumsumFrom_zero, cumsumFrom_length]

theorem cumsum_eq_nil_iff (xs : List α) : cumsum xs = [] ↔ xs = [] := by
  cases xs <;> simp [cumsum]

theorem cumsumFrom_mono {acc : α} {xs : List α} (h : ∀ x ∈ xs, 0 ≤ x) :
    (∀ y ∈ cumsumFrom acc xs, acc ≤ y) ∧ (cumsumFrom acc xs).Pairwise (· ≤ ·) := by
  induction xs generalizing acc with
  | nil => exact ⟨fun y hy => (nomatch hy), List.Pairwise.nil⟩
  | cons x xs ih =>
    obtain ⟨hge, hpw⟩ := ih (acc := acc + x) fun z hz => h z (List.mem_cons_of_mem _ hz)
    have hx : acc ≤ acc + x := le_add_of_nonneg_right (h x List.mem_cons_self)
    refine ⟨fun y hy => ?_, List.pairwise_cons.mpr ⟨hge, hpw⟩⟩
    rcases List.mem_cons.mp hy with rfl | hy
    · exact hx
    · exact hx.trans (hge y hy)

theorem cumsumFrom_le_add {xs : List α} {Δ : α} (hz : ∀ z ∈ xs, z ≤ Δ) (hΔ : Δ ≤ 0) (acc : α) :
    ∀ y ∈ cumsumFrom acc xs, y ≤ acc + Δ := by
  induction xs generalizing acc with
  | nil => intro y hy; cases hy
  | cons z zs ih =>
    intro y hy
    have h1 := hz z List.mem_cons_self
    rcases List.mem_cons.mp hy with rfl | hy
    · exact add_le_add_right h1 acc
    · have := ih (fun w hw => hz w (List.mem_cons_of_mem _ hw)) (acc + z) y hy
      linarith

theorem cumsum_pairwise {xs : List α} (h : ∀ x ∈ xs, 0 ≤ x) : (cumsum xs).Pairwise (· ≤ ·) := by
  rw [cumsum_eq_cumsumFrom_zero]
  exact (cumsumFrom_mono h).2

theorem cumsumFrom_getElem?_succ (acc : α) (xs : List α) (i : Nat) (h : i + 1 < xs.length) :
    ∃ t, (cumsumFrom acc xs)[i]? = some t ∧ (cumsumFrom acc xs)[i + 1]? = some (t + xs[i + 1]) := by
  induction xs generalizing acc i with
  | nil => simp at h
  | cons x xs ih =>
    cases i with
    | zero =>
      cases xs with
      | nil => simp at h
      | cons y ys => exact ⟨acc + x, rfl, rfl⟩
    | succ i => exact ih (acc + x) i (Nat.lt_of_succ_lt_succ h)

omit [LinearOrder α] [IsStrictOrderedRing α] in
theorem cumsumFrom_append (acc : α) (a b : List α) :
    ∃ t, cumsumFrom acc (a ++ b) = cumsumFrom acc a ++ t := by
  induction a generalizing acc with
  | nil => exact ⟨cumsumFrom acc b, by simp [cumsumFrom]⟩
  | cons x xs ih =>
    obtain ⟨t, ht⟩ := ih (acc + x)
    exact ⟨t, by simp [cumsumFrom, ht]⟩

theorem cumsum_append_getElem? (a b : List α) {i : Nat} {v : α} (h : (cumsum a)[i]? = some v) :
    (cumsum (a ++ b))[i]? = some v := by
  rw [cumsum_eq_cumsumFrom_zero] at h ⊢
  obtain ⟨t, ht⟩ := cumsumFrom_append 0 a b
  rw [ht]
  obtain ⟨hi, _⟩ := List.getElem?_eq_some_iff.mp h
  rw [List.getElem?_append_left hi]; exact h

theorem cumsum_getElem_succ (gdd : List α) {k : Nat} (hk : k + 1 < (cumsum gdd).length) :
    (cumsum gdd)[k + 1] = (cumsum gdd)[k] + gdd[k + 1]'(cumsum_length gdd ▸ hk) := by
  have hk' : k + 1 < gdd.length := cumsum_length gdd ▸ hk
  obtain ⟨t, ht, ht1⟩ := cumsumFrom_getElem?_succ 0 gdd k hk'
  simp only [cumsum_eq_cumsumFrom_zero] at hk ⊢
  rw [(List.getElem?_eq_some_iff.mp ht1).2, (List.getElem?_eq_some_iff.mp ht).2]

/-! ## C. first position above a threshold -/

theorem findAbove_eq_findIdx? (x : α) (cum : List α) :
    findAbove x cum = cum.findIdx? (fun c => decide (x < c)) := by
  induction cum with
  | nil => rfl
  | cons c cs ih => simp only [findAbove, List.findIdx?_cons, decide_eq_true_eq, ih]

theorem firstAbove_eq_findIdx {x : α} {cum : List α} (h : ∃ c ∈ cum, x < c) :
    firstAbove cum x = cum.findIdx (fun c => decide (x < c)) := by
  have hlt := List.findIdx_lt_length_of_exists (p := fun c => decide (x < c))
    (h.imp fun c hc => ⟨hc.1, decide_eq_true hc.2⟩)
  rw [firstAbove, findAbove_eq_findIdx?, List.findIdx?_eq_some_iff_findIdx_eq.mpr ⟨hlt, rfl⟩]
  rfl

/-- the `idxmax`/`argmax` look-up returns `0` when no element exceeds `x` — indistinguishable from
"the first element does" -/
theorem firstAbove_of_none {x : α} {cum : List α} (h : ∀ c ∈ cum, ¬ x < c) :
    firstAbove cum x = 0 := by
  rw [firstAbove, findAbove_eq_findIdx?,
    List.findIdx?_eq_none_iff.mpr fun c hc => decide_eq_false (h c hc)]
  rfl

theorem firstAbove_getElem {x : α} {cum : List α} (h : ∃ c ∈ cum, x < c) :
    ∃ hl : firstAbove cum x < cum.length, x < cum[firstAbove cum x] := by
  rw [firstAbove_eq_findIdx h]
  have hl := List.findIdx_lt_length_of_exists (p := fun c => decide (x < c))
    (h.imp fun c hc => ⟨hc.1, decide_eq_true hc.2⟩)
  exact ⟨hl, of_decide_eq_true (List.findIdx_getElem (w := hl))⟩

theorem firstAbove_le {x : α} {cum : List α} {j : Nat} (hj : j < cum.length) (hx : x < cum[j]) :
    firstAbove cum x ≤ j := by
  rw [firstAbove_eq_findIdx ⟨_, List.getElem_mem hj, hx⟩]
  exact not_lt.mp fun hlt =>
    Bool.noConfusion ((decide_eq_true hx).symm.trans (List.not_of_lt_findIdx hlt))

theorem firstAbove_lt_length {x : α} {cum : List α} (h : ∃ c ∈ cum, x < c) :
    firstAbove cum x < cum.length :=
  (firstAbove_getElem h).1

theorem firstAbove_succ_le_length {cum : List α} (hne : cum ≠ []) (x : α) :
    firstAbove cum x + 1 ≤ cum.length := by
  by_cases h : ∃ c ∈ cum, x < c
  · exact firstAbove_lt_length h
  · rw [firstAbove_of_none (fun c hc hx => h ⟨c, hc, hx⟩)]
    exact List.length_pos_iff.mpr hne

theorem firstAbove_le_length (x : α) (cum : List α) : firstAbove cum x ≤ cum.length := by
  cases cum with
  | nil => exact Nat.le_refl 0
  | cons c cs => exact Nat.le_of_succ_le (firstAbove_succ_le_length (List.cons_ne_nil c cs) x)

theorem firstAbove_mono {x y : α} (hxy : x ≤ y) {cum : List α} (h : ∃ c ∈ cum, y < c) :
    firstAbove cum x ≤ firstAbove cum y := by
  obtain ⟨hl, hy⟩ := firstAbove_getElem h
  exact firstAbove_le hl (hxy.trans_lt hy)

/-- `firstAbove cum x` = first position whose value is STRICTLY greater than
`x`.  With non-negative daily degrees `g` and a positive one at position `i + 1`, the cumulative
sum read at position `i` is first exceeded at position `i + 1`. -/
theorem firstAbove_cumsum_getElem {g : List α} {i : Nat} (hi : i + 1 < g.length)
    (hnn : ∀ x ∈ g, 0 ≤ x) (hpos : 0 < g[i + 1]) :
    firstAbove (cumsum g) ((cumsum g)[i]'(by rw [cumsum_length]; omega)) = i + 1 := by
  have hl : i + 1 < (cumsum g).length := by rw [cumsum_length]; exact hi
  have hup : (cumsum g)[i] < (cumsum g)[i + 1] := by
    rw [cumsum_getElem_succ g hl]; exact lt_add_of_pos_right _ hpos
  refine le_antisymm (firstAbove_le hl hup) (Nat.succ_le_of_lt (lt_of_not_ge fun hle => ?_))
  -- a position `≤ i` holds a value `≤ cum[i]` (the sums never decrease)
  obtain ⟨hl', hx⟩ := firstAbove_getElem ⟨_, List.getElem_mem hl, hup⟩
  rcases Nat.lt_or_eq_of_le hle with hlt | heq
  · exact absurd hx (not_lt.mpr (List.pairwise_iff_getElem.mp (cumsum_pairwise hnn) _ _ hl' _ hlt))
  · simp only [heq, lt_self_iff_false] at hx

theorem firstAbove_cumsum_succ {g : List α} {i : Nat} (hi : i + 1 < g.length)
    (hnn : ∀ x ∈ g, 0 ≤ x) (hpos : 0 < g[i + 1]) :
    ∃ t, (cumsum g)[i]? = some t ∧ firstAbove (cumsum g) t = i + 1 :=
  ⟨_, List.getElem?_eq_getElem (by rw [cumsum_length]; omega), firstAbove_cumsum_getElem hi hnn hpos⟩

/-- non-vacuity: degrees `1, 0, 2, 3`; cumulative `1, 1, 3, 6`; the value read at position 1 (`1`)
is first exceeded at position 2 -/
example : firstAbove (cumsum ([1, 0, 2, 3] : List ℚ)) 1 = 2 := by
  simp [firstAbove, findAbove, cumsum, cumsumFrom]

example : firstAbove (cumsum ([1, 0, 2, 3] : List ℚ))
    ((cumsum ([1, 0, 2, 3] : List ℚ))[1]'(by simp [cumsum, cumsumFrom])) = 1 + 1 :=
  firstAbove_cumsum_getElem (by simp) (by simp) (by simp)

/-! ## D. the look-ups (`calendarDays`) -/

theorem calendarDays_ok {ct : Nat} {th : CalThresh α} {cum : List α} {d : CalDays}
    (h : calendarDays ct th cum = .ok d) :
    ∃ last, cum.getLast? = some last ∧ th.maturity < last ∧
      firstAbove cum th.maturity + 1 < 365 ∧
      d.maturityCD = firstAbove cum th.maturity + 1 ∧
      d.maxCanopyCD = firstAbove cum th.maxCanopy + 1 ∧
      d.canopyDevEndCD = firstAbove cum th.canopyDevEnd + 1 ∧
      d.hiStartCD = firstAbove cum th.hiStart + 1 ∧
      d.hiEndCD = firstAbove cum th.hiEnd + 1 ∧
      d.yldFormCD = (d.hiEndCD : Int) - (d.hiStartCD : Int) ∧
      d.floweringCD = (if ct = 3 then
        ((firstAbove cum th.floweringEnd + 1 : Nat) : Int) - (d.hiStartCD : Int) else noValue) := by
  unfold calendarDays at h
  cases hl : cum.getLast? with
  | none => rw [hl] at h; simp at h
  | some last =>
    rw [hl] at h
    by_cases h1 : th.maturity < last
    · by_cases h2 : firstAbove cum th.maturity + 1 < 365
      · simp only [h1, h2, if_true] at h
        cases h
        exact ⟨last, rfl, h1, h2, rfl, rfl, rfl, rfl, rfl, rfl, rfl⟩
      · simp [h1, h2] at h
    · simp [h1] at h

theorem calendarDays_ok_iff (ct : Nat) (th : CalThresh α) (cum : List α) :
    (∃ d, calendarDays ct th cum = .ok d) ↔
      ∃ last, cum.getLast? = some last ∧ th.maturity < last ∧
        firstAbove cum th.maturity + 1 < 365 := by
  constructor
  · rintro ⟨d, h⟩
    obtain ⟨last, hl, h1, h2, _⟩ := calendarDays_ok h
    exact ⟨last, hl, h1, h2⟩
  · rintro ⟨last, hl, h1, h2⟩
    unfold calendarDays
    rw [hl]
    simp only [h1, h2, if_true]
    exact ⟨_, rfl⟩

theorem calendarDays_error {ct : Nat} {th : CalThresh α} {cum : List α} {e : String}
    (h : calendarDays ct th cum = .error e) :
    (e = "E:index" ∧ cum = []) ∨
    (e = "E:assert:maturity" ∧ ∃ last, cum.getLast? = some last ∧ ¬ th.maturity < last) ∨
    (e = "E:assert:year" ∧ ∃ last, cum.getLast? = some last ∧ th.maturity < last ∧
      ¬ firstAbove cum th.maturity + 1 < 365) := by
  unfold calendarDays at h
  cases hl : cum.getLast? with
  | none =>
    rw [hl] at h
    exact Or.inl ⟨(Except.error.inj h).symm, List.getLast?_eq_none_iff.mp hl⟩
  | some last =>
    simp only [hl] at h
    by_cases h1 : th.maturity < last
    · by_cases h2 : firstAbove cum th.maturity + 1 < 365
      · rw [if_pos h1, if_pos h2] at h
        cases h
      · rw [if_pos h1, if_neg h2] at h
        exact Or.inr (Or.inr ⟨(Except.error.inj h).symm, last, rfl, h1, h2⟩)
    · rw [if_neg h1] at h
      exact Or.inr (Or.inl ⟨(Except.error.inj h).symm, last, rfl, h1⟩)

section order
variable {ct : Nat} {th : CalThresh α} {cum : List α} {d : CalDays}

theorem calendarDays_exceeded (h : calendarDays ct th cum = .ok d) {x : α}
    (hx : x ≤ th.maturity) : ∃ c ∈ cum, x < c := by
  obtain ⟨last, hl, h1, _⟩ := calendarDays_ok h
  exact ⟨last, List.mem_of_getLast? hl, lt_of_le_of_lt hx h1⟩

theorem calendarDays_maturity_le_length (h : calendarDays ct th cum = .ok d) :
    d.maturityCD ≤ cum.length := by
  obtain ⟨last, _, _, _, e1, _⟩ := calendarDays_ok h
  have := firstAbove_lt_length (calendarDays_exceeded h (le_refl th.maturity))
  omega

theorem calendarDays_hiStart_le_hiEnd (h : calendarDays ct th cum = .ok d)
    (h1 : th.hiStart ≤ th.hiEnd) (h2 : th.hiEnd ≤ th.maturity) :
    d.hiStartCD ≤ d.hiEndCD ∧ 0 ≤ d.yldFormCD := by
  obtain ⟨last, _, _, _, _, _, _, e4, e5, e6, _⟩ := calendarDays_ok h
  have := firstAbove_mono h1 (calendarDays_exceeded h h2)
  omega

theorem calendarDays_le_maturity (h : calendarDays ct th cum = .ok d) {x : α}
    (hx : x ≤ th.maturity) : firstAbove cum x + 1 ≤ d.maturityCD := by
  obtain ⟨last, _, _, _, e1, _⟩ := calendarDays_ok h
  have := firstAbove_mono hx (calendarDays_exceeded h (le_refl _))
  omega

theorem calendarDays_maxCanopy_le_maturity (h : calendarDays ct th cum = .ok d)
    (h2 : th.maxCanopy ≤ th.maturity) : d.maxCanopyCD ≤ d.maturityCD := by
  obtain ⟨last, _, _, _, _, e2, _⟩ := calendarDays_ok h
  exact e2 ▸ calendarDays_le_maturity h h2

theorem calendarDays_canopyDevEnd_le_maturity (h : calendarDays ct th cum = .ok d)
    (h2 : th.canopyDevEnd ≤ th.maturity) : d.canopyDevEndCD ≤ d.maturityCD := by
  obtain ⟨last, _, _, _, _, _, e3, _⟩ := calendarDays_ok h
  exact e3 ▸ calendarDays_le_maturity h h2

theorem calendarDays_hiStart_le_maturity (h : calendarDays ct th cum = .ok d)
    (h2 : th.hiStart ≤ th.maturity) : d.hiStartCD ≤ d.maturityCD := by
  obtain ⟨last, _, _, _, _, _, _, e4, _⟩ := calendarDays_ok h
  exact e4 ▸ calendarDays_le_maturity h h2

theorem calendarDays_order (h : calendarDays ct th cum = .ok d) (h1 : th.hiStart ≤ th.hiEnd)
    (h2 : th.hiEnd ≤ th.maturity) :
    1 ≤ d.hiStartCD ∧ d.hiStartCD ≤ d.hiEndCD ∧ d.hiEndCD ≤ d.maturityCD ∧
    d.maturityCD < 365 ∧ 0 ≤ d.yldFormCD := by
  obtain ⟨last, _, _, h365, e1, _, _, e4, e5, e6, _⟩ := calendarDays_ok h
  have a := firstAbove_mono h1 (calendarDays_exceeded h h2)
  have b := calendarDays_le_maturity h h2
  omega

theorem calendarDays_flowering_nonneg (h : calendarDays ct th cum = .ok d) (h3 : ct = 3)
    (h1 : th.hiStart ≤ th.floweringEnd) (h2 : th.floweringEnd ≤ th.maturity) :
    0 ≤ d.floweringCD := by
  obtain ⟨last, _, _, _, _, _, _, e4, _, _, e7⟩ := calendarDays_ok h
  have := firstAbove_mono h1 (calendarDays_exceeded h h2)
  rw [if_pos h3] at e7
  omega

theorem calendarDays_flowering_noValue (h : calendarDays ct th cum = .ok d) (h3 : ct ≠ 3) :
    d.floweringCD = -999 := by
  obtain ⟨last, _, _, _, _, _, _, _, _, _, e7⟩ := calendarDays_ok h
  rw [if_neg h3] at e7; exact e7

/-- every day number lies within the list, whatever the thresholds (a threshold that is never
exceeded yields day 1) -/
theorem calendarDays_le_length (h : calendarDays ct th cum = .ok d) :
    d.maxCanopyCD ≤ cum.length ∧ d.canopyDevEndCD ≤ cum.length ∧ d.hiStartCD ≤ cum.length ∧
    d.hiEndCD ≤ cum.length ∧ d.yldFormCD ≤ (cum.length : Int) := by
  obtain ⟨last, hl, _, _, _, e2, e3, e4, e5, e6, _⟩ := calendarDays_ok h
  have hne : cum ≠ [] := List.ne_nil_of_mem (List.mem_of_getLast? hl)
  have a2 := firstAbove_succ_le_length hne th.maxCanopy
  have a3 := firstAbove_succ_le_length hne th.canopyDevEnd
  have a4 := firstAbove_succ_le_length hne th.hiStart
  have a5 := firstAbove_succ_le_length hne th.hiEnd
  omega

end order

theorem firstAbove_lt_of_gap {gdd : List α} {Δ lo hi : α} (hg : ∀ g ∈ gdd, g ≤ Δ)
    (h0 : 0 ≤ lo) (hgap : lo + Δ ≤ hi) (hex : ∃ c ∈ cumsum gdd, hi < c) :
    firstAbove (cumsum gdd) lo < firstAbove (cumsum gdd) hi := by
  -- the first position above `hi` is not position 0 (the first term is `≤ Δ ≤ hi`), and one
  -- position earlier the sum is already above `hi − Δ ≥ lo`
  obtain ⟨hl, hhi⟩ := firstAbove_getElem hex
  cases hk : firstAbove (cumsum gdd) hi with
  | zero =>
    simp only [hk] at hl hhi
    cases gdd with
    | nil => cases hl
    | cons g gs =>
      exact absurd hhi (not_lt.mpr (((hg g List.mem_cons_self).trans (le_add_of_nonneg_left h0)).trans hgap))
  | succ k =>
    simp only [hk] at hl hhi
    rw [cumsum_getElem_succ gdd hl] at hhi
    have := hg _ (List.getElem_mem (cumsum_length gdd ▸ hl))
    exact Nat.lt_succ_of_le (firstAbove_le (Nat.lt_of_succ_lt hl)
      (lt_of_add_lt_add_right ((hgap.trans_lt hhi).trans_le (add_le_add_right this _))))

/-- **when is `YldFormCD` positive?**  If no day contributes more than `Δ` growing degrees
(`Δ = Tupp − Tbase`), `0 ≤ HIstart` and the yield-formation period is at least `Δ` long in thermal
time and ends by `Maturity`, the start and the end of yield formation fall on different days.
(Otherwise `YldFormCD` can be `0` — or negative when `HIend` is never reached — and
`calculate_HIGC` does not terminate.) -/
theorem calendarDays_yldFormCD_pos {ct : Nat} {th : CalThresh α} {gdd : List α} {d : CalDays}
    {Δ : α} (h : calendarDays ct th (cumsum gdd) = .ok d) (hg : ∀ g ∈ gdd, g ≤ Δ)
    (h0 : 0 ≤ th.hiStart) (hy : th.hiStart + Δ ≤ th.hiEnd) (hm : th.hiEnd ≤ th.maturity) :
    0 < d.yldFormCD := by
  obtain ⟨last, _, _, _, _, _, _, e4, e5, e6, _⟩ := calendarDays_ok h
  have := firstAbove_lt_of_gap hg h0 hy (calendarDays_exceeded h hm)
  omega

theorem calendarDays_cumsum_error {ct : Nat} {th : CalThresh α} {xs : List α} {e : String}
    (h : calendarDays ct th (cumsum xs) = .error e) :
    (e = "E:index" ∧ xs = []) ∨ e = "E:assert:maturity" ∨ e = "E:assert:year" := by
  rcases calendarDays_error h with ⟨e1, e2⟩ | ⟨e1, _⟩ | ⟨e1, _⟩
  exacts [.inl ⟨e1, (cumsum_eq_nil_iff _).mp e2⟩, .inr (.inl e1), .inr (.inr e1)]

theorem calendarDays_of_nonpos {ct : Nat} {th : CalThresh α} {xs : List α} (hne : xs ≠ [])
    (hx : ∀ x ∈ xs, x ≤ 0) (hm : 0 ≤ th.maturity) :
    calendarDays ct th (cumsum xs) = .error "E:assert:maturity" := by
  unfold calendarDays
  cases hl : (cumsum xs).getLast? with
  | none => exact absurd ((cumsum_eq_nil_iff xs).mp (List.getLast?_eq_none_iff.mp hl)) hne
  | some last =>
    have hl0 : last ≤ 0 + 0 := cumsumFrom_le_add hx le_rfl 0 last
      (cumsum_eq_cumsumFrom_zero xs ▸ List.mem_of_getLast? hl)
    exact if_neg (not_lt.mpr (le_trans (hl0.trans_eq (add_zero 0)) hm))

/-! ## E. the reset block returns what the initialisation returns (C08, crop calendar) -/

/-- what the reset block reads from a crop object that the initialisation has prepared: the raw
parameters and the thresholds `compute_crop_calendar` wrote (`initThresh`) -/
def CalGDDIn.toReset (F : Fn α) (c : CalGDDIn α) (hi0 hiIni : α) : CalResetIn α :=
  { cropType := c.cropType, gddMethod := c.gddMethod, tbase := c.tbase, tupp := c.tupp,
    th := (initThresh F c).1, hi0 := hi0, hiIni := hiIni }

/-- the record `calendarInit` returns around the calendar days `d` -/
def CalGDDOut.ofDays (F : Fn α) (c : CalGDDIn α) (d : CalDays) : CalGDDOut α :=
  { canopyDevEnd := (initThresh F c).1.canopyDevEnd, canopy10Pct := (initThresh F c).2,
    maxCanopy := (initThresh F c).1.maxCanopy, hiEnd := (initThresh F c).1.hiEnd,
    floweringEnd := (initThresh F c).1.floweringEnd, days := d }

section entryPoints
variable {F : Fn α} {c : CalGDDIn α} {r : CalResetIn α} {temps : List (α × α)} {m : GddMethod}

theorem calendarInit_unbound (hm : GddMethod.ofNat? c.gddMethod = none) :
    calendarInit F c temps = .error "E:unbound" := by
  unfold calendarInit
  rw [hm]

theorem calendarInit_eq (hm : GddMethod.ofNat? c.gddMethod = some m) :
    calendarInit F c temps =
      (calendarDays c.cropType (initThresh F c).1
        (cumsum (gddSeriesInit m c.tbase c.tupp temps))).map (CalGDDOut.ofDays F c) := by
  unfold calendarInit
  simp only [hm]
  cases calendarDays c.cropType (initThresh F c).1
    (cumsum (gddSeriesInit m c.tbase c.tupp temps)) <;> rfl

theorem calendarResetDays_unbound (hm : GddMethod.ofNat? r.gddMethod = none) :
    calendarResetDays r temps = .error "E:unbound" := by
  unfold calendarResetDays
  rw [hm]

theorem calendarResetDays_eq (hm : GddMethod.ofNat? r.gddMethod = some m) :
    calendarResetDays r temps =
      calendarDays r.cropType r.th (cumsum (gddSeriesReset m r.tbase r.tupp temps)) := by
  unfold calendarResetDays
  rw [hm]

theorem calendarInit_ok {o : CalGDDOut α} (h : calendarInit F c temps = .ok o) :
    ∃ m d, GddMethod.ofNat? c.gddMethod = some m ∧
      calendarDays c.cropType (initThresh F c).1
        (cumsum (gddSeriesInit m c.tbase c.tupp temps)) = .ok d ∧ CalGDDOut.ofDays F c d = o := by
  cases hm : GddMethod.ofNat? c.gddMethod with
  | none => rw [calendarInit_unbound hm] at h; cases h
  | some m =>
    rw [calendarInit_eq hm] at h
    obtain ⟨d, hd, ho⟩ := exceptMap_eq_ok.mp h
    exact ⟨m, d, rfl, hd, ho⟩

theorem calendarInit_days {o : CalGDDOut α} (h : calendarInit F c temps = .ok o) :
    ∃ m, GddMethod.ofNat? c.gddMethod = some m ∧
      calendarDays c.cropType (initThresh F c).1
        (cumsum (gddSeriesInit m c.tbase c.tupp temps)) = .ok o.days := by
  obtain ⟨m, d, hm, hd, rfl⟩ := calendarInit_ok h
  exact ⟨m, hm, hd⟩

theorem calendarResetDays_days {d : CalDays} (h : calendarResetDays r temps = .ok d) :
    ∃ m, GddMethod.ofNat? r.gddMethod = some m ∧
      calendarDays r.cropType r.th (cumsum (gddSeriesReset m r.tbase r.tupp temps)) = .ok d := by
  cases hm : GddMethod.ofNat? r.gddMethod with
  | none => rw [calendarResetDays_unbound hm] at h; cases h
  | some m => exact ⟨m, rfl, calendarResetDays_eq hm ▸ h⟩

end entryPoints

/-- the thresholds in `toReset` are the fields `calendarInit` returns (and the unchanged raw
`Maturity`, `HIstart`) -/
theorem calendarInit_thresholds {F : Fn α} {c : CalGDDIn α} {temps : List (α × α)}
    {o : CalGDDOut α} (h : calendarInit F c temps = .ok o) :
    (initThresh F c).1 =
      ({ maturity := c.maturity, maxCanopy := o.maxCanopy, canopyDevEnd := o.canopyDevEnd,
         hiStart := c.hiStart, hiEnd := o.hiEnd, floweringEnd := o.floweringEnd } : CalThresh α) ∧
    o.canopy10Pct = (initThresh F c).2 := by
  obtain ⟨m, d, _, _, rfl⟩ := calendarInit_ok h
  exact ⟨rfl, rfl⟩

/-! With `Tupp < Tbase` the daily values differ (init: `≤ 0`, reset: `= 0`), but for a crop with
`0 ≤ Maturity` both sites then fail the maturity assert — the calendars still agree. -/

theorem half_add_le {a b c : α} (ha : a ≤ c) (hb : b ≤ c) : (a + b) / 2 ≤ c :=
  (div_le_div_of_nonneg_right (add_le_add ha hb) zero_le_two).trans_eq (add_self_div_two c)

theorem gddDayInit_nonpos_of_lt (m : GddMethod) {tbase tupp : α} (h : tupp < tbase) (tmin tmax : α) :
    gddDayInit m tbase tupp tmin tmax ≤ 0 := by
  have hc : ∀ x : α, pdClip x tbase tupp ≤ tbase := fun x => by
    rw [pdClip_eq, max_eq_left h.le]
    exact min_le_right _ _
  cases m
  · exact sub_nonpos.mpr (hc _)
  · exact sub_nonpos.mpr (half_add_le (hc tmax) (hc tmin))
  · have h2 : clipUpper tmin tupp ≤ tbase :=
      (pmin_eq tmin tupp).le.trans ((min_le_right _ _).trans h.le)
    exact sub_nonpos.mpr ((pmax_eq _ _).trans (max_eq_right (half_add_le (hc tmax) h2))).le

theorem gddDayReset_eq_zero_of_lt (m : GddMethod) {tbase tupp : α} (h : tupp < tbase)
    (tmin tmax : α) : gddDayReset m tbase tupp tmin tmax = 0 := by
  have hc : ∀ x : α, pmax (pmin x tupp) tbase = tbase := fun x => by
    rw [pmax_eq, pmin_eq]
    exact max_eq_right (le_trans (min_le_right _ _) h.le)
  cases m
  · exact sub_eq_zero.mpr (hc _)
  · show (pmax (pmin tmax tupp) tbase + pmax (pmin tmin tupp) tbase) / 2 - tbase = 0
    rw [hc, hc, add_self_div_two, sub_self]
  · have h2 : pmin tmin tupp ≤ tbase := (pmin_eq tmin tupp).le.trans ((min_le_right _ _).trans h.le)
    show pmax ((pmax (pmin tmax tupp) tbase + pmin tmin tupp) / 2) tbase - tbase = 0
    rw [hc, pmax_eq, max_eq_right (half_add_le le_rfl h2), sub_self]

/-- calendar-day part under the exact premise: both sites are the look-ups on their growing-degree
series; for `Tbase ≤ Tupp` the two series are equal, for `Tupp < Tbase` and `0 ≤ Maturity` both
look-ups raise the maturity assert -/
theorem reset_eq_init_days (F : Fn α) (c : CalGDDIn α) (h : c.tbase ≤ c.tupp ∨ 0 ≤ c.maturity)
    (hi0 hiIni : α) (temps : List (α × α)) :
    calendarResetDays (c.toReset F hi0 hiIni) temps
      = (calendarInit F c temps).map (·.days) := by
  cases hm : GddMethod.ofNat? c.gddMethod with
  | none =>
    rw [calendarInit_unbound hm]
    exact calendarResetDays_unbound hm
  | some m =>
    have key : calendarDays c.cropType (initThresh F c).1
          (cumsum (gddSeriesReset m c.tbase c.tupp temps)) =
        calendarDays c.cropType (initThresh F c).1
          (cumsum (gddSeriesInit m c.tbase c.tupp temps)) := by
      rcases le_or_gt c.tbase c.tupp with h1 | h1
      · rw [gddSeriesInit_eq_reset m h1]
      have hmat : 0 ≤ c.maturity := h.resolve_left (not_le.mpr h1)
      cases temps with
      | nil => rfl
      | cons t ts =>
        have hR : ∀ g ∈ gddSeriesReset m c.tbase c.tupp (t :: ts), g ≤ 0 := by
          intro g hg
          obtain ⟨u, _, rfl⟩ := List.mem_map.mp hg
          exact (gddDayReset_eq_zero_of_lt m h1 u.1 u.2).le
        have hI : ∀ g ∈ gddSeriesInit m c.tbase c.tupp (t :: ts), g ≤ 0 := by
          intro g hg
          obtain ⟨u, _, rfl⟩ := List.mem_map.mp hg
          exact gddDayInit_nonpos_of_lt m h1 u.1 u.2
        exact (calendarDays_of_nonpos (List.cons_ne_nil _ _) hR hmat).trans
          (calendarDays_of_nonpos (List.cons_ne_nil _ _) hI hmat).symm
    rw [calendarInit_eq hm, ← key]
    refine (calendarResetDays_eq hm).trans ?_
    show calendarDays c.cropType (initThresh F c).1
      (cumsum (gddSeriesReset m c.tbase c.tupp temps)) = _
    cases calendarDays c.cropType (initThresh F c).1
      (cumsum (gddSeriesReset m c.tbase c.tupp temps)) <;> rfl

/-- the reset's result assembled from the initialisation's -/
def CalResetOut.ofInit (r : CalGDDOut α × α × α × α) : CalResetOut α :=
  { days := r.1.days, higc := r.2.1, tLinSwitch := r.2.2.1, dHILinear := r.2.2.2 }

/-- **`reset_eq_init`** (C08, "crop calendar").  For the same temperature list (the records from
the season's planting date to the end of the simulation), the same raw crop parameters and
`Tbase ≤ Tupp`, the thermal-calendar block of `reset_initial_conditions` returns exactly the
values — `MaturityCD, MaxCanopyCD, CanopyDevEndCD, HIstartCD, HIendCD, YldFormCD, FloweringCD, HIGC,
tLinSwitch, dHILinear` — or raises exactly the error that a fresh initialisation
(`compute_crop_calendar` mode 2, then the harvest-index block of `compute_variables`) produces.
The premise is `Tbase ≤ Tupp` **or** `0 ≤ Maturity`: pandas' `clip` reorders its bounds, numpy's
in-place clipping does not, so for `Tupp < Tbase` the daily growing degrees differ (counterexample
in part A) — but then neither site accumulates a positive sum and both raise the maturity assert
unless `Maturity < 0` (`CalExample.reset_ne_init` shows that the calendars do differ in that
corner). -/
theorem reset_eq_init (F : Fn α) (fuel : Nat) (c : CalGDDIn α)
    (h : c.tbase ≤ c.tupp ∨ 0 ≤ c.maturity)
    (hi0 hiIni : α) (temps : List (α × α)) :
    calendarReset F fuel (c.toReset F hi0 hiIni) temps
      = (calendarInitHI F fuel c hi0 hiIni temps).map CalResetOut.ofInit := by
  unfold calendarReset calendarInitHI
  rw [reset_eq_init_days F c h hi0 hiIni temps]
  cases hi : calendarInit F c temps with
  | error e => simp [Except.map]
  | ok o =>
    simp only [Except.map, CalGDDIn.toReset]
    cases hb : hiBlock F fuel c.cropType o.days.yldFormCD hi0 hiIni with
    | error e => simp
    | ok r =>
      obtain ⟨g, t, d⟩ := r
      simp [CalResetOut.ofInit]

theorem reset_eq_init_ok {F : Fn α} {fuel : Nat} {c : CalGDDIn α}
    (h : c.tbase ≤ c.tupp ∨ 0 ≤ c.maturity)
    {hi0 hiIni : α} {temps : List (α × α)} {o : CalGDDOut α} {g t d : α}
    (hinit : calendarInitHI F fuel c hi0 hiIni temps = .ok (o, g, t, d)) :
    calendarReset F fuel (c.toReset F hi0 hiIni) temps
      = .ok { days := o.days, higc := g, tLinSwitch := t, dHILinear := d } := by
  rw [reset_eq_init F fuel c h, hinit]; rfl

/-! ## F. totality -/

theorem calendarResetDays_ok_iff {c : CalResetIn α} {m : GddMethod}
    (hm : GddMethod.ofNat? c.gddMethod = some m) (temps : List (α × α)) :
    (∃ d, calendarResetDays c temps = .ok d) ↔
      ∃ last, (cumsum (gddSeriesReset m c.tbase c.tupp temps)).getLast? = some last ∧
        c.th.maturity < last ∧
        firstAbove (cumsum (gddSeriesReset m c.tbase c.tupp temps)) c.th.maturity + 1 < 365 := by
  rw [calendarResetDays_eq hm]
  exact calendarDays_ok_iff _ _ _

theorem calendarResetDays_error {c : CalResetIn α} {temps : List (α × α)} {e : String}
    (h : calendarResetDays c temps = .error e) :
    (e = "E:unbound" ∧ ¬ (c.gddMethod = 1 ∨ c.gddMethod = 2 ∨ c.gddMethod = 3)) ∨
    (e = "E:index" ∧ temps = []) ∨ e = "E:assert:maturity" ∨ e = "E:assert:year" := by
  cases hm : GddMethod.ofNat? c.gddMethod with
  | none =>
    rw [calendarResetDays_unbound hm] at h
    exact .inl ⟨(Except.error.inj h).symm, GddMethod.ofNat?_eq_none_iff.mp hm⟩
  | some m =>
    rw [calendarResetDays_eq hm] at h
    exact .inr ((calendarDays_cumsum_error h).imp_left (And.imp_right List.map_eq_nil_iff.mp))

theorem hiBlock_error {F : Fn α} {fuel ct : Nat} {y : Int} {hi0 hiIni : α} {e : String}
    (h : hiBlock F fuel ct y hi0 hiIni = .error e) : e = "E:fuel" := by
  unfold hiBlock at h
  cases hg : calculateHIGC F fuel (y : α) hi0 hiIni with
  | none => simp [hg] at h; exact h.symm
  | some g =>
    simp only [hg] at h
    by_cases h3 : ct = 3
    · simp only [h3, if_true] at h
      cases hl : calculateHILinear F fuel (y : α) hiIni hi0 g with
      | none => simp [hl] at h; exact h.symm
      | some r => simp [hl] at h
    · simp [h3] at h

/-- with enough fuel for the (always terminating) linear-switch loop, the harvest-index block
succeeds iff the `calculate_HIGC` loop ends within the fuel -/
theorem hiBlock_ok_iff (F : Fn α) {fuel ct : Nat} {y : Int} (hy : y ≤ (fuel : Int)) (hi0 hiIni : α) :
    (∃ r, hiBlock F fuel ct y hi0 hiIni = .ok r) ↔
      (calculateHIGC F fuel (y : α) hi0 hiIni).isSome = true := by
  have hy' : (y : α) ≤ (fuel : α) := by
    have : ((y : Int) : α) ≤ (((fuel : Nat) : Int) : α) := Int.cast_le.mpr hy
    simpa using this
  unfold hiBlock
  cases hg : calculateHIGC F fuel (y : α) hi0 hiIni with
  | none => simp
  | some g =>
    simp only [Option.isSome_some, iff_true]
    by_cases h3 : ct = 3
    · simp only [h3, if_true]
      have hs := calculateHILinear_isSome F fuel (y : α) hiIni hi0 g hy'
      cases hl : calculateHILinear F fuel (y : α) hiIni hi0 g with
      | none => rw [hl] at hs; simp at hs
      | some r => exact ⟨_, rfl⟩
    · simp only [h3, if_false]; exact ⟨_, rfl⟩

/-- `hfuel`: `temps.length` is enough fuel for the linear-switch loop, so of the two loops of the
harvest-index block only `calculate_HIGC` can run out. -/
theorem calendarReset_ok_iff (F : Fn α) {fuel : Nat} (c : CalResetIn α) (temps : List (α × α))
    (hfuel : temps.length ≤ fuel) :
    (∃ o, calendarReset F fuel c temps = .ok o) ↔
      ∃ d, calendarResetDays c temps = .ok d ∧
        (calculateHIGC F fuel (d.yldFormCD : α) c.hi0 c.hiIni).isSome = true := by
  unfold calendarReset
  cases hd : calendarResetDays c temps with
  | error e => simp
  | ok d =>
    have hy : d.yldFormCD ≤ (fuel : Int) := by
      obtain ⟨m, _, hd'⟩ := calendarResetDays_days hd
      obtain ⟨_, _, _, _, hlen⟩ := calendarDays_le_length hd'
      rw [cumsum_length, gddSeriesReset, List.length_map] at hlen
      omega
    have hb := hiBlock_ok_iff F (ct := c.cropType) hy c.hi0 c.hiIni
    simp only [Except.ok.injEq, exists_eq_left']
    rw [← hb]
    cases hbb : hiBlock F fuel c.cropType d.yldFormCD c.hi0 c.hiIni with
    | error e => simp
    | ok r => obtain ⟨g, t, dl⟩ := r; simp

/-! ### the order lemmas at the entry points -/

theorem calendarResetDays_order {c : CalResetIn α} {temps : List (α × α)} {d : CalDays}
    (h : calendarResetDays c temps = .ok d) (h1 : c.th.hiStart ≤ c.th.hiEnd)
    (h2 : c.th.hiEnd ≤ c.th.maturity) :
    1 ≤ d.hiStartCD ∧ d.hiStartCD ≤ d.hiEndCD ∧ d.hiEndCD ≤ d.maturityCD ∧
    d.maturityCD < 365 ∧ 0 ≤ d.yldFormCD := by
  obtain ⟨m, _, hd⟩ := calendarResetDays_days h
  exact calendarDays_order hd h1 h2

/-- **`0 < YldFormCD` at the reset** as soon as yield formation is at least one day's maximal
thermal time long and ends by `Maturity` -/
theorem calendarResetDays_yldFormCD_pos {c : CalResetIn α} {temps : List (α × α)} {d : CalDays}
    (h : calendarResetDays c temps = .ok d) (hb : c.tbase ≤ c.tupp) (h0 : 0 ≤ c.th.hiStart)
    (hy : c.th.hiStart + (c.tupp - c.tbase) ≤ c.th.hiEnd) (hm : c.th.hiEnd ≤ c.th.maturity) :
    0 < d.yldFormCD := by
  obtain ⟨m, _, hd⟩ := calendarResetDays_days h
  exact calendarDays_yldFormCD_pos hd (fun g hg => (gddSeriesReset_range m hb temps g hg).2) h0
    hy hm

/-! ## G. mode 1 (calendar days) -/

/-- the laws of `np.log` used below (weak monotonicity suffices) -/
structure CalLogLaws (F : Fn α) : Prop where
  log_one : F.log 1 = 0
  log_mono : ∀ x y, 0 < x → x ≤ y → F.log x ≤ F.log y

/-- the laws of Python's `round` used below -/
structure CalRound0Laws (F : Fn α) : Prop where
  round0_mono : ∀ x y, x ≤ y → F.round0 x ≤ F.round0 y
  round0_int : ∀ n : ℤ, F.round0 (n : α) = n

/-- the record `calendarInitCD` returns when `switchGDD = false`; the text is the model's, and
`calendarInitCD_eq`, a `rfl`, fails as soon as the two differ -/
def noSwitchOut (F : Fn α) (c : CalCDIn α) : CalCDOut α :=
  let canopyDevEndCD :=
    if c.determinant then F.round0 (c.hiStartCD + c.floweringCD / 2) else c.senescenceCD
  let canopy10PctCD := F.round0 (c.emergenceCD + F.log (0.1 / c.cc0) / c.cgcCD)
  let maxCanopyCD := F.round0 (c.emergenceCD +
    F.log ((0.25 * c.ccx * c.ccx / c.cc0) / (c.ccx - 0.98 * c.ccx)) / c.cgcCD)
  let hiEndCD := c.hiStartCD + c.yldFormCD
  let fl : α × α × α :=
    if c.cropType = 3 then (c.hiStartCD + c.floweringCD, c.floweringEnd, c.floweringCD)
    else (-999, -999, c.floweringCD)
  { canopyDevEndCD := canopyDevEndCD, canopy10PctCD := canopy10PctCD,
    maxCanopyCD := maxCanopyCD, hiEndCD := hiEndCD,
    emergence := c.emergenceCD, canopy10Pct := canopy10PctCD, maxRooting := c.maxRootingCD,
    senescence := c.senescenceCD, maturity := c.maturityCD, maxCanopy := maxCanopyCD,
    canopyDevEnd := canopyDevEndCD, hiStart := c.hiStartCD, hiEnd := hiEndCD,
    yldForm := c.yldFormCD, floweringEndCD := fl.1, floweringEnd := fl.2.1,
    floweringCD := fl.2.2, cdc := c.cdcCD, cgc := c.cgcCD }

theorem calendarInitCD_eq (F : Fn α) (c : CalCDIn α) :
    calendarInitCD F c = if c.switchGDD then .error "E:unsupported" else .ok (noSwitchOut F c) :=
  rfl

theorem calendarInitCD_noSwitch_ok (F : Fn α) (c : CalCDIn α) :
    calendarInitCD F { c with switchGDD := false } = .ok (noSwitchOut F c) :=
  rfl

theorem calendarInitCD_ok_iff (F : Fn α) (c : CalCDIn α) :
    (∃ o, calendarInitCD F c = .ok o) ↔ c.switchGDD = false := by
  rw [calendarInitCD_eq]
  cases c.switchGDD <;> simp

section mode1
variable {F : Fn α} {c : CalCDIn α} {o : CalCDOut α}

theorem calendarInitCD_ok (h : calendarInitCD F c = .ok o) : o = noSwitchOut F c := by
  rw [calendarInitCD_eq] at h
  split at h
  · cases h
  · exact (Except.ok.inj h).symm

theorem calendarInitCD_fields (h : calendarInitCD F c = .ok o) :
    o.hiEndCD = c.hiStartCD + c.yldFormCD ∧ o.hiEnd = o.hiEndCD ∧ o.hiStart = c.hiStartCD ∧
    o.yldForm = c.yldFormCD ∧ o.emergence = c.emergenceCD ∧ o.maxRooting = c.maxRootingCD ∧
    o.senescence = c.senescenceCD ∧ o.maturity = c.maturityCD ∧ o.maxCanopy = o.maxCanopyCD ∧
    o.canopy10Pct = o.canopy10PctCD ∧ o.canopyDevEnd = o.canopyDevEndCD ∧
    o.cgc = c.cgcCD ∧ o.cdc = c.cdcCD := by
  cases calendarInitCD_ok h
  exact ⟨rfl, rfl, rfl, rfl, rfl, rfl, rfl, rfl, rfl, rfl, rfl, rfl, rfl⟩

theorem calendarInitCD_canopyDevEnd (h : calendarInitCD F c = .ok o) :
    o.canopyDevEndCD = (if c.determinant then F.round0 (c.hiStartCD + c.floweringCD / 2)
      else c.senescenceCD) := by
  cases calendarInitCD_ok h
  rfl

/-- flowering fields: fruit/grain crops get `FloweringEndCD = HIstartCD + FloweringCD`, all others
`NO_VALUE` in `FloweringEnd` and `FloweringEndCD`; `FloweringCD` — an input, read for determinant
crops — is kept as given for every crop type (were it overwritten with `NO_VALUE`, a second call of
the function would read that: `known_findings.txt`, property C20/C11) -/
theorem calendarInitCD_flowering (h : calendarInitCD F c = .ok o) :
    (c.cropType = 3 → o.floweringEndCD = c.hiStartCD + c.floweringCD ∧
      o.floweringEnd = c.floweringEnd ∧ o.floweringCD = c.floweringCD) ∧
    (c.cropType ≠ 3 → o.floweringEndCD = -999 ∧ o.floweringEnd = -999 ∧
      o.floweringCD = c.floweringCD) := by
  cases calendarInitCD_ok h
  constructor
  · intro h3
    simp [noSwitchOut, h3]
  · intro h3
    simp [noSwitchOut, h3]

theorem calendarInitCD_floweringCD_kept (h : calendarInitCD F c = .ok o) :
    o.floweringCD = c.floweringCD := by
  by_cases h3 : c.cropType = 3
  · exact ((calendarInitCD_flowering h).1 h3).2.2
  · exact ((calendarInitCD_flowering h).2 h3).2.2

/-- **deriving the calendar again gives the same calendar**: the inputs the function reads
(`HIstartCD`, `FloweringCD`, `SenescenceCD`, `EmergenceCD`, `CC0`, `CGC_CD`, `CCx`, `YldFormCD`, …)
are not among the fields it rewrites, so a second derivation from the crop as the first one left it
(`FloweringCD := o.floweringCD`) returns the same result — whether the model derives the calendar
once (latest harvest date given) or twice (harvest date derived) is immaterial. -/
theorem calendarInitCD_idempotent (h : calendarInitCD F c = .ok o) :
    calendarInitCD F { c with floweringCD := o.floweringCD } = .ok o := by
  rw [calendarInitCD_floweringCD_kept h]
  exact h

end mode1

section canopyOrder
variable {F : Fn α} {e cc0 ccx cgc : α}

theorem le_round0_canopy10Pct (hL : CalLogLaws F) (hR : CalRound0Laws F) (h0 : 0 < cc0)
    (h1 : cc0 ≤ 0.1) (hg : 0 < cgc) {n : ℤ} (hn : e = n) :
    e ≤ F.round0 (e + F.log (0.1 / cc0) / cgc) := by
  -- `0 ≤ log (0.1 / CC0)` since `1 ≤ 0.1 / CC0`
  have hlog := hL.log_mono 1 (0.1 / cc0) one_pos ((one_le_div₀ h0).mpr h1)
  rw [hL.log_one] at hlog
  have h := hR.round0_mono e (e + F.log (0.1 / cc0) / cgc)
    (le_add_of_nonneg_right (div_nonneg hlog hg.le))
  rwa [hn, hR.round0_int n, ← hn] at h

/-- the argument of the second logarithm is `12.5 * CCx / CC0`, which dominates the first when
`0.008 ≤ CCx` -/
theorem round0_canopy10Pct_le_maxCanopy (hL : CalLogLaws F) (hR : CalRound0Laws F) (h0 : 0 < cc0)
    (hx : 0.008 ≤ ccx) (hg : 0 < cgc) :
    F.round0 (e + F.log (0.1 / cc0) / cgc) ≤
      F.round0 (e + F.log ((0.25 * ccx * ccx / cc0) / (ccx - 0.98 * ccx)) / cgc) := by
  have hxp : 0 < ccx := lt_of_lt_of_le (by norm_num) hx
  have he : (0.25 * ccx * ccx / cc0) / (ccx - 0.98 * ccx) = 12.5 * ccx / cc0 := by
    field_simp
    ring
  have hle : 0.1 / cc0 ≤ (0.25 * ccx * ccx / cc0) / (ccx - 0.98 * ccx) := by
    rw [he, div_le_div_iff_of_pos_right h0]
    calc (0.1 : α) = 12.5 * 0.008 := by norm_num
      _ ≤ 12.5 * ccx := mul_le_mul_of_nonneg_left hx (by norm_num)
  exact hR.round0_mono _ _ (add_le_add_right (div_le_div_of_nonneg_right
    (hL.log_mono _ _ (div_pos (by norm_num) h0) hle) hg.le) e)

end canopyOrder

theorem calendarInitCD_emergence_le_canopy10Pct {F : Fn α} {c : CalCDIn α} {o : CalCDOut α}
    (hL : CalLogLaws F) (hR : CalRound0Laws F)
    (h : calendarInitCD F c = .ok o) (h0 : 0 < c.cc0) (h1 : c.cc0 ≤ 0.1) (hg : 0 < c.cgcCD)
    {n : ℤ} (hn : c.emergenceCD = n) : c.emergenceCD ≤ o.canopy10PctCD := by
  cases calendarInitCD_ok h
  exact le_round0_canopy10Pct hL hR h0 h1 hg hn

theorem calendarInitCD_canopy10Pct_le_maxCanopy {F : Fn α} {c : CalCDIn α} {o : CalCDOut α}
    (hL : CalLogLaws F) (hR : CalRound0Laws F)
    (h : calendarInitCD F c = .ok o) (h0 : 0 < c.cc0) (hx : 0.008 ≤ c.ccx) (hg : 0 < c.cgcCD) :
    o.canopy10PctCD ≤ o.maxCanopyCD := by
  cases calendarInitCD_ok h
  exact round0_canopy10Pct_le_maxCanopy hL hR h0 hx hg

theorem initThresh_order {F : Fn α} (hL : CalLogLaws F) (hR : CalRound0Laws F) (c : CalGDDIn α)
    (h0 : 0 < c.cc0) (h1 : c.cc0 ≤ 0.1) (hx : 0.008 ≤ c.ccx) (hg : 0 < c.cgc)
    {n : ℤ} (hn : c.emergence = n) :
    c.emergence ≤ (initThresh F c).2 ∧ (initThresh F c).2 ≤ (initThresh F c).1.maxCanopy :=
  ⟨le_round0_canopy10Pct hL hR h0 h1 hg hn, round0_canopy10Pct_le_maxCanopy hL hR h0 hx hg⟩

/-! ## Non-vacuity: concrete instances over `ℚ` -/

namespace CalExample

def Fq : Fn ℚ :=
  { exp := fun x => 1 + x, log := fun x => (x - 1) / 10, log10 := id,
    pow := fun x y => if y = 2 then x * x else x, round0 := id, round2 := id, round3 := id,
    round4 := id, pyRound2 := id }

/-- a fruit/grain crop, method 3, `Tbase = 0 ≤ Tupp = 30` -/
def cq : CalGDDIn ℚ :=
  { determinant := true, cropType := 3, gddMethod := 3, tbase := 0, tupp := 30, emergence := 1,
    maturity := 40, hiStart := 12, flowering := 10, yldForm := 20, senescence := 35,
    cc0 := 0.1, ccx := 0.8, cgc := 1, floweringEnd := 0 }

/-- three days with 10 … 20 °C: 15 growing degrees each, cumulated 15, 30, 45 -/
def tq : List (ℚ × ℚ) := [(10, 20), (10, 20), (10, 20)]

/-- the initialisation succeeds: maturity on day 3, yield formation from day 1 to day 3 -/
theorem initq :
    (match calendarInitHI Fq 10 cq 1 0.99 tq with
     | .ok (o, g, t, d) =>
       decide (o.days = { maturityCD := 3, maxCanopyCD := 1, canopyDevEndCD := 2, hiStartCD := 1,
                          hiEndCD := 3, yldFormCD := 2, floweringCD := 1 } ∧
               o.maxCanopy = 10.9 ∧ o.canopyDevEnd = 17 ∧ o.hiEnd = 32 ∧ o.floweringEnd = 22 ∧
               g = 0.002)
     | .error _ => false) = true := by decide +kernel

/-- `reset_eq_init` applies (`Tbase ≤ Tupp`) and both sides are a successful calendar -/
example : (cq.tbase ≤ cq.tupp ∨ 0 ≤ cq.maturity) ∧
    (match calendarReset Fq 10 (cq.toReset Fq 1 0.99) tq with
     | .ok o => decide (o.days.maturityCD = 3 ∧ o.days.yldFormCD = 2 ∧ o.higc = 0.002)
     | .error _ => false) = true := by
  refine ⟨Or.inl (by decide +kernel), by decide +kernel⟩

/-- `Tupp < Tbase` with a sensible crop (`0 ≤ Maturity`): both sites raise the maturity assert -/
example : (match calendarReset Fq 10 ({ cq with tbase := 30, tupp := 0 }.toReset Fq 1 0.99) tq,
      calendarInitHI Fq 10 { cq with tbase := 30, tupp := 0 } 1 0.99 tq with
     | .error e, .error e' => decide (e = "E:assert:maturity" ∧ e' = "E:assert:maturity")
     | _, _ => false) = true := by decide +kernel

/-- the premise of `reset_eq_init` cannot be dropped: `Tbase = 10 > Tupp = 5`, `Maturity = -6`,
two days at 7 °C and 3 °C.  Initialisation: growing degrees −3, −5, cumulated −3, −8, the maturity
assert fires; reset: growing degrees 0, 0, maturity "reached" on day 1. -/
def cneg : CalGDDIn ℚ :=
  { cq with gddMethod := 1, tbase := 10, tupp := 5, maturity := -6, hiStart := -20, yldForm := 5,
            flowering := 2, emergence := -30, senescence := -8 }

theorem reset_ne_init :
    ¬ (cneg.tbase ≤ cneg.tupp ∨ 0 ≤ cneg.maturity) ∧
    (match calendarResetDays (cneg.toReset Fq 1 0.99) [(7, 7), (3, 3)],
           calendarInit Fq cneg [(7, 7), (3, 3)] with
     | .ok d, .error e => decide (d.maturityCD = 1 ∧ e = "E:assert:maturity")
     | _, _ => false) = true := by
  refine ⟨by decide +kernel, by decide +kernel⟩

/-- order lemmas of part D: their hypotheses hold for the example calendar -/
example : ∃ d, calendarDays 3 (initThresh Fq cq).1 (cumsum (gddSeriesInit .m3 0 30 tq)) = .ok d ∧
    (initThresh Fq cq).1.hiStart ≤ (initThresh Fq cq).1.hiEnd ∧
    (initThresh Fq cq).1.hiEnd ≤ (initThresh Fq cq).1.maturity ∧
    d.hiStartCD ≤ d.hiEndCD ∧ d.hiEndCD ≤ d.maturityCD := by
  refine ⟨{ maturityCD := 3, maxCanopyCD := 1, canopyDevEndCD := 2, hiStartCD := 1,
            hiEndCD := 3, yldFormCD := 2, floweringCD := 1 }, by decide +kernel,
          by decide +kernel, by decide +kernel, by decide, by decide⟩

/-- `firstAbove_lt_of_gap`: daily terms `≤ 15`, `HIstart = 12`, `HIend = 32 ≥ 12 + 15` -/
example : firstAbove (cumsum [(15 : ℚ), 15, 15]) 12 < firstAbove (cumsum [(15 : ℚ), 15, 15]) 32 :=
  firstAbove_lt_of_gap (Δ := 15) (by decide +kernel) (by norm_num) (by norm_num)
    ⟨45, by decide +kernel, by norm_num⟩

/-- `C16.yield_formation_never_reached_hangs`: `HIend` beyond the last cumulative value is "reached"
on day 1 (the `argmax` convention), `YldFormCD = 1 − 2 < 0`, and the harvest-index loop cannot end -/
example : (match calendarResetDays
      ({ cropType := 3, gddMethod := 3, tbase := 0, tupp := 30,
         th := { maturity := 40, maxCanopy := 10, canopyDevEnd := 17, hiStart := 20, hiEnd := 60,
                 floweringEnd := 30 }, hi0 := 0.5, hiIni := 0.01 } : CalResetIn ℚ) tq with
     | .ok d => decide (d.hiStartCD = 2 ∧ d.hiEndCD = 1 ∧ d.yldFormCD = -1)
     | .error _ => false) = true := by decide +kernel

def ccd : CalCDIn ℚ :=
  { determinant := true, cropType := 3, switchGDD := false, hiStartCD := 66, floweringCD := 13,
    senescenceCD := 107, emergenceCD := 6, maxRootingCD := 108, maturityCD := 132, yldFormCD := 61,
    cc0 := 0.05, ccx := 0.96, cgcCD := 0.16, cdcCD := 0.1, floweringEnd := 0 }

example : (match calendarInitCD Fq ccd with
     | .ok o => decide (o.hiEndCD = 127 ∧ o.canopyDevEndCD = 72.5 ∧ o.floweringEndCD = 79 ∧
                        ccd.emergenceCD ≤ o.canopy10PctCD ∧ o.canopy10PctCD ≤ o.maxCanopyCD)
     | .error _ => false) = true := by decide +kernel

end CalExample

end Aqua

#print axioms Aqua.gddDayReset_eq_daily
#print axioms Aqua.gddDayInit_eq_reset
#print axioms Aqua.gddSeriesInit_range
#print axioms Aqua.cumsum_pairwise
#print axioms Aqua.cumsum_append_getElem?
#print axioms Aqua.firstAbove_of_none
#print axioms Aqua.firstAbove_mono
#print axioms Aqua.firstAbove_cumsum_succ
#print axioms Aqua.firstAbove_cumsum_getElem
#print axioms Aqua.calendarDays_ok_iff
#print axioms Aqua.calendarDays_error
#print axioms Aqua.calendarDays_hiStart_le_hiEnd
#print axioms Aqua.calendarDays_maxCanopy_le_maturity
#print axioms Aqua.calendarDays_flowering_nonneg
#print axioms Aqua.calendarDays_le_length
#print axioms Aqua.firstAbove_lt_of_gap
#print axioms Aqua.reset_eq_init_days
#print axioms Aqua.reset_eq_init
#print axioms Aqua.reset_eq_init_ok
#print axioms Aqua.calendarResetDays_ok_iff
#print axioms Aqua.calendarReset_ok_iff
#print axioms Aqua.calendarResetDays_order
#print axioms Aqua.calendarResetDays_yldFormCD_pos
#print axioms Aqua.calendarInitCD_noSwitch_ok
#print axioms Aqua.calendarInitCD_fields
#print axioms Aqua.calendarInitCD_emergence_le_canopy10Pct
#print axioms Aqua.calendarInitCD_canopy10Pct_le_maxCanopy
#print axioms Aqua.initThresh_order
#print axioms Aqua.CalExample.initq
#print axioms Aqua.CalExample.reset_ne_init
