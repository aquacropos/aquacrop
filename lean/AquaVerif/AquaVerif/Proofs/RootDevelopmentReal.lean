import AquaVerif.Proofs.RootDevelopment
import AquaVerif.Proofs.RealInstance
/-
Non-vacuity of the premises of `Proofs/RootDevelopment.lean`: the real power function
(`Real.rpow`, `= exp (y · log x)` for a positive base) satisfies `PowLaws`, the identity rounding
satisfies `SkipOK`, and a concrete crop / two-layer profile (with a restrictive second layer)
satisfies `RdHyp`.
-/

namespace Aqua
open Aqua.Response

theorem powLaws_real : PowLaws realFn where
  pow_nonneg := fun x y hx => realFn_pow_nonneg hx.le y
  pow_le_one := fun x y hx hx1 hy => by
    rw [realFn_pow_of_pos hx]
    rw [← Real.exp_zero]
    apply Real.exp_le_exp.mpr
    exact mul_nonpos_of_nonneg_of_nonpos hy.le (Real.log_nonpos hx.le hx1)
  pow_mono := fun x x' y hx hxx hy => by
    rw [realFn_pow_of_pos hx, realFn_pow_of_pos (lt_of_lt_of_le hx hxx)]
    apply Real.exp_le_exp.mpr
    exact mul_le_mul_of_nonneg_left (Real.log_le_log hx hxx) hy.le

theorem skipOK_real (zmin : ℝ) : SkipOK realFn zmin := fun _ h => le_of_lt h

/-- wheat-like parameters -/
noncomputable def rdExCrop : RdCrop ℝ :=
  { calendarType := 1, zmin := 0.3, zmax := 1.5, pctZmin := 70, emergence := 13, maxRooting := 93,
    fshapeR := 1.5, fshapeEx := -6, pUp1 := 0.65, fshapeW1 := 2.5, sxTop := 0.054, sxBot := 0.006 }

noncomputable def rdExComp (dzsum pen : ℝ) (layer : Nat) : Comp ℝ :=
  { dz := 0.5, dzsum := dzsum, zMid := dzsum - 0.25, thS := 0.46, thFC := 0.31, thWP := 0.15,
    thDry := 0.075, tau := 0.76, ksat := 500, pen := pen, aCR := 0, bCR := 0, layer := layer }

/-- two layers of 0.5 m and 1.0 m, the lower one with 40 % penetrability -/
noncomputable def rdExCells : List (Cell ℝ) :=
  [ { c := rdExComp 0.5 100 1, th := 0.25, fcAdj := 0.31, flux := 0, aer := 0 },
    { c := rdExComp 1.0 40 2, th := 0.2, fcAdj := 0.31, flux := 0, aer := 0 },
    { c := rdExComp 1.5 40 2, th := 0.2, fcAdj := 0.31, flux := 0, aer := 0 } ]

/-- the premises of the C05 lemmas are satisfiable (real `exp`/`pow`, a restrictive layer,
partial stomatal closure) -/
example : RdHyp realFn rdExCrop rdExCells 0.5 10 ∧ LaysLe100 (layersOf rdExCells) ∧
    SkipOK realFn rdExCrop.zmin := by
  refine ⟨?_, ?_, skipOK_real _⟩
  · refine ⟨powLaws_real, expOrdLaws_real, ?_, ?_, by norm_num, by norm_num, by norm_num, ?_, ?_, ?_⟩
    · constructor <;> simp only [rdExCrop] <;> norm_num
    · apply laysNN_layersOf
      intro x hx
      simp only [rdExCells, List.mem_cons, List.not_mem_nil, or_false] at hx
      rcases hx with rfl | rfl | rfl <;> simp only [rdExComp] <;> norm_num
    · simp only [rdExCrop]; norm_num
    · simp only [rdExCrop]; norm_num
    · intro x hx
      simp only [rdExCells, List.mem_cons, List.not_mem_nil, or_false] at hx
      rcases hx with rfl | rfl | rfl <;> simp only [rdExComp] <;> norm_num
  · apply laysLe100_layersOf
    intro x hx
    simp only [rdExCells, List.mem_cons, List.not_mem_nil, or_false] at hx
    rcases hx with rfl | rfl | rfl <;> simp only [rdExComp] <;> norm_num

theorem limit_mono_real {layers : List (Lay ℝ)} {zmin z1 z2 a b : ℝ} (hl : LaysNN layers)
    (hz : z1 ≤ z2) (h1 : limit realFn layers zmin z1 = .ok a)
    (h2 : limit realFn layers zmin z2 = .ok b) : a ≤ b :=
  limit_mono hl hz h1 h2

#print axioms powLaws_real

end Aqua
