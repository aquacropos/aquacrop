import AquaVerif.Proofs.PowSq
import AquaVerif.Proofs.RealInstance
import AquaVerif.Proofs.SoilEvaporation
import AquaVerif.Proofs.CropCalendar
import AquaVerif.Proofs.CapillaryRise
import AquaVerif.Proofs.Drainage
import AquaVerif.Proofs.SoilTexture
import AquaVerif.Proofs.IrrigationExamples
import AquaVerif.Proofs.Infiltration
import AquaVerif.Proofs.Transpiration
import AquaVerif.Proofs.WaterDay
import AquaVerif.Proofs.RunClosedExampleCfg
/-
Non-vacuity of `PowSqLaw` (`x ** 2 = x · x`, `Proofs/PowSq.lean`): the real power and every ℚ
instance the example sections of the proof files compute with satisfy it.  (The ℚ instances give
`pow` the value `x · x` at the literal exponent 2 and keep their placeholder elsewhere; the private
`idF` of `Proofs/InitWC.lean` is checked there.)
-/

namespace Aqua

theorem powSqLaw_real' : PowSqLaw Response.realFn := Response.powSqLaw_real

theorem powSqLaw_dayFq : PowSqLaw DayExample.Fq := DayExample.Fq_sq
theorem powSqLaw_Fq2 : PowSqLaw RunClosedExample.Fq2 := RunClosedExample.fnOK_q.powSq
theorem powSqLaw_FqTex : PowSqLaw FqTex := ⟨fun x => by simp [FqTex]⟩
theorem powSqLaw_esFq : PowSqLaw Example.Fq := ⟨fun x => by simp [Example.Fq]⟩
theorem powSqLaw_calFq : PowSqLaw CalExample.Fq := ⟨fun x => by simp [CalExample.Fq]⟩
theorem powSqLaw_trFq : PowSqLaw TrExample.Fq := ⟨fun x => by simp [TrExample.Fq]⟩
theorem powSqLaw_gwExF : PowSqLaw gwExF := ⟨fun x => by simp [gwExF]⟩
theorem powSqLaw_exF : PowSqLaw exF := ⟨fun x => by simp [exF]⟩
theorem powSqLaw_exFn : PowSqLaw exFn := ⟨fun x => by simp [exFn]⟩
theorem powSqLaw_idFn : PowSqLaw IrrEx.idFn := ⟨fun x => by simp [IrrEx.idFn]⟩

end Aqua

#print axioms Aqua.powSqLaw_real'
#print axioms Aqua.powSqLaw_Fq2
#print axioms Aqua.powSqLaw_FqTex
