import AquaVerif.Proofs.Basic
/-
The laws about the non-algebraic functions `F : Fn α` that the lemmas on capillary rise assume (and,
through them, the day and run proofs), and a concrete compartment for the non-vacuity examples of the
proof files on the groundwater table, capillary rise, groundwater inflow and pre-irrigation.
-/

set_option linter.unusedSectionVars false
namespace Aqua
variable {α : Type} [Field α] [LinearOrder α] [IsStrictOrderedRing α]

/-- the only law of `exp` the capillary-rise lemmas use: positivity -/
structure GwExpLaws (F : Fn α) : Prop where
  exp_pos : ∀ x, 0 < F.exp x

/-- 4-decimal rounding is within half a unit of the last place: `|round(x,4) − x| ≤ 1/20000`. -/
structure GwRoundLaws (F : Fn α) : Prop where
  round4_err : ∀ x, |F.round4 x - x| ≤ 1 / 20000

/-- a positive rounded value comes from a positive argument (true of round-half-even: the result
is positive only if `x > 1/20000`). -/
structure GwRoundSign (F : Fn α) : Prop where
  round4_pos : ∀ x, 0 < F.round4 x → 0 < x

structure GwRound0Laws (F : Fn α) : Prop where
  round0_zero : F.round0 0 = 0

def gwExComp (dzsum zMid : ℚ) : Comp ℚ :=
  { dz := 1/10, dzsum := dzsum, zMid := zMid, thS := 1/2, thFC := 3/10, thWP := 1/10,
    thDry := 1/20, tau := 1/2, ksat := 500, pen := 100, aCR := -1/2, bCR := 1, layer := 1 }

theorem gwExComp_wf (a b : ℚ) : (gwExComp a b).WF := by
  constructor <;> simp [gwExComp] <;> norm_num

end Aqua
