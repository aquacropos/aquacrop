import AquaVerif.Proofs.RunClosed

/-
The example configuration over `ℚ` on which the run-level theorems are shown not to be vacuous.

* `Fq2` is `DayExample.Fq` with a *strictly* monotone `exp` (`1/(1−x)` for `x ≤ 0`, `1+x` above):
  `ExpOrdLaws` asks for strict monotonicity, which the piecewise-constant `exp` of `Fq` lacks.
* `cfgE wt` is `RunExample.cfgq` with the water-table flag `wt`, a simulation window of 14 days and
  the harvest on day 20 instead of day 9 (so that a run gets past emergence — canopy, roots and
  transpiration become positive — and ten days stay inside the season).
* `cfgOK_E : CfgOK Fq2 Tq (cfgE wt)` for every `wt`, in particular for `cfgq`'s own water table
  (`wt = 1`); `cfgOK_q : CfgOK Fq2 Tq cfgq` (the configuration of `Proofs/Run.lean` itself);
  `weatherOK_E`.

The runs of this configuration are evaluated in `Proofs/RunClosedExample.lean` and
`Proofs/RunTotalExample.lean`.
-/

set_option linter.unusedSectionVars false
namespace Aqua
namespace RunClosedExample
open DayExample FullDayExample RunExample

def Fq2 : Fn ℚ := { Fq with exp := fun x => if x ≤ 0 then 1 / (1 - x) else 1 + x }

theorem Fq2_expOrd : ExpOrdLaws Fq2 := by
  have hexp : ∀ x : ℚ, Fq2.exp x = if x ≤ 0 then 1 / (1 - x) else 1 + x := fun _ => rfl
  refine ⟨fun x => ?_, ?_, fun x y hxy => ?_⟩
  · rw [hexp]
    by_cases h : x ≤ 0
    · rw [if_pos h]; exact div_pos one_pos (sub_pos.mpr (lt_of_le_of_lt h one_pos))
    · rw [if_neg h]; exact add_pos one_pos (not_le.mp h)
  · rw [hexp, if_pos (le_refl _), sub_zero, div_one]
  · rw [hexp, hexp]
    by_cases hx : x ≤ 0
    · have hx1 : 0 < 1 - x := sub_pos.mpr (lt_of_le_of_lt hx one_pos)
      rw [if_pos hx]
      by_cases hy : y ≤ 0
      · rw [if_pos hy]
        exact one_div_lt_one_div_of_lt (sub_pos.mpr (lt_of_le_of_lt hy one_pos))
          (sub_lt_sub_left hxy 1)
      · rw [if_neg hy]
        have : 1 / (1 - x) ≤ 1 := (div_le_one hx1).mpr (le_sub_self_iff 1 |>.mpr hx)
        exact lt_of_le_of_lt this (lt_add_of_pos_right 1 (not_le.mp hy))
    · rw [if_neg hx, if_neg (not_le.mpr (lt_trans (not_le.mp hx) hxy))]
      exact (add_lt_add_iff_left 1).mpr hxy

theorem Fq2_pow (x y : ℚ) : Fq2.pow x y = if y = 2 then x * x else x := rfl

theorem fnOK_q : FnOK Fq2 Tq :=
  { expOrd := Fq2_expOrd
    pow :=
      ⟨fun x y hx => by
        rw [Fq2_pow]
        by_cases h : y = 2
        · rw [if_pos h]; exact (mul_pos hx hx).le
        · rw [if_neg h]; exact hx.le,
       fun x y hx h1 _ => by
        rw [Fq2_pow]
        by_cases h : y = 2
        · rw [if_pos h]; exact mul_le_one₀ h1 hx.le h1
        · rw [if_neg h]; exact h1,
       fun x x' y hx hxx _ => by
        rw [Fq2_pow, Fq2_pow]
        by_cases h : y = 2
        · rw [if_pos h, if_pos h]; exact mul_le_mul hxx hxx hx.le (hx.le.trans hxx)
        · rw [if_neg h, if_neg h]; exact hxx⟩
    powNN := ⟨fun x y hx => by
      rw [Fq2_pow]
      by_cases h : y = 2
      · rw [if_pos h]; exact mul_nonneg hx hx
      · rw [if_neg h]; exact hx⟩
    powSq := ⟨fun x => by rw [Fq2_pow, if_pos rfl]⟩
    sin := ⟨fun x => by show (-1 : ℚ) ≤ 0; norm_num, fun x => by show (0 : ℚ) ≤ 1; norm_num⟩ }

/-- `cfgq` with water-table flag `wt`, a window of 14 days and the harvest on day 20 (`cfgq`: day 9) -/
def cfgE (wt : Nat) : RunCfg ℚ :=
  { cfgq with W0 := { Wq with waterTable := wt },
              clock := { cfgq.clock with n := 14, harvest := [20] } }

theorem cropOK_q : CropOK Fq2 Tq cropq' :=
  { sxTop := by show (0 : ℚ) ≤ 0.048; norm_num
    sxBot := by show (0 : ℚ) ≤ 0.012; norm_num
    rdPos := fun z hz => by
      have : (0.2 : ℚ) ≤ z := hz
      show 0 < z
      exact lt_of_lt_of_le (by norm_num) this
    lagAer := fun n hn => by
      have h3 : (natNum n : ℚ) < 3 := hn
      show (natNum n : ℚ) + 1 ≤ 3
      rw [natNum_eq_cast] at h3 ⊢
      have : n < 3 := by exact_mod_cast h3
      have : n + 1 ≤ 3 := by omega
      exact_mod_cast this
    ccx0 := by show (0 : ℚ) ≤ 0.9; norm_num
    temp := by show (8 : ℚ) ≤ 30; norm_num
    ccStep := fun dt h1 _ => by
      have e : dt = 1 := h1 rfl
      subst e
      refine ⟨?_, ?_, zero_le_one, ?_⟩
      · show (0 : ℚ) ≤ 0.01; norm_num
      · show (0 : ℚ) ≤ 0.05; norm_num
      · show (0.01 : ℚ) * (if (0.1 : ℚ) * 1 ≤ 0 then 1 / (1 - 0.1 * 1) else 1 + 0.1 * 1) ≤ 0.9
        norm_num
    rdWF := ⟨by show (0 : ℚ) ≤ 0.2; norm_num, by show (0.2 : ℚ) ≤ 1; norm_num,
      by show (70 : ℚ) ≤ 100; norm_num, by show (0 : ℚ) < 1.5; norm_num⟩
    zminPos := by show (0 : ℚ) < 0.2; norm_num
    rdSxTop := by show (0 : ℚ) ≤ 0.048; norm_num
    rdSxBot := by show (0 : ℚ) ≤ 0.012; norm_num
    pUp1 := by show (0.5 : ℚ) < 1; norm_num
    fw1 := by show (3 : ℚ) ≠ 0; norm_num
    skip := fun x hx => le_of_lt hx
    post := ⟨by show (60 : ℚ) ≤ 65; norm_num, by show (0 : ℚ) ≤ 50; norm_num,
      fun _ => by show (1 : ℚ) ≤ 7; norm_num⟩
    build := ⟨Or.inr (Or.inr rfl), by show (0 : ℚ) < 0.01; norm_num,
      by show (0.01 : ℚ) < 0.5; norm_num, by show (0 : ℚ) ≤ 0.1; norm_num,
      by show (0 : ℚ) ≤ 0.005; norm_num⟩
    fsh := fun i _ => by show (3 : ℚ) ≠ 0; norm_num
    cap := by show (0 : ℚ) ≤ 1 + 15 / 100; norm_num
    leafy := fun h => absurd h (by decide)
    hiStart := rfl
    wpy0 := by show (0 : ℚ) ≤ 100; norm_num
    wpy1 := le_refl _
    wp := by show (0 : ℚ) ≤ 17 * 1; norm_num }

/-- `Fq2` rounds by the identity -/
theorem rd03 (z : ℚ) (hz : (0.3 : ℚ) ≤ z) : 0 < Fq2.pyRound2 z :=
  lt_of_lt_of_le (by norm_num) hz

/-! `CfgOK` and `WeatherOK` read neither the water-table flag nor the clock beyond `season0`: they
are proved for `cfgq` with any `W0` and clock, which covers `cfgq` itself and `cfgE wt`. -/

theorem gw_q : GwRoundLaws Fq2 ∧ GwRoundSign Fq2 :=
  ⟨⟨fun x => by simp [Fq2, Fq]⟩, ⟨fun x h => by simpa [Fq2, Fq] using h⟩⟩

/-- the initial state of `cfgq` (canopy, biomass, harvest index zero; `cc0_adj = CC0`, the
factors 1, `HI_final = HI0`) is inside the crop envelope -/
theorem init_q (P : DayParams ℚ) (hP : P.cx = cxq) : CropInv Fq2 P cfgq.init := by
  obtain ⟨W, fm, z, cx⟩ := P
  cases hP
  have h9 : (0 : ℚ) ≤ 0.9 := by norm_num
  have h01 : (0 : ℚ) ≤ 0.01 := by norm_num
  have h5 : (0 : ℚ) ≤ 0.5 := by norm_num
  exact
    { cc := ⟨le_refl _, le_refl _, h9, h01, le_refl _, h9, h9, zero_le_one, zero_le_one⟩
      root := ⟨zero_le_one, le_refl _, fun h => absurd rfl h⟩
      hi := ⟨zero_le_one, zero_le_one, le_refl _, le_refl _, zero_le_one, zero_le_one, h5,
        le_of_eq (mul_zero _).symm, h5,
        fun q _ hq => hiref_nonneg Fq2 _ q true h5 (by show (-0.004 : ℚ) ≤ 0.01; norm_num)
          (le_trans h5 hq)⟩
      bio := ⟨le_refl _, le_refl _⟩ }

theorem cfgOK_with (W : WaterParams ℚ) (c : Clock.Cfg) (hs : -1 ≤ c.season0) :
    CfgOK Fq2 Tq { cfgq with W0 := W, clock := c } :=
  { fn := fnOK_q
    gw := fun _ => gw_q
    cells0 := cells_pre
    geom := dayTrPre.geom
    aer0 := dayTrPre.aer
    pen := fun x hx => by
      have hx' : x ∈ cellsq := hx
      simp only [cellsq, List.mem_cons, List.not_mem_nil, or_false] at hx'
      rcases hx' with rfl | rfl | rfl | rfl <;> exact ⟨by norm_num [cq], by norm_num [cq]⟩
    layers := fun _ => ⟨fun _ => 0.1, fun _ => 0.3, by
      show TrLayersOK _ _ 0 cellsq
      simp only [cellsq, TrLayersOK, cq]; norm_num⟩
    pond0 := le_refl _
    thini := by
      show ThiniOK (cellsq.map (·.c)) [0.2, 0.25, 0.35, 0.3]
      simp only [cellsq, List.map_cons, List.map_nil, ThiniOK, cq]
      norm_num
    smt := fun h => absurd (show (5 : Nat) = 4 from h) (by decide)
    smtF := fun h => absurd (show (0 : Nat) = 4 from h) (by decide)
    bundWater := le_refl _
    crop := cropOf_ind (fun _ => cropOK_q) (cropOK_fallowAdjust cropOK_q rd03)
    season0 := hs
    init := init_q _ (cropOf_ind (Q := fun p => p.cx = cxq) (fun _ => rfl) rfl _)
    rCor0 := zero_le_one }

theorem cfgOK_E (wt : Nat) : CfgOK Fq2 Tq (cfgE wt) := cfgOK_with _ _ (by decide)

theorem cfgOK_q : CfgOK Fq2 Tq cfgq := cfgOK_with cfgq.W0 cfgq.clock (by decide)

/-- at `ET0 = 5` the `ET0` adjustment of the thresholds vanishes; the lower threshold clips to 1 -/
theorem hiOrd_q (tes : ℚ) (i : Fin 4) :
    wsUp Fq2 hikq.pUp hikq.etAdj hikq.beta tes 5 true i ≤ wsLo Fq2 hikq.pLo hikq.etAdj 5 i := by
  have h1 : wsLo Fq2 hikq.pLo hikq.etAdj 5 i = 1 := by
    unfold wsLo
    have e : (if hikq.etAdj = true ∧ i.val < 3 then etAdjust Fq2 (hikq.pLo i) 5 else hikq.pLo i)
        = 1 := by
      split_ifs <;> simp [etAdjust, hikq]
    rw [e]
    exact clip01_of_mem zero_le_one (le_refl _)
  rw [h1]
  unfold wsUp
  exact (clip01_range _).2

theorem weatherOK_with (W : WaterParams ℚ) (c : Clock.Cfg) :
    WeatherOK Fq2 { cfgq with W0 := W, clock := c } :=
  { et0 := fun t => by show (0 : ℚ) < 5; norm_num
    hiOrd := fun t season tes i => by
      rw [cropOf_ind (Q := fun p => p.cx.hik = hikq) (fun _ => rfl) rfl season]
      exact hiOrd_q tes i }

theorem weatherOK_E (wt : Nat) : WeatherOK Fq2 (cfgE wt) := weatherOK_with _ _

theorem weatherOK_q : WeatherOK Fq2 cfgq := weatherOK_with cfgq.W0 cfgq.clock

end RunClosedExample
end Aqua

#print axioms Aqua.RunClosedExample.cfgOK_q
#print axioms Aqua.RunClosedExample.cfgOK_E
#print axioms Aqua.RunClosedExample.weatherOK_q
