import AquaVerif.Model.GroundwaterTable
import AquaVerif.Proofs.GwCommon
import AquaVerif.Proofs.PowSq
/-
Lemmas about `checkGroundwaterTable` (`Model/GroundwaterTable.lean`) at an arbitrary ordered
field.  The only law of `F` needed is `PowSqLaw` (`x ** 2 = x · x`, for the range of the adjusted
field capacity): the parabola factor is in `[0,1]` because the branch conditions give
`0 < zGW − zMid < Xmax` (so `Xmax > 0` whatever `exp` is).  The frame (`th`, `flux`, `aer`,
parameters untouched), the early exit and the `wt_in_soil` flag need no law at all.
-/

set_option linter.unusedSectionVars false
namespace Aqua
variable {α : Type} [Field α] [LinearOrder α] [IsStrictOrderedRing α]

/-- with `t = zMid − (zGW − xmax)` the branch conditions give `0 < t < xmax`, so `t·t ≤ xmax·xmax` and
the parabola term is between `0` and `thS − thFC` -/
theorem gwFcAdj_range {F : Fn α} (hF : PowSqLaw F) (zGW xmax : α) (c : Comp α)
    (hfs : c.thFC ≤ c.thS) (hx : zGW - c.zMid < xmax) :
    c.thFC ≤ gwFcAdj F zGW xmax c ∧ gwFcAdj F zGW xmax c ≤ c.thS := by
  unfold gwFcAdj
  extract_lets dV t dFC
  by_cases h1 : c.thS ≤ c.thFC
  · rw [if_pos h1]; exact ⟨le_refl _, hfs⟩
  rw [if_neg h1]
  by_cases h2 : zGW ≤ c.zMid
  · rw [if_pos h2]; exact ⟨hfs, le_refl _⟩
  rw [if_neg h2]
  have ht0 : 0 < t := sub_pos.2 (sub_lt_comm.1 hx)
  have htx : t < xmax := by
    show c.zMid - (zGW - xmax) < xmax
    linarith only [not_le.mp h2]
  have hdv : 0 ≤ dV := sub_nonneg.2 hfs
  have hxx : 0 < xmax * xmax := mul_pos (ht0.trans htx) (ht0.trans htx)
  have e : dFC = dV / (xmax * xmax) * (t * t) := congrArg _ (hF.pow_two t)
  have h1' : dV / (xmax * xmax) * (t * t) ≤ dV := by
    rw [div_mul_eq_mul_div, div_le_iff₀ hxx]
    exact mul_le_mul_of_nonneg_left (mul_self_le_mul_self ht0.le htx.le) hdv
  rw [e]
  exact ⟨le_add_of_nonneg_right (mul_nonneg (div_nonneg hdv hxx.le) (mul_self_nonneg t)),
    le_sub_iff_add_le'.1 h1'⟩

def GwtRel (F : Fn α) (wt : Nat) (x y : Cell α) : Prop :=
  y.c = x.c ∧ y.th = x.th ∧ y.flux = x.flux ∧ y.aer = x.aer ∧ (wt ≠ 1 → y.fcAdj = x.fcAdj) ∧
    (wt = 1 → PowSqLaw F → x.c.thFC ≤ x.c.thS → x.c.thFC ≤ y.fcAdj ∧ y.fcAdj ≤ x.c.thS)

/-- the loop touches nothing but `fcAdj`; whatever holds of `thFC` and of every adjusted value (`Q`)
holds of the new `fcAdj` -/
theorem gwtLoop_forall₂ (F : Fn α) (zGW : α) (Q : Comp α → α → Prop) (hreset : ∀ c, Q c c.thFC)
    (hadj : ∀ c xmax, zGW - c.zMid < xmax → Q c (gwFcAdj F zGW xmax c)) (rev : List (Cell α)) :
    List.Forall₂ (fun x y : Cell α => y.c = x.c ∧ y.th = x.th ∧ y.flux = x.flux ∧ y.aer = x.aer ∧
      Q x.c y.fcAdj) rev (gwtLoop F zGW rev) := by
  induction rev with
  | nil => exact List.Forall₂.nil
  | cons x xs ih =>
    rw [gwtLoop]
    by_cases h : zGW < 0 ∨ gwXmax F x.c.thFC ≤ zGW - x.c.zMid
    · rw [if_pos h, List.forall₂_map_right_iff]
      exact List.forall₂_same.mpr fun y _ => ⟨rfl, rfl, rfl, rfl, hreset y.c⟩
    · rw [if_neg h]
      exact List.Forall₂.cons ⟨rfl, rfl, rfl, rfl, hadj x.c _ (not_le.mp (not_or.mp h).2)⟩ ih

/-! ### the process -/

theorem checkGroundwaterTable_ok (F : Fn α) (cells : List (Cell α)) (zGW : α) (r : GwtOut α)
    (h : checkGroundwaterTable F cells 1 zGW = some r) :
    0 ≤ zGW ∧ r = { cells := (gwtLoop F zGW cells.reverse).reverse, table := true,
                    wtInSoil := anyMidGE zGW cells, zGW := zGW } := by
  unfold checkGroundwaterTable at h
  rw [if_pos rfl] at h
  by_cases hz : 0 ≤ zGW
  · rw [if_pos hz] at h; exact ⟨hz, (Option.some.inj h).symm⟩
  · rw [if_neg hz] at h; cases h

theorem checkGroundwaterTable_no_table (F : Fn α) (cells : List (Cell α)) (wt : Nat) (zGW : α)
    (h : wt ≠ 1) :
    checkGroundwaterTable F cells wt zGW =
      some { cells := cells, table := false, wtInSoil := false, zGW := zGW } := by
  simp [checkGroundwaterTable, h]

theorem checkGroundwaterTable_frame (F : Fn α) (cells : List (Cell α)) (wt : Nat) (zGW : α)
    (r : GwtOut α) (h : checkGroundwaterTable F cells wt zGW = some r) :
    List.Forall₂ (GwtRel F wt) cells r.cells := by
  by_cases hw : wt = 1
  · subst hw
    rw [(checkGroundwaterTable_ok F cells zGW r h).2, ← List.forall₂_reverse_iff,
      List.reverse_reverse]
    exact (gwtLoop_forall₂ F zGW (fun c a => PowSqLaw F → c.thFC ≤ c.thS → c.thFC ≤ a ∧ a ≤ c.thS)
      (fun _ _ h => ⟨le_refl _, h⟩) (fun c xmax hx hF hfs => gwFcAdj_range hF zGW xmax c hfs hx) _).imp
      fun _ _ h => ⟨h.1, h.2.1, h.2.2.1, h.2.2.2.1, fun hn => absurd rfl hn, fun _ => h.2.2.2.2⟩
  · rw [checkGroundwaterTable_no_table F cells wt zGW hw] at h
    cases h
    exact List.forall₂_same.2 fun x _ => ⟨rfl, rfl, rfl, rfl, fun _ => rfl, fun h1 => absurd h1 hw⟩

theorem checkGroundwaterTable_length (F : Fn α) (cells : List (Cell α)) (zGW : α) (r : GwtOut α)
    (h : checkGroundwaterTable F cells 1 zGW = some r) : r.cells.length = cells.length :=
  (checkGroundwaterTable_frame F cells 1 zGW r h).length_eq.symm

theorem checkGroundwaterTable_inv_any {F : Fn α} (hF : PowSqLaw F) (cells : List (Cell α))
    (wt : Nat) (zGW : α) (r : GwtOut α) (hinv : ∀ x ∈ cells, x.Inv) (h : checkGroundwaterTable F cells wt zGW = some r) :
    ∀ y ∈ r.cells, y.Inv := by
  refine forall_of_forall₂ (checkGroundwaterTable_frame F cells wt zGW r h) (fun x y hr ix => ?_) hinv
  obtain ⟨hc, hth, -, -, h0, h1⟩ := hr
  have hfc : x.c.thFC ≤ y.fcAdj ∧ y.fcAdj ≤ x.c.thS := by
    by_cases hw : wt = 1
    · exact h1 hw hF ix.wf.fc_s
    · rw [h0 hw]; exact ⟨ix.fc_lo, ix.fc_hi⟩
  exact ⟨hc ▸ ix.wf, by rw [hc, hth]; exact ix.th_lo, by rw [hc, hth]; exact ix.th_hi,
    by rw [hc]; exact hfc.1, by rw [hc]; exact hfc.2⟩

/-- the loop exits at its first iteration: compartments above are *not* examined, although one of
them could have a larger `Xmax` than the bottom one (see `gwXmax`) -/
theorem fcAdj_far (F : Fn α) (front : List (Cell α)) (last : Cell α) (zGW : α) (hz : 0 ≤ zGW)
    (hfar : gwXmax F last.c.thFC ≤ zGW - last.c.zMid) :
    checkGroundwaterTable F (front ++ [last]) 1 zGW =
      some { cells := (front ++ [last]).map Cell.resetFC, table := true,
             wtInSoil := anyMidGE zGW (front ++ [last]), zGW := zGW } := by
  unfold checkGroundwaterTable
  simp only [hz, if_true, List.reverse_append, List.reverse_singleton, List.singleton_append]
  rw [gwtLoop, if_pos (Or.inr hfar)]
  simp [List.map_reverse]

theorem anyMidGE_iff (zGW : α) (cells : List (Cell α)) :
    anyMidGE zGW cells = true ↔ ∃ x ∈ cells, zGW ≤ x.c.zMid := by
  induction cells with
  | nil => simp [anyMidGE]
  | cons x xs ih =>
    by_cases hz : zGW ≤ x.c.zMid
    · simp only [anyMidGE, hz, if_true, true_iff]; exact ⟨x, by simp, hz⟩
    · simp only [anyMidGE, hz, if_false, ih]
      constructor
      · rintro ⟨y, hy, h⟩; exact ⟨y, by simp [hy], h⟩
      · rintro ⟨y, hy, h⟩
        rcases List.mem_cons.mp hy with rfl | hy'
        · exact absurd h hz
        · exact ⟨y, hy', h⟩

theorem checkGroundwaterTable_wt (F : Fn α) (cells : List (Cell α)) (zGW : α) (r : GwtOut α)
    (h : checkGroundwaterTable F cells 1 zGW = some r) :
    r.table = true ∧ r.zGW = zGW ∧ 0 ≤ zGW ∧ (r.wtInSoil = true ↔ ∃ x ∈ cells, zGW ≤ x.c.zMid) := by
  obtain ⟨hz, rfl⟩ := checkGroundwaterTable_ok F cells zGW r h
  exact ⟨rfl, rfl, hz, anyMidGE_iff zGW cells⟩

/-- `none` is the Python `UnboundLocalError` -/
theorem checkGroundwaterTable_error_iff (F : Fn α) (cells : List (Cell α)) (wt : Nat) (zGW : α) :
    checkGroundwaterTable F cells wt zGW = none ↔ wt = 1 ∧ zGW < 0 := by
  unfold checkGroundwaterTable
  by_cases h1 : wt = 1 <;> by_cases hz : 0 ≤ zGW <;> simp [h1, hz, not_lt.mpr, not_le.mp]

/-! ### non-vacuity: table at 0.45 m under two 0.1 m compartments (Xmax = 2 as `thFC = 0.3`) -/

example :
    (checkGroundwaterTable ⟨id, id, id, fun x _ => x * x, id, id, id, id, id⟩
      [⟨gwExComp (1/10) (1/20), 1/10, 3/10, 0, 0⟩, ⟨gwExComp (1/5) (3/20), 1/5, 3/10, 0, 0⟩]
      1 (9/20 : ℚ)).map (fun r => r.cells.map (·.fcAdj)) = some [107/250, 889/2000] := by
  decide +kernel

end Aqua

section
open Aqua
#print axioms fcAdj_far
#print axioms checkGroundwaterTable_frame
#print axioms checkGroundwaterTable_inv_any
#print axioms checkGroundwaterTable_no_table
#print axioms checkGroundwaterTable_error_iff
end
