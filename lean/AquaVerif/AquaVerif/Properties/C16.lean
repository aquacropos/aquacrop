import AquaVerif.Proofs.Infiltration
import AquaVerif.Proofs.Totality
import AquaVerif.Proofs.GroundwaterTable
import AquaVerif.Proofs.GroundwaterInflow
import AquaVerif.Proofs.SoilEvaporation
import AquaVerif.Proofs.Response
import AquaVerif.Proofs.Transpiration
import AquaVerif.Proofs.GrowthStage
import AquaVerif.Proofs.Irrigation
/-
Property C16 — every valid configuration runs to completion (the part a theorem can carry).

The models make every place where the Python can raise explicit (`none` / `Except.error`: failed
index, unbound local, failed `assert`, division of Python numbers by zero, exhausted loop fuel).
The theorems say, process by process, **exactly when** such a branch is taken, or give
sufficient conditions under which it is not — for **every** profile, state, parameter vector and
day input over an arbitrary linearly ordered field and every `F : Fn α` (no law of `exp/log/round`
is used).

This file holds the theorems about single calls of the processes: `infiltration`, `irrigation`,
`root_zone_water`, `check_groundwater_table` → `groundwater_inflow`, `soil_evaporation` (loop
fuel), `growing_degree_day`, `temperature_stress`, `growth_stage`, `transpiration` off season; it
imports their lemma files only.  The clock, the calendars, the catalogue and the whole run are in
`Properties/C16Run.lean`.
What is not covered: exceptions below the modelled layer (pandas / numpy) and finiteness of IEEE
results; those rest on the catalogue sweep of the tie.  Premises that are conditions on *state*
rather than on configuration (`root_zone_water`: rooting depth inside the profile) are exactly
where the open findings of C16 sit (`raises-AssertionError-root_zone_water`).
-/

set_option linter.unusedSectionVars false
namespace Aqua.C16
open Aqua

section field
variable {α : Type} [Field α] [LinearOrder α] [IsStrictOrderedRing α]

/-! ## Infiltration -/

/-- On a non-empty profile `infiltration` never raises, provided the efficiency-adjusted irrigation
is non-negative in the growing season (the `assert Infl >= 0`). -/
theorem infiltration_never_raises (F : Fn α) (c : Cell α) (cs : List (Cell α))
    (pond infl irr appEff zBund dp0 ro0 : α) (bunds gs : Bool)
    (hirr : gs = true → 0 ≤ irr * (appEff / 100)) :
    ∃ out, infiltration F (c :: cs) pond infl irr appEff bunds zBund dp0 ro0 gs = .ok out :=
  infiltration_isOk F c cs pond infl irr appEff zBund dp0 ro0 bunds gs hirr

/-- No `UnboundLocalError` for bunds lower than 0.001 mm: `infiltration` never takes the
"`ToStore` unbound" branch, on any input. -/
theorem infiltration_never_unbound (F : Fn α) (cells : List (Cell α))
    (pond infl irr appEff zBund dp0 ro0 : α) (bunds gs : Bool) :
    infiltration F cells pond infl irr appEff bunds zBund dp0 ro0 gs ≠ .error "E:unbound" := by
  unfold infiltration
  extract_lets I
  refine ite_ind (fun r : Except String (InfOut α) => r ≠ .error "E:unbound") (fun _ => ?_)
    fun _ h => absurd (Except.error.inj h) (by decide)
  have := infSurface_ne_unbound (cells.head?.map (·.c.ksat)) pond I zBund bunds
  cases hs : infSurface (cells.head?.map (·.c.ksat)) pond I bunds zBund with
  | error e => exact fun h => by cases h; exact this hs
  | ok s => exact fun h => nomatch h

/-! ## Irrigation and root-zone water -/

/-- Outside the growing season `irrigation` never raises (and returns zeros), whatever the
parameters. -/
theorem irrigation_offseason_ok (F : Fn α) (P : IrrParams α) (cells : List (Cell α)) (st : Nat)
    (irrCum ePot tPot zRoot : α) (dap : Nat) (sched : Option α) (zMin aer zTop rain runoff : α) :
    ∃ out, irrigation F P cells st irrCum ePot tPot zRoot dap sched zMin aer zTop false rain runoff
        = .ok out ∧ out.irr = 0 ∧ out.irrCum = 0 ∧ out.depletion = 0 ∧ out.taw = 0 :=
  irrigation_offseason F P cells st irrCum ePot tPot zRoot dap sched zMin aer zTop rain runoff

/-- The errors of `irrigation` characterised: only in the growing season; `rootZone` iff
`root_zone_water` raises; otherwise `index` iff (threshold strategy and growth stage > 4) or
(schedule strategy and the day is outside the schedule array), `zerodiv` iff interval strategy
with interval 0, `assert` iff schedule strategy with a negative scheduled depth, `unbound` iff the
method number exceeds 5. -/
theorem irrigation_errors_characterised (F : Fn α) (P : IrrParams α) (cells : List (Cell α))
    (st : Nat) (irrCum ePot tPot zRoot : α) (dap : Nat) (sched : Option α) (zMin aer zTop : α)
    (gs : Bool) (rain runoff : α) (e : IrrErr) :
    irrigation F P cells st irrCum ePot tPot zRoot dap sched zMin aer zTop gs rain runoff = .error e ↔
      gs = true ∧
      ((e = .rootZone ∧ rootZoneWater F cells zRoot zTop zMin aer = none) ∨
       (rootZoneWater F cells zRoot zTop zMin aer ≠ none ∧
        ((e = .index ∧ ((P.method = 1 ∧ 4 < (if dap = 1 then 1 else st)) ∨
            (P.method = 3 ∧ sched = none))) ∨
         (e = .zerodiv ∧ P.method = 2 ∧ P.interval = 0) ∨
         (e = .assert ∧ P.method = 3 ∧ ∃ s, sched = some s ∧ s < 0) ∨
         (e = .unbound ∧ 5 < P.method)))) :=
  irrigation_error_iff F P cells st irrCum ePot tPot zRoot dap sched zMin aer zTop gs rain runoff e

/-- Hence the call succeeds for the six documented strategies whenever `root_zone_water` succeeds,
the growth stage is at most 4, the interval at least one day and the scheduled depth of the day
exists and is non-negative. -/
theorem irrigation_succeeds_when (F : Fn α) (P : IrrParams α) (cells : List (Cell α)) (st : Nat)
    (irrCum ePot tPot zRoot : α) (dap : Nat) (sched : Option α) (zMin aer zTop : α) (gs : Bool)
    (rain runoff : α)
    (hrz : gs = true → rootZoneWater F cells zRoot zTop zMin aer ≠ none)
    (hm : P.method ≤ 5)
    (h1 : P.method = 1 → (if dap = 1 then 1 else st) ≤ 4)
    (h2 : P.method = 2 → 1 ≤ P.interval)
    (h3 : P.method = 3 → ∃ s, sched = some s ∧ 0 ≤ s) :
    ∃ out, irrigation F P cells st irrCum ePot tPot zRoot dap sched zMin aer zTop gs rain runoff
      = .ok out := by
  cases hres : irrigation F P cells st irrCum ePot tPot zRoot dap sched zMin aer zTop gs rain runoff with
  | ok out => exact ⟨out, rfl⟩
  | error e =>
    exfalso
    obtain ⟨hg, hcase⟩ := (irrigation_error_iff F P cells st irrCum ePot tPot zRoot dap sched zMin
      aer zTop gs rain runoff e).mp hres
    rcases hcase with ⟨_, hn⟩ | ⟨_, hcase⟩
    · exact hrz hg hn
    · rcases hcase with ⟨_, ⟨hm1, hlt⟩ | ⟨hm3, hs⟩⟩ | ⟨_, hm2, hi⟩ | ⟨_, hm3, s, hs, hneg⟩ | ⟨_, h6⟩
      · have := h1 hm1; omega
      · obtain ⟨s, hs', _⟩ := h3 hm3; rw [hs] at hs'; cases hs'
      · have := h2 hm2; omega
      · obtain ⟨s', hs', h0⟩ := h3 hm3
        rw [hs] at hs'; cases hs'
        exact absurd hneg (not_lt.mpr h0)
      · omega

/-- `root_zone_water` succeeds iff the (rounded) rooting depth lies within the profile and — when
the top soil is shallower than the rooting depth — at least one compartment ends within the top
soil (the `assert comp_sto > 0`). -/
theorem root_zone_water_succeeds_iff (F : Fn α) (cells : List (Cell α)) (zRoot zTop zMin aer : α) :
    (rootZoneWater F cells zRoot zTop zMin aer).isSome = true ↔
      (∃ x ∈ cells, F.round2 (pmax zRoot zMin) ≤ x.c.dzsum) ∧
      (zTop < F.round2 (pmax zRoot zMin) → ∃ x ∈ cells, x.c.dzsum ≤ F.pyRound2 zTop) := by
  unfold rootZoneWater
  simp only []
  cases hf : firstGE (F.round2 (pmax zRoot zMin)) cells with
  | none =>
    have := (firstGE_eq_none_iff _ _).mp hf
    simp only [Option.isSome_none, Bool.false_eq_true, false_iff, not_and]
    rintro ⟨x, hx, hle⟩
    exact absurd hle (not_le.mpr (this x hx))
  | some k =>
    have hk := firstGE_lt_length _ _ _ hf
    have hex : ∃ x ∈ cells, F.round2 (pmax zRoot zMin) ≤ x.c.dzsum := by
      by_contra hne
      have : firstGE (F.round2 (pmax zRoot zMin)) cells = none :=
        (firstGE_eq_none_iff _ _).mpr (fun x hx => not_le.mp (fun hle => hne ⟨x, hx, hle⟩))
      rw [this] at hf; cases hf
    obtain ⟨a, ha⟩ := rzLoop_isSome F (F.round2 (pmax zRoot zMin)) aer (k + 1) cells
      ⟨0, 0, 0, 0, 0, 0⟩ (by omega)
    simp only [ha]
    by_cases hz : zTop < F.round2 (pmax zRoot zMin)
    · simp only [hz, if_true, hex, true_and, forall_true_left]
      by_cases hn : countLE (F.pyRound2 zTop) cells = 0
      · simp only [hn, if_true, Option.isSome_none, Bool.false_eq_true, false_iff, not_exists,
          not_and]
        exact (countLE_eq_zero_iff _ _).mp hn
      · obtain ⟨b, hb⟩ := ztLoop_isSome (F.pyRound2 zTop) (countLE (F.pyRound2 zTop) cells) cells
          (0, 0, 0) (countLE_le_length _ _)
        obtain ⟨b1, b2, b3⟩ := b
        simp only [hn, if_false, hb, Option.isSome_some, true_iff]
        by_contra hne
        exact hn ((countLE_eq_zero_iff _ _).mpr (fun x hx hle => hne ⟨x, hx, hle⟩))
    · simp only [hz, if_false, Option.isSome_some, hex, true_and, false_imp_iff]

/-! ## Groundwater -/

/-- `check_groundwater_table` succeeds iff there is no water table or its depth is non-negative. -/
theorem check_groundwater_table_ok_iff (F : Fn α) (cells : List (Cell α)) (wt : Nat) (zGW : α) :
    checkGroundwaterTable F cells wt zGW ≠ none ↔ (wt = 1 → 0 ≤ zGW) := by
  rw [ne_eq, checkGroundwaterTable_error_iff]
  constructor
  · intro h h1; exact not_lt.mp (fun hz => h ⟨h1, hz⟩)
  · rintro h ⟨h1, hz⟩; exact absurd hz (not_lt.mpr (h h1))

/-- With the flags `check_groundwater_table` returned, `groundwater_inflow` does not raise (on any
water contents over the same compartments). -/
theorem groundwater_inflow_ok_after_check (F : Fn α) (cells cells' : List (Cell α)) (wt : Nat)
    (zGW : α) (r : GwtOut α) (h : checkGroundwaterTable F cells wt zGW = some r)
    (hc : List.Forall₂ (fun x y : Cell α => y.c = x.c) cells cells') :
    groundwaterInflow cells' r.wtInSoil r.zGW ≠ none := by
  intro hn
  by_cases h1 : wt = 1
  · subst h1
    obtain ⟨-, hz, -, hw⟩ := checkGroundwaterTable_wt F cells zGW r h
    cases hwt : r.wtInSoil with
    | false => rw [hwt] at hn; simp [groundwaterInflow] at hn
    | true =>
      rw [hwt, hz] at hn
      simp only [groundwaterInflow, if_true] at hn
      obtain ⟨x, hx, hzx⟩ := hw.mp hwt
      obtain ⟨y, hy, hcy⟩ := forall₂_mem_left hc hx
      have := (gwSeek_none_iff zGW cells').mp hn y hy
      rw [hcy] at this
      exact absurd hzx (not_le.mpr this)
  · rw [checkGroundwaterTable_no_table F cells wt zGW h1] at h
    rw [← Option.some.inj h] at hn
    simp [groundwaterInflow] at hn

/-- In general `groundwater_inflow` raises exactly when told that the table is in the soil while
every mid-point lies above it. -/
theorem groundwater_inflow_raises_iff (cells : List (Cell α)) (wt : Bool) (zGW : α) :
    groundwaterInflow cells wt zGW = none ↔ wt = true ∧ ∀ x ∈ cells, x.c.zMid < zGW := by
  cases wt with
  | true => simp [groundwaterInflow, gwSeek_none_iff]
  | false => simp [groundwaterInflow]

/-! ## Soil evaporation -/

/-- The expansion loop of stage-2 evaporation always has enough fuel (`EvapZmax` within 100 m of the
evaporation depths): `soil_evaporation` can only fail with `E:index`, `E:zerodiv` (zero sub-steps)
or `E:unbound` (unknown calendar type), never with `E:fuel`. -/
theorem soil_evaporation_fuel_suffices (F : Fn α) (P : EvapParams α) (S : EvapState α)
    (cells : List (Cell α)) (D : EvapDay α) (h1 : P.zMax - S.evapZ ≤ 100)
    (h2 : P.zMax - P.zMin ≤ 100) (e : String) (h : soilEvaporation F P S cells D = .error e) :
    e = "E:index" ∨ e = "E:zerodiv" ∨ e = "E:unbound" :=
  (soilEvap_cases F P S cells D).1 e h (fuelOk_of_le P _ h1) (fuelOk_of_le P _ h2)

/-! ## Option switches; `transpiration` off season -/

/-- `growing_degree_day` is defined iff the method is 1, 2 or 3. -/
theorem growing_degree_day_defined_iff (m : Nat) (tupp tbase tmax tmin : α) :
    (growingDegreeDay m tupp tbase tmax tmin).isSome ↔ (m = 1 ∨ m = 2 ∨ m = 3) := by
  constructor
  · intro h
    obtain ⟨g, hg⟩ := Option.isSome_iff_exists.mp h
    rcases gdd_cases hg with ⟨h1, _⟩ | ⟨h2, _⟩ | ⟨h3, _⟩
    · exact Or.inl h1
    · exact Or.inr (Or.inl h2)
    · exact Or.inr (Or.inr h3)
  · rintro (rfl | rfl | rfl)
    · rw [gdd_method1]; rfl
    · rw [gdd_method2]; rfl
    · rw [gdd_method3]; rfl

/-- `temperature_stress` is defined iff both pollination-stress flags are 0 or 1. -/
theorem temperature_stress_defined_iff (F : Fn α) (ph pc : Nat)
    (tmaxUp tmaxLo tminUp tminLo b tmax tmin : α) :
    (temperatureStress F ph pc tmaxUp tmaxLo tminUp tminLo b tmax tmin).isSome ↔
      (ph = 0 ∨ ph = 1) ∧ (pc = 0 ∨ pc = 1) := by
  unfold temperatureStress
  simp only []
  split_ifs <;> simp [*]

/-- `growth_stage` is defined iff off season or the calendar type is 1 or 2. -/
theorem growth_stage_defined_iff (cal : Nat) (dap dc g dg c10 mx sen : α) (gs : Bool) (old : Nat) :
    (growthStage cal dap dc g dg c10 mx sen gs old).isSome = true ↔
      (gs = false ∨ cal = 1 ∨ cal = 2) := by
  unfold growthStage
  cases gs
  · simp
  · by_cases h1 : cal = 1
    · simp [h1]
    · by_cases h2 : cal = 2
      · simp [h2]
      · simp [h1, h2]

/-- Outside the growing season `transpiration` never raises. -/
theorem transpiration_offseason_ok (F : Fn α) (cells : List (Cell α)) (nComp : Nat) (zTop : α)
    (crop : TrCrop α) (m : Nat) (smt : α) (st : TrState α) (et0 cur ref gdd : α) :
    ∃ out, transpiration F cells nComp zTop crop m smt st et0 cur ref false gdd = .ok out :=
  ⟨_, transpiration_offseason⟩

end field

end Aqua.C16
