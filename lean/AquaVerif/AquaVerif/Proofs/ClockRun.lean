import AquaVerif.Model.Clock
import AquaVerif.Proofs.Steps
/-
The clock model's loops (`runSteps`, `runModel`, `runCalls`, `runTillF`) are the generic ones of
`Aqua.Steps` for `perform c ev` and `St.finished` (`runSteps_eq` …), and the C09 statements read off
for the clock, for *every* configuration and oracle.
Core Lean only.
-/

namespace Aqua.Clock
open Steps

variable {c : Cfg} {ev : Ev}

theorem perform_finished {s : St} (h : s.finished = true) :
    perform c ev s = .error .finished := by
  simp [perform, h]

theorem unfinished_of_perform_ok {s s' : St} (h : perform c ev s = .ok s') :
    s.finished = false := by
  cases hf : s.finished with
  | false => rfl
  | true => rw [perform_finished hf] at h; cases h

theorem runSteps_eq : ∀ (k : Nat) (s : St),
    runSteps c ev k s = run (perform c ev) St.finished k s
  | 0, _ => rfl
  | k + 1, s => by
    show (perform c ev s).bind _ = (perform c ev s).bind _
    congr 1; funext s'
    rw [runSteps_eq k s']; rfl

theorem runModel_eq (k : Nat) (s : St) :
    runModel c ev k s = model (perform c ev) St.finished .numSteps k s := by
  unfold runModel model; rw [runSteps_eq]

theorem runCalls_eq : ∀ (ks : List Nat) (s : St),
    runCalls c ev ks s = calls (perform c ev) St.finished .numSteps ks s
  | [], _ => rfl
  | k :: ks, s => by
    show (runModel c ev k s).bind _ = (model _ _ _ k s).bind _
    rw [runModel_eq]
    congr 1; funext s'
    exact runCalls_eq ks s'

theorem runTillF_eq : ∀ (f : Nat) (s : St),
    runTillF c ev f s = till (perform c ev) St.finished .fuel f s
  | 0, _ => rfl
  | f + 1, s => by
    show (if s.finished then _ else (perform c ev s).bind _) =
      if s.finished then _ else (perform c ev s).bind _
    congr 2; funext s'
    exact runTillF_eq f s'

@[simp] theorem runSteps_zero (s : St) : runSteps c ev 0 s = .ok s := rfl

theorem runSteps_succ (k : Nat) (s : St) :
    runSteps c ev (k + 1) s =
      (perform c ev s).bind (fun s' => if s'.finished then .ok s' else runSteps c ev k s') := rfl

theorem runTillF_succ (f : Nat) (s : St) :
    runTillF c ev (f + 1) s =
      if s.finished then .ok s else (perform c ev s).bind (runTillF c ev f) := rfl

theorem runTillF_of_finished {s : St} (h : s.finished = true) (f : Nat) :
    runTillF c ev f s = .ok s := by
  rw [runTillF_eq]; exact till_of_fin h f

theorem runSteps_add (a b : Nat) (s : St) (hs : s.finished = false) :
    runSteps c ev (a + b) s =
      (runSteps c ev a s).bind (fun s' => if s'.finished then .ok s' else runSteps c ev b s') := by
  simp only [runSteps_eq]; exact run_add a b s hs

theorem runSteps_add' {a b : Nat} {s s1 : St} (h1 : runSteps c ev a s = .ok s1)
    (hf : s1.finished = false) :
    runSteps c ev (a + b) s = runSteps c ev b s1 := by
  simp only [runSteps_eq] at h1 ⊢; exact run_add' h1 hf

theorem overshoot_stops {a : Nat} (b : Nat) {s s1 : St} (hs : s.finished = false)
    (h1 : runSteps c ev a s = .ok s1) (hf : s1.finished = true) :
    runSteps c ev (a + b) s = .ok s1 := by
  simp only [runSteps_eq] at h1 ⊢; exact overshoot b hs h1 hf

/-- A `run_model` call on a finished model raises: it performs a `_perform_timestep` before it looks
at `model_is_finished`. -/
theorem runModel_finished {s : St} (k : Nat) (hs : s.finished = true) :
    runModel c ev k s = .error (if k < 1 then .numSteps else .finished) := by
  rw [runModel_eq]; exact model_finished k (perform_finished hs)

theorem runModel_ok {k : Nat} {s s' : St} (h : runModel c ev k s = .ok s') :
    1 ≤ k ∧ runSteps c ev k s = .ok s' := by
  rw [runModel_eq] at h; rw [runSteps_eq]
  obtain ⟨h1, h2, _⟩ := model_ok (fun _ _ => unfinished_of_perform_ok) h
  exact ⟨h1, h2⟩

theorem runTillF_mono (f : Nat) (s s' : St) (h : runTillF c ev f s = .ok s') (g : Nat)
    (hg : f ≤ g) : runTillF c ev g s = .ok s' := by
  rw [runTillF_eq] at h ⊢; exact till_mono f h g hg

theorem runTillF_finished : ∀ (f : Nat) (s s' : St), runTillF c ev f s = .ok s' →
    s'.finished = true := by
  intro f s s' h
  rw [runTillF_eq] at h
  exact till_fin f h

end Aqua.Clock

