import AquaVerif.Proofs.RunForcingPrefix
import AquaVerif.Proofs.RunForcingExtend
import AquaVerif.Proofs.RunForcingBind
import AquaVerif.Proofs.RunForcingExample
/-
Property C14, run-level companion file: **no look-ahead on the full run model** (`Model/Run.lean`:
`runModel F T cfg`, the clock driving `fullDay`; `Proofs/RunForcing*.lean`).
`Properties/C14.lean` states the property for the abstract day loop `runDays` and ties the weather
handling to the code; here the day loop is the modelled `_perform_timestep` itself, the forcing is
everything day-indexed in the configuration (weather rows, water-table depths, irrigation-schedule
entries), and the known exception — thermal-time crops, whose calendar is computed from the whole
season's temperatures — appears as the explicit premise `AgreeBefore.crop`.

For every configuration with a well-formed clock (`WF`) and cleared season flags (`InitOK`), every
`F`, `T`, every number of steps and every day `t₀`.
-/
set_option linter.unusedSectionVars false

namespace Aqua.C14
open Aqua.RunShape

/-! ### the full run model (`Model/Run.lean`): `runModel` with the biophysics inside -/

section run
open Aqua Aqua.Clock Aqua.WeatherBind
variable {α : Type} [Field α] [LinearOrder α] [IsStrictOrderedRing α]
  {F : Fn α} {T : TrigFn α} {cfg cfg' : RunCfg α} {t₀ : Nat}

/-- **No look-ahead on the full run model.**  `AgreeBefore t₀ cfg cfg'`: same static part and
clock, same forcing (weather row, water-table depth, schedule entries) on every day `t < t₀`, same
crops for the seasons planted before `t₀` — nothing is assumed from day `t₀` on.  The results of
`run_model(num_steps = k)` from the initialised model then have the same day records (parameters,
start state, forcing, complete `DayResult`) for all days before `t₀`, and are the same state while
one of the two clocks is before `t₀`.  Premises: well-formed clock, season flags of the initial
state cleared. -/
theorem run_no_lookahead (hA : AgreeBefore t₀ cfg cfg') (hw : WF cfg.clock) (hi : InitOK cfg)
    {s0 r r' : RunState α} (h0 : runInit cfg = .ok s0) {k : Nat}
    (hrun : runModel F T cfg k s0 = .ok r) (hrun' : runModel F T cfg' k s0 = .ok r') :
    recsBefore t₀ r'.daysRev = recsBefore t₀ r.daysRev ∧ (r.t < t₀ ∨ r'.t < t₀ → r' = r) :=
  run_prefix_determined hA hw hi h0 hrun hrun'

/-- … in terms of the output tables: the rows `time_step_counter < t₀` of `water_storage`,
`water_flux`, `crop_growth` and the summary rows written before `t₀` coincide -/
theorem run_no_lookahead_tables (hA : AgreeBefore t₀ cfg cfg') (hw : WF cfg.clock)
    (hi : InitOK cfg) {s0 r r' : RunState α} (h0 : runInit cfg = .ok s0) {k : Nat}
    (hrun : runModel F T cfg k s0 = .ok r) (hrun' : runModel F T cfg' k s0 = .ok r') :
    r'.storageTable.filter (fun x => decide (x.tsc < t₀)) =
        r.storageTable.filter (fun x => decide (x.tsc < t₀)) ∧
    r'.fluxTable.filter (fun x => decide (x.tsc < t₀)) =
        r.fluxTable.filter (fun x => decide (x.tsc < t₀)) ∧
    r'.growthTable.filter (fun x => decide (x.tsc < t₀)) =
        r.growthTable.filter (fun x => decide (x.tsc < t₀)) ∧
    r'.summaryTable.filter (fun x => decide (x.tsc < t₀)) =
        r.summaryTable.filter (fun x => decide (x.tsc < t₀)) := by
  have h0' : runInit cfg' = .ok s0 := by rw [runInit_congr hA.clock hA.static.init]; exact h0
  obtain ⟨hrec, _⟩ := run_prefix_determined hA hw hi h0 hrun hrun'
  obtain ⟨a1, a2, a3, a4⟩ := tables_of_recs (t₀ := t₀) (runReach_runModel (RunReach.init h0) hrun)
  obtain ⟨b1, b2, b3, b4⟩ := tables_of_recs (t₀ := t₀) (runReach_runModel (RunReach.init h0') hrun')
  rw [a1, a2, a3, a4, b1, b2, b3, b4, hrec]
  exact ⟨rfl, rfl, rfl, rfl⟩

/-- **calendar-day crops**: `seasonCrop` is a configuration constant, the only premise on the inputs
is agreement of the forcing before `t₀`.  For thermal-time crops the crop calendar in `seasonCrop k`
is computed at the start of season `k` from the temperatures of the whole season: `AgreeBefore.crop`
(seasons planted before `t₀`) is then a genuine premise, and `thermal_crop_premise_needed` shows
that it cannot be dropped. -/
theorem run_no_lookahead_calendar_crops (hs : StaticEq cfg cfg') (hclk : cfg'.clock = cfg.clock)
    (hd : ∀ t, t < t₀ → DayEq cfg cfg' t) (hc : cfg'.seasonCrop = cfg.seasonCrop)
    (hw : WF cfg.clock) (hi : InitOK cfg) {s0 r r' : RunState α} (h0 : runInit cfg = .ok s0)
    {k : Nat} (hrun : runModel F T cfg k s0 = .ok r) (hrun' : runModel F T cfg' k s0 = .ok r') :
    recsBefore t₀ r'.daysRev = recsBefore t₀ r.daysRev ∧ (r.t < t₀ ∨ r'.t < t₀ → r' = r) :=
  run_prefix_determined ⟨hs, hclk, hd, fun n _ => by rw [hc]⟩ hw hi h0 hrun hrun'

/-- while the first run has not reached day `t₀`, the second run exists and is in the same state -/
theorem run_same_state_before (hA : AgreeBefore t₀ cfg cfg') (hw : WF cfg.clock) (hi : InitOK cfg)
    {s0 r : RunState α} (h0 : runInit cfg = .ok s0) {k : Nat}
    (hrun : runModel F T cfg k s0 = .ok r) (ht : r.t < t₀) : runModel F T cfg' k s0 = .ok r := by
  unfold runModel at hrun ⊢
  by_cases hk : k < 1
  · rw [if_pos hk] at hrun; cases hrun
  · rw [if_neg hk, runStepsR_eq] at hrun ⊢
    exact (Steps.run_transfer (I := RunReach F T cfg) hstepR (fun hr hp => hr.step hp)
      (fun hr hp ha => step_before hA hw hi hr hp ha) k (.init h0) hrun ht).2

/-- the state in which day `t₀` starts is the same too, if the season planted on day `t₀` (if any)
has the same crop -/
theorem run_same_state_at (hA : AgreeBefore t₀ cfg cfg') (hw : WF cfg.clock) (hi : InitOK cfg)
    (hc0 : ∀ n, cfg.clock.pl n = t₀ → cfg'.seasonCrop n = cfg.seasonCrop n)
    {s s' : RunState α} (hr : RunReach F T cfg s) (hr' : RunReach F T cfg' s')
    (hlen : s.daysRev.length = s'.daysRev.length)
    (h : (s.t = t₀ ∧ s.finished = false) ∨ (s'.t = t₀ ∧ s'.finished = false)) : s' = s :=
  (reach_prefix (E := True) hA (fun _ => hc0) hw hi hr hr' hlen).eq
    (h.elim (fun h => Or.inl (Or.inr ⟨trivial, h⟩)) (fun h => Or.inr (Or.inr ⟨trivial, h⟩)))

/-- model-level witness that the crop premise is needed (the look-ahead of thermal-time crops) -/
theorem thermal_crop_premise_needed :
    ∃ (cfg cfg' : RunCfg ℚ), StaticEq cfg cfg' ∧ cfg'.clock = cfg.clock ∧ WF cfg.clock ∧
      InitOK cfg ∧ (∀ t, DayEq cfg cfg' t) ∧ (∀ n, n ≠ 0 → cfg'.seasonCrop n = cfg.seasonCrop n) ∧
      ∃ s0 r r', runInit cfg = .ok s0 ∧
        runModel DayExample.Fq FullDayExample.Tq cfg 2 s0 = .ok r ∧
        runModel DayExample.Fq FullDayExample.Tq cfg' 2 s0 = .ok r' ∧
        r'.growthTable.filter (fun x => decide (x.tsc < 2)) ≠
          r.growthTable.filter (fun x => decide (x.tsc < 2)) :=
  ⟨_, _, RunForcingExample.crop_premise_needed.1, RunForcingExample.crop_premise_needed.2.1,
    RunForcingExample.wf2, RunForcingExample.initOK2, RunForcingExample.crop_premise_needed.2.2.1,
    RunForcingExample.crop_premise_needed.2.2.2.1, RunForcingExample.crop_premise_needed.2.2.2.2⟩

/-- **Weather outside the window is irrelevant** (no premise on the clock): from a state with
`t ≤ n − 2` the run reads the forcing of the days `t < n − 1` only — not even the last row of the
window. -/
theorem run_outside_window_irrelevant (h : AgreeInWindow cfg cfg') (k : Nat) (s : RunState α)
    (ht : s.t + 2 ≤ cfg.clock.n) : runModel F T cfg' k s = runModel F T cfg k s :=
  run_weather_outside_window h k s ht

/-- **Extending the end date** (`ExtendEnd`: `n ≤ n'`, planting / harvest lists extended, every
new planting index `≥ n − 1`, same forcing on the days `t < n − 1`, same crops for the old seasons):
the tables of the old run — every day up to its last one, every summary row — are prefixes of the
tables of a new run of at least as many steps. -/
theorem run_extension_keeps_completed_days (hX : ExtendEnd cfg cfg') (hw : WF cfg.clock)
    (hi : InitOK cfg) {s0 r r' : RunState α} (h0 : runInit cfg = .ok s0) {k k' : Nat} (hk : k ≤ k')
    (hrun : runModel F T cfg k s0 = .ok r) (hrun' : runModel F T cfg' k' s0 = .ok r') :
    r.storageTable <+: r'.storageTable ∧ r.fluxTable <+: r'.fluxTable ∧
      r.growthTable <+: r'.growthTable ∧ r.summaryTable <+: r'.summaryTable :=
  run_extend_end hX hw hi h0 hk hrun hrun'

/-- … and while the old run is unfinished the two runs are in the same state -/
theorem run_extension_same_state (hX : ExtendEnd cfg cfg') (hw : WF cfg.clock) (hi : InitOK cfg)
    {s0 r : RunState α} (h0 : runInit cfg = .ok s0) {k : Nat}
    (hrun : runModel F T cfg k s0 = .ok r) (hf : r.finished = false) :
    runModel F T cfg' k s0 = .ok r := by
  unfold runModel at hrun ⊢
  by_cases hk : k < 1
  · rw [if_pos hk] at hrun; cases hrun
  · rw [if_neg hk, runStepsR_eq] at hrun ⊢
    exact (Steps.run_transfer (I := RunReach F T cfg) (Q := fun a => a.finished = false)
      hstepR (fun hr hp => hr.step hp)
      (fun hr hp ha => ⟨unfinished_of_performR_ok hp, (performR_extend hX hw hi hr hp).1 ha⟩)
      k (.init h0) hrun hf).2

/-- **No look-ahead through the implementation's own weather handling, on the full run model**:
two tables that agree on their first `j` rows, set-up succeeding on both -/
theorem run_no_lookahead_tables_input {ι ι' : Type} (cfg : RunCfg α) (dflt : Weather α)
    (hw : WF cfg.clock) (hi : InitOK cfg) (s e : Int) (j : Nat) {t : WTable α ι} {t' : WTable α ι'}
    {c c' : List (WCell α)} (hd : sel "Date" t.cols = [c]) (hd' : sel "Date" t'.cols = [c'])
    (hview : ∀ n ∈ required, (sel n t.cols).map (List.take j) = (sel n t'.cols).map (List.take j))
    {m m' : List (List (WCell α))} (hm : weatherMatrix s e t = .ok m)
    (hm' : weatherMatrix s e t' = .ok m') {s0 r r' : RunState α}
    (h0 : runInit (cfgOfMatrix cfg dflt m) = .ok s0) {k : Nat}
    (hrun : runModel F T (cfgOfMatrix cfg dflt m) k s0 = .ok r)
    (hrun' : runModel F T (cfgOfMatrix cfg dflt m') k s0 = .ok r') :
    recsBefore (((c.take j).map (inWin s e)).count true) r'.daysRev =
        recsBefore (((c.take j).map (inWin s e)).count true) r.daysRev ∧
      (r.t < ((c.take j).map (inWin s e)).count true ∨
        r'.t < ((c.take j).map (inWin s e)).count true → r' = r) :=
  run_prefix_determined
    (agreeBefore_of_take cfg dflt (weatherMatrix_prefix s e j hd hd' hview hm hm'))
    hw ⟨hi.dap, hi.mature, hi.dead, hi.flag⟩ h0 hrun hrun'

end run

end Aqua.C14
