import AquaVerif.Proofs.CropFullReal
import AquaVerif.Proofs.RunClosedEs

/-
**Crop side**: from the repository's crop catalogue to the crop premises
of the closed run-level theorems (`Proofs/RunClosed*.lean`).

* `CropFull.RunOK c` (`Proofs/CropFull.lean`) — four further decidable conjuncts on *raw*
  parameters, beyond `CropFullOK` (`Model/CropFull.lean`), that the closed theorems need:
  `0 < Zmin`, `0 ≤ Kcb`, `0 ≤ fage`, and "the crop coefficient survives `ageMax = 358` days of
  canopy ageing at full cover".  `catalogue_runOK : ∀ c ∈ cropFullTable, c.RunOK` (no exception),
  from the sweep `catalogue_rowOK`.
* `DerivedOK K` — **the facts about what initialisation derives** (`K : CropDerived α`) that
  `CropOK` needs: five inequalities.  `DerivedRunOK K` — two more for `CfgTrOK` / `CfgRwOK`.
* `cropOK_of_ok` (any ordered field, the laws of `F`, `T` as hypotheses) and
  `cropOK_of_catalogue` (`ℝ`, `realFn`, `realTrig`, no law left):
  `CropFullOK c → c.RunOK → c.LeafyOK → DerivedOK K → CropOK realFn realTrig (c.cropParams K)`,
  likewise for the fallow stand-in crop `fallowAdjust (c.cropParams K)` (`Aer := 5`, `Zmin := 0.3`).
* `trCropOK_of_ok` / `trCropOK_of_catalogue` (`TrCropOK`, premise of `0 ≤ TrPot`): the cold-stress
  coefficient of `transpiration` is non-negative for every `GDD` (`trKsCold_nonneg`, from the laws
  of `exp`/`log` only — no parameter premise).
-/

set_option linter.unusedSectionVars false
namespace Aqua
open Aqua.Generated Aqua.Response Aqua.HarvestIndexReal

/-! ## 1. further raw-parameter premises, checked on the whole catalogue -/

theorem catalogue_runOK : ∀ c ∈ cropFullTable, CropFull.RunOK c :=
  fun c hc => (catalogue_rowOK c hc).2.1

/-- `ageMax = 358` is sharp for the catalogue: DryBean's crop coefficient does not survive 359
days of ageing at full cover -/
theorem catalogue_ageMax_sharp : ∃ c ∈ cropFullTable,
    ¬ ((ageMax + 1 - 5) * (c.fage / 100) * c.ccx ≤ c.kcb) := by decide +kernel

variable {α : Type} [Field α] [LinearOrder α] [IsStrictOrderedRing α]

theorem CropFull.RunOK.cast {c : CropFull} (h : CropFull.RunOK c) :
    (0 : α) < (c.zmin : α) ∧ (0 : α) ≤ (c.kcb : α) ∧ (0 : α) ≤ (c.fage : α) ∧
    ((ageMax : α) - 5) * ((c.fage : α) / 100) * (c.ccx : α) ≤ (c.kcb : α) := by
  obtain ⟨h1, h2, h3, h4⟩ := h
  refine ⟨by exact_mod_cast h1, by exact_mod_cast h2, by exact_mod_cast h3, ?_⟩
  have : (((ageMax - 5) * (c.fage / 100) * c.ccx : ℚ) : α) ≤ ((c.kcb : ℚ) : α) := Rat.cast_le.mpr h4
  simpa only [Rat.cast_mul, Rat.cast_sub, Rat.cast_div, Rat.cast_ofNat] using this

theorem ageMax_cast : ((ageMax : ℚ) : α) = 358 := by unfold ageMax; norm_num

/-! ## 2. the facts about the derived values -/

/-- **what `CropOK` asks of the values initialisation derives** (`compute_crop_calendar`,
`calculate_HIGC`, `calculate_HI_linear`, the CO2 block of `compute_variables` /
`reset_initial_conditions`) -/
structure DerivedOK (K : CropDerived α) : Prop where
  /-- `HIstartCD ≤ CanopyDevEndCD` (`HiCrop.PostOK.tmax1`) -/
  hiStart_le_devEnd : K.hiStartCD ≤ K.canopyDevEndCD
  /-- `0 ≤ YldFormCD` (`HiCrop.PostOK.tmax2`) -/
  yldForm_nonneg : 0 ≤ K.yldFormCD
  /-- `0 ≤ HIGC` (`HiCrop.BuildUp.gc_nn`) -/
  hiGC_nonneg : 0 ≤ K.hiGC
  /-- `0 ≤ dHILinear` (`HiCrop.BuildUp.lin_nn`) -/
  dHILinear_nonneg : 0 ≤ K.dHILinear
  /-- `0 ≤ fCO2` (`CropOK.wp : 0 ≤ WP·fCO2`) -/
  fco2_nonneg : 0 ≤ K.fco2

/-- what `CfgRwOK` (rewatering cap) and `CfgTrOK` (`0 ≤ TrPot`) ask in addition -/
structure DerivedRunOK (K : CropDerived α) : Prop where
  ok : DerivedOK K
  /-- `CanopyDevEnd ≤ Senescence` in the crop's calendar mode (`CfgRwOK.devEnd`) -/
  devEnd_le_senescence : K.canopyDevEnd ≤ K.senescence
  /-- `0 ≤ MaxCanopyCD` (turns a bound on the season length into `CfgTrOK.age`) -/
  maxCanopyCD_nonneg : 0 ≤ K.maxCanopyCD

/-! ## 3. `CropOK` -/

section cropOK
variable {c : CropFull} {K : CropDerived α} {F : Fn α} {T : TrigFn α}

theorem cropOK_of_ok (h : CropFullOK c) (hr : CropFull.RunOK c) (hl : CropFull.LeafyOK c)
    (hF : ExpOrdLaws F) (hG : ExpGeomLaw F) (hskip : SkipOK F (c.zmin : α))
    (hrd : ∀ z, (c.zmin : α) ≤ z → 0 < F.pyRound2 z) (hK : DerivedOK K) :
    CropOK F T (c.cropParams K) := by
  obtain ⟨r1, r2, r3, r4, r5, r6, r7, r8⟩ := (h.root.cast (α := α))
  obtain ⟨c1, c2, _⟩ := (h.canopy.cast (α := α))
  obtain ⟨_, _, _, i4, _⟩ := (h.hi.cast (α := α))
  obtain ⟨_, _, _, s4, _⟩ := (h.stress.cast (α := α))
  obtain ⟨b1, b2, b3⟩ := bioCrop_premises (K := K) h hK.fco2_nonneg
  have ht : (c.tbase : α) ≤ (c.tupp : α) := h.temp.cast
  exact
    { sxTop := r7
      sxBot := r8
      rdPos := hrd
      lagAer := fun n hn => by
        rw [natNum_eq_cast] at hn ⊢
        exact lagAer_succ_le h.lag n hn
      ccx0 := c2.le
      temp := ht
      ccStep := ccStep_of_ok h hF hG
      rdWF := rdCrop_wf h
      zminPos := hr.cast.1
      rdSxTop := r7
      rdSxBot := r8
      pUp1 := r5
      fw1 := r6
      skip := hskip
      post := hiCrop_postOK h hK.hiStart_le_devEnd hK.yldForm_nonneg
      build := hiCrop_buildUp h hK.hiGC_nonneg hK.dHILinear_nonneg
      fsh := s4
      cap := i4
      leafy := hiCrop_leafy hl
      hiStart := rfl
      wpy0 := b1
      wpy1 := b2
      wp := b3 }

end cropOK

/-! ### over the reals -/

section real
variable {c : CropFull} {K : CropDerived ℝ}

theorem cropOK_of_catalogue (h : CropFullOK c) (hr : CropFull.RunOK c) (hl : CropFull.LeafyOK c)
    (hK : DerivedOK K) : CropOK realFn realTrig (c.cropParams K) :=
  cropOK_of_ok h hr hl expOrdLaws_real expGeomLaw_real (skipOK_real _)
    (fun _ hz => lt_of_lt_of_le hr.cast.1 hz) hK

theorem cropOK_fallow_of_catalogue (h : CropFullOK c) (hr : CropFull.RunOK c)
    (hl : CropFull.LeafyOK c) (hK : DerivedOK K) :
    CropOK realFn realTrig (fallowAdjust (c.cropParams K)) :=
  cropOK_fallowAdjust (cropOK_of_catalogue h hr hl hK)
    (fun z hz => lt_of_lt_of_le (by norm_num) hz)

end real

/-! ## 4. `TrCropOK` -/

/-- the law of `np.log` needed for the cold-stress curve: `log x ≤ 0` on `(0, 1]` -/
structure LogNonposLaw (F : Fn α) : Prop where
  log_nonpos : ∀ x, 0 < x → x ≤ 1 → F.log x ≤ 0

/-- on the middle branch the logistic term is at least `0.02`
(`fshape_b = −log(0.0004/0.9604) ≥ 0`) and the subtracted term at most `0.02` -/
theorem trKsCold_nonneg {F : Fn α} (hF : ExpOrdLaws F) (hL : LogNonposLaw F) (tcs : Nat)
    (gddUp gddLo gdd k : α) (h : trKsCold F tcs gddUp gddLo gdd = some k) : 0 ≤ k := by
  unfold trKsCold at h
  split at h
  · rw [← Option.some.inj h]
    exact zero_le_one
  · by_cases h1 : gddUp ≤ gdd
    · rw [if_pos h1] at h
      rw [← Option.some.inj h]
      exact zero_le_one
    · rw [if_neg h1] at h
      by_cases h2 : gdd ≤ gddLo
      · rw [if_pos h2] at h
        rw [← Option.some.inj h]
      · rw [if_neg h2, Option.some.injEq] at h
        rw [← h]
        obtain ⟨r0, _⟩ := (ratio_range ((not_le.mp h2).trans (not_le.mp h1)) (not_le.mp h2).le
          (not_le.mp h1).le).1
        have hfb0 : 0 ≤ (-1) * F.log (((0.02 * 1) - 0.98 * 0.02) / (0.98 * (1 - 0.02))) :=
          mul_nonneg_of_nonpos_of_nonpos (by norm_num)
            (hL.log_nonpos _ (by norm_num) (by norm_num))
        have harg : -((-1) * F.log (((0.02 * 1) - 0.98 * 0.02) / (0.98 * (1 - 0.02)))) *
            ((gdd - gddLo) / (gddUp - gddLo)) ≤ 0 := by
          rw [neg_mul]
          exact neg_nonpos.mpr (mul_nonneg hfb0 r0)
        have hk := logistic_ge (lo := (0.02 : α)) (by norm_num) (by norm_num) (hF.exp_pos _).le
          (hF.exp_le_one harg)
        have hs : (0.02 : α) * (1 - (gdd - gddLo) / (gddUp - gddLo)) ≤ 0.02 :=
          mul_le_of_le_one_right (by norm_num) (sub_le_self 1 r0)
        exact sub_nonneg.mpr (hs.trans hk)
  · cases h

theorem logNonposLaw_real : LogNonposLaw realFn :=
  ⟨fun _ hx hx1 => Real.log_nonpos hx.le hx1⟩

section trCropOK
variable {c : CropFull} {K : CropDerived α} {F : Fn α}

theorem trCropOK_of_ok (h : CropFullOK c) (hr : CropFull.RunOK c) (hF : ExpOrdLaws F)
    (hL : LogNonposLaw F) : TrCropOK F (c.cropParams K) (ageMax : α) := by
  obtain ⟨_, k2, k3, k4⟩ := hr.cast (α := α)
  obtain ⟨_, _, c3, _⟩ := (h.canopy.cast (α := α))
  exact
    { kcb := k2
      fage := k3
      aged := k4
      ccx1 := c3
      ksCold := fun gdd k hk => trKsCold_nonneg hF hL _ _ _ _ _ hk }

end trCropOK

theorem trCropOK_of_catalogue {c : CropFull} {K : CropDerived ℝ} (h : CropFullOK c)
    (hr : CropFull.RunOK c) : TrCropOK realFn (c.cropParams K) (ageMax : ℝ) :=
  trCropOK_of_ok h hr expOrdLaws_real logNonposLaw_real

/-! ## 5. Non-vacuity: Wheat with the values a model initialised at Tunis derives -/

/-- derived values of the built-in Wheat (calendar-day crop): `compute_crop_calendar` mode 1,
`calculate_HIGC`, `calculate_HI_linear` (`Proofs/HarvestIndexReal.lean`, `wheat`), `fCO2 = 1` -/
noncomputable def wheatDerived : CropDerived ℝ :=
  { emergence := 13, maxRooting := 93, senescence := 158, maturity := 197, canopyDevEnd := 134,
    canopy10 := 21, maxCanopy := 96, maxCanopyCD := 96, hiStartCD := 127, hiEndCD := 194,
    yldFormCD := 67, floweringCD := 15, canopyDevEndCD := 134, hiGC := 0.116, tLinSwitch := 20,
    dHILinear := 0.008395, fco2 := 1, zMinNp := false }

theorem wheatDerived_ok : DerivedRunOK wheatDerived := by
  refine ⟨⟨?_, ?_, ?_, ?_, ?_⟩, ?_, ?_⟩ <;> norm_num [wheatDerived]

example : CropOK realFn realTrig (wheatFull.cropParams wheatDerived) :=
  cropOK_of_catalogue (by decide +kernel) (by decide +kernel) (by decide +kernel) wheatDerived_ok.ok

end Aqua

section AxiomAudit
open Aqua
#print axioms catalogue_runOK
#print axioms catalogue_ageMax_sharp
#print axioms cropOK_of_ok
#print axioms cropOK_of_catalogue
#print axioms cropOK_fallow_of_catalogue
#print axioms trKsCold_nonneg
#print axioms trCropOK_of_ok
#print axioms trCropOK_of_catalogue
#print axioms wheatDerived_ok
end AxiomAudit
