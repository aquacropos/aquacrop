import AquaVerif.Proofs.RunForcingSteps
/-
Property C09, run-level companion file: step-wise execution equals one uninterrupted run on the
**full run model** (`Model/Run.lean`: `runModel F T cfg`, the clock driving `fullDay`), for every
configuration, every `F`, `T` and every list of step counts (`Proofs/RunForcingSteps.lean`).
`Properties/C09.lean` imports the clock and session files only, and there `runModel` is
`Aqua.Clock.runModel`; here it is `Aqua.runModel`.

The state `RunState` carries the clock, the state object and every day record (hence the three
daily tables and the summary), so equality of states is equality of all observable outputs.
-/
set_option linter.unusedSectionVars false

namespace Aqua.C09

/-! ### the full run model (`Model/Run.lean`): `runModel F T cfg` with the biophysics inside -/

section run
open Aqua
variable {α : Type} [Field α] [LinearOrder α] [IsStrictOrderedRing α]
  {F : Fn α} {T : TrigFn α} {cfg : RunCfg α}

/-- two calls equal one call with the sum of the step counts, as long as the first did not end the
simulation -/
theorem run_steps_compose {a b : Nat} {s s1 : RunState α}
    (h1 : runStepsR F T cfg a s = .ok s1) (hf : s1.finished = false) :
    runStepsR F T cfg (a + b) s = runStepsR F T cfg b s1 := by
  simp only [runStepsR_eq] at h1 ⊢; exact Steps.run_add' h1 hf

/-- `run_model(num_steps = a + b)` = the call with `a` steps, then — unless it ended the simulation
— the call with `b` steps (all outcomes, errors included) -/
theorem run_two_calls {a b : Nat} (ha : 1 ≤ a) (hb : 1 ≤ b) (s : RunState α) :
    runModel F T cfg (a + b) s =
      (runModel F T cfg a s).bind
        (fun s1 => if s1.finished then .ok s1 else runModel F T cfg b s1) := runModelR_add ha hb s

/-- a step count that overshoots the end stops at termination -/
theorem run_overshoot_stops_at_termination {a : Nat} (b : Nat) {s s1 : RunState α}
    (hs : s.finished = false) (h1 : runStepsR F T cfg a s = .ok s1) (hf : s1.finished = true) :
    runStepsR F T cfg (a + b) s = .ok s1 := by
  simp only [runStepsR_eq] at h1 ⊢; exact Steps.overshoot b hs h1 hf

/-- a call on a finished model is **not** the identity: it raises -/
theorem run_call_after_end_raises {s : RunState α} (k : Nat) (hs : s.finished = true) :
    runModel F T cfg k s = .error (if k < 1 then "E:numsteps" else "E:finished") := by
  rw [runModelR_eq]; exact Steps.model_finished k (performR_of_finished hs)

/-- **any** successful sequence of calls produces the state — clock, state object, every day
record, summary, completion flag — of one call with the sum of the step counts -/
theorem run_any_partition_equals_one_call (ks : List Nat) {s r : RunState α} (hne : ks ≠ [])
    (h : runCallsR F T cfg ks s = .ok r) : runModel F T cfg ks.sum s = .ok r :=
  runCallsR_eq_one ks hne h

/-- every way of cutting a run that is still unfinished exists and gives the same state -/
theorem run_every_partition_exists (ks : List Nat) {s r : RunState α} (hpos : ∀ k ∈ ks, 1 ≤ k)
    (h : runStepsR F T cfg ks.sum s = .ok r) (hf : r.finished = false) :
    runCallsR F T cfg ks s = .ok r := by
  rw [runStepsR_eq] at h; rw [runCallsR_eq]
  exact Steps.calls_of_one hstepR ks hpos h hf

end run

end Aqua.C09
