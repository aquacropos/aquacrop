import AquaVerif.Proofs.RunClosedTr

/-
**The rewatering cap `ccx_act ≤ CCx` on every simulated day of every run**, from premises on the
configuration only — this discharges the `rw` field of the residual (`Proofs/RunClosed.lean`):
`run_crop_closed` (C05 envelope + C04 transpiration) has the capillary-rise overshoot
(`ResidualW`, trivially true without a water table) as its **only** hypothesis about computed
values.

The late-season rewatering branch of `canopy_cover` assigns
`ccx_act := cc_prev / D(t − dt)`, `D(τ) = 1 − 0.05·(exp((τ − Senescence)·3.33·CDC/(CCx+2.29)) − 1)`
(`update_CCx_CDC`).  `cc_prev ≤ CCx` alone does not bound it.  The invariant that does:

  `CcCurve`:  `cc ≤ 0  ∨  cc ≤ CCx · D(t)`        (`t` = the adjusted time the cover was computed at)

— the actual canopy lies below the no-stress decline curve started from `CCx`.  It holds trivially
up to `Senescence` (`D ≥ 1`, `cc ≤ CCx`), and is preserved by every late-season path: the decline
from `ccx_act ≤ CCx` (`ccLate`) is `ccx_act·D(t)`; early senescence only lowers the cover;
rewatering gives `CCXadj·D(t)` with `CCXadj ≤ CCx` *by the invariant of the previous day* (`D` is
antitone and `t − dt` is not after the previous day's time, since the delay counters only grow);
death and the transpiration feedback (`cc := cc_prev` only when `cc > cc_prev + 0.005`) lower it.
Premise on the crop: `CanopyDevEnd ≤ Senescence`.
-/

set_option linter.unusedSectionVars false
namespace Aqua
open Aqua.Clock
variable {α : Type} [Field α] [LinearOrder α] [IsStrictOrderedRing α]

/-! ## 1. the decline curve -/

/-- exponent rate of the canopy decline from `CCx` -/
def ccK (crop : CcCrop α) : α := (crop.cdc * 3.33) / (crop.ccx + 2.29)

/-- relative canopy cover of the no-stress decline at adjusted time `τ` -/
def ccD (F : Fn α) (crop : CcCrop α) (τ : α) : α :=
  1 - 0.05 * (F.exp ((τ - crop.senescence) * ccK crop) - 1)

/-- the cover lies below the decline curve from `CCx` (or is zero) -/
def CcCurve (F : Fn α) (crop : CcCrop α) (cc τ : α) : Prop :=
  cc ≤ 0 ∨ cc ≤ crop.ccx * ccD F crop τ

section curve
variable {F : Fn α} {crop : CcCrop α}

/- `ccD F crop τ` unfolds to `declD F (ccK crop) (τ − Senescence)` and `ccK crop` to
`declK crop.cdc crop.ccx`: the lemmas about `declD` apply as they stand. -/

theorem CcCurve.mono {cc cc' τ : α} (h : CcCurve F crop cc τ) (hle : cc' ≤ cc) :
    CcCurve F crop cc' τ :=
  h.imp (le_trans hle) (le_trans hle)

theorem ccCurve_of_le_ccx (hF : ExpOrdLaws F) (hk : 0 ≤ ccK crop) (hx0 : 0 ≤ crop.ccx)
    {cc τ : α} (h : cc ≤ crop.ccx) (hτ : τ ≤ crop.senescence) : CcCurve F crop cc τ := by
  -- `D(Senescence) = 1` and `D` is antitone
  have h1 : 1 ≤ ccD F crop τ :=
    declD_zero hF (ccK crop) ▸ declD_anti hF hk (sub_nonpos.mpr hτ)
  exact Or.inr (h.trans (le_mul_of_one_le_right hx0 h1))

/-- the `CCXadj` of the rewatering branch is at most `CCx` when the previous cover is below the
decline curve at a time not before `t − dt` -/
theorem rewater_ccx_le (hF : ExpOrdLaws F) (hk : 0 ≤ ccK crop) (hx0 : 0 ≤ crop.ccx)
    {p t dt τ : α} (hp0 : 0 ≤ p) (hJ : CcCurve F crop p τ) (hτ : t - dt ≤ τ) :
    (updateCCxCDC F p crop.cdc crop.ccx (t - dt - crop.senescence)).1 ≤ crop.ccx := by
  show p / ccD F crop (t - dt) ≤ crop.ccx
  rcases lt_trichotomy (ccD F crop (t - dt)) 0 with hD | hD | hD
  · exact le_trans (div_nonpos_of_nonneg_of_nonpos hp0 hD.le) hx0
  · rw [hD, div_zero]; exact hx0
  · rw [div_le_iff₀ hD]
    rcases hJ with h | h
    · exact le_trans h (mul_nonneg hx0 hD.le)
    · exact le_trans h (mul_le_mul_of_nonneg_left
        (declD_anti hF hk (sub_le_sub_right hτ crop.senescence)) hx0)

/-- a decline from a maximum `X ≤ CCx` with the `CDC` adjusted for `X` stays below the curve -/
theorem decline_curve (hx0 : 0 ≤ crop.ccx) (cco cgc : α) {X t : α} (hX : X ≤ crop.ccx) :
    CcCurve F crop
      (ccDevelopment F cco X cgc (crop.cdc * ((X + 2.29) / (crop.ccx + 2.29)))
        (t - crop.senescence) .decline X) t := by
  rw [declineAdj_eq F cco cgc crop.cdc hx0]
  split_ifs with h
  · exact Or.inl (clipCC_le (le_refl 0) (le_refl 0))
  · have hXpos : (0 : α) ≤ X := le_trans (by norm_num) (not_lt.mp h)
    rcases le_total (ccD F crop t) 0 with hD | hD
    · exact Or.inl (clipCC_le (mul_nonpos_of_nonneg_of_nonpos hXpos hD) (le_refl 0))
    · exact Or.inr (clipCC_le (mul_le_mul_of_nonneg_right hX hD) (mul_nonneg hx0 hD))

theorem ccDie_curve {s0 s : CcState α} {t : α} (h : CcCurve F crop s.cc t) :
    CcCurve F crop (ccDie s0 s).cc t := by
  unfold ccDie
  by_cases c : s.cc < 0.001 ∧ s0.cropDead = false
  · rw [if_pos c]; exact Or.inl (le_refl _)
  · rw [if_neg c]; exact h

end curve

/-! ## 2. through `canopy_cover` in the late season -/

section blocks
variable {F : Fn α} {crop : CcCrop α}

theorem ccActualB_curve (hx0 : 0 ≤ crop.ccx) (hdev : crop.canopyDevEnd ≤ crop.senescence)
    {t : α} (hsen : crop.senescence < t) (s0 s : CcState α) (k dt : α)
    (hact : s.ccxAct ≤ crop.ccx) : CcCurve F crop (ccActualB F crop s0 s k dt t).1.cc t := by
  by_cases ho : ccOutside F crop t
  · unfold ccActualB
    rw [if_pos ho]; exact Or.inl (le_refl _)
  · rw [ccActualB_late hdev hsen ho]
    exact ccDie_curve (decline_curve hx0 s.cc0Adj crop.cgc hact)

/-- the senescence block in the late season keeps the cover below the curve, given that the
`CCXadj` a rewatering would assign is at most `CCx`: early senescence and death only lower the
cover, rewatering is a decline from `CCXadj` -/
theorem ccSenescence_curve (hx0 : 0 ≤ crop.ccx) {t dt : α} (hsen : crop.senescence < t)
    (s0 s : CcState α) (kswSen : α) (sen2 : α → α) (h00 : 0 ≤ s0.cc) (h0 : 0 ≤ s.cc)
    (hs : CcCurve F crop s.cc t)
    (hrw : (updateCCxCDC F s0.cc crop.cdc crop.ccx (t - dt - crop.senescence)).1 ≤ crop.ccx) :
    CcCurve F crop (ccSenescence F crop s0 s kswSen sen2 dt t).cc t :=
  ccSenescence_act_cases (P := fun c _ _ => CcCurve F crop c t) F crop s0 s kswSen sen2 dt t
    hx0 h00 h0 hs (fun _ _ d1 => hs.mono d1) (fun c1 => absurd hsen (not_lt.mpr c1.le))
    (fun _ _ _ hu _ _ d1 => (decline_curve hx0 s.cc0Adj crop.cgc (hu ▸ hrw)).mono (hu ▸ d1))

theorem ccSeason_curve (hF : ExpOrdLaws F) {dt : α} (hp : CcParams F crop dt)
    (hdev : crop.canopyDevEnd ≤ crop.senescence) {s0 : CcState α} (dr taw et0 t : α) {τ : α}
    (h : CcPre crop s0) (hx : s0.ccxAct ≤ crop.ccx) (hJ : CcCurve F crop s0.cc τ)
    (hτ : t - dt ≤ τ) :
    (ccSeason F crop s0 dr taw et0 dt t).ccxAct ≤ crop.ccx ∧
      CcCurve F crop (ccSeason F crop s0 dr taw et0 dt t).cc t := by
  have hx0 := hp.ccx_nonneg hF
  have hk : 0 ≤ ccK crop := declK_nonneg hp.cdc_nonneg (add_229_pos hx0)
  have hrw := rewater_ccx_le hF hk hx0 h.cc0 hJ hτ
  have r0 : CcRng crop crop.ccx { s0 with ccPrev := s0.cc } :=
    ⟨h.cc0, h.cc1, h.adj0, h.adj1, hx⟩
  have r1 := ccPotential_rng F s0 dt t r0
  have r2 := ccActual_rng hF hp s0
    (waterStress F crop.pUp crop.pLo crop.fshW crop.etAdj crop.beta s0.tEarlySen dr taw et0 true).exp
    t (le_refl _) h.cc0 h.cc1 r1
  constructor
  · rw [ccSeason_shape]
    exact (ccBeforeFixup_rng hF hp dr taw et0 t (le_refl crop.ccx) hx h).2 fun _ _ => hrw
  · rw [ccSeason_cc]
    by_cases hsen : crop.senescence < t
    · unfold ccBeforeFixup
      dsimp only
      apply ccSenescence_curve hx0 hsen s0 _ _ _ h.cc0 r2.cc0 _ hrw
      unfold ccActual
      apply ccActualB_curve hx0 hdev hsen
      exact r1.actB
    · have hcc := (ccBeforeFixup_rng hF hp dr taw et0 t (le_refl crop.ccx) hx h).1
      exact ccCurve_of_le_ccx hF hk hx0 hcc.ccB (not_lt.mp hsen)

end blocks

/-! ## 3. the day -/

/-- the adjusted time of the canopy routine, from the state after the day -/
def ccTAdjOf (crop : CcCrop α) (st : DayState' α) : α :=
  if crop.calendarType = 1 then natNum st.dap - st.delayedCds else st.gddCum - st.delayedGdds

section day
variable {F : Fn α} {T : TrigFn α} {P : DayParams α} {st : DayState' α} {D : DayIn' α}
  {r : DayResult α}

/-- the time `canopy_cover` computes at is the adjusted time of the state the day leaves, and
`t − dt` is not after yesterday's, since the delay counters only grow -/
theorem FullSteps.ccTime_step {X : FullTrace α} (hs : FullSteps F T P st D X) (hg : D.gs = true)
    (ht : P.cx.tbase ≤ P.cx.tupp) {dt t : α}
    (htt : ccTime P.cx.cc (ccStateOf st X.tc X.rd X.ge) X.tc.gdd = some (dt, t)) :
    t = ccTAdjOf P.cx.cc (stateAfter P st D X) ∧ t - dt ≤ ccTAdjOf P.cx.cc st := by
  obtain ⟨⟨c1, _⟩, ⟨g1, _⟩⟩ := hs.time_step hg ht
  unfold ccTime at htt
  unfold ccTAdjOf
  split_ifs at htt ⊢ with k1 k2
  all_goals
    obtain ⟨rfl, rfl⟩ := Prod.mk.inj (Option.some.inj htt)
  · exact ⟨rfl, c1⟩
  · exact ⟨rfl, g1⟩

theorem fullDay_curve (h : fullDay F T P st D = .ok r) (hc : CcCropPre F P)
    (hdev : P.cx.cc.canopyDevEnd ≤ P.cx.cc.senescence) (hi : CcInv P.cx.cc st)
    (hJ : CcCurve F P.cx.cc st.cc (ccTAdjOf P.cx.cc st)) :
    r.state.ccxAct ≤ P.cx.cc.ccx ∧ CcCurve F P.cx.cc r.state.cc (ccTAdjOf P.cx.cc r.state) := by
  have hoff := fullDay_offseason_zero h
  obtain ⟨X, hs, rfl⟩ := fullDay_ok' h
  cases hg : D.gs with
  | false =>
    obtain ⟨_, ⟨_, _, _, _, e5, _⟩, ⟨_, _, _, _, _, _, e7, _⟩⟩ := hoff hg
    have e5' : (dayResultOf P st D X).state.cc = 0 := e5
    exact ⟨by rw [e7]; exact hc.ccx0, Or.inl (le_of_eq e5')⟩
  | true =>
    have hcc := hs.hcc
    rw [hg] at hcc
    obtain ⟨hp, hpre, hx⟩ := hs.ccPre hg hc hi
    obtain ⟨dr, taw, dt, t, htt, e⟩ := canopyCover_season hcc
    obtain ⟨t1, t2⟩ := hs.ccTime_step hg hc.temp htt
    obtain ⟨a1, a2⟩ := ccSeason_curve hc.exp (hp dt t htt) hdev dr taw D.et0 t hpre hx hJ t2
    rw [← e] at a1 a2
    refine ⟨a1, ?_⟩
    show CcCurve F P.cx.cc X.t.st.cc (ccTAdjOf P.cx.cc (stateAfter P st D X))
    rw [← t1]
    -- the transpiration feedback resets the cover to yesterday's only when that lowers it
    rcases hs.cc_feedback with q | ⟨q, hlt⟩
    · rw [q]; exact a2
    · rw [q]; exact a2.mono (sub_pos.mp (lt_trans (by norm_num) hlt)).le

end day

/-! ## 4. along a run -/

/-- premises on the configuration for the rewatering cap -/
structure CfgRwOK (F : Fn α) (cfg : RunCfg α) : Prop where
  devEnd : ∀ season : Int,
    (cropOf cfg season).cx.cc.canopyDevEnd ≤ (cropOf cfg season).cx.cc.senescence
  /-- the initial canopy cover is below the decline curve (e.g. zero) -/
  init : CcCurve F (cropOf cfg cfg.clock.season0).cx.cc cfg.init.cc
    (ccTAdjOf (cropOf cfg cfg.clock.season0).cx.cc cfg.init)

section runRw
variable {F : Fn α} {T : TrigFn α} {cfg : RunCfg α} {s s' : RunState α} {A : α}

/-- the decline-curve invariant of a run state -/
def RunInvJ (F : Fn α) (cfg : RunCfg α) (s : RunState α) : Prop :=
  CcCurve F (cropOf cfg s.season).cx.cc s.day.cc (ccTAdjOf (cropOf cfg s.season).cx.cc s.day)

/-- the crop-side counterpart of `DayFacts`: what `run_crop_closed` knows of every recorded day -/
structure DayCropFacts (F : Fn α) (d : DayRec α) : Prop where
  env : CropEnv F d.P d.st
  envOut : CropEnv F d.P d.r.state
  ccx : d.r.state.ccxAct ≤ d.P.cx.cc.ccx
  trPot : 0 ≤ d.r.flux.trPot
  inSeason : d.D.gs = true → d.st.hi ≤ d.r.state.hi ∧ d.st.biomass ≤ d.r.state.biomass ∧
    0 ≤ d.r.flux.tr ∧ d.r.flux.tr ≤ d.r.flux.trPot
  ccxW0 : 0 ≤ d.st.ccxW
  ccxW1 : d.st.ccxW ≤ d.P.cx.cc.ccx

/-- the crop side (C05 envelope, C04 transpiration bounds) closed: of computed values only the
capillary-rise residual `ResidualW` is assumed -/
theorem run_crop_closed (hC : CfgOK F T cfg) (hT : CfgTrOK F cfg A) (hJ0 : CfgRwOK F cfg)
    (hW : WeatherOK F cfg) (hr : RunReach F T cfg s) (hR : ∀ d ∈ s.daysRev, ResidualW d) :
    (-1 ≤ s.season ∧ CropEnv F (paramsOf cfg s.season false) s.day ∧ RunInvT cfg A s ∧
        RunInvJ F cfg s) ∧
      ∀ d ∈ s.daysRev, DayCropFacts F d := by
  obtain ⟨wp, fc, _, hF⟩ := run_dayFacts hC hr hR
  obtain ⟨⟨h0, h1, hN, hJ⟩, hdays⟩ := run_ind_season (H := DayFacts F T cfg wp fc)
    (I := fun k st => -1 ≤ k ∧ CropEnv F (paramsOf cfg k false) st ∧
      (st.ageDays ≤ A ∧ 0 ≤ st.delayedCds ∧ 0 ≤ st.ccxW ∧ st.ccxW ≤ (cropOf cfg k).cx.cc.ccx) ∧
      CcCurve F (cropOf cfg k).cx.cc st.cc (ccTAdjOf (cropOf cfg k).cx.cc st))
    (R := DayCropFacts F)
    ⟨hC.season0, hC.init.toEnv, ⟨hT.ageDays0, hT.delayed0, hT.ccxW0, hT.ccxW1⟩, hJ0.init⟩
    (fun {s s' d} hr _ hs hQ hF => by
      obtain ⟨hlo, hinv, hN, hJ⟩ := hQ
      have hPcx : d.P.cx = (cropOf cfg s.season).cx := by rw [hs.P]; rfl
      -- the rewatering cap from the decline-curve invariant, `0 ≤ TrPot` from the age invariant;
      -- with these the day satisfies `ResidualE`
      obtain ⟨j1, j2⟩ := fullDay_curve hs.day hF.cc
        (by rw [hPcx]; exact hJ0.devEnd s.season) (by rw [hPcx]; exact hinv.cc)
        (by rw [hPcx]; exact hJ)
      have hN' : RunInvT cfg A s := by
        have := hN
        rw [hs.st] at this
        exact ⟨this.1, this.2.1, this.2.2.1, this.2.2.2⟩
      obtain ⟨p0, n1, n2, n3, n4⟩ := hs.trPot_nonneg hr hC hT hW (hs.st ▸ hinv.cc) hN'
      obtain ⟨h1, h2, h3, h4⟩ := hs.cropEnvDay hC hW hF hinv
        ⟨fun h => (hF.ok.gw h).2, fun _ => j1, fun _ => p0⟩
      exact ⟨⟨hlo, h1, ⟨n1, n2, n3, n4⟩, hPcx ▸ j2⟩, h2, h3, j1, p0, h4, hN.2.2.1,
        hPcx ▸ hN.2.2.2⟩)
    (fun k st hQ => ⟨by have := hQ.1; omega, resetState_cropEnv hC hQ.1 st,
      ⟨hT.A0, le_refl _, le_refl _, (hC.crop (k + 1)).ccx0⟩, Or.inl (le_refl _)⟩) hr hF
  exact ⟨⟨h0, h1, ⟨hN.1, hN.2.1, hN.2.2.1, hN.2.2.2⟩, hJ⟩, hdays⟩

theorem run_crop_closed_no_table (hC : CfgOK F T cfg) (hT : CfgTrOK F cfg A)
    (hJ0 : CfgRwOK F cfg) (hW : WeatherOK F cfg) (hwt : cfg.W0.waterTable ≠ 1)
    (hr : RunReach F T cfg s) :
    CropEnv F (paramsOf cfg s.season false) s.day ∧ ∀ d ∈ s.daysRev, DayCropFacts F d :=
  have ⟨⟨_, h, _⟩, hdays⟩ := run_crop_closed hC hT hJ0 hW hr (run_residualW_of_no_table hwt hr)
  ⟨h, hdays⟩

end runRw

/-! ## 5. the residual for the full `CropInv` -/

/-- what is left of `Residual` for the full `CropInv` (which contains `biomass ≤ biomass_ns`):
the capillary-rise overshoot and `TrPot ≤ TrPot_NS` — the latter is false for states inside the
envelope (`RunClosedExample.trPot_gt_trPotNS`), so it stays a hypothesis
(of `C05.run_crop_envelope_full_closed`, `Properties/C05Run.lean`) -/
structure ResidualNS (d : DayRec α) : Prop where
  cr : ResidualW d
  trNS : d.D.gs = true → d.r.flux.trPot ≤ d.r.water.trPotNS

end Aqua

#print axioms Aqua.rewater_ccx_le
#print axioms Aqua.ccSeason_curve
#print axioms Aqua.fullDay_curve
#print axioms Aqua.run_crop_closed
#print axioms Aqua.run_crop_closed_no_table
