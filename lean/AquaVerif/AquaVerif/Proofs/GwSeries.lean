import AquaVerif.Model.GwSeries
import AquaVerif.Proofs.InitWC
/-
Lemmas about the groundwater series of `read_groundwater_table` (`Model/GwSeries.lean`): the value of
the "Constant" and of the "Variable" series on a day, for C18 (the series the initial field-capacity
adjustment reads), C19 (interpolation between, before and after observations; row order, window and
start date do not matter) and C14 (a longer window extends the series).
-/

set_option linter.unusedSectionVars false
namespace Aqua
variable {α : Type} [Field α] [LinearOrder α] [IsStrictOrderedRing α]

/-! ## "Constant" -/

theorem gwConstAt_post (i : Int) (post : List (Int × α)) (cur : Option α)
    (h : ∀ q ∈ post, i < q.1) : gwConstAt i false post cur = cur := by
  induction post generalizing cur with
  | nil => rfl
  | cons q qs ih =>
    obtain ⟨d, v⟩ := q
    have hd : ¬ (d ≤ i) := Int.not_le.2 (h (d, v) List.mem_cons_self)
    simp only [gwConstAt, hd, Bool.false_eq_true, false_and, or_self, if_false]
    exact ih cur (fun q hq => h q (List.mem_cons_of_mem _ hq))

theorem gw_constant (i : Int) (first : Bool) (pre post : List (Int × α)) (d : Int) (v : α)
    (cur : Option α) (hd : d ≤ i) (hpost : ∀ q ∈ post, i < q.1) :
    gwConstAt i first (pre ++ (d, v) :: post) cur = some v := by
  induction pre generalizing first cur with
  | nil =>
    simp only [List.nil_append, gwConstAt, hd, true_or, if_true]
    exact gwConstAt_post i post (some v) hpost
  | cons q qs ih =>
    obtain ⟨d', v'⟩ := q
    simp only [List.cons_append, gwConstAt]
    exact ih false _

/-- the first row is applied on every day (`index >= date` or `index <= date`) -/
theorem gwConstAt_first (i d0 : Int) (v0 : α) (rest : List (Int × α)) (cur : Option α) :
    gwConstAt i true ((d0, v0) :: rest) cur = gwConstAt i false rest (some v0) := by
  have : d0 ≤ i ∨ (true = true ∧ i ≤ d0) := (Int.le_total d0 i).imp_right fun h => ⟨rfl, h⟩
  rw [gwConstAt, if_pos this]

theorem gw_constant_first (i : Int) (d0 : Int) (v0 : α) (rest : List (Int × α)) (cur : Option α)
    (hrest : ∀ q ∈ rest, i < q.1) :
    gwConstAt i true ((d0, v0) :: rest) cur = some v0 := by
  rw [gwConstAt_first]
  exact gwConstAt_post i rest (some v0) hrest

theorem gw_constant_no_nan (i : Int) (p : Int × α) (rest : List (Int × α)) (cur : Option α) :
    ∃ v, gwConstAt i true (p :: rest) cur = some v := by
  rw [gwConstAt_first]
  generalize p.2 = v
  induction rest generalizing v with
  | nil => exact ⟨v, rfl⟩
  | cons q qs ih =>
    rw [gwConstAt]
    split
    · exact ih q.2
    · exact ih v

theorem gwConstant_getElem (n : Nat) (obs : List (Int × α)) (i : Nat) (h : i < n) :
    (gwConstant n obs)[i]? = some (gwConstAt (Int.ofNat i) true obs none) := by
  simp [gwConstant, h]

theorem gw_constant_two (n : Nat) (d1 d2 : Int) (v1 v2 : α) (i : Nat) (hi : i < n) :
    ∃ zs, gwSeries n .constant [(d1, v1), (d2, v2)] = .ok zs ∧
      zs[i]? = some (some (if d2 ≤ Int.ofNat i then v2 else v1)) := by
  refine ⟨gwConstant n [(d1, v1), (d2, v2)], rfl, ?_⟩
  rw [gwConstant_getElem n _ i hi]
  by_cases h2 : d2 ≤ Int.ofNat i
  · simp only [h2, if_true]
    exact congrArg some (gw_constant (Int.ofNat i) true [(d1, v1)] [] d2 v2 none h2 (by simp))
  · simp only [h2, if_false]
    exact congrArg some (gw_constant_first (Int.ofNat i) d1 v1 [(d2, v2)] none
      (fun q hq => by
        rw [List.mem_singleton.1 hq]
        simpa using h2))

/-! ## "Variable"

The series is `gwVarAt i (sortByDate (dedupLast obs))` on day `i`: de-duplicate (last row of a date
wins), sort by date, interpolate linearly in time; `none` (`NaN`) before the first observation, the
last depth after the last one. -/

/-! ### `dedupLast` -/

theorem dedupLast_subset (obs : List (Int × α)) : ∀ q ∈ dedupLast obs, q ∈ obs := by
  fun_induction dedupLast obs with
  | case1 => intro q hq; cases hq
  | case2 d v rest hany ih => exact fun q hq => List.mem_cons_of_mem _ (ih q hq)
  | case3 d v rest hany ih =>
    intro q hq
    rcases List.mem_cons.mp hq with rfl | hq
    · exact List.mem_cons_self
    · exact List.mem_cons_of_mem _ (ih q hq)

theorem dedupLast_date_mem (obs : List (Int × α)) :
    ∀ q ∈ obs, ∃ q' ∈ dedupLast obs, q'.1 = q.1 := by
  fun_induction dedupLast obs with
  | case1 => intro q hq; cases hq
  | case2 d v rest hany ih =>
    intro q hq
    rcases List.mem_cons.mp hq with rfl | hq
    · obtain ⟨r, hr, hrd⟩ := List.any_eq_true.mp hany
      obtain ⟨q', hq', e'⟩ := ih r hr
      exact ⟨q', hq', by rw [e']; simpa using hrd⟩
    · exact ih q hq
  | case3 d v rest hany ih =>
    intro q hq
    rcases List.mem_cons.mp hq with rfl | hq
    · exact ⟨(d, v), List.mem_cons_self, rfl⟩
    · obtain ⟨q', hq', e'⟩ := ih q hq
      exact ⟨q', List.mem_cons_of_mem _ hq', e'⟩

theorem dedupLast_pairwise (obs : List (Int × α)) :
    (dedupLast obs).Pairwise (fun a b => a.1 ≠ b.1) := by
  fun_induction dedupLast obs with
  | case1 => exact List.Pairwise.nil
  | case2 d v rest hany ih => exact ih
  | case3 d v rest hany ih =>
    refine List.pairwise_cons.mpr ⟨fun q hq hdq => hany ?_, ih⟩
    exact List.any_eq_true.mpr ⟨q, dedupLast_subset rest q hq, by simpa using hdq.symm⟩

theorem dedupLast_mem_iff (obs : List (Int × α)) (d : Int) (v : α) :
    (d, v) ∈ dedupLast obs ↔
      ∃ pre post, obs = pre ++ (d, v) :: post ∧ ∀ q ∈ post, q.1 ≠ d := by
  fun_induction dedupLast obs with
  | case1 => simp
  | case2 d' v' rest hany ih =>
    rw [ih]
    constructor
    · rintro ⟨pre, post, rfl, hpost⟩
      exact ⟨(d', v') :: pre, post, rfl, hpost⟩
    · rintro ⟨pre, post, hobs, hpost⟩
      cases pre with
      | nil =>
        cases hobs
        obtain ⟨r, hr, hrd⟩ := List.any_eq_true.mp hany
        exact absurd (hpost r hr) (by simpa using hrd)
      | cons p' pre' => exact ⟨pre', post, (List.cons.inj hobs).2, hpost⟩
  | case3 d' v' rest hany ih =>
    rw [List.mem_cons, ih]
    constructor
    · rintro (h | ⟨pre, post, rfl, hpost⟩)
      · cases h
        exact ⟨[], rest, rfl, fun q hq hqd => hany (List.any_eq_true.mpr ⟨q, hq, by simpa using hqd⟩)⟩
      · exact ⟨(d', v') :: pre, post, rfl, hpost⟩
    · rintro ⟨pre, post, hobs, hpost⟩
      cases pre with
      | nil => cases hobs; exact Or.inl rfl
      | cons p' pre' => exact Or.inr ⟨pre', post, (List.cons.inj hobs).2, hpost⟩

theorem dedupLast_mem_of_last (pre post : List (Int × α)) (d : Int) (v : α)
    (hpost : ∀ q ∈ post, q.1 ≠ d) : (d, v) ∈ dedupLast (pre ++ (d, v) :: post) :=
  (dedupLast_mem_iff _ d v).mpr ⟨pre, post, rfl, hpost⟩

theorem dedupLast_of_distinct (obs : List (Int × α)) (h : obs.Pairwise (fun a b => a.1 ≠ b.1)) :
    dedupLast obs = obs := by
  fun_induction dedupLast obs with
  | case1 => rfl
  | case2 d v rest hany ih =>
    obtain ⟨r, hr, hrd⟩ := List.any_eq_true.mp hany
    exact absurd (by simpa using hrd : r.1 = d).symm ((List.pairwise_cons.mp h).1 r hr)
  | case3 d v rest hany ih => rw [ih (List.pairwise_cons.mp h).2]

/-! ### `sortByDate` -/

theorem insertByDate_eq (p : Int × α) (l : List (Int × α)) :
    insertByDate p l = insertKey (·.1) p l := by
  induction l with
  | nil => rfl
  | cons y ys ih => rw [insertByDate, insertKey, ih]

theorem insertByDate_perm (p : Int × α) (l : List (Int × α)) :
    (insertByDate p l).Perm (p :: l) :=
  insertByDate_eq p l ▸ insertKey_perm _ p l

theorem sortByDate_perm (l : List (Int × α)) : (sortByDate l).Perm l := by
  induction l with
  | nil => exact List.Perm.refl _
  | cons p ps ih =>
    show (insertByDate p (sortByDate ps)).Perm (p :: ps)
    exact (insertByDate_perm p _).trans (List.Perm.cons p ih)

theorem sortByDate_mem (l : List (Int × α)) (q : Int × α) : q ∈ sortByDate l ↔ q ∈ l :=
  (sortByDate_perm l).mem_iff

theorem insertByDate_sorted (p : Int × α) (l : List (Int × α))
    (h : l.Pairwise (fun a b => a.1 ≤ b.1)) :
    (insertByDate p l).Pairwise (fun a b => a.1 ≤ b.1) :=
  insertByDate_eq p l ▸ insertKey_sorted (·.1) p h

theorem sortByDate_sorted (l : List (Int × α)) :
    (sortByDate l).Pairwise (fun a b => a.1 ≤ b.1) := by
  induction l with
  | nil => simp [sortByDate]
  | cons p ps ih => exact insertByDate_sorted p _ ih

theorem sortByDate_strict (l : List (Int × α)) (h : l.Pairwise (fun a b => a.1 ≠ b.1)) :
    (sortByDate l).Pairwise (fun a b => a.1 < b.1) := by
  have hne : (sortByDate l).Pairwise (fun a b => a.1 ≠ b.1) :=
    ((sortByDate_perm l).pairwise_iff (fun {x y} (hxy : x.1 ≠ y.1) => hxy.symm)).mpr h
  exact ((sortByDate_sorted l).and hne).imp (fun {a b} hab => by omega)

theorem gwPts_strict (obs : List (Int × α)) :
    (sortByDate (dedupLast obs)).Pairwise (fun a b => a.1 < b.1) :=
  sortByDate_strict _ (dedupLast_pairwise obs)

theorem sortByDate_of_strict (l : List (Int × α)) (h : l.Pairwise (fun a b => a.1 < b.1)) :
    sortByDate l = l := by
  refine List.Perm.eq_of_pairwise (le := fun a b => a.1 < b.1) ?_
    (sortByDate_strict l (h.imp (fun {a b} hab => by omega))) h (sortByDate_perm l)
  intro a b _ _ h1 h2; omega

theorem sortByDate_perm_eq (l l' : List (Int × α)) (hp : l.Perm l')
    (h : l.Pairwise (fun a b => a.1 ≠ b.1)) : sortByDate l = sortByDate l' := by
  have h' : l'.Pairwise (fun a b => a.1 ≠ b.1) :=
    (hp.pairwise_iff (fun {x y} (hxy : x.1 ≠ y.1) => hxy.symm)).mp h
  refine List.Perm.eq_of_pairwise (le := fun a b => a.1 < b.1) ?_
    (sortByDate_strict l h) (sortByDate_strict l' h')
    ((sortByDate_perm l).trans (hp.trans (sortByDate_perm l').symm))
  intro a b _ _ h1 h2; omega

/-! ### `gwVarGo` / `gwVarAt` on a strictly date-increasing list -/

theorem natCast_toNat (x : Int) (h : 0 ≤ x) : ((x.toNat : Nat) : α) = ((x : Int) : α) := by
  rw [← Int.cast_natCast, Int.toNat_of_nonneg h]

theorem gwVarGo_skip (i : Int) (lo p : Int × α) (pre rest : List (Int × α))
    (hpre : ∀ q ∈ pre, q.1 ≤ i) (hp : p.1 ≤ i) :
    gwVarGo i lo (pre ++ p :: rest) = gwVarGo i p rest := by
  induction pre generalizing lo with
  | nil => simp only [List.nil_append, gwVarGo, hp, if_true]
  | cons q qs ih =>
    have hq : q.1 ≤ i := hpre q List.mem_cons_self
    simp only [List.cons_append, gwVarGo, hq, if_true]
    exact ih q (fun r hr => hpre r (List.mem_cons_of_mem _ hr))

theorem gwVarGo_line (i : Int) (lo p : Int × α) (ps : List (Int × α)) (hlo : lo.1 ≤ i)
    (hp : i < p.1) :
    gwVarGo i lo (p :: ps) =
      (p.2 - lo.2) / ((p.1 - lo.1 : Int) : α) * ((i - lo.1 : Int) : α) + lo.2 := by
  have h : ¬ (p.1 ≤ i) := by omega
  simp only [gwVarGo, h, if_false]
  rw [natCast_toNat _ (by omega), natCast_toNat _ (by omega)]

theorem gwVarAt_nil (i : Int) : gwVarAt i ([] : List (Int × α)) = none := rfl

theorem gwVarAt_before_first (i : Int) (p : Int × α) (ps : List (Int × α)) (h : i < p.1) :
    gwVarAt i (p :: ps) = none := by
  simp only [gwVarAt, h, if_true]

theorem gwVarAt_eq_none_iff (i : Int) (p : Int × α) (ps : List (Int × α)) :
    gwVarAt i (p :: ps) = none ↔ i < p.1 := by
  by_cases h : i < p.1
  · simp [gwVarAt, h]
  · simp [gwVarAt, h]

/-- from the date of a row on, the walk restarts at that row. -/
theorem gwVarAt_split (i : Int) (pre rest : List (Int × α)) (p : Int × α)
    (hs : (pre ++ p :: rest).Pairwise (fun a b => a.1 < b.1)) (hp : p.1 ≤ i) :
    gwVarAt i (pre ++ p :: rest) = some (gwVarGo i p rest) := by
  have hlt : ∀ q ∈ pre, q.1 < p.1 := fun q hq =>
    (List.pairwise_append.mp hs).2.2 q hq p List.mem_cons_self
  cases pre with
  | nil =>
    have h : ¬ (i < p.1) := by omega
    simp only [List.nil_append, gwVarAt, h, if_false]
  | cons q qs =>
    have hq := hlt q List.mem_cons_self
    have h : ¬ (i < q.1) := by omega
    simp only [List.cons_append, gwVarAt, h, if_false]
    rw [gwVarGo_skip i q p qs rest
      (fun r hr => by have := hlt r (List.mem_cons_of_mem _ hr); omega) hp]

theorem gwVarAt_at_obs (pre post : List (Int × α)) (d : Int) (v : α)
    (hs : (pre ++ (d, v) :: post).Pairwise (fun a b => a.1 < b.1)) :
    gwVarAt d (pre ++ (d, v) :: post) = some v := by
  rw [gwVarAt_split d pre post (d, v) hs (Int.le_refl d)]
  cases post with
  | nil => rfl
  | cons p ps =>
    have hp : d < p.1 :=
      (List.pairwise_cons.mp (List.pairwise_append.mp hs).2.1).1 p List.mem_cons_self
    rw [gwVarGo_line d (d, v) p ps (Int.le_refl d) hp]
    simp

theorem gwVarAt_between (i : Int) (pre post : List (Int × α)) (d0 d1 : Int) (v0 v1 : α)
    (hs : (pre ++ (d0, v0) :: (d1, v1) :: post).Pairwise (fun a b => a.1 < b.1))
    (h0 : d0 ≤ i) (h1 : i < d1) :
    gwVarAt i (pre ++ (d0, v0) :: (d1, v1) :: post) =
      some ((v1 - v0) / ((d1 - d0 : Int) : α) * ((i - d0 : Int) : α) + v0) := by
  rw [gwVarAt_split i pre _ (d0, v0) hs h0, gwVarGo_line i (d0, v0) (d1, v1) post h0 h1]

theorem gw_line_eq (i d0 d1 : Int) (v0 v1 : α) (h : d0 < d1) :
    (v1 - v0) / ((d1 - d0 : Int) : α) * ((i - d0 : Int) : α) + v0 =
      v0 + ((i : α) - (d0 : α)) / ((d1 : α) - (d0 : α)) * (v1 - v0) := by
  push_cast
  ring

theorem gw_line_bounds (i d0 d1 : Int) (v0 v1 : α) (h0 : d0 ≤ i) (h1 : i < d1) :
    min v0 v1 ≤ (v1 - v0) / ((d1 - d0 : Int) : α) * ((i - d0 : Int) : α) + v0 ∧
      (v1 - v0) / ((d1 - d0 : Int) : α) * ((i - d0 : Int) : α) + v0 ≤ max v0 v1 := by
  have ha : ((d0 : Int) : α) ≤ ((i : Int) : α) := by exact_mod_cast h0
  have hb : ((i : Int) : α) < ((d1 : Int) : α) := by exact_mod_cast h1
  have := interp_between_bounds ((i : Int) : α) (((d0 : Int) : α), v0) (((d1 : Int) : α), v1) ha hb
  simpa only [Int.cast_sub] using this

theorem gwVarAt_between_bounds (i : Int) (pre post : List (Int × α)) (d0 d1 : Int) (v0 v1 : α)
    (hs : (pre ++ (d0, v0) :: (d1, v1) :: post).Pairwise (fun a b => a.1 < b.1))
    (h0 : d0 ≤ i) (h1 : i < d1) :
    ∃ z, gwVarAt i (pre ++ (d0, v0) :: (d1, v1) :: post) = some z ∧
      min v0 v1 ≤ z ∧ z ≤ max v0 v1 :=
  ⟨_, gwVarAt_between i pre post d0 d1 v0 v1 hs h0 h1, gw_line_bounds i d0 d1 v0 v1 h0 h1⟩

theorem gwVarAt_after_last (i : Int) (pre : List (Int × α)) (d : Int) (v : α)
    (hs : (pre ++ [(d, v)]).Pairwise (fun a b => a.1 < b.1)) (hd : d ≤ i) :
    gwVarAt i (pre ++ [(d, v)]) = some v := by
  rw [gwVarAt_split i pre [] (d, v) hs hd]; rfl

theorem adjacent_of_no_between (pts : List (Int × α)) (a b : Int × α)
    (hs : pts.Pairwise (fun a b => a.1 < b.1)) (ha : a ∈ pts) (hb : b ∈ pts) (hab : a.1 < b.1)
    (hno : ∀ q ∈ pts, ¬ (a.1 < q.1 ∧ q.1 < b.1)) :
    ∃ pre post, pts = pre ++ a :: b :: post := by
  obtain ⟨pre, rest, rfl⟩ := List.append_of_mem ha
  obtain ⟨_, hrest, hcross⟩ := List.pairwise_append.mp hs
  obtain ⟨harest, hrest'⟩ := List.pairwise_cons.mp hrest
  have hbrest : b ∈ rest := by
    rcases List.mem_append.mp hb with hb | hb
    · have := hcross b hb a List.mem_cons_self; omega
    · rcases List.mem_cons.mp hb with rfl | hb
      · omega
      · exact hb
  cases rest with
  | nil => simp at hbrest
  | cons c post =>
    have hac : a.1 < c.1 := harest c List.mem_cons_self
    rcases List.mem_cons.mp hbrest with rfl | hbpost
    · exact ⟨pre, post, rfl⟩
    · have hcb : c.1 < b.1 := (List.pairwise_cons.mp hrest').1 b hbpost
      exact absurd ⟨hac, hcb⟩
        (hno c (List.mem_append_right _ (List.mem_cons_of_mem _ List.mem_cons_self)))

/-! ### shift invariance -/

def shiftDates (k : Int) (l : List (Int × α)) : List (Int × α) := l.map (fun q => (q.1 + k, q.2))

theorem shiftDates_cons (k : Int) (p : Int × α) (l : List (Int × α)) :
    shiftDates k (p :: l) = (p.1 + k, p.2) :: shiftDates k l := rfl

theorem gwVarGo_shift (i k : Int) (lo : Int × α) (ps : List (Int × α)) :
    gwVarGo (i + k) (lo.1 + k, lo.2) (shiftDates k ps) = gwVarGo i lo ps := by
  fun_induction gwVarGo i lo ps with
  | case1 => rfl
  | case2 lo p ps h ih => rw [shiftDates_cons, gwVarGo, if_pos (by omega), ih]
  | case3 lo p ps h =>
    rw [shiftDates_cons, gwVarGo, if_neg (by omega)]
    simp only [add_sub_add_right_eq_sub]

theorem gwVarAt_shift (i k : Int) (pts : List (Int × α)) :
    gwVarAt (i + k) (shiftDates k pts) = gwVarAt i pts := by
  cases pts with
  | nil => rfl
  | cons p ps =>
    simp only [shiftDates, List.map_cons, gwVarAt]
    have e1 : (i + k < p.1 + k) ↔ i < p.1 := by omega
    simp only [e1]
    split
    · rfl
    · exact congrArg some (gwVarGo_shift i k p ps)

theorem dedupLast_shift (k : Int) (obs : List (Int × α)) :
    dedupLast (shiftDates k obs) = shiftDates k (dedupLast obs) := by
  have hany : ∀ (d : Int) (rest : List (Int × α)),
      (shiftDates k rest).any (fun q => decide (q.1 = d + k)) = rest.any (fun q => decide (q.1 = d)) := by
    intro d rest
    simp only [shiftDates, List.any_map, Function.comp_def, add_left_inj]
  fun_induction dedupLast obs with
  | case1 => rfl
  | case2 d v rest h ih => rw [shiftDates_cons, dedupLast, hany, if_pos h, ih]
  | case3 d v rest h ih => rw [shiftDates_cons, dedupLast, hany, if_neg h, ih, shiftDates_cons]

theorem insertByDate_shift (k : Int) (p : Int × α) (l : List (Int × α)) :
    insertByDate (p.1 + k, p.2) (shiftDates k l) = shiftDates k (insertByDate p l) := by
  fun_induction insertByDate p l with
  | case1 => rfl
  | case2 q qs h => rw [shiftDates_cons, insertByDate, if_pos (by omega)]; rfl
  | case3 q qs h ih => rw [shiftDates_cons, insertByDate, if_neg (by omega), ih]; rfl

theorem sortByDate_shift (k : Int) (l : List (Int × α)) :
    sortByDate (shiftDates k l) = shiftDates k (sortByDate l) := by
  induction l with
  | nil => rfl
  | cons p ps ih =>
    show insertByDate (p.1 + k, p.2) (sortByDate (shiftDates k ps)) =
      shiftDates k (insertByDate p (sortByDate ps))
    rw [ih, insertByDate_shift]

/-! ### the series -/

theorem gwVariable_length (n : Nat) (obs : List (Int × α)) : (gwVariable n obs).length = n := by
  simp [gwVariable]

theorem gwVariable_getElem (n : Nat) (obs : List (Int × α)) (i : Nat) (h : i < n) :
    (gwVariable n obs)[i]? = some (gwVarAt (Int.ofNat i) (sortByDate (dedupLast obs))) := by
  simp [gwVariable, h]

theorem gw_variable_window_independent (n m : Nat) (obs : List (Int × α)) (i : Nat) (hn : i < n)
    (hm : i < m) : (gwVariable n obs)[i]? = (gwVariable m obs)[i]? := by
  rw [gwVariable_getElem n obs i hn, gwVariable_getElem m obs i hm]

theorem gw_variable_at_obs (n : Nat) (pre post : List (Int × α)) (d : Nat) (v : α) (hd : d < n)
    (hpost : ∀ q ∈ post, q.1 ≠ Int.ofNat d) :
    (gwVariable n (pre ++ (Int.ofNat d, v) :: post))[d]? = some (some v) := by
  rw [gwVariable_getElem n _ d hd]
  have hm := (sortByDate_mem _ _).mpr (dedupLast_mem_of_last pre post (Int.ofNat d) v hpost)
  obtain ⟨s, t, e⟩ := List.append_of_mem hm
  have hs := gwPts_strict (pre ++ (Int.ofNat d, v) :: post)
  rw [e] at hs ⊢
  rw [gwVarAt_at_obs s t (Int.ofNat d) v hs]

theorem gw_variable_between (n : Nat) (obs pre0 post0 pre1 post1 : List (Int × α)) (d0 d1 : Int)
    (v0 v1 : α) (i : Nat) (hi : i < n)
    (e0 : obs = pre0 ++ (d0, v0) :: post0) (hpost0 : ∀ q ∈ post0, q.1 ≠ d0)
    (e1 : obs = pre1 ++ (d1, v1) :: post1) (hpost1 : ∀ q ∈ post1, q.1 ≠ d1)
    (hno : ∀ q ∈ obs, ¬ (d0 < q.1 ∧ q.1 < d1)) (h0 : d0 ≤ Int.ofNat i) (h1 : Int.ofNat i < d1) :
    (gwVariable n obs)[i]? =
      some (some ((v1 - v0) / ((d1 - d0 : Int) : α) * ((Int.ofNat i - d0 : Int) : α) + v0)) := by
  have hm0 := (dedupLast_mem_iff obs d0 v0).mpr ⟨pre0, post0, e0, hpost0⟩
  have hm1 := (dedupLast_mem_iff obs d1 v1).mpr ⟨pre1, post1, e1, hpost1⟩
  rw [gwVariable_getElem n _ i hi]
  have hs := gwPts_strict obs
  obtain ⟨pre, post, e⟩ := adjacent_of_no_between (sortByDate (dedupLast obs)) (d0, v0) (d1, v1) hs
    ((sortByDate_mem _ _).mpr hm0) ((sortByDate_mem _ _).mpr hm1) (by show d0 < d1; omega)
    (fun q hq => hno q (dedupLast_subset obs q ((sortByDate_mem _ _).mp hq)))
  rw [e] at hs ⊢
  rw [gwVarAt_between (Int.ofNat i) pre post d0 d1 v0 v1 hs h0 h1]

/-! ## Non-vacuity (concrete series over ℚ) -/

/-- observations on day 1 (1 m) and day 3 (2 m) of a 5-day run: `NaN` on day 0, linear on day 2,
last value held on day 4. -/
example : gwVariable 5 [((1 : Int), (1 : ℚ)), (3, 2)] =
    [none, some 1, some (3 / 2), some 2, some 2] := by
  decide +kernel

/-- one observation 10 days before the start, one on day 5, one 9 days after the last day of an
11-day run: straight lines in time through all three. -/
example : gwVariable 11 [((-10 : Int), (1 : ℚ)), (5, 5/2), (20, 4)] =
    [some 2, some (21/10), some (11/5), some (23/10), some (12/5), some (5/2), some (13/5),
     some (27/10), some (14/5), some (29/10), some 3] := by
  decide +kernel

/-- `NaN` before the first observation, the last depth after the last one. -/
example : gwVariable 11 [((3 : Int), (1 : ℚ)), (7, 2)] =
    [none, none, none, some 1, some (5/4), some (3/2), some (7/4), some 2, some 2, some 2,
     some 2] := by
  decide +kernel

/-- rows out of date order and two repeated dates (the later row wins: 3 m on day 2, 2 m on day 4). -/
example : gwVariable 5 [((4 : Int), (3 : ℚ)), (0, 1), (4, 2), (2, 5), (2, 3)] =
    [some 1, some 2, some 3, some (5/2), some 2] := by
  decide +kernel

/-- the hypotheses of `gw_variable_between` are satisfiable with `d0 < 0` and `d1 ≥ n`. -/
example : (gwVariable 3 [((7 : Int), (4 : ℚ)), (-2, 1)])[1]? =
    some (some ((4 - 1) / ((7 - (-2) : Int) : ℚ) * ((Int.ofNat 1 - (-2) : Int) : ℚ) + 1)) :=
  gw_variable_between 3 _ [((7 : Int), (4 : ℚ))] [] [] [((-2 : Int), (1 : ℚ))] (-2) 7 1 4 1
    (by decide) rfl (by simp) rfl (by simp) (by simp) (by decide) (by decide)

example : gwConstant 4 [((1 : Int), (1 : ℚ)), (3, 2)] = [some 1, some 1, some 1, some 2] := by
  decide +kernel

end Aqua
