import AquaVerif.Model.WeatherBind
/-
Lemmas about the implementation's weather handling (`Model/WeatherBind.lean`).
Core Lean only (no Mathlib needed).

`weatherMatrix` reads the table only through what `Date` and the five names select
(`weatherMatrix_eq`, `SameView`); for a single `Date` column it is two positional checks, a type
check and one row mask (`wmSingle`), and for proper dates that mask is `Aqua.RunShape.clip`
(`weatherMatrix_eq_clip`).  Rows are handed to the days by position after clipping: the examples
of §5 show what that does to a table with a gap or with unsorted rows.  The matrix rows up to the
`q`-th depend only on the table rows up to the `q`-th in-window one (`weatherMatrix_prefix`).
-/

namespace Aqua.WeatherBind
open Aqua.RunShape

variable {κ ι ι' γ δ : Type}

/-! ## §0 `keep`, `rowsOf` -/

@[simp] theorem keep_nil_left (xs : List γ) : keep [] xs = [] := by
  cases xs <;> rfl

@[simp] theorem keep_nil_right (m : List Bool) : keep m ([] : List γ) = [] := by
  cases m <;> rfl

@[simp] theorem keep_cons_cons (b : Bool) (bs : List Bool) (x : γ) (xs : List γ) :
    keep (b :: bs) (x :: xs) = if b then x :: keep bs xs else keep bs xs := rfl

theorem keep_map (f : γ → δ) (m : List Bool) (xs : List γ) :
    keep m (xs.map f) = (keep m xs).map f := by
  induction m generalizing xs with
  | nil => simp
  | cons b bs ih =>
    cases xs with
    | nil => simp
    | cons x xs => cases b <;> simp [ih]

theorem keep_zipWith (f : γ → δ → ι) (m : List Bool) (xs : List γ) (ys : List δ) :
    keep m (List.zipWith f xs ys) = List.zipWith f (keep m xs) (keep m ys) := by
  induction m generalizing xs ys with
  | nil => simp
  | cons b bs ih =>
    cases xs with
    | nil => simp
    | cons x xs =>
      cases ys with
      | nil => simp
      | cons y ys => cases b <;> simp [ih]

theorem rowsOf_keep (m : List Bool) (cols : List (List γ)) :
    rowsOf (cols.map (keep m)) = keep m (rowsOf cols) := by
  induction cols with
  | nil => simp [rowsOf]
  | cons c cs ih =>
    cases cs with
    | nil => simp [rowsOf, keep_map]
    | cons c' cs =>
      simp only [List.map_cons, rowsOf] at ih ⊢
      rw [keep_zipWith, ← ih]

theorem keep_map_self (f : γ → Bool) (l : List γ) : keep (l.map f) l = l.filter f := by
  induction l with
  | nil => rfl
  | cons a l ih => by_cases h : f a <;> simp [h, ih]

/-- the second mask is computed on the already masked column: both together are one mask -/
theorem keep_keep (f g : γ → Bool) (l : List γ) (xs : List δ) :
    keep ((l.filter f).map g) (keep (l.map f) xs) = keep (l.map (fun a => f a && g a)) xs := by
  induction l generalizing xs with
  | nil => simp
  | cons a l ih =>
    cases xs with
    | nil => simp
    | cons x xs => by_cases h : f a <;> simp [h, ih]

theorem keep_map_zip (f : γ → Bool) (l : List γ) (xs : List δ) :
    keep (l.map f) xs = ((l.zip xs).filter (fun p => f p.1)).map (·.2) := by
  induction l generalizing xs with
  | nil => simp
  | cons a l ih =>
    cases xs with
    | nil => simp
    | cons x xs => by_cases h : f a <;> simp [h, ih]

/-- pointwise relation of two lists of equal length (core Lean has no `List.Forall₂`) -/
inductive Forall2 (R : γ → δ → Prop) : List γ → List δ → Prop
  | nil : Forall2 R [] []
  | cons {a b l l'} : R a b → Forall2 R l l' → Forall2 R (a :: l) (b :: l')

theorem Forall2.length_eq {R : γ → δ → Prop} {l : List γ} {l' : List δ} (h : Forall2 R l l') :
    l.length = l'.length := by
  induction h with
  | nil => rfl
  | cons _ _ ih => simp [ih]

/-- rows that the coarser mask `m` removes are not selected by `w` anyway -/
theorem keep_sub {m w : List Bool} (h : Forall2 (fun b v => b = false → v = false) m w)
    (xs : List γ) : keep (keep m w) (keep m xs) = keep w xs := by
  induction h generalizing xs with
  | nil => simp
  | @cons b v m w hbv _ ih =>
    cases xs with
    | nil => simp
    | cons x xs =>
      cases b with
      | true => cases v <;> simp [ih]
      | false => simp [hbv rfl, ih]

theorem keep_take (m : List Bool) (xs : List γ) (j : Nat) :
    keep (m.take j) (xs.take j) = (keep m xs).take ((m.take j).count true) := by
  induction j generalizing m xs with
  | zero => simp
  | succ j ih =>
    cases m with
    | nil => simp
    | cons b bs =>
      cases xs with
      | nil => simp
      | cons x xs => cases b <;> simp [ih]

theorem keep_append {m₁ : List Bool} {xs₁ : List γ} (h : m₁.length = xs₁.length) (m₂ : List Bool)
    (xs₂ : List γ) : keep (m₁ ++ m₂) (xs₁ ++ xs₂) = keep m₁ xs₁ ++ keep m₂ xs₂ := by
  induction m₁ generalizing xs₁ with
  | nil =>
    cases xs₁ with
    | nil => simp
    | cons _ _ => simp at h
  | cons b bs ih =>
    cases xs₁ with
    | nil => simp at h
    | cons x xs =>
      simp only [List.length_cons, Nat.add_right_cancel_iff] at h
      cases b <;> simp [ih h]

theorem all_congr_mem {l : List γ} {p q : γ → Bool} (h : ∀ a ∈ l, p a = q a) : l.all p = l.all q := by
  induction l with
  | nil => rfl
  | cons a l ih =>
    rw [List.all_cons, List.all_cons, h a (by simp), ih (fun b hb => h b (by simp [hb]))]

/-! ## §1 the matrix depends on the table only through what the five names select -/

theorem sel_filterRows (n : String) (t : WTable κ ι) (m : List Bool) :
    sel n (t.filterRows m).cols = (sel n t.cols).map (keep m) := by
  simp [sel, WTable.filterRows, List.filter_map, Function.comp_def]

theorem sel_cons (n : String) (x : String × List γ) (l : List (String × List γ)) :
    sel n (x :: l) = if x.1 == n then x.2 :: sel n l else sel n l := by
  unfold sel
  by_cases h : (x.1 == n) = true <;> simp [h]

theorem selectCols_eq (names : List String) (cs : List (String × List γ)) :
    selectCols names cs =
      if names.all (fun n => !(sel n cs).isEmpty) then .ok (names.flatMap (sel · cs))
      else .error "E:key" := by
  induction names with
  | nil => rfl
  | cons n ns ih =>
    unfold selectCols
    rw [ih]
    cases hs : sel n cs with
    | nil => simp [hs]
    | cons c rest => by_cases hns : ns.all (fun n => !(sel n cs).isEmpty) = true <;> simp [hns, hs]

theorem selectCols_ok {names : List String} {cs : List (String × List γ)} {r : List (List γ)}
    (h : selectCols names cs = .ok r) : r = names.flatMap (sel · cs) := by
  rw [selectCols_eq] at h
  split at h
  · exact (Except.ok.inj h).symm
  · cases h

theorem selectCols_error {names : List String} {cs : List (String × List γ)} {err : String}
    (h : selectCols names cs = .error err) : err = "E:key" ∧ ∃ n ∈ names, sel n cs = [] := by
  rw [selectCols_eq] at h
  split at h
  · cases h
  · rename_i hall
    simpa using And.intro (Except.error.inj h).symm hall

theorem selectCols_map (f : List γ → List γ) (names : List String) (cs cs' : List (String × List γ))
    (h : ∀ n ∈ names, sel n cs = (sel n cs').map f) :
    selectCols names cs = match selectCols names cs' with
                          | .error err => .error err
                          | .ok r => .ok (r.map f) := by
  rw [selectCols_eq, selectCols_eq, List.flatMap_def, List.map_congr_left h,
    all_congr_mem (fun n hn => by rw [h n hn, List.isEmpty_map])]
  split
  · simp only [List.map_flatMap]
    rfl
  · rfl

theorem selectCols_congr (names : List String) (cs cs' : List (String × List γ))
    (h : ∀ n ∈ names, sel n cs = sel n cs') : selectCols names cs = selectCols names cs' := by
  rw [selectCols_eq, selectCols_eq, List.flatMap_def, List.map_congr_left h,
    all_congr_mem (fun n hn => by rw [h n hn])]
  rfl

/-- the checks and the two masks of `read_weather_inputs`, as a function of what `weather_df.Date`
selects (proof device: the model re-reads `Date` on the masked frame) -/
def windowMasks (s e : Int) (dcols : List (List (WCell κ))) : Except String (List Bool × List Bool) :=
  match edgeTestOn false (fun d => decide (s < d)) dcols with
  | .error err => .error err
  | .ok true => .error "E:first-date"
  | .ok false =>
    match edgeTestOn true (fun d => decide (d < e)) dcols with
    | .error err => .error err
    | .ok true => .error "E:last-date"
    | .ok false =>
      match maskOn (fun d => decide (s ≤ d)) dcols with
      | .error err => .error err
      | .ok m1 =>
        match maskOn (fun d => decide (d ≤ e)) (dcols.map (keep m1)) with
        | .error err => .error err
        | .ok m2 => .ok (m1, m2)

theorem readWeatherInputs_eq (s e : Int) (t : WTable κ ι) :
    readWeatherInputs s e t = match windowMasks s e (sel "Date" t.cols) with
                              | .error err => .error err
                              | .ok (m1, m2) => .ok ((t.filterRows m1).filterRows m2) := by
  unfold readWeatherInputs windowMasks dateEdgeTest dateMask
  simp only [sel_filterRows]
  cases edgeTestOn false (fun d => decide (s < d)) (sel "Date" t.cols) with
  | error err => rfl
  | ok b =>
    cases b
    · cases edgeTestOn true (fun d => decide (d < e)) (sel "Date" t.cols) with
      | error err => rfl
      | ok b' =>
        cases b'
        · cases maskOn (fun d => decide (s ≤ d)) (sel "Date" t.cols) with
          | error err => rfl
          | ok m1 =>
            dsimp only
            cases maskOn (fun d => decide (d ≤ e)) ((sel "Date" t.cols).map (keep m1)) <;> rfl
        · rfl
    · rfl

theorem weatherMatrix_eq (s e : Int) (t : WTable κ ι) :
    weatherMatrix s e t = match windowMasks s e (sel "Date" t.cols) with
                          | .error err => .error err
                          | .ok (m1, m2) =>
                            match selectCols required t.cols with
                            | .error err => .error err
                            | .ok cs => .ok (keep m2 (keep m1 (rowsOf cs))) := by
  unfold weatherMatrix
  rw [readWeatherInputs_eq]
  cases windowMasks s e (sel "Date" t.cols) with
  | error err => rfl
  | ok mm =>
    obtain ⟨m1, m2⟩ := mm
    simp only [matrixOf]
    rw [selectCols_map (keep m2 ∘ keep m1) required _ t.cols
      (by intro n _; simp [sel_filterRows, List.map_map])]
    cases selectCols required t.cols with
    | error err => rfl
    | ok cs =>
      simp only
      rw [← List.map_map, rowsOf_keep, rowsOf_keep]

/-- two tables (possibly with different index types) in which each of the five names selects the
same columns -/
def SameView (t : WTable κ ι) (t' : WTable κ ι') : Prop :=
  ∀ n ∈ required, sel n t.cols = sel n t'.cols

theorem weatherMatrix_congr (s e : Int) {t : WTable κ ι} {t' : WTable κ ι'} (h : SameView t t') :
    weatherMatrix s e t = weatherMatrix s e t' := by
  rw [weatherMatrix_eq, weatherMatrix_eq, h "Date" (by simp [required]),
    selectCols_congr required t.cols t'.cols h]

/-! ### what a name selects: column order (distinct labels), extra columns -/

theorem len_le_one {l : List γ} (h : l.length ≤ 1) : l = [] ∨ ∃ c, l = [c] := by
  match l, h with
  | [], _ => exact Or.inl rfl
  | [c], _ => exact Or.inr ⟨c, rfl⟩
  | _ :: _ :: _, h => simp at h

theorem sel_length_le_one {cs : List (String × List γ)} (hnd : (cs.map (·.1)).Nodup) (n : String) :
    (sel n cs).length ≤ 1 := by
  have h := List.nodup_iff_count.mp hnd n
  rw [List.count_eq_countP, List.countP_map, List.countP_eq_length_filter] at h
  unfold sel
  rw [List.length_map]
  exact h

/-- the two selections are permutations of each other and have at most one element -/
theorem sel_perm {cs cs' : List (String × List γ)} (hp : cs.Perm cs')
    (hnd : (cs.map (·.1)).Nodup) (n : String) : sel n cs = sel n cs' := by
  have hp' : (sel n cs).Perm (sel n cs') := (hp.filter _).map _
  rcases len_le_one (sel_length_le_one hnd n) with h | ⟨c, h⟩
  · rw [h] at hp' ⊢
    exact (List.nil_perm.mp hp').symm
  · rw [h] at hp' ⊢
    exact List.singleton_perm.mp hp'

theorem sel_insert (pre extra post : List (String × List γ)) (n : String)
    (hx : ∀ c ∈ extra, c.1 ≠ n) : sel n (pre ++ extra ++ post) = sel n (pre ++ post) := by
  unfold sel
  have : extra.filter (fun c => c.1 == n) = [] := by
    simp only [List.filter_eq_nil_iff, beq_iff_eq]
    exact fun c hc => hx c hc
  simp [List.filter_append, this]

/-! ### the setter -/

theorem any_label (n : String) (cs : List (String × List γ)) :
    cs.any (fun c => c.1 == n) = !(sel n cs).isEmpty := by
  induction cs with
  | nil => rfl
  | cons x l ih => by_cases h : (x.1 == n) = true <;> simp [sel_cons, h, ih]

theorem formatCheck_eq (t : WTable κ ι) :
    formatCheck t =
      if required.all (fun n => !(sel n t.cols).isEmpty) then .ok () else .error "E:format" := by
  unfold formatCheck
  simp only [any_label, required, List.all_cons, List.all_nil, Bool.and_true]
  ac_rfl

theorem formatCheck_of_isEmpty {t : WTable κ ι} {t' : WTable κ ι'}
    (h : ∀ n ∈ required, (sel n t.cols).isEmpty = (sel n t'.cols).isEmpty) :
    formatCheck t = formatCheck t' := by
  rw [formatCheck_eq, formatCheck_eq, all_congr_mem (fun n hn => by rw [h n hn])]

theorem formatCheck_filterRows (t : WTable κ ι) (m : List Bool) :
    formatCheck (t.filterRows m) = formatCheck t :=
  formatCheck_of_isEmpty (fun n _ => by rw [sel_filterRows, List.isEmpty_map])

/-- As the model object does it: the format check first, then exactly `weatherMatrix`; the second
run of the setter (on the clipped frame) never fires. -/
theorem modelWeather_eq (s e : Int) (t : WTable κ ι) :
    modelWeather s e t = match formatCheck t with
                         | .error err => .error err
                         | .ok () => weatherMatrix s e t := by
  unfold modelWeather weatherMatrix
  cases hf : formatCheck t with
  | error err => rfl
  | ok u =>
    cases u
    simp only
    rw [readWeatherInputs_eq]
    cases windowMasks s e (sel "Date" t.cols) with
    | error err => rfl
    | ok mm =>
      obtain ⟨m1, m2⟩ := mm
      simp only [formatCheck_filterRows, hf]

theorem formatCheck_congr {t : WTable κ ι} {t' : WTable κ ι'} (h : SameView t t') :
    formatCheck t = formatCheck t' :=
  formatCheck_of_isEmpty (fun n hn => by rw [h n hn])

theorem modelWeather_congr (s e : Int) {t : WTable κ ι} {t' : WTable κ ι'} (h : SameView t t') :
    modelWeather s e t = modelWeather s e t' := by
  rw [modelWeather_eq, modelWeather_eq, formatCheck_congr h, weatherMatrix_congr s e h]

/-! ## §2 closed form for a table with exactly one column labelled `Date` -/

/-- the row mask of the window: dated inside `[s, e]` (`NaT` and missing values: outside) -/
def inWin (s e : Int) (x : WCell κ) : Bool :=
  x.test (fun d => decide (s ≤ d)) && x.test (fun d => decide (d ≤ e))

/-- `weatherMatrix` for one `Date` column `c`, given the selection `sc` of the five names from the
unclipped table: positional first / last checks, type check of the column, one combined mask -/
def wmSingle (s e : Int) (c : List (WCell κ)) (sc : Except String (List (List (WCell κ)))) :
    Except String (List (List (WCell κ))) :=
  match edgeTestOn false (fun d => decide (s < d)) [c] with
  | .error err => .error err
  | .ok true => .error "E:first-date"
  | .ok false =>
    match edgeTestOn true (fun d => decide (d < e)) [c] with
    | .error err => .error err
    | .ok true => .error "E:last-date"
    | .ok false =>
      if c.all (·.maskable) then
        match sc with
        | .error err => .error err
        | .ok cs => .ok (keep (c.map (inWin s e)) (rowsOf cs))
      else .error "E:type"

theorem weatherMatrix_single (s e : Int) {t : WTable κ ι} {c : List (WCell κ)}
    (h : sel "Date" t.cols = [c]) :
    weatherMatrix s e t = wmSingle s e c (selectCols required t.cols) := by
  rw [weatherMatrix_eq, h]
  unfold windowMasks wmSingle
  cases edgeTestOn false (fun d => decide (s < d)) [c] with
  | error err => rfl
  | ok b =>
    cases b with
    | true => rfl
    | false =>
      simp only
      cases edgeTestOn true (fun d => decide (d < e)) [c] with
      | error err => rfl
      | ok b' =>
        cases b' with
        | true => rfl
        | false =>
          simp only [maskOn, maskOf, List.map_cons, List.map_nil]
          by_cases hm : c.all (·.maskable) = true
          · have hm' : (c.filter fun x => x.test (fun d => decide (s ≤ d))).all (·.maskable) = true := by
              simp only [List.all_eq_true, List.mem_filter] at hm ⊢
              exact fun x hx => hm x hx.1
            simp only [hm, if_true, keep_map_self, hm']
            cases selectCols required t.cols with
            | error err => rfl
            | ok cs => simp only [keep_keep]; rfl
          · simp only [hm]; rfl

theorem wmSingle_ok {s e : Int} {c : List (WCell κ)} {sc : Except String (List (List (WCell κ)))}
    {m : List (List (WCell κ))} (h : wmSingle s e c sc = .ok m) :
    ∃ cs, sc = .ok cs ∧ m = keep (c.map (inWin s e)) (rowsOf cs) := by
  unfold wmSingle at h
  repeat' split at h
  all_goals first
    | exact ⟨_, rfl, (Except.ok.inj h).symm⟩
    | cases h

theorem edgeTestOn_single (last : Bool) (p : Int → Bool) (c : List (WCell κ)) :
    edgeTestOn last p [c] = match edge last c with
                            | none => .error "E:index"
                            | some x => cmpCell p x := rfl

/-! ### the error alphabet; `E:frame-mask` is unreachable -/

theorem maskOf_error {p : Int → Bool} {c : List (WCell κ)} {err : String}
    (h : maskOf p c = .error err) : err = "E:type" := by
  unfold maskOf at h
  split at h
  · cases h
  · exact (Except.error.inj h).symm

theorem edgeTestOn_error {last : Bool} {p : Int → Bool} {dcols : List (List (WCell κ))} {err : String}
    (h : edgeTestOn last p dcols = .error err) :
    (err = "E:attr" ∧ dcols = []) ∨ err ∈ ["E:index", "E:type", "E:ambiguous"] := by
  match dcols, h with
  | [], h => simp only [edgeTestOn] at h; cases h; simp
  | [c], h =>
    simp only [edgeTestOn] at h
    split at h
    · cases h; simp
    · unfold cmpCell at h
      split at h
      · cases h
      · cases h; simp
  | c :: c' :: cs, h =>
    simp only [edgeTestOn] at h
    split at h
    · cases h; simp
    · split at h <;> (cases h; simp)

theorem edgeTestOn_ok {last : Bool} {p : Int → Bool} {dcols : List (List (WCell κ))} {b : Bool}
    (h : edgeTestOn last p dcols = .ok b) : ∃ c, dcols = [c] := by
  match dcols, h with
  | [], h => cases h
  | [c], _ => exact ⟨c, rfl⟩
  | c :: c' :: cs, h =>
    simp only [edgeTestOn] at h
    split at h
    · cases h
    · split at h <;> cases h

theorem windowMasks_error {s e : Int} {dcols : List (List (WCell κ))} {err : String}
    (h : windowMasks s e dcols = .error err) :
    (err = "E:attr" ∧ dcols = []) ∨
      err ∈ ["E:index", "E:type", "E:ambiguous", "E:first-date", "E:last-date"] := by
  unfold windowMasks at h
  split at h
  · rename_i h1
    cases h
    exact (edgeTestOn_error h1).imp_right (List.mem_append_left _)
  · cases h; simp
  · rename_i h0
    split at h
    · rename_i h1
      cases h
      exact (edgeTestOn_error h1).imp_right (List.mem_append_left _)
    · cases h; simp
    · obtain ⟨c, rfl⟩ := edgeTestOn_ok h0
      simp only [maskOn, List.map_cons, List.map_nil] at h
      split at h
      · rename_i h2
        cases h
        rw [maskOf_error h2]; simp
      · split at h
        · rename_i h3
          cases h
          rw [maskOf_error h3]; simp
        · cases h

/-- the defensive `E:frame-mask` of `maskOn` is not among the errors `weatherMatrix` can return -/
theorem weatherMatrix_error {s e : Int} {t : WTable κ ι} {err : String}
    (h : weatherMatrix s e t = .error err) :
    (err = "E:attr" ∧ sel "Date" t.cols = []) ∨ (err = "E:key" ∧ ∃ n ∈ required, sel n t.cols = []) ∨
      err ∈ ["E:index", "E:type", "E:ambiguous", "E:first-date", "E:last-date"] := by
  rw [weatherMatrix_eq] at h
  split at h
  · rename_i h1
    cases h
    rcases windowMasks_error h1 with h | h
    · exact Or.inl h
    · exact Or.inr (Or.inr h)
  · split at h
    · rename_i h2
      cases h
      exact Or.inr (Or.inl (selectCols_error h2))
    · cases h

theorem readWeatherInputs_ne_frameMask (s e : Int) (t : WTable κ ι) :
    readWeatherInputs s e t ≠ .error "E:frame-mask" := by
  rw [readWeatherInputs_eq]
  intro h
  split at h
  · rename_i h1
    cases h
    rcases windowMasks_error h1 with h | h
    · exact absurd h.1 (by decide)
    · revert h; decide
  · cases h

/-- after a successful format check (as in the model object) neither `AttributeError` nor
`KeyError` can occur -/
theorem modelWeather_error {s e : Int} {t : WTable κ ι} {err : String}
    (h : modelWeather s e t = .error err) :
    err ∈ ["E:format", "E:index", "E:type", "E:ambiguous", "E:first-date", "E:last-date"] := by
  rw [modelWeather_eq, formatCheck_eq] at h
  by_cases hall : required.all (fun n => !(sel n t.cols).isEmpty) = true
  · rw [if_pos hall] at h
    have hsel : ∀ n ∈ required, sel n t.cols ≠ [] := by simpa using hall
    rcases weatherMatrix_error h with ⟨_, h1⟩ | ⟨_, n, hn, h1⟩ | h1
    · exact absurd h1 (hsel "Date" (by simp [required]))
    · exact absurd h1 (hsel n hn)
    · exact List.mem_cons_of_mem _ h1
  · rw [if_neg hall] at h
    cases h; simp

/-! ## §3 `Date` cells the window mask rejects -/

/-- a `Date` cell that the window mask rejects without a `TypeError`: a date outside `[s, e]`,
`NaT`, or a missing value -/
def Outside (s e : Int) (x : WCell κ) : Prop := x.maskable = true ∧ inWin s e x = false

theorem outside_date (s e d : Int) : Outside s e (.date d : WCell κ) ↔ d < s ∨ e < d := by
  simp only [Outside, WCell.maskable, inWin, WCell.test, true_and, Bool.and_eq_false_iff,
    decide_eq_false_iff_not]
  omega

theorem outside_nat (s e : Int) : Outside s e (.nat : WCell κ) := by
  simp [Outside, WCell.maskable, inWin, WCell.test]

theorem all_maskable_keep {s e : Int} {m : List Bool} {c : List (WCell κ)}
    (h : Forall2 (fun b x => b = false → Outside s e x) m c) :
    (keep m c).all (·.maskable) = c.all (·.maskable) := by
  induction h with
  | nil => rfl
  | @cons b x m c hbx _ ih =>
    cases b with
    | true => simp [ih]
    | false => simp [ih, (hbx rfl).1]

theorem mask_sub {s e : Int} {m : List Bool} {c : List (WCell κ)}
    (h : Forall2 (fun b x => b = false → Outside s e x) m c) :
    Forall2 (fun b v => b = false → v = false) m (c.map (inWin s e)) := by
  induction h with
  | nil => exact .nil
  | cons hbx _ ih => exact .cons (fun hb => (hbx hb).2) ih

/-! ## §4 connection with `Aqua.RunShape.clip` and `bindTable` -/

/-- For a table with one `Date` column holding proper dates `ds`: after the
two positional checks, the matrix is the `clip` of the dated rows of the *unclipped* selection —
`Aqua.RunShape.clip` is exactly what `read_weather_inputs` does to the rows. -/
theorem weatherMatrix_eq_clip (s e : Int) {t : WTable κ ι} {ds : List Int}
    (h : sel "Date" t.cols = [ds.map .date]) :
    weatherMatrix s e t =
      match ds.head?, ds.getLast? with
      | some d0, some d1 =>
        if s < d0 then .error "E:first-date"
        else if d1 < e then .error "E:last-date"
        else match selectCols required t.cols with
          | .error err => .error err
          | .ok cs => .ok ((clip s e (ds.zip (rowsOf cs))).map (·.2))
      | _, _ => .error "E:index" := by
  rw [weatherMatrix_single s e h]
  unfold wmSingle
  simp only [edgeTestOn_single, edge, Bool.false_eq_true, if_false, if_true, List.head?_map,
    List.getLast?_map]
  cases ds with
  | nil => rfl
  | cons d rest =>
    rw [List.getLast?_eq_some_getLast (l := d :: rest) (by simp)]
    simp only [List.head?_cons, Option.map_some, cmpCell, WCell.isDateLike, if_true, WCell.test]
    by_cases h1 : s < d
    · simp [h1]
    · simp only [h1, decide_false, if_false]
      by_cases h2 : (d :: rest).getLast (by simp) < e
      · simp [h2]
      · simp only [h2, decide_false, if_false]
        have hm : ((d :: rest).map (WCell.date (κ := κ))).all (·.maskable) = true := by
          simp [WCell.maskable]
        rw [hm]
        simp only [if_true]
        cases selectCols required t.cols with
        | error err => rfl
        | ok cs =>
          simp only [List.map_map]
          rw [keep_map_zip]
          rfl

theorem col_eq_head_sel (t : Table γ) (n : String) : t.col n = (sel n t.cols).head? := by
  unfold Table.col sel
  rw [List.head?_map, List.head?_filter]

theorem selectCols_eq_bindTable (t : Table γ) (h : ∀ n ∈ required, (sel n t.cols).length ≤ 1) :
    selectCols required t.cols = match bindTable t with
                                 | some cs => .ok cs
                                 | none => .error "E:key" := by
  have h1 := len_le_one (h "MinTemp" (by simp [required]))
  have h2 := len_le_one (h "MaxTemp" (by simp [required]))
  have h3 := len_le_one (h "Precipitation" (by simp [required]))
  have h4 := len_le_one (h "ReferenceET" (by simp [required]))
  have h5 := len_le_one (h "Date" (by simp [required]))
  simp only [required, selectCols, bindTable, col_eq_head_sel]
  rcases h1 with h1 | ⟨a, h1⟩ <;> rw [h1]
  · rfl
  rcases h2 with h2 | ⟨b, h2⟩ <;> rw [h2]
  · rfl
  rcases h3 with h3 | ⟨c, h3⟩ <;> rw [h3]
  · rfl
  rcases h4 with h4 | ⟨d, h4⟩ <;> rw [h4]
  · rfl
  rcases h5 with h5 | ⟨e, h5⟩ <;> rw [h5]
  · rfl
  rfl

/-! ## §5 consecutive days (`contig`); examples of tables whose rows are not bound by date -/

/-- `n` consecutive days from `d` on -/
def contig : Int → Nat → List Int
  | _, 0 => []
  | d, n + 1 => d :: contig (d + 1) n

theorem mem_contig {x d : Int} {n : Nat} : x ∈ contig d n ↔ d ≤ x ∧ x < d + n := by
  induction n generalizing d with
  | zero => simp [contig] <;> omega
  | succ n ih => simp only [contig, List.mem_cons, ih]; omega

theorem contig_getElem? (d : Int) (n k : Nat) :
    (contig d n)[k]? = if k < n then some (d + k) else none := by
  induction n generalizing d k with
  | zero => simp [contig]
  | succ n ih =>
    cases k with
    | zero => simp [contig]
    | succ k =>
      simp only [contig, List.getElem?_cons_succ, ih, Nat.add_lt_add_iff_right]
      split
      · congr 1; omega
      · rfl

theorem contig_append (d : Int) (a b : Nat) : contig d (a + b) = contig d a ++ contig (d + a) b := by
  induction a generalizing d with
  | zero => simp [contig]
  | succ a ih =>
    rw [Nat.succ_add, contig, contig, ih, List.cons_append]
    congr 3
    omega

theorem filter_contig (d0 s e : Int) (n : Nat) (h0 : d0 ≤ s) (h1 : e < d0 + n) :
    (contig d0 n).filter (fun d => decide (s ≤ d) && decide (d ≤ e)) = contig s (e + 1 - s).toNat := by
  by_cases hse : s ≤ e + 1
  · -- the days before the window, those of the window, and those after it
    obtain ⟨a, rfl⟩ := Int.le.dest h0
    obtain ⟨b, hb⟩ := Int.le.dest hse
    obtain ⟨c, rfl⟩ := Nat.le.dest (show a + b ≤ n by omega)
    rw [show (e + 1 - (d0 + a)).toNat = b by omega, contig_append, contig_append, List.filter_append, List.filter_append,
      List.filter_eq_nil_iff.mpr, List.filter_eq_self.mpr, List.filter_eq_nil_iff.mpr,
      List.nil_append, List.append_nil]
    all_goals
      intro x hx
      have := mem_contig.mp hx
      simp only [Bool.and_eq_true, decide_eq_true_eq]
      omega
  · rw [show (e + 1 - s).toNat = 0 by omega]
    refine List.filter_eq_nil_iff.mpr (fun x hx => ?_)
    have := mem_contig.mp hx
    simp only [Bool.and_eq_true, decide_eq_true_eq]
    omega

theorem rowsOf_getLast (pre : List (List γ)) (dcol : List γ) (j : Nat) (r : List γ)
    (h : (rowsOf (pre ++ [dcol]))[j]? = some r) : ∃ x, dcol[j]? = some x ∧ r.getLast? = some x := by
  induction pre generalizing r with
  | nil =>
    simp only [List.nil_append, rowsOf, List.getElem?_map, Option.map_eq_some_iff] at h
    obtain ⟨x, hx, rfl⟩ := h
    exact ⟨x, hx, rfl⟩
  | cons c pre ih =>
    have hz : rowsOf (c :: pre ++ [dcol]) = List.zipWith List.cons c (rowsOf (pre ++ [dcol])) := by
      cases pre <;> rfl
    rw [hz, List.getElem?_zipWith] at h
    split at h
    · rename_i x0 r' _ hr
      obtain ⟨x, hx, hl⟩ := ih r' hr
      cases h
      refine ⟨x, hx, ?_⟩
      cases r' with
      | nil => simp at hl
      | cons a l => simpa using hl
    · cases h

/-! ### examples: a gap-free sorted table; tables with a gap, unsorted rows, a duplicate -/

deriving instance DecidableEq for Except

/-- a four-variable table with the given `Date` column (columns deliberately not in the order of
the matrix, one extra column) -/
def exTableV (dates : List (WCell Nat)) (vals : List Nat) : WTable Nat Nat :=
  { cols := [("Date", dates), ("ReferenceET", vals.map (fun i => .num (30 + i))),
             ("Wind", vals.map (fun _ => .other)),
             ("MinTemp", vals.map (fun i => .num i)),
             ("Precipitation", vals.map (fun i => .num (20 + i))),
             ("MaxTemp", vals.map (fun i => .num (10 + i)))],
    index := List.range dates.length }

/-- … row `i` carrying the values `i, 10+i, 20+i, 30+i` -/
def exTable (dates : List (WCell Nat)) : WTable Nat Nat := exTableV dates (List.range dates.length)

def exDay (s e : Int) (t : WTable Nat Nat) (k : Nat) : Except String (List (WCell Nat)) :=
  match weatherMatrix s e t with
  | .error err => .error err
  | .ok m => dayRow m k

/-- consecutive days 9..14 (the premise of `C15.impl_rows_by_date`), window 10..13 — step 2 gets the
row dated 12 (table row 3) -/
example : exDay 10 13 (exTable ((contig 9 6).map .date)) 2
    = .ok [.num 3, .num 13, .num 23, .num 33, .date 12] := by decide +kernel

/-- **Counter-example (gap).**  Day 12 is missing; the checks pass (first row ≤ start, last row
≥ end) and step 2 is handed the row dated 13. -/
example : exDay 10 14 (exTable [.date 10, .date 11, .date 13, .date 14]) 2
    = .ok [.num 2, .num 12, .num 22, .num 32, .date 13] := by decide +kernel

/-- … and a read of row 4 raises `IndexError` (4 rows for 5 days).  (The implementation runs `n − 1`
steps on a window of `n` days, so a *single* missing day is never noticed; two missing days end the
run with this `IndexError`: `harness/tests/repro_weather_bind_findings.py`, 3a / 3b.) -/
example : exDay 10 14 (exTable [.date 10, .date 11, .date 13, .date 14]) 4 = .error "E:index" := by
  decide +kernel

/-- **Counter-example (unsorted rows).**  Step 1 of the window 10..13 is handed the row dated 12. -/
example : exDay 10 13 (exTable [.date 10, .date 12, .date 11, .date 13]) 1
    = .ok [.num 1, .num 11, .num 21, .num 31, .date 12] := by decide +kernel

/-- **Counter-example (gap hidden by a duplicate).**  As many rows as days, both checks pass, no
error anywhere: day 12 silently runs on the weather dated 13. -/
example : exDay 10 13 (exTable [.date 10, .date 11, .date 13, .date 13]) 2
    = .ok [.num 2, .num 12, .num 22, .num 32, .date 13] := by decide +kernel

/-- the checks are positional, not min / max: a table that covers the window but is sorted
descending is rejected … -/
example : weatherMatrix 10 13 (exTable [.date 13, .date 12, .date 11, .date 10])
    = .error "E:first-date" := by decide +kernel

/-- … and a table that does *not* cover the window passes when its first and last rows happen to
satisfy them (every row is clipped away: an empty matrix, `IndexError` on day 0) -/
example : weatherMatrix 10 13 (exTable [.date 9, .date 20, .date 2, .date 14]) = .ok [] := by decide +kernel

/-- `NaT` in the first row passes the first-date check (the comparison is `False`) -/
example : exDay 10 11 (exTable [.nat, .date 10, .date 11]) 0
    = .ok [.num 1, .num 11, .num 21, .num 31, .date 10] := by decide +kernel

/-! ## §6 no look-ahead at this level -/

theorem rowsOf_take (j : Nat) (cols : List (List γ)) :
    rowsOf (cols.map (List.take j)) = (rowsOf cols).take j := by
  induction cols with
  | nil => simp [rowsOf]
  | cons c cs ih =>
    cases cs with
    | nil => simp [rowsOf, List.map_take]
    | cons c' cs =>
      simp only [List.map_cons, rowsOf] at ih ⊢
      rw [List.take_zipWith, ← ih]

/-- Two tables, each with one `Date` column, that agree
on their first `j` rows (in the columns the five names select) and on both of which
`weatherMatrix` succeeds: their matrices agree on the first `q` rows, `q` = the number of
in-window rows among the first `j`.  So the row handed to step `k` depends only on the table rows
up to (and including) the `k+1`-th in-window row — for a table sorted by date: only on rows dated
`≤` that row's date.

What is *not* true: success itself depends on the whole table — the last-date check reads the last
row, the masks raise `TypeError` for an ill-typed `Date` cell anywhere (examples below). -/
theorem weatherMatrix_prefix (s e : Int) (j : Nat) {t : WTable κ ι} {t' : WTable κ ι'}
    {c c' : List (WCell κ)} (hd : sel "Date" t.cols = [c]) (hd' : sel "Date" t'.cols = [c'])
    (hview : ∀ n ∈ required, (sel n t.cols).map (List.take j) = (sel n t'.cols).map (List.take j))
    {m m' : List (List (WCell κ))} (hm : weatherMatrix s e t = .ok m)
    (hm' : weatherMatrix s e t' = .ok m') :
    m.take (((c.take j).map (inWin s e)).count true) =
      m'.take (((c.take j).map (inWin s e)).count true) := by
  rw [weatherMatrix_single s e hd] at hm
  rw [weatherMatrix_single s e hd'] at hm'
  obtain ⟨cs, hcs, rfl⟩ := wmSingle_ok hm
  obtain ⟨cs', hcs', rfl⟩ := wmSingle_ok hm'
  have hc : c.take j = c'.take j := by
    have := hview "Date" (by simp [required])
    rw [hd, hd'] at this
    simpa using this
  have hrows : (rowsOf cs).take j = (rowsOf cs').take j := by
    rw [← rowsOf_take, ← rowsOf_take, selectCols_ok hcs, selectCols_ok hcs', List.map_flatMap,
      List.map_flatMap, List.flatMap_def, List.flatMap_def, List.map_congr_left hview]
  have e1 := keep_take (c.map (inWin s e)) (rowsOf cs) j
  have e2 := keep_take (c'.map (inWin s e)) (rowsOf cs') j
  rw [← List.map_take] at e1 e2
  rw [← e1, hc, ← e2, hrows]

theorem dayRow_prefix (s e : Int) (j : Nat) {t : WTable κ ι} {t' : WTable κ ι'}
    {c c' : List (WCell κ)} (hd : sel "Date" t.cols = [c]) (hd' : sel "Date" t'.cols = [c'])
    (hview : ∀ n ∈ required, (sel n t.cols).map (List.take j) = (sel n t'.cols).map (List.take j))
    {m m' : List (List (WCell κ))} (hm : weatherMatrix s e t = .ok m)
    (hm' : weatherMatrix s e t' = .ok m') (k : Nat)
    (hk : k < ((c.take j).map (inWin s e)).count true) : dayRow m k = dayRow m' k := by
  have h := weatherMatrix_prefix s e j hd hd' hview hm hm'
  have : m[k]? = m'[k]? := by
    have h1 : (m.take (((c.take j).map (inWin s e)).count true))[k]? =
        (m'.take (((c.take j).map (inWin s e)).count true))[k]? := by rw [h]
    rwa [List.getElem?_take_of_lt hk, List.getElem?_take_of_lt hk] at h1
  unfold dayRow
  rw [this]

/-- matrices of the two tables of the example below: the tables differ from row 3 on; window 10..14;
two of the first three rows are in the window, so steps 0 and 1 read the same rows -/
def exM : List (List (WCell Nat)) :=
  [[.num 1, .num 11, .num 21, .num 31, .date 10], [.num 2, .num 12, .num 22, .num 32, .date 11],
   [.num 3, .num 13, .num 23, .num 33, .date 12], [.num 4, .num 14, .num 24, .num 34, .date 13],
   [.num 5, .num 15, .num 25, .num 35, .date 14]]
def exM' : List (List (WCell Nat)) :=
  [[.num 1, .num 11, .num 21, .num 31, .date 10], [.num 2, .num 12, .num 22, .num 32, .date 11],
   [.num 3, .num 13, .num 23, .num 33, .date 14], [.num 4, .num 14, .num 24, .num 34, .date 12]]

example : dayRow exM 1 = dayRow exM' 1 :=
  dayRow_prefix 10 14 3
    (t := exTable [.date 9, .date 10, .date 11, .date 12, .date 13, .date 14])
    (t' := exTable [.date 9, .date 10, .date 11, .date 14, .date 12, .date 20])
    (c := [.date 9, .date 10, .date 11, .date 12, .date 13, .date 14])
    (c' := [.date 9, .date 10, .date 11, .date 14, .date 12, .date 20])
    (by decide +kernel) (by decide +kernel) (by decide +kernel) (by decide +kernel)
    (by decide +kernel) 1 (by decide)

/-- the one dependence on the future: whether the run starts.  Changing only the *last* row turns
a successful set-up into `E:last-date` … -/
example : weatherMatrix 10 12 (exTable [.date 10, .date 11, .date 12]) ≠
    weatherMatrix 10 12 (exTable [.date 10, .date 11, .date 11]) := by decide +kernel

/-- … and an ill-typed `Date` cell anywhere raises -/
example : weatherMatrix 10 11 (exTable [.date 10, .date 11, .other, .date 12]) = .error "E:type" := by
  decide +kernel

end Aqua.WeatherBind
