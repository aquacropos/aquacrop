import AquaVerif.Proofs.WeatherBind
import AquaVerif.Proofs.GwSeries
import AquaVerif.Proofs.PrepareGddLookahead
/-
Property C14 — no look-ahead: past outputs do not depend on future weather.

Stated for the day loop `runDays` over **every** day function `step`, every initial state and
every pair of weather series: a functional day loop that hands day `t` only its own weather
record cannot look ahead.  What makes this a statement about the implementation is (i) the tie of
the loop shape (`core._perform_timestep` passes `weather[time_step_counter]` only; checked by
the perturbation differential runs on calendar-day crops) and (ii) the known exception that the
theorem's hypothesis makes explicit: the *initial state* `s₀` must not depend on the future —
which holds for calendar-day crops and fails by design for thermal-time crops, whose calendar is
derived from season-long degree-day sums at initialisation / season start.

Besides the day loop: the water-table series does not depend on the length of the simulation
(`extending_end_*`); the `impl_*` theorems are about `weatherMatrix`, the code's own weather
handling (`Model/WeatherBind.lean`): no look-ahead, its clipping is `clip`, rows outside the window
are irrelevant; the `switchgdd_*` theorems make the exception precise for `prepare_gdd`
(`Model/PrepareGdd.lean`).
-/

namespace Aqua.C14
open Aqua.RunShape

variable {σ ω ρ : Type}

/-- The first `t` outputs of the day loop are the outputs of the loop over the first `t` records. -/
theorem runDays_take (step : σ → ω → σ × ρ) (t : Nat) :
    ∀ (s : σ) (ws : List ω), (runDays step s ws).take t = runDays step s (ws.take t) := by
  induction t with
  | zero => intro s ws; simp [runDays]
  | succ t ih =>
    intro s ws
    cases ws with
    | nil => simp [runDays]
    | cons w ws => simp [runDays, ih]

/-- For the day loop over any day function, from the same initial state: changing the weather on day
`t` or later does not change any output for a day before `t`. -/
theorem prefix_determined (step : σ → ω → σ × ρ) (s₀ : σ) (t : Nat) :
    ∀ (ws ws' : List ω), ws.take t = ws'.take t →
      (runDays step s₀ ws).take t = (runDays step s₀ ws').take t := by
  intro ws ws' h
  rw [runDays_take, runDays_take, h]

/-- Two tables with the same in-window records give the same run of a day loop that is handed the
clipped series.  That the implementation clips in this way, and that rows outside the window do not
change what it hands over, are `impl_clip` and `impl_outside_window_irrelevant` below. -/
theorem outside_window_irrelevant (step : σ → (Int × ω) → σ × ρ) (s₀ : σ) (lo hi : Int)
    (ws ws' : List (Int × ω)) (h : clip lo hi ws = clip lo hi ws') :
    runDays step s₀ (clip lo hi ws) = runDays step s₀ (clip lo hi ws') := by rw [h]

/-- clipping keeps exactly the in-window records -/
theorem clip_mem (lo hi : Int) (ws : List (Int × ω)) (p : Int × ω) :
    p ∈ clip lo hi ws ↔ p ∈ ws ∧ lo ≤ p.1 ∧ p.1 ≤ hi := by
  simp [clip]

/-- Extending the end date leaves the results of the days already simulated unchanged: the
rows of a run over a series are a prefix of the rows of the run over any extension. -/
theorem extension_keeps_completed_days (step : σ → ω → σ × ρ) (s₀ : σ) (ws ext : List ω) :
    (runDays step s₀ (ws ++ ext)).take ws.length = runDays step s₀ ws := by
  rw [runDays_take, List.take_left']
  rfl

/-- … and the state reached at the old end is the same, so completed seasons are unaffected. -/
theorem extension_same_state (step : σ → ω → σ × ρ) (s₀ : σ) (ws ext : List ω) :
    finalState step s₀ (ws ++ ext) = finalState step (finalState step s₀ ws) ext := by
  induction ws generalizing s₀ with
  | nil => rfl
  | cons w ws ih => simp [finalState, ih]

/-- **Extending the end date keeps the water-table series** ("Variable" method of
`read_groundwater_table`, `Model/GwSeries.lean`): a day covered by a simulation of `n` days and by
one of `n'` days (same start, same table of observations) gets the same table depth in both —
whatever the dates of the observations, inside either period or not.  (The series is built by
interpolation in time over the dated observations; the length of the simulation does not enter.) -/
theorem extending_end_keeps_water_table_series {α : Type} [Field α] [LinearOrder α]
    [IsStrictOrderedRing α] (n n' : Nat) (obs : List (Int × α)) (i : Nat) (hn : i < n)
    (hn' : i < n') : (Aqua.gwVariable n obs)[i]? = (Aqua.gwVariable n' obs)[i]? :=
  Aqua.gw_variable_window_independent n n' obs i hn hn'

/-- … as lists: the series of the shorter simulation is a prefix of the series of the longer one. -/
theorem extending_end_water_table_series_prefix {α : Type} [Field α] [LinearOrder α]
    [IsStrictOrderedRing α] (n n' : Nat) (obs : List (Int × α)) (h : n ≤ n') :
    (Aqua.gwVariable n' obs).take n = Aqua.gwVariable n obs := by
  apply List.ext_getElem?
  intro i
  by_cases hi : i < n
  · rw [List.getElem?_take_of_lt hi]
    exact Aqua.gw_variable_window_independent n' n obs i (by omega) hi
  · rw [List.getElem?_eq_none (by rw [List.length_take, Aqua.gwVariable_length]; omega),
      List.getElem?_eq_none (by rw [Aqua.gwVariable_length]; omega)]

/-- non-vacuity: an observation after the end of the short run (day 7 of 4) — the first four days of
the 10-day series are the 4-day series -/
example : (Aqua.gwVariable 10 [((1 : Int), (1 : ℚ)), (7, 4)]).take 4 =
    Aqua.gwVariable 4 [((1 : Int), (1 : ℚ)), (7, 4)] ∧
    Aqua.gwVariable 4 [((1 : Int), (1 : ℚ)), (7, 4)] = [none, some 1, some (3/2), some 2] := by
  decide +kernel

/-- non-vacuity: a concrete day function (running sum) on two series that differ from day 2 on -/
example : (runDays (fun (s : Nat) (w : Nat) => (s + w, s + w)) 0 [1, 2, 3, 4]).take 2
        = (runDays (fun (s : Nat) (w : Nat) => (s + w, s + w)) 0 [1, 2, 9, 9]).take 2 := by decide

/-! ### tie of the shapes to the code (`Model/WeatherBind.lean`, replayed by the `weather_bind` tie) -/

section impl
open Aqua.WeatherBind
/-- **Tie of the shape to the code.**  No look-ahead through the implementation's
own weather handling: two weather tables that agree on their first `j` rows and on both of which
the set-up succeeds give, for every day function and initial state, the same outputs on the first
`q` simulated days, `q` = number of in-window rows among the first `j` rows. -/
theorem impl_no_lookahead {κ ι ι' σ ρ : Type} (step : σ → List (WCell κ) → σ × ρ) (s₀ : σ)
    (s e : Int) (j : Nat) {t : WTable κ ι} {t' : WTable κ ι'} {c c' : List (WCell κ)}
    (hd : sel "Date" t.cols = [c]) (hd' : sel "Date" t'.cols = [c'])
    (hview : ∀ n ∈ required, (sel n t.cols).map (List.take j) = (sel n t'.cols).map (List.take j))
    {m m' : List (List (WCell κ))} (hm : weatherMatrix s e t = .ok m)
    (hm' : weatherMatrix s e t' = .ok m') :
    (runDays step s₀ m).take (((c.take j).map (inWin s e)).count true) =
      (runDays step s₀ m').take (((c.take j).map (inWin s e)).count true) :=
  prefix_determined step s₀ _ m m' (weatherMatrix_prefix s e j hd hd' hview hm hm')

/-- the implementation's clipping *is* `clip` (so `outside_window_irrelevant`, `clip_mem`,
`C15.extra_rows_outside_window` speak about `read_weather_inputs`) -/
theorem impl_clip {κ ι : Type} (s e : Int) {t : WTable κ ι} {ds : List Int}
    (h : sel "Date" t.cols = [ds.map .date]) {m : List (List (WCell κ))}
    (hm : weatherMatrix s e t = .ok m) :
    ∃ cs, selectCols required t.cols = .ok cs ∧ m = (clip s e (ds.zip (rowsOf cs))).map (·.2) := by
  rw [weatherMatrix_eq_clip s e h] at hm
  repeat' split at hm
  all_goals first
    | exact ⟨_, ‹_›, (Except.ok.inj hm).symm⟩
    | cases hm

/-- rows outside the window are irrelevant to the implementation, given that the two positional
checks (first row, last row) come out the same -/
theorem impl_outside_window_irrelevant {κ ι ι' : Type} (s e : Int) (t : WTable κ ι) (t' : WTable κ ι')
    (m : List Bool)
    (hview : ∀ n ∈ required, sel n t.cols = (sel n t'.cols).map (keep m))
    (hout : ∀ c ∈ sel "Date" t'.cols, Forall2 (fun b x => b = false → Outside s e x) m c)
    (hfirst : dateEdgeTest false (fun d => decide (s < d)) t' = dateEdgeTest false (fun d => decide (s < d)) t)
    (hlast : dateEdgeTest true (fun d => decide (d < e)) t' = dateEdgeTest true (fun d => decide (d < e)) t) :
    weatherMatrix s e t' = weatherMatrix s e t := by
  have hD := hview "Date" (by simp [required])
  unfold dateEdgeTest at hfirst hlast
  cases h1 : edgeTestOn false (fun d => decide (s < d)) (sel "Date" t'.cols) with
  | error err =>
    -- the first test raises, and by `hfirst` the same on both tables
    rw [weatherMatrix_eq, weatherMatrix_eq]
    unfold windowMasks
    rw [← hfirst, h1]
  | ok b =>
    obtain ⟨c, hd⟩ := edgeTestOn_ok h1
    rw [hd] at hD hfirst hlast
    simp only [List.map_cons, List.map_nil] at hD
    rw [hD] at hfirst hlast
    have hc := hout c (by rw [hd]; simp)
    rw [weatherMatrix_single s e hd, weatherMatrix_single s e hD]
    unfold wmSingle
    rw [hfirst, hlast, all_maskable_keep hc, selectCols_map (keep m) required t.cols t'.cols hview]
    cases selectCols required t'.cols with
    | error err => rfl
    | ok cs =>
      simp only
      rw [rowsOf_keep, ← keep_map, keep_sub (mask_sub hc)]

/-- padding rows before and after the window (one dated, one `NaT`, one dated after), both checks
passing on both tables: the hypotheses of `impl_outside_window_irrelevant` are satisfiable -/
example : weatherMatrix 10 11 (exTableV [.date 3, .date 10, .date 11, .nat, .date 12, .date 40] [7, 0, 1, 8, 2, 9]) =
    weatherMatrix 10 11 (exTableV [.date 10, .date 11, .date 12] [0, 1, 2]) :=
  impl_outside_window_irrelevant 10 11 _ _ [false, true, true, false, true, false] (by decide +kernel)
    (by
      intro c hc
      have : c = [.date 3, .date 10, .date 11, .nat, .date 12, .date 40] := by
        simpa [exTableV, sel] using hc
      subst this
      exact .cons (fun _ => (outside_date 10 11 3).mpr (by omega))
        (.cons (fun h => by cases h) (.cons (fun h => by cases h)
          (.cons (fun _ => outside_nat 10 11) (.cons (fun h => by cases h)
            (.cons (fun _ => (outside_date 10 11 40).mpr (by omega)) .nil))))))
    (by decide +kernel) (by decide +kernel)

end impl

/-! ## The restriction to calendar-day crops that are not converted (`SwitchGDD = 0`) is necessary -/

/-- The restriction of "no look-ahead" to calendar-day crops is NECESSARY.  For `SwitchGDD == 1`
`prepare_gdd` takes each stage threshold as the mean/median over ALL seasons of the window
`pl_date … time_span[-1]`; appending the rows of a further season (extending the end date) changes
the thresholds used from the first season on.  Witness over ℚ: two seasons of four days, emergence
threshold 1 → 2 degree-days. -/
theorem switchgdd_conversion_looks_ahead_by_design :
    ∃ (rows₁ ext : List (Option Nat × ℚ)) (g₁ g₂ : Aqua.GddStages ℚ),
      Aqua.prepareGdd Rat.floor 2 true 0 Aqua.lookaheadStages Aqua.lookaheadOld rows₁ = .ok g₁ ∧
      Aqua.prepareGdd Rat.floor 2 true 0 Aqua.lookaheadStages Aqua.lookaheadOld (rows₁ ++ ext)
        = .ok g₂ ∧
      g₁.emergence ≠ g₂.emergence := by
  refine ⟨Aqua.lookaheadRows₁, Aqua.lookaheadExt, _, _, rfl, rfl, ?_⟩
  decide +kernel

/-- Positive counterpart: the conversion depends on the weather window only through the distinct
season labels (order of first appearance) and the per-season degree lists — result or error. -/
theorem switchgdd_conversion_depends_on_seasons_only {α : Type} [Field α] [LinearOrder α]
    [IsStrictOrderedRing α] (toInt : α → Int) (cropType : Nat) (hasCol : Bool) (sumFun : Nat)
    (s : Aqua.GddStagesIn α) (old : Aqua.GddStages α) {rows rows' : List (Option Nat × α)}
    (hl : Aqua.uniqLabels (rows.map (·.1)) = Aqua.uniqLabels (rows'.map (·.1)))
    (hs : ∀ k, Aqua.seasonGdd rows k = Aqua.seasonGdd rows' k) :
    Aqua.prepareGdd toInt cropType hasCol sumFun s old rows =
      Aqua.prepareGdd toInt cropType hasCol sumFun s old rows' := by
  unfold Aqua.prepareGdd
  rw [hl, Aqua.allSeasons_congr toInt cropType s hs]

/-- Within ONE season: extending the window by rows of the same season leaves every threshold read
at a non-negative calendar-day position unchanged (mean and median). -/
theorem switchgdd_same_season_extension_keeps_thresholds {α : Type} [Field α] [LinearOrder α]
    [IsStrictOrderedRing α] {toInt : α → Int} {cropType : Nat} {hasCol : Bool} {sumFun : Nat}
    {s : Aqua.GddStagesIn α} {old g₁ g₂ : Aqua.GddStages α}
    {rows₁ ext : List (Option Nat × α)} {k : Nat}
    (h₁ : Aqua.prepareGdd toInt cropType hasCol sumFun s old rows₁ = .ok g₁)
    (h₂ : Aqua.prepareGdd toInt cropType hasCol sumFun s old (rows₁ ++ ext) = .ok g₂)
    (hne : rows₁ ≠ [])
    (hk₁ : ∀ r ∈ rows₁, r.1 = some k) (hk₂ : ∀ r ∈ ext, r.1 = some k)
    (hsf : sumFun = 0 ∨ sumFun = 1) (a : Aqua.Stage) (ha : 0 ≤ toInt (a.cd s)) :
    a.val g₂ = a.val g₁ := by
  have hu₁ : uniqLabels (rows₁.map (·.1)) = [some k] :=
    uniqLabels_const (by simpa using hk₁) (by simpa using hne)
  have hu₂ : uniqLabels ((rows₁ ++ ext).map (·.1)) = [some k] := by
    apply uniqLabels_const
    · intro x hx
      simp only [List.map_append, List.mem_append, List.mem_map] at hx
      rcases hx with ⟨r, hr, rfl⟩ | ⟨r, hr, rfl⟩
      · exact hk₁ r hr
      · exact hk₂ r hr
    · simpa using fun h => absurd h hne
  have e₁ := prepareGdd_single_season h₁ hu₁ hsf a
  have e₂ := prepareGdd_single_season h₂ hu₂ hsf a
  rw [iloc_of_nonneg ha] at e₁ e₂
  have hsplit : seasonGdd (rows₁ ++ ext) (some k) =
      seasonGdd rows₁ (some k) ++ seasonGdd ext (some k) := by
    simp [seasonGdd, List.filter_append]
  rw [hsplit, cumsum_append_getElem? _ _ e₁] at e₂
  exact (Option.some.inj e₂).symm

end Aqua.C14
