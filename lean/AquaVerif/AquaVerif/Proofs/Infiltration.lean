import AquaVerif.Model.Infiltration
import AquaVerif.Proofs.Drainage
/-
Lemmas about the model of `infiltration` (`Model/Infiltration.lean`) at an arbitrary linearly
ordered field.  No law about `F.exp` / `F.log` is needed anywhere: the Python caps `theta0`
explicitly.
-/

set_option linter.unusedSectionVars false
namespace Aqua
variable {α : Type} [Field α] [LinearOrder α] [IsStrictOrderedRing α]

/-! ### the surface split -/

theorem overtop_facts {t p z : α} {b : Nat} {s : Surf α} (hs : overtop t p z b = s) :
    s.toStore = t ∧ s.lost = 0 ∧ s.runoffIni + s.pond = p ∧
    (0 ≤ p → 0 ≤ z →
      0 ≤ s.runoffIni ∧ 0 ≤ s.pond ∧ s.pond ≤ z ∧ (0 < s.runoffIni → s.pond = z)) := by
  subst hs
  exact ite_ind (fun s : Surf α => s.toStore = t ∧ s.lost = 0 ∧ s.runoffIni + s.pond = p ∧
      (0 ≤ p → 0 ≤ z →
        0 ≤ s.runoffIni ∧ 0 ≤ s.pond ∧ s.pond ≤ z ∧ (0 < s.runoffIni → s.pond = z)))
    (fun h => ⟨rfl, rfl, by simp, fun _ hz =>
      ⟨(sub_pos.2 h).le, by simpa using hz, by simp, fun _ => by simp⟩⟩)
    fun h => ⟨rfl, rfl, zero_add p, fun hp _ =>
      ⟨le_refl _, hp, not_lt.mp h, fun h0 => absurd h0 (lt_irrefl _)⟩⟩

theorem not_highBund_iff (b : Bool) (z : α) :
    ¬ (b = true ∧ 0.001 < z) ↔ (b = false ∨ z ≤ 0.001) := by
  rw [not_and_or, Bool.not_eq_true, not_lt]

theorem infSurface_noBunds (k? : Option α) (pond infl zBund : α) (bunds : Bool)
    (h : ¬ (bunds = true ∧ 0.001 < zBund)) :
    infSurface k? pond infl bunds zBund = noBunds k? pond infl (if bunds then 8 else 6) := by
  unfold infSurface
  rw [if_neg h, if_pos ((not_highBund_iff _ _).1 h)]

/-- inversion of a successful surface split into its five branches; the last two (the no-bunds
block) are taken without bunds *and* with bunds not higher than 0.001 mm -/
theorem infSurface_cases {k? : Option α} {pond infl zBund : α} {bunds : Bool} {s : Surf α}
    (h : infSurface k? pond infl bunds zBund = .ok s) :
    (bunds = true ∧ 0.001 < zBund ∧ 0 < infl + pond ∧ ∃ k, k? = some k ∧ k < infl + pond ∧
        s = overtop k (infl + pond - k) zBund 1) ∨
    (bunds = true ∧ 0.001 < zBund ∧ 0 < infl + pond ∧ ∃ k, k? = some k ∧ ¬ k < infl + pond ∧
        s = overtop (infl + pond) 0 zBund 2) ∨
    (bunds = true ∧ 0.001 < zBund ∧ ¬ 0 < infl + pond ∧
        s = { toStore := 0, runoffIni := 0, pond := pond, lost := infl, branch := 5 }) ∨
    ((bunds = false ∨ zBund ≤ 0.001) ∧ ∃ k, k? = some k ∧ k < infl ∧
        s = { toStore := k, runoffIni := infl - k + pond, pond := 0, lost := 0,
              branch := if bunds then 8 else 6 }) ∨
    ((bunds = false ∨ zBund ≤ 0.001) ∧ ∃ k, k? = some k ∧ ¬ k < infl ∧
        s = { toStore := infl, runoffIni := 0 + pond, pond := 0, lost := 0,
              branch := (if bunds then 8 else 6) + 1 }) := by
  unfold infSurface at h
  by_cases h1 : bunds = true ∧ (0.001 : α) < zBund
  · rw [if_pos h1] at h
    by_cases h3 : 0 < infl + pond
    · rw [if_pos h3] at h
      cases k? with
      | none => cases h
      | some k =>
        simp only [] at h
        by_cases h4 : k < infl + pond
        · rw [if_pos h4] at h
          exact Or.inl ⟨h1.1, h1.2, h3, k, rfl, h4, (Except.ok.inj h).symm⟩
        · rw [if_neg h4] at h
          exact Or.inr (Or.inl ⟨h1.1, h1.2, h3, k, rfl, h4, (Except.ok.inj h).symm⟩)
    · rw [if_neg h3] at h
      exact Or.inr (Or.inr (Or.inl ⟨h1.1, h1.2, h3, (Except.ok.inj h).symm⟩))
  · have h2 := (not_highBund_iff _ _).1 h1
    rw [if_neg h1, if_pos h2] at h
    unfold noBunds at h
    cases k? with
    | none => cases h
    | some k =>
      simp only [] at h
      by_cases h4 : k < infl
      · rw [if_pos h4] at h
        exact Or.inr (Or.inr (Or.inr (Or.inl ⟨h2, k, rfl, h4, (Except.ok.inj h).symm⟩)))
      · rw [if_neg h4] at h
        exact Or.inr (Or.inr (Or.inr (Or.inr ⟨h2, k, rfl, h4, (Except.ok.inj h).symm⟩)))

theorem infSurface_ok_or_index (k? : Option α) (pond infl zBund : α) (bunds : Bool) :
    (∃ s, infSurface k? pond infl bunds zBund = .ok s) ∨
    (k? = none ∧ infSurface k? pond infl bunds zBund = .error "E:index") := by
  by_cases h1 : bunds = true ∧ (0.001 : α) < zBund
  · unfold infSurface
    rw [if_pos h1]
    extract_lets inflTot
    by_cases h3 : 0 < inflTot
    · rw [if_pos h3]
      cases k? with
      | none => exact Or.inr ⟨rfl, rfl⟩
      | some k =>
        exact Or.inl (ite_ind (fun r : Except String (Surf α) => ∃ s, r = .ok s)
          (fun _ => ⟨_, rfl⟩) fun _ => ⟨_, rfl⟩)
    · rw [if_neg h3]; exact Or.inl ⟨_, rfl⟩
  · rw [infSurface_noBunds _ _ _ _ _ h1]
    cases k? with
    | none => exact Or.inr ⟨rfl, rfl⟩
    | some k =>
      exact Or.inl (ite_ind (fun r : Except String (Surf α) => ∃ s, r = .ok s)
        (fun _ => ⟨_, rfl⟩) fun _ => ⟨_, rfl⟩)

/-- in an ordered field one of the two guards always holds: the model's `E:unbound` arm (`ToStore`
unbound, reached in the `Float` run for bunds with `zBund = NaN`) does not exist -/
theorem infSurface_ne_unbound (k? : Option α) (pond infl zBund : α) (bunds : Bool) :
    infSurface k? pond infl bunds zBund ≠ .error "E:unbound" := by
  rcases infSurface_ok_or_index k? pond infl zBund bunds with ⟨s, h⟩ | ⟨-, h⟩ <;> rw [h]
  · exact fun h => nomatch h
  · exact fun h => absurd (Except.error.inj h) (by decide)

theorem infSurface_facts {k? : Option α} {pond infl zBund : α} {bunds : Bool} {s : Surf α}
    (h : infSurface k? pond infl bunds zBund = .ok s) :
    s.toStore + s.runoffIni + s.pond = infl + pond - s.lost ∧
    (0 ≤ infl → 0 ≤ pond → (∀ k, k? = some k → 0 ≤ k) →
      s.lost = 0 ∧ 0 ≤ s.toStore ∧ 0 ≤ s.runoffIni ∧ 0 ≤ s.pond ∧
      (bunds = true → 0.001 < zBund → (pond ≤ zBund → s.pond ≤ zBund) ∧
          (0 < s.runoffIni → s.pond = zBund)) ∧
      (bunds = false ∨ zBund ≤ 0.001 → s.pond = 0) ∧
      (infl = 0 → pond = 0 → s.toStore = 0 ∧ s.runoffIni = 0 ∧ s.pond = 0)) := by
  have hno : bunds = true → 0.001 < zBund → ¬ (bunds = false ∨ zBund ≤ 0.001) :=
    fun hb hz h => (not_highBund_iff _ _).2 h ⟨hb, hz⟩
  rcases infSurface_cases h with ⟨hb, hz, h3, k, hk?, h4, hs⟩ | ⟨hb, hz, h3, k, hk?, h4, hs⟩ |
    ⟨hb, hz, h3, rfl⟩ | ⟨hb, k, hk?, h4, rfl⟩ | ⟨hb, k, hk?, h4, rfl⟩
  · obtain ⟨e1, e2, e3, ho⟩ := overtop_facts hs.symm
    obtain ⟨o1, o2, o3, o4⟩ := ho (sub_pos.2 h4).le (le_trans (by norm_num) hz.le)
    refine ⟨by rw [e1, e2]; linear_combination e3, fun _ _ hk => ?_⟩
    exact ⟨e2, (hk k hk?).trans_eq e1.symm, o1, o2, fun _ _ => ⟨fun _ => o3, o4⟩,
      fun hb' => absurd hb' (hno hb hz),
      fun h1 h2 => absurd h3 (by rw [h1, h2, add_zero]; exact lt_irrefl _)⟩
  · obtain ⟨e1, e2, e3, ho⟩ := overtop_facts hs.symm
    obtain ⟨o1, o2, o3, o4⟩ := ho (le_refl _) (le_trans (by norm_num) hz.le)
    refine ⟨by rw [e1, e2]; linear_combination e3, fun _ _ _ => ?_⟩
    exact ⟨e2, h3.le.trans_eq e1.symm, o1, o2, fun _ _ => ⟨fun _ => o3, o4⟩,
      fun hb' => absurd hb' (hno hb hz),
      fun h1 h2 => absurd h3 (by rw [h1, h2, add_zero]; exact lt_irrefl _)⟩
  · refine ⟨by simp, fun hI hp _ => ?_⟩
    have hI0 : infl = 0 := le_antisymm (by linarith only [not_lt.mp h3, hp]) hI
    exact ⟨hI0, le_refl _, le_refl _, hp,
      fun _ _ => ⟨fun h => h, fun h => absurd h (lt_irrefl _)⟩,
      fun hb' => absurd hb' (hno hb hz), fun _ h2 => ⟨rfl, rfl, h2⟩⟩
  · exact ⟨by simp only []; ring, fun _ hp hk =>
      ⟨rfl, hk k hk?, add_nonneg (sub_pos.2 h4).le hp, le_refl _,
        fun hb' hz' => absurd hb (hno hb' hz'), fun _ => rfl,
        fun h1 _ => absurd (h1 ▸ h4) (not_lt.mpr (hk k hk?))⟩⟩
  · exact ⟨by simp only []; ring, fun hI hp _ =>
      ⟨rfl, hI, by rw [zero_add]; exact hp, le_refl _,
        fun hb' hz' => absurd hb (hno hb' hz'), fun _ => rfl,
        fun h1 h2 => ⟨h1, by rw [h2, add_zero], rfl⟩⟩⟩

/-! ### one compartment of the main loop -/

/-- the four outcomes of the "check drainage ability" block; `th0` stands for the `theta0` computed
through `exp`/`log`, of which nothing is known but the cap the code puts on it -/
theorem infTheta_cases (F : Fn α) (x : Cell α) (ts : α) :
    infTheta F x ts = (x.c.thS, ts / (1000 * x.c.dz)) ∨ infTheta F x ts = (x.fcAdj, 0) ∨
    (∃ th0, th0 ≤ x.c.thS ∧ infTheta F x ts = (th0, ts / (1000 * x.c.dz))) ∨
    infTheta F x ts = (x.c.thS, x.c.tau * (x.c.thS - x.c.thFC)) := by
  unfold infTheta
  extract_lets c dthdtS dthdt0 a th0
  by_cases h1 : dthdt0 < dthdtS
  · rw [if_pos h1]
    by_cases h2 : c.thS < th0
    · rw [if_pos h2]; exact Or.inl rfl
    rw [if_neg h2]
    by_cases h3 : th0 ≤ x.fcAdj
    · rw [if_pos h3]; exact Or.inr (Or.inl rfl)
    · rw [if_neg h3]; exact Or.inr (Or.inr (Or.inl ⟨th0, not_lt.mp h2, rfl⟩))
  · rw [if_neg h1]; exact Or.inr (Or.inr (Or.inr rfl))

theorem infTheta_bounds (F : Fn α) (x : Cell α) (ts : α) :
    (x.fcAdj ≤ x.c.thS → (infTheta F x ts).1 ≤ x.c.thS) ∧
    (0 ≤ ts → 0 < x.c.dz → 0 ≤ x.c.tau → x.c.thFC ≤ x.c.thS → 0 ≤ (infTheta F x ts).2) := by
  have h0 : 0 ≤ ts → 0 < x.c.dz → 0 ≤ ts / (1000 * x.c.dz) :=
    fun hts hdz => div_nonneg hts (mul_pos (by norm_num) hdz).le
  rcases infTheta_cases F x ts with e | e | ⟨th0, hth0, e⟩ | e <;> rw [e]
  · exact ⟨fun _ => le_refl _, fun hts hdz _ _ => h0 hts hdz⟩
  · exact ⟨fun h => h, fun _ _ _ _ => le_refl _⟩
  · exact ⟨fun _ => hth0, fun hts hdz _ _ => h0 hts hdz⟩
  · exact ⟨fun _ => le_refl _, fun _ _ htau hfs => mul_nonneg htau (sub_nonneg.mpr hfs)⟩

theorem infDrainmax_nonneg (x : Cell α) (d : α) (hd : 0 ≤ d) (hdz : 0 < x.c.dz)
    (htau : 0 ≤ x.c.tau) (hfs : x.c.thFC ≤ x.c.thS) (hk : 0 ≤ x.c.ksat)
    (hfl : x.flux ≤ x.c.ksat) : 0 ≤ infDrainmax x d := by
  have h1000 : (0:α) ≤ 1000 := by norm_num
  unfold infDrainmax
  extract_lets c dthdtS factor drainmax0 drainage
  refine ite_ind (fun r : α => 0 ≤ r) (fun _ => sub_nonneg.2 hfl) fun _ => ?_
  have hS : 0 ≤ dthdtS := mul_nonneg htau (sub_nonneg.mpr hfs)
  exact mul_nonneg (mul_nonneg (mul_nonneg
    (div_nonneg hk (mul_nonneg (mul_nonneg hS h1000) hdz.le)) hd) h1000) hdz.le

theorem infStore_eq (x : Cell α) (th0 ts : α) :
    infStore x th0 ts = if x.th < th0 then fillCell th0 x.th x.c.dz ts else (x.th, ts) := by
  unfold infStore fillCell
  simp only [sub_pos]

theorem infStore_facts (x : Cell α) (th0 ts : α) (hdz : 0 < x.c.dz) (hts : 0 ≤ ts) :
    1000 * (infStore x th0 ts).1 * x.c.dz + (infStore x th0 ts).2 = 1000 * x.th * x.c.dz + ts ∧
    x.th ≤ (infStore x th0 ts).1 ∧ 0 ≤ (infStore x th0 ts).2 ∧ (infStore x th0 ts).2 ≤ ts ∧
    (x.th ≤ x.c.thS → th0 ≤ x.c.thS → (infStore x th0 ts).1 ≤ x.c.thS) := by
  rw [infStore_eq]
  exact ite_ind (fun p : α × α => 1000 * p.1 * x.c.dz + p.2 = 1000 * x.th * x.c.dz + ts ∧
      x.th ≤ p.1 ∧ 0 ≤ p.2 ∧ p.2 ≤ ts ∧ (x.th ≤ x.c.thS → th0 ≤ x.c.thS → p.1 ≤ x.c.thS))
    (fun h => ⟨fillCell_water th0 x.th ts hdz.ne', fillCell_ge hdz hts h.le,
      fillCell_rest_nonneg th0 x.th ts hdz, fillCell_rest_le hdz hts h.le,
      fun _ h0 => (fillCell_le_cap _ _ _ _).trans h0⟩)
    fun _ => ⟨rfl, le_refl _, hts, le_refl _, fun h _ => h⟩

theorem infCell_par (F : Fn α) (x : Cell α) (ts : α) : (infCell F x ts).1.par = x.par := rfl

theorem infCell_c (F : Fn α) (x : Cell α) (ts : α) : (infCell F x ts).1.c = x.c := rfl

theorem infCell_excess_nonneg (F : Fn α) (x : Cell α) (ts : α) : 0 ≤ (infCell F x ts).2.2 :=
  ite_ind (fun r : α => 0 ≤ r) (fun _ => le_refl _) not_lt.mp

theorem infCell_facts (F : Fn α) (x : Cell α) (ts : α) (hdz : 0 < x.c.dz) (hts : 0 ≤ ts) :
    (infCell F x ts).1.water + (infCell F x ts).2.1 + (infCell F x ts).2.2 = x.water + ts ∧
    (infCell F x ts).2.1 + (infCell F x ts).2.2 ≤ ts ∧ (x.Inv → (infCell F x ts).1.Inv) ∧
    (x.c.WF → x.flux ≤ x.c.ksat → 0 ≤ (infCell F x ts).2.1) := by
  obtain ⟨hw, hlo, hnn, hle, hhi⟩ := infStore_facts x (infTheta F x ts).1 ts hdz hts
  refine ⟨?_, ?_, fun hx => ?_, fun hwf hfl => ?_⟩
  · simp only [infCell, Cell.water]
    linear_combination hw
  · simp only [infCell]
    linarith only [hle]
  · exact ⟨hx.wf, le_trans hx.th_lo hlo, hhi hx.th_hi ((infTheta_bounds F x ts).1 hx.fc_hi), hx.fc_lo,
      hx.fc_hi⟩
  · have hd := infDrainmax_nonneg x (infTheta F x ts).2
      ((infTheta_bounds F x ts).2 hts hdz hwf.tau_nn hwf.fc_s) hdz hwf.tau_nn hwf.fc_s hwf.ksat_nn hfl
    simp only [infCell]
    exact ite_ind (fun e : α => 0 ≤ (infStore x (infTheta F x ts).1 ts).2 - e)
      (fun _ => by rw [sub_zero]; exact hnn) fun _ => by linarith only [hd]

/-! ### the back-up loop and the main loop -/

theorem backUp_eq_pushUpAbove (vis : List (Cell α)) (e : α) : backUp vis e = pushUpAbove vis e := by
  induction vis generalizing e with
  | nil => rfl
  | cons c above ih => simp only [backUp, pushUpAbove, ih, mul_comm c.c.dz]

theorem backUp_storage (vis : List (Cell α)) (e : α) (hdz : ∀ c ∈ vis, 0 < c.c.dz) :
    storage (backUp vis e).1 + (backUp vis e).2 = storage vis + e := by
  rw [backUp_eq_pushUpAbove]
  exact pushUpAbove_balance vis e fun c hc => (hdz c hc).ne'

theorem infLoop_stop (F : Fn α) (x : Cell α) (rest vis : List (Cell α)) (ts ro : α)
    (h : ¬ 0 < ts) : infLoop F (x :: rest) vis ts ro = (vis.reverse ++ x :: rest, ts, ro) := by
  rw [infLoop, if_neg h]

/-- one round of the main loop: the two arms of `if excess > 0` agree because `excess ≥ 0` and
pushing up nothing does nothing; `if excess > 0: Runoff += excess` adds `max 0 excess`. -/
theorem infLoop_cons (F : Fn α) (x : Cell α) (rest vis : List (Cell α)) (ts ro : α) (h : 0 < ts) :
    infLoop F (x :: rest) vis ts ro =
      infLoop F rest (pushUpAbove ((infCell F x ts).1 :: vis) (infCell F x ts).2.2).1
        (infCell F x ts).2.1
        (ro + max 0 (pushUpAbove ((infCell F x ts).1 :: vis) (infCell F x ts).2.2).2) := by
  rw [infLoop, if_pos h]
  by_cases h2 : 0 < (infCell F x ts).2.2
  · simp only [h2, if_true, backUp_eq_pushUpAbove]
    congr 1
    exact ite_ind (fun r : α => r = ro + max 0 _) (fun h3 => by rw [max_eq_right h3.le])
      fun h3 => by rw [max_eq_left (not_lt.mp h3), add_zero]
  · simp only [h2, if_false]
    rw [le_antisymm (not_lt.mp h2) (infCell_excess_nonneg F x ts),
      pushUpAbove_of_not_pos _ 0 (lt_irrefl 0), max_self, add_zero]

theorem infLoop_facts (F : Fn α) (rest vis : List (Cell α)) (ts ro : α) :
    (infLoop F rest vis ts ro).1.map Cell.par = vis.reverse.map Cell.par ++ rest.map Cell.par ∧
    (0 ≤ ro → 0 ≤ (infLoop F rest vis ts ro).2.2) ∧
    ((∀ c ∈ rest, 0 < c.c.dz) → (∀ c ∈ vis, 0 < c.c.dz) →
      storage (infLoop F rest vis ts ro).1 + (infLoop F rest vis ts ro).2.1 + (infLoop F rest vis ts ro).2.2 = storage vis + storage rest + ts + ro) ∧
    ((∀ c ∈ rest, c.Inv) → (∀ c ∈ vis, c.Inv) → (∀ c ∈ (infLoop F rest vis ts ro).1, c.Inv) ∧ (infLoop F rest vis ts ro).2.1 + (infLoop F rest vis ts ro).2.2 ≤ ts + ro) ∧
    ((∀ c ∈ rest, c.c.WF ∧ c.flux ≤ c.c.ksat) → 0 ≤ ts → 0 ≤ (infLoop F rest vis ts ro).2.1) := by
  induction rest generalizing vis ts ro with
  | nil =>
    exact ⟨by simp [infLoop], id, fun _ _ => by simp [infLoop, storage_reverse],
      fun _ hv => ⟨fun c hc => hv c (List.mem_reverse.mp hc), le_refl _⟩, fun _ h => h⟩
  | cons x rest ih =>
    by_cases h : 0 < ts
    · obtain ⟨i1, i2, i3, i4, i5⟩ :=
        ih (pushUpAbove ((infCell F x ts).1 :: vis) (infCell F x ts).2.2).1 (infCell F x ts).2.1
          (ro + max 0 (pushUpAbove ((infCell F x ts).1 :: vis) (infCell F x ts).2.2).2)
      have he := infCell_excess_nonneg F x ts
      rw [infLoop_cons F x rest vis ts ro h]
      refine ⟨?_, fun hro => i2 (add_nonneg hro (le_max_left _ _)), fun hr hv => ?_,
        fun hr hv => ?_, fun hr _ => ?_⟩
      · rw [i1, List.map_reverse, pushUpAbove_par]
        simp [infCell_par]
      · rw [List.forall_mem_cons] at hr
        have hv' : ∀ c ∈ (infCell F x ts).1 :: vis, 0 < c.c.dz := List.forall_mem_cons.2 ⟨hr.1, hv⟩
        have hb := pushUpAbove_balance _ (infCell F x ts).2.2 fun c hc => (hv' c hc).ne'
        rw [i3 hr.2 (forall_of_map_eq Cell.par (pushUpAbove_par _ _) (fun p => 0 < p.1.dz) hv'),
          max_eq_right (pushUpAbove_rest_nonneg _ _ hv' he)]
        rw [storage_cons] at hb ⊢
        linear_combination hb + (infCell_facts F x ts hr.1 h.le).1
      · rw [List.forall_mem_cons] at hr
        obtain ⟨-, hs, hi, -⟩ := infCell_facts F x ts hr.1.wf.dz_pos h.le
        have hv' : ∀ c ∈ (infCell F x ts).1 :: vis, c.Inv := List.forall_mem_cons.2 ⟨hi hr.1, hv⟩
        have hle := pushUpAbove_rest_le_self _ (infCell F x ts).2.2
          (fun c hc => ⟨(hv' c hc).wf.dz_pos, (hv' c hc).th_hi⟩) he
        obtain ⟨a, b⟩ := i4 hr.2 (pushUpAbove_inv _ _ hv')
        exact ⟨a, b.trans (by linarith only [max_le he hle, hs])⟩
      · rw [List.forall_mem_cons] at hr
        exact i5 hr.2 ((infCell_facts F x ts hr.1.1.dz_pos h.le).2.2.2 hr.1.1 hr.1.2)
    · rw [infLoop_stop F x rest vis ts ro h]
      refine ⟨by rw [List.map_append], id, fun _ _ => by rw [storage_append, storage_reverse],
        fun hr hv => ⟨fun c hc => ?_, le_refl _⟩, fun _ h => h⟩
      rcases List.mem_append.mp hc with hc | hc
      · exact hv c (List.mem_reverse.mp hc)
      · exact hr c hc

/-! ### `infRun` = the loop guarded by `if ToStore > 0` -/

theorem infRun_of_not_pos (F : Fn α) (cells : List (Cell α)) (t : α) (ht : ¬ 0 < t) :
    infRun F cells t = (cells, 0, 0) := by
  unfold infRun; rw [if_neg ht]

theorem infRun_facts (F : Fn α) (cells : List (Cell α)) (t : α) (R : List (Cell α) × α × α)
    (hR : infRun F cells t = R) :
    R.1.map Cell.par = cells.map Cell.par ∧ 0 ≤ R.2.2 ∧
    ((∀ c ∈ cells, 0 < c.c.dz) →
      storage R.1 + R.2.1 + R.2.2 = storage cells + (if 0 < t then t else 0)) ∧
    ((∀ c ∈ cells, c.Inv) → (∀ c ∈ R.1, c.Inv) ∧ (0 ≤ t → R.2.1 + R.2.2 ≤ t)) ∧
    ((∀ c ∈ cells, c.c.WF ∧ c.flux ≤ c.c.ksat) → 0 ≤ R.2.1) := by
  subst hR
  unfold infRun
  by_cases h : 0 < t
  · rw [if_pos h, if_pos h]
    obtain ⟨l1, l2, l3, l4, l5⟩ := infLoop_facts F cells [] t 0
    exact ⟨by rw [l1]; simp, l2 (le_refl _), fun hdz => by rw [l3 hdz (by simp)]; simp,
      fun hc => ⟨(l4 hc (by simp)).1, fun _ => by simpa using (l4 hc (by simp)).2⟩,
      fun hc => l5 hc h.le⟩
  · rw [if_neg h, if_neg h]
    exact ⟨rfl, le_refl _, fun _ => by simp, fun hc => ⟨hc, fun ht => by simpa using ht⟩,
      fun _ => le_refl _⟩

/-! ### bund re-storage of backed-up water -/

theorem bundRestore_sum (p1 ri r1 z : α) (b : Bool) :
    (bundRestore p1 ri r1 b z).1 + (bundRestore p1 ri r1 b z).2 = p1 + r1 := by
  unfold bundRestore
  extract_lets p
  refine ite_ind (fun r : α × α => r.1 + r.2 = p1 + r1) (fun _ => ?_) fun _ => rfl
  exact ite_ind (fun r : α × α => r.1 + r.2 = p1 + r1) (fun _ => by ring) fun _ => by ring

theorem bundRestore_noBunds (p1 ri r1 zBund : α) (bunds : Bool)
    (h : ¬ (bunds = true ∧ 0.001 < zBund)) : bundRestore p1 ri r1 bunds zBund = (p1, r1) := by
  unfold bundRestore
  rw [if_neg fun h' => h h'.2]

theorem bundRestore_bounds (p1 ri r1 z : α) (b : Bool) (hr : ri ≤ r1) :
    (0 ≤ p1 → 0 ≤ (bundRestore p1 ri r1 b z).1) ∧
    (p1 ≤ z → p1 ≤ (bundRestore p1 ri r1 b z).1) ∧ ri ≤ (bundRestore p1 ri r1 b z).2 ∧
    (p1 ≤ z → (bundRestore p1 ri r1 b z).2 ≤ r1) ∧ (p1 ≤ z → (bundRestore p1 ri r1 b z).1 ≤ z) ∧
    (b = true → 0.001 < z → ri < (bundRestore p1 ri r1 b z).2 → (bundRestore p1 ri r1 b z).1 = z) ∧
    (b = false ∨ z ≤ 0.001 →
      (bundRestore p1 ri r1 b z).1 = p1 ∧ (bundRestore p1 ri r1 b z).2 = r1) := by
  have hno : (b = false ∨ z ≤ 0.001) → ¬ (ri < r1 ∧ b = true ∧ 0.001 < z) :=
    fun hb h => (not_highBund_iff b z).2 hb h.2
  generalize hB : bundRestore p1 ri r1 b z = B
  unfold bundRestore at hB
  extract_lets p at hB
  by_cases h1 : ri < r1 ∧ b = true ∧ 0.001 < z
  · rw [if_pos h1] at hB
    have hz0 : (0:α) ≤ z := le_trans (by norm_num) h1.2.2.le
    by_cases h2 : z < p
    · rw [if_pos h2] at hB
      subst hB
      exact ⟨fun _ => hz0, fun h => h, le_add_of_nonneg_right (sub_pos.2 h2).le,
        fun h => by linarith only [h, h2], fun _ => le_refl _, fun _ _ _ => rfl,
        fun hb => absurd h1 (hno hb)⟩
    · rw [if_neg h2] at hB
      subst hB
      exact ⟨fun h => by linarith only [h, hr], fun _ => by linarith only [hr], le_refl _,
        fun _ => hr, fun _ => not_lt.mp h2, fun _ _ h => absurd h (lt_irrefl _),
        fun hb => absurd h1 (hno hb)⟩
  · rw [if_neg h1] at hB
    subst hB
    exact ⟨fun h => h, fun _ => le_refl _, hr, fun _ => le_refl _, fun h => h,
      fun hb hz hlt => absurd ⟨hlt, hb, hz⟩ h1, fun _ => ⟨rfl, rfl⟩⟩

/-! ### the entry point -/

/-- The stages of a successful call: the intake `I` (asserted non-negative), the surface split `s`,
the result `R` of the loop, the bund re-storage `B`; and what the outputs are in those terms. -/
structure InfStages (F : Fn α) (cells : List (Cell α)) (pond infl irr appEff : α) (bunds : Bool)
    (zBund dp0 ro0 : α) (gs : Bool) (out : InfOut α) (I : α) (s : Surf α)
    (R : List (Cell α) × α × α) (B : α × α) : Prop where
  intake : infIntake infl irr appEff gs = I
  intake_nn : 0 ≤ I
  surf : infSurface (cells.head?.map (·.c.ksat)) pond I bunds zBund = .ok s
  run : infRun F cells s.toStore = R
  bund : bundRestore s.pond s.runoffIni (R.2.2 + s.runoffIni) bunds zBund = B
  cells_eq : out.cells = R.1
  pond_eq : out.pond = B.1
  deepPerc_eq : out.deepPerc = R.2.1 + dp0
  runoffTot_eq : out.runoffTot = B.2 + ro0
  infl_eq : out.infl = I - B.2
  inflIn_eq : out.inflIn = I
  lost_eq : out.lost = s.lost + (if 0 < s.toStore then 0 else s.toStore)

theorem infiltration_ok {F : Fn α} {cells : List (Cell α)} {pond infl irr appEff zBund dp0 ro0 : α}
    {bunds gs : Bool} {out : InfOut α}
    (h : infiltration F cells pond infl irr appEff bunds zBund dp0 ro0 gs = .ok out) :
    ∃ I s R B, InfStages F cells pond infl irr appEff bunds zBund dp0 ro0 gs out I s R B := by
  unfold infiltration at h
  extract_lets I at h
  by_cases h0 : 0 ≤ I
  · rw [if_pos h0] at h
    cases hs : infSurface (cells.head?.map (·.c.ksat)) pond I bunds zBund with
    | error e => rw [hs] at h; cases h
    | ok s =>
      rw [hs] at h
      cases h
      exact ⟨I, s, _, _, rfl, h0, hs, rfl, rfl, rfl, rfl, rfl, rfl, rfl, rfl, rfl⟩
  · rw [if_neg h0] at h; cases h

theorem infIntake_eq (infl irr appEff : α) (gs : Bool) :
    infIntake infl irr appEff gs = pmax infl 0 + (if gs then irr * (appEff / 100) else 0) := by
  unfold infIntake; cases gs <;> simp

theorem head_ksat_nonneg {cells : List (Cell α)} (hk : ∀ c ∈ cells, 0 ≤ c.c.ksat) :
    ∀ k, cells.head?.map (·.c.ksat) = some k → 0 ≤ k := by
  intro k hk?
  cases cells with
  | nil => simp at hk?
  | cons c cs =>
    simp at hk?
    rw [← hk?]; exact hk c (by simp)

section main
variable {F : Fn α} {cells : List (Cell α)} {pond infl irr appEff zBund dp0 ro0 : α}
  {bunds gs : Bool} {out : InfOut α}

theorem infiltration_balance_lost
    (h : infiltration F cells pond infl irr appEff bunds zBund dp0 ro0 gs = .ok out)
    (hdz : ∀ c ∈ cells, 0 < c.c.dz) :
    storage out.cells + out.pond + (out.deepPerc - dp0)
      = storage cells + pond + out.infl - out.lost := by
  obtain ⟨I, s, R, B, H⟩ := infiltration_ok h
  have hS := (infSurface_facts H.surf).1
  have hRs := (infRun_facts F cells s.toStore R H.run).2.2.1 hdz
  have hBs := H.bund ▸ bundRestore_sum s.pond s.runoffIni (R.2.2 + s.runoffIni) zBund bunds
  rw [H.cells_eq, H.pond_eq, H.deepPerc_eq, H.infl_eq, H.lost_eq]
  by_cases ht : 0 < s.toStore
  · rw [if_pos ht] at hRs ⊢
    linear_combination hS + hRs + hBs
  · rw [if_neg ht] at hRs ⊢
    linear_combination hS + hRs + hBs

theorem infiltration_lost_eq_zero
    (h : infiltration F cells pond infl irr appEff bunds zBund dp0 ro0 gs = .ok out)
    (hp : 0 ≤ pond) (hk : ∀ c ∈ cells, 0 ≤ c.c.ksat) : out.lost = 0 := by
  obtain ⟨I, s, R, B, H⟩ := infiltration_ok h
  obtain ⟨hl, ht, -⟩ := (infSurface_facts H.surf).2 H.intake_nn hp (head_ksat_nonneg hk)
  rw [H.lost_eq, hl, zero_add]
  exact ite_ind (fun r : α => r = 0) (fun _ => rfl) fun h1 => le_antisymm (not_lt.mp h1) ht

theorem infiltration_balance
    (h : infiltration F cells pond infl irr appEff bunds zBund dp0 ro0 gs = .ok out)
    (hdz : ∀ c ∈ cells, 0 < c.c.dz) (hp : 0 ≤ pond) (hk : ∀ c ∈ cells, 0 ≤ c.c.ksat) :
    storage out.cells + out.pond + (out.deepPerc - dp0) = storage cells + pond + out.infl := by
  rw [infiltration_balance_lost h hdz, infiltration_lost_eq_zero h hp hk, sub_zero]

theorem infiltration_inflIn
    (h : infiltration F cells pond infl irr appEff bunds zBund dp0 ro0 gs = .ok out) :
    out.inflIn = pmax infl 0 + (if gs then irr * (appEff / 100) else 0) ∧ 0 ≤ out.inflIn := by
  obtain ⟨I, s, R, B, H⟩ := infiltration_ok h
  rw [← infIntake_eq, H.intake, H.inflIn_eq]
  exact ⟨rfl, H.intake_nn⟩

theorem infiltration_frame {β : Type}
    (h : infiltration F cells pond infl irr appEff bunds zBund dp0 ro0 gs = .ok out)
    (k : Cell α → β) (hth : NoTh k)
    (hfl : NoFlux k) : out.cells.map k = cells.map k := by
  obtain ⟨I, s, R, B, H⟩ := infiltration_ok h
  exact map_eq_of_par hth hfl (H.cells_eq ▸ (infRun_facts F cells s.toStore R H.run).1)

theorem infiltration_inv
    (h : infiltration F cells pond infl irr appEff bunds zBund dp0 ro0 gs = .ok out)
    (hinv : ∀ c ∈ cells, c.Inv) (hp : 0 ≤ pond) :
    (∀ c ∈ out.cells, c.Inv) ∧ 0 ≤ out.pond ∧ (bunds = true → pond ≤ zBund → out.pond ≤ zBund) ∧
    (bunds = false ∨ zBund ≤ 0.001 → out.pond = 0) := by
  obtain ⟨I, s, R, B, H⟩ := infiltration_ok h
  have hk : ∀ c ∈ cells, 0 ≤ c.c.ksat := fun c hc => (hinv c hc).wf.ksat_nn
  obtain ⟨-, -, hri, hsp, hbt, hbf, -⟩ := (infSurface_facts H.surf).2 H.intake_nn hp (head_ksat_nonneg hk)
  obtain ⟨-, hro, -, hRinv, -⟩ := infRun_facts F cells s.toStore R H.run
  obtain ⟨b1, -, -, -, b5, -, b7⟩ := H.bund ▸ bundRestore_bounds s.pond s.runoffIni
    (R.2.2 + s.runoffIni) zBund bunds (le_add_of_nonneg_left hro)
  rw [H.cells_eq, H.pond_eq]
  refine ⟨(hRinv hinv).1, b1 hsp, fun hb hpz => ?_,
    fun hb => by rw [(b7 hb).1, hbf hb]⟩
  by_cases hz : 0.001 < zBund
  · exact b5 ((hbt hb hz).1 hpz)
  · have hlow : bunds = false ∨ zBund ≤ 0.001 := Or.inr (not_lt.mp hz)
    rw [(b7 hlow).1, hbf hlow]; exact hp.trans hpz

theorem infiltration_surface_le
    (h : infiltration F cells pond infl irr appEff bunds zBund dp0 ro0 gs = .ok out)
    (hinv : ∀ c ∈ cells, c.Inv) (hfl : ∀ c ∈ cells, c.flux ≤ c.c.ksat) (hp : 0 ≤ pond) :
    out.pond + (out.runoffTot - ro0) ≤ out.inflIn + pond := by
  obtain ⟨I, s, R, B, H⟩ := infiltration_ok h
  have hk : ∀ c ∈ cells, 0 ≤ c.c.ksat := fun c hc => (hinv c hc).wf.ksat_nn
  obtain ⟨hS, hF⟩ := infSurface_facts H.surf
  obtain ⟨hl, hT, -⟩ := hF H.intake_nn hp (head_ksat_nonneg hk)
  obtain ⟨-, -, -, hRinv, hRts⟩ := infRun_facts F cells s.toStore R H.run
  have hsum := (hRinv hinv).2 hT
  have hts := hRts fun c hc => ⟨(hinv c hc).wf, hfl c hc⟩
  have hBs := H.bund ▸ bundRestore_sum s.pond s.runoffIni (R.2.2 + s.runoffIni) zBund bunds
  rw [H.pond_eq, H.runoffTot_eq, H.inflIn_eq]
  linarith only [hl ▸ hS, hsum, hts, hBs]

theorem infiltration_deepPerc_nonneg
    (h : infiltration F cells pond infl irr appEff bunds zBund dp0 ro0 gs = .ok out)
    (hc : ∀ c ∈ cells, c.c.WF ∧ c.flux ≤ c.c.ksat) : 0 ≤ out.deepPerc - dp0 := by
  obtain ⟨I, s, R, B, H⟩ := infiltration_ok h
  rw [H.deepPerc_eq, add_sub_cancel_right]
  exact (infRun_facts F cells s.toStore R H.run).2.2.2.2 hc

/-! ### success / failure -/

theorem infiltration_isOk (F : Fn α) (c : Cell α) (cs : List (Cell α))
    (pond infl irr appEff zBund dp0 ro0 : α) (bunds gs : Bool)
    (hirr : gs = true → 0 ≤ irr * (appEff / 100)) :
    ∃ out, infiltration F (c :: cs) pond infl irr appEff bunds zBund dp0 ro0 gs = .ok out := by
  have h0 : (0:α) ≤ pmax infl 0 := pmax_eq infl 0 ▸ le_max_right _ _
  have hI : 0 ≤ infIntake infl irr appEff gs :=
    ite_ind (fun r : α => 0 ≤ r) (fun hg => add_nonneg h0 (hirr hg)) fun _ => h0
  obtain ⟨s, hs⟩ := (infSurface_ok_or_index (some c.c.ksat) pond (infIntake infl irr appEff gs)
    zBund bunds).resolve_right fun h => nomatch h.1
  unfold infiltration
  extract_lets I
  rw [if_pos hI]
  exact ⟨_, by rw [List.head?_cons, Option.map_some, hs]⟩

end main

/-! ### non-vacuity: the hypotheses of the lemmas above are jointly satisfiable -/

section nonvacuous

def exComp : Comp ℚ :=
  { dz := 0.1, dzsum := 0.1, zMid := 0.05, thS := 0.46, thFC := 0.31, thWP := 0.15, thDry := 0.075,
    tau := 0.76, ksat := 500, pen := 100, aCR := 0, bCR := 0, layer := 1 }

def exCell : Cell ℚ := { c := exComp, th := 0.31, fcAdj := 0.31, flux := 0, aer := 0 }

def exFn : Fn ℚ :=
  { exp := id, log := id, log10 := id, pow := fun x y => if y = 2 then x * x else x, round0 := id,
    round2 := id, round3 := id, round4 := id, pyRound2 := id }

theorem exCell_inv : exCell.Inv := by
  refine ⟨⟨?_, ?_, ?_, ?_, ?_, ?_, ?_, ?_⟩, ?_, ?_, ?_, ?_⟩ <;> decide +kernel

/-- a successful call (rain 30 mm + irrigation, bunds of 100 mm, 20 mm ponded) whose inputs
satisfy every hypothesis used above -/
example : ∃ out, infiltration exFn [exCell, exCell] 20 30 10 90 true 100 0 0 true = .ok out ∧
    (∀ c ∈ [exCell, exCell], c.Inv) ∧ (∀ c ∈ [exCell, exCell], c.flux ≤ c.c.ksat) ∧
    (0:ℚ) ≤ 20 ∧ ((20:ℚ) ≤ 100) := by
  obtain ⟨out, h⟩ := infiltration_isOk exFn exCell [exCell] 20 30 10 90 100 0 0 true true
    (fun _ => by norm_num)
  refine ⟨out, h, ?_, ?_, by norm_num, by norm_num⟩
  · intro c hc; simp at hc; rw [hc]; exact exCell_inv
  · intro c hc; simp at hc; rw [hc]; norm_num [exCell, exComp]

end nonvacuous

#print axioms infiltration_balance_lost
#print axioms infiltration_lost_eq_zero
#print axioms infiltration_balance
#print axioms infiltration_inflIn
#print axioms infiltration_frame
#print axioms infiltration_inv
#print axioms infiltration_deepPerc_nonneg
#print axioms infiltration_isOk
#print axioms backUp_storage
#print axioms infLoop_facts

end Aqua
