import AquaVerif.Model.WaterStress
import AquaVerif.Proofs.Basic
/-
Relative depletion `drel` (`Model/WaterStress.lean`): its three branches, its range and its
monotonicity in the depletion.
-/

set_option linter.unusedSectionVars false
namespace Aqua
variable {α : Type} [Field α] [LinearOrder α] [IsStrictOrderedRing α]

theorem ratio_range {a b x : α} (hab : a < b) (h1 : a ≤ x) (h2 : x ≤ b) :
    (0 ≤ (x - a) / (b - a) ∧ (x - a) / (b - a) ≤ 1) ∧
      (0 ≤ (b - x) / (b - a) ∧ (b - x) / (b - a) ≤ 1) :=
  have hd := sub_pos.mpr hab
  ⟨⟨div_nonneg (sub_nonneg.mpr h1) hd.le, (div_le_one hd).mpr (sub_le_sub_right h2 a)⟩,
    ⟨div_nonneg (sub_nonneg.mpr h2) hd.le, (div_le_one hd).mpr (sub_le_sub_left h1 b)⟩⟩

theorem drel_of_le {pUp pLo dr taw : α} (h : dr ≤ pUp * taw) : drel pUp pLo dr taw = 0 := by
  rw [drel, if_pos h]

theorem drel_of_ge {pUp pLo dr taw : α} (h1 : ¬ dr ≤ pUp * taw) (h2 : ¬ dr < pLo * taw) :
    drel pUp pLo dr taw = 1 := by
  rw [drel, if_neg h1, if_neg h2]

/-- in the "partial stress" branch `drel` is the fraction of `[pUp·taw, pLo·taw]` below `dr`
(the two tests of that branch make `(pLo − pUp)·taw` positive, whatever the thresholds) -/
theorem drel_of_mid {pUp pLo dr taw : α} (h1 : ¬ dr ≤ pUp * taw) (h2 : dr < pLo * taw) :
    drel pUp pLo dr taw = (dr - pUp * taw) / (pLo * taw - pUp * taw) := by
  have hpos : 0 < (pLo - pUp) * taw := by
    rw [sub_mul]
    exact sub_pos.mpr ((not_le.mp h1).trans h2)
  have ht : taw ≠ 0 := right_ne_zero_of_mul hpos.ne'
  have hp : pLo - pUp ≠ 0 := left_ne_zero_of_mul hpos.ne'
  rw [drel, if_neg h1, if_pos h2, ← sub_mul]
  field_simp
  ring

theorem drel_range (pUp pLo dr taw : α) :
    0 ≤ drel pUp pLo dr taw ∧ drel pUp pLo dr taw ≤ 1 := by
  by_cases h1 : dr ≤ pUp * taw
  · rw [drel_of_le h1]
    exact ⟨le_refl _, zero_le_one⟩
  · by_cases h2 : dr < pLo * taw
    · rw [drel_of_mid h1 h2]
      exact (ratio_range ((not_le.mp h1).trans h2) (not_le.mp h1).le h2.le).1
    · rw [drel_of_ge h1 h2]
      exact ⟨zero_le_one, le_refl _⟩

theorem drel_mono (pUp pLo taw : α) {dr dr' : α} (hdr : dr ≤ dr') :
    drel pUp pLo dr taw ≤ drel pUp pLo dr' taw := by
  by_cases a1 : dr ≤ pUp * taw
  · rw [drel_of_le a1]
    exact (drel_range pUp pLo dr' taw).1
  · have b1 : ¬ dr' ≤ pUp * taw := fun hc => a1 (le_trans hdr hc)
    by_cases b2 : dr' < pLo * taw
    · have a2 : dr < pLo * taw := lt_of_le_of_lt hdr b2
      rw [drel_of_mid a1 a2, drel_of_mid b1 b2]
      exact div_le_div_of_nonneg_right (sub_le_sub_right hdr _)
        (sub_pos.mpr ((not_le.mp a1).trans a2)).le
    · rw [drel_of_ge b1 b2]
      exact (drel_range pUp pLo dr taw).2

end Aqua
