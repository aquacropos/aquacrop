-- Root of the `AquaVerif` library: model (Mathlib-free), proofs and property theorems.
-- (regenerated by setup.sh: one import per file under Model/, Proofs/, Properties/)
import AquaVerif.Model.Calendar
import AquaVerif.Model.CanopyCover
import AquaVerif.Model.CapillaryRise
import AquaVerif.Model.Clock
import AquaVerif.Model.CropCalendar
import AquaVerif.Model.CropFull
import AquaVerif.Model.CropResp
import AquaVerif.Model.Day
import AquaVerif.Model.Drainage
import AquaVerif.Model.Effects
import AquaVerif.Model.EvapLayer
import AquaVerif.Model.Germination
import AquaVerif.Model.GroundwaterInflow
import AquaVerif.Model.GroundwaterTable
import AquaVerif.Model.GrowthStage
import AquaVerif.Model.GwSeries
import AquaVerif.Model.HIinit
import AquaVerif.Model.HIref
import AquaVerif.Model.HarvestIndex
import AquaVerif.Model.Infiltration
import AquaVerif.Model.InitWC
import AquaVerif.Model.Irrigation
import AquaVerif.Model.Num
import AquaVerif.Model.PreIrrigation
import AquaVerif.Model.PrepareGdd
import AquaVerif.Model.Profile
import AquaVerif.Model.RainPartition
import AquaVerif.Model.Reset
import AquaVerif.Model.Response
import AquaVerif.Model.RootDevelopment
import AquaVerif.Model.RootZone
import AquaVerif.Model.Run
import AquaVerif.Model.RunShape
import AquaVerif.Model.Session
import AquaVerif.Model.SoilBuild
import AquaVerif.Model.SoilEvaporation
import AquaVerif.Model.SoilTexture
import AquaVerif.Model.Transpiration
import AquaVerif.Model.WaterDay
import AquaVerif.Model.WaterStress
import AquaVerif.Model.WeatherBind
import AquaVerif.Model.Yield
import AquaVerif.Proofs.Basic
import AquaVerif.Proofs.Calendar
import AquaVerif.Proofs.CanopyCover
import AquaVerif.Proofs.CanopyCoverReal
import AquaVerif.Proofs.CapillaryRise
import AquaVerif.Proofs.Catalogue
import AquaVerif.Proofs.CatalogueCfg
import AquaVerif.Proofs.CatalogueCrop
import AquaVerif.Proofs.CatalogueDefaults
import AquaVerif.Proofs.CatalogueDerived
import AquaVerif.Proofs.CatalogueExample
import AquaVerif.Proofs.CatalogueSoil
import AquaVerif.Proofs.Clock
import AquaVerif.Proofs.ClockCalendar
import AquaVerif.Proofs.ClockRun
import AquaVerif.Proofs.CropCalendar
import AquaVerif.Proofs.CropFull
import AquaVerif.Proofs.CropFullReal
import AquaVerif.Proofs.Day
import AquaVerif.Proofs.Drainage
import AquaVerif.Proofs.Germination
import AquaVerif.Proofs.GroundwaterInflow
import AquaVerif.Proofs.GroundwaterTable
import AquaVerif.Proofs.GrowthStage
import AquaVerif.Proofs.GwCommon
import AquaVerif.Proofs.GwSeries
import AquaVerif.Proofs.HarvestIndex
import AquaVerif.Proofs.HarvestIndexReal
import AquaVerif.Proofs.Inert
import AquaVerif.Proofs.InertRun
import AquaVerif.Proofs.InertRunExample
import AquaVerif.Proofs.InertRunNeutral
import AquaVerif.Proofs.InertRunProc
import AquaVerif.Proofs.InertRunRel
import AquaVerif.Proofs.Infiltration
import AquaVerif.Proofs.InitWC
import AquaVerif.Proofs.Irrigation
import AquaVerif.Proofs.IrrigationExamples
import AquaVerif.Proofs.ListBasic
import AquaVerif.Proofs.NpSum
import AquaVerif.Proofs.PowSq
import AquaVerif.Proofs.PowSqInstances
import AquaVerif.Proofs.PreIrrigation
import AquaVerif.Proofs.PrepareGdd
import AquaVerif.Proofs.PrepareGddLookahead
import AquaVerif.Proofs.PrepareGddOrder
import AquaVerif.Proofs.PrepareGddTotal
import AquaVerif.Proofs.RainPartition
import AquaVerif.Proofs.RealInstance
import AquaVerif.Proofs.Response
import AquaVerif.Proofs.ResponseMono
import AquaVerif.Proofs.RootDevelopment
import AquaVerif.Proofs.RootDevelopmentReal
import AquaVerif.Proofs.RootZone
import AquaVerif.Proofs.Run
import AquaVerif.Proofs.RunClosed
import AquaVerif.Proofs.RunClosedDay
import AquaVerif.Proofs.RunClosedEs
import AquaVerif.Proofs.RunClosedExample
import AquaVerif.Proofs.RunClosedExampleCfg
import AquaVerif.Proofs.RunClosedRw
import AquaVerif.Proofs.RunClosedTr
import AquaVerif.Proofs.RunForcing
import AquaVerif.Proofs.RunForcingBind
import AquaVerif.Proofs.RunForcingExample
import AquaVerif.Proofs.RunForcingExtend
import AquaVerif.Proofs.RunForcingPrefix
import AquaVerif.Proofs.RunForcingSteps
import AquaVerif.Proofs.RunLift
import AquaVerif.Proofs.RunLiftExample
import AquaVerif.Proofs.RunLiftIrr
import AquaVerif.Proofs.RunLiftSum
import AquaVerif.Proofs.RunTotal
import AquaVerif.Proofs.RunTotalCatalogue
import AquaVerif.Proofs.RunTotalCatalogueExample
import AquaVerif.Proofs.RunTotalDay
import AquaVerif.Proofs.RunTotalExample
import AquaVerif.Proofs.RunTotalProc
import AquaVerif.Proofs.SeasonIndep
import AquaVerif.Proofs.SeasonIndepDay
import AquaVerif.Proofs.SeasonIndepExample
import AquaVerif.Proofs.Seasons
import AquaVerif.Proofs.Session
import AquaVerif.Proofs.SoilBuild
import AquaVerif.Proofs.SoilEvaporation
import AquaVerif.Proofs.SoilTable
import AquaVerif.Proofs.SoilTexture
import AquaVerif.Proofs.SoilTextureReal
import AquaVerif.Proofs.Steps
import AquaVerif.Proofs.Summary
import AquaVerif.Proofs.Sweep
import AquaVerif.Proofs.Totality
import AquaVerif.Proofs.Transpiration
import AquaVerif.Proofs.WaterDay
import AquaVerif.Proofs.WaterStress
import AquaVerif.Proofs.WeatherBind
import AquaVerif.Proofs.Yield
import AquaVerif.Generated.CropFullTable
import AquaVerif.Generated.CropTable
import AquaVerif.Generated.EffectTable
import AquaVerif.Generated.ResetFields
import AquaVerif.Generated.RunDefaults
import AquaVerif.Generated.SoilTable
import AquaVerif.Properties.C01
import AquaVerif.Properties.C01Run
import AquaVerif.Properties.C02
import AquaVerif.Properties.C02Run
import AquaVerif.Properties.C03
import AquaVerif.Properties.C03Run
import AquaVerif.Properties.C04
import AquaVerif.Properties.C04Run
import AquaVerif.Properties.C05
import AquaVerif.Properties.C05Run
import AquaVerif.Properties.C06
import AquaVerif.Properties.C06Run
import AquaVerif.Properties.C07
import AquaVerif.Properties.C07Run
import AquaVerif.Properties.C08
import AquaVerif.Properties.C09
import AquaVerif.Properties.C09Run
import AquaVerif.Properties.C10
import AquaVerif.Properties.C11
import AquaVerif.Properties.C12
import AquaVerif.Properties.C13
import AquaVerif.Properties.C13Run
import AquaVerif.Properties.C14
import AquaVerif.Properties.C14Run
import AquaVerif.Properties.C15
import AquaVerif.Properties.C15Run
import AquaVerif.Properties.C16
import AquaVerif.Properties.C16Run
import AquaVerif.Properties.C17
import AquaVerif.Properties.C18
import AquaVerif.Properties.C19
import AquaVerif.Properties.C19Run
import AquaVerif.Properties.C20
