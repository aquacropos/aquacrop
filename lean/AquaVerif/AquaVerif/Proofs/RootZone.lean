import AquaVerif.Model.RootZone
import AquaVerif.Proofs.Basic
/-
Facts about `rootZoneWater` (`aquacrop/solution/root_zone_water.py`): what a successful call
returns, as formulas in the two loop results, and the range facts that follow from the clamps at
the end of the function — the stored water and the total available water are non-negative and the
depletion stays below the total available water, for *any* profile, water contents and rounding
function (no well-formedness premise is needed).  `firstGE_*`, `rzLoop_*`, `ztLoop_isSome` and
`countLE_*` say when its list helpers return a value (for the totality property C16).
-/

set_option linter.unusedSectionVars false
namespace Aqua
variable {α : Type} [Field α] [LinearOrder α] [IsStrictOrderedRing α]

private theorem clamp0_nonneg (x : α) : 0 ≤ (if x < 0 then 0 else x) := by
  rw [ite_lt_zero_eq_max]; exact le_max_right _ _

/-- The weight of a compartment with bottom `s` and thickness `dz` in a zone of depth `z`: the
fraction of it that lies above `z` (`factor` in `rzLoop`/`ztLoop`, `trRootFact`, `evapFactor`).  It
is at most 1, and non-negative when the compartment starts above `z`. -/
theorem rootFactor_bounds {z s dz : α} (hdz : 0 < dz) :
    (s - z ≤ dz → 0 ≤ (if z < s then 1 - (s - z) / dz else 1)) ∧
      (if z < s then 1 - (s - z) / dz else 1) ≤ 1 := by
  by_cases h : z < s
  · rw [if_pos h]
    exact ⟨fun hs => sub_nonneg.mpr ((div_le_one hdz).mpr hs),
      sub_le_self _ (div_nonneg (sub_nonneg.mpr h.le) hdz.le)⟩
  · rw [if_neg h]
    exact ⟨fun _ => zero_le_one, le_refl _⟩

theorem rzLoop_some_length (F : Fn α) (rd aer : α) : ∀ (n : Nat) (cs : List (Cell α))
    (acc a : RZAcc α), rzLoop F rd aer n cs acc = some a → n ≤ cs.length
  | 0, _, _, _, _ => Nat.zero_le _
  | _+1, [], _, _, h => by simp [rzLoop] at h
  | n+1, _ :: xs, _, a, h => Nat.succ_le_succ (rzLoop_some_length F rd aer n xs _ a h)

theorem firstGE_eq_none_iff (z : α) (cells : List (Cell α)) :
    firstGE z cells = none ↔ ∀ x ∈ cells, x.c.dzsum < z := by
  induction cells with
  | nil => simp [firstGE]
  | cons x xs ih =>
    by_cases h : z ≤ x.c.dzsum
    · simp only [firstGE, h, if_true, List.mem_cons, forall_eq_or_imp]
      constructor
      · intro h'; cases h'
      · rintro ⟨h1, _⟩; exact absurd h (not_le.mpr h1)
    · simp only [firstGE, h, if_false, Option.map_eq_none_iff, ih, List.mem_cons, forall_eq_or_imp]
      exact ⟨fun h' => ⟨not_le.mp h, h'⟩, fun h' => h'.2⟩

theorem firstGE_lt_length (z : α) (cells : List (Cell α)) (k : Nat) (h : firstGE z cells = some k) :
    k < cells.length := by
  induction cells generalizing k with
  | nil => simp [firstGE] at h
  | cons x xs ih =>
    by_cases hz : z ≤ x.c.dzsum
    · simp only [firstGE, hz, if_true, Option.some.injEq] at h
      subst h; simp
    · simp only [firstGE, hz, if_false, Option.map_eq_some_iff] at h
      obtain ⟨j, hj, rfl⟩ := h
      have := ih j hj
      simp only [List.length_cons]; omega

theorem rzLoop_isSome (F : Fn α) (rd aer : α) (n : Nat) (cells : List (Cell α)) (a : RZAcc α)
    (h : n ≤ cells.length) : ∃ a', rzLoop F rd aer n cells a = some a' := by
  induction n generalizing cells a with
  | zero => exact ⟨a, by simp [rzLoop]⟩
  | succ n ih =>
    cases cells with
    | nil => simp at h
    | cons x xs =>
      simp only [rzLoop]
      exact ih xs _ (by simpa using h)

theorem ztLoop_isSome (zt : α) (n : Nat) (cells : List (Cell α)) (a : α × α × α)
    (h : n ≤ cells.length) : ∃ a', ztLoop zt n cells a = some a' := by
  induction n generalizing cells a with
  | zero => exact ⟨a, by simp [ztLoop]⟩
  | succ n ih =>
    cases cells with
    | nil => simp at h
    | cons x xs =>
      obtain ⟨a1, a2, a3⟩ := a
      simp only [ztLoop]
      exact ih xs _ (by simpa using h)

theorem countLE_le_length (z : α) (cells : List (Cell α)) : countLE z cells ≤ cells.length := by
  induction cells with
  | nil => simp [countLE]
  | cons x xs ih =>
    simp only [countLE, List.length_cons]
    split_ifs <;> omega

theorem countLE_eq_zero_iff (z : α) (cells : List (Cell α)) :
    countLE z cells = 0 ↔ ∀ x ∈ cells, ¬ x.c.dzsum ≤ z := by
  induction cells with
  | nil => simp [countLE]
  | cons x xs ih =>
    simp only [countLE, List.mem_cons, forall_eq_or_imp]
    by_cases h : x.c.dzsum ≤ z
    · simp only [h, if_true, not_true_eq_false, false_and, iff_false]; omega
    · simp only [h, if_false, Nat.zero_add, ih, not_false_eq_true, true_and]

/-- `a` are the sums of the root-zone loop, which runs down to the first compartment reaching the
rooting depth `rd`; `zt = (WrAct, WrFC, WrWP)` are the top-soil sums: those of the root zone when the
top soil is not shallower than the root zone, and otherwise the result of the top-soil loop. -/
theorem rootZoneWater_ok_inv {F : Fn α} {cells : List (Cell α)} {zRoot zTop zMin aer : α}
    {r : RZ α} (h : rootZoneWater F cells zRoot zTop zMin aer = some r) :
    ∃ rd k a zt, rd = F.round2 (pmax zRoot zMin) ∧ firstGE rd cells = some k ∧
      rzLoop F rd aer (k + 1) cells ⟨0, 0, 0, 0, 0, 0⟩ = some a ∧
      (¬ zTop < rd ∧ zt = (a.act, a.fc, a.wp) ∨
        zTop < rd ∧ countLE (F.pyRound2 zTop) cells ≠ 0 ∧
          ztLoop (F.pyRound2 zTop) (countLE (F.pyRound2 zTop) cells) cells (0, 0, 0) = some zt) ∧
      r = { wrAct := if a.act < 0 then 0 else a.act
            drZt := pmin (zt.2.1 - if zt.1 < 0 then 0 else zt.1) (pmax (zt.2.1 - zt.2.2) 0)
            drRz := pmin (a.fc - if a.act < 0 then 0 else a.act) (pmax (a.fc - a.wp) 0)
            tawZt := pmax (zt.2.1 - zt.2.2) 0
            tawRz := pmax (a.fc - a.wp) 0
            thAct := (if a.act < 0 then 0 else a.act) / (rd * 1000)
            thS := a.s / (rd * 1000)
            thFC := a.fc / (rd * 1000)
            thWP := a.wp / (rd * 1000)
            thDry := a.dry / (rd * 1000)
            thAer := a.aer / (rd * 1000) } := by
  unfold rootZoneWater at h
  simp only [] at h
  split at h
  · cases h
  rename_i k hk
  split at h
  · cases h
  rename_i a ha
  refine ⟨F.round2 (pmax zRoot zMin), k, a, ?_⟩
  by_cases hz : zTop < F.round2 (pmax zRoot zMin)
  · simp only [hz, if_true] at h
    by_cases hn : countLE (F.pyRound2 zTop) cells = 0
    · simp only [hn, if_true] at h; cases h
    simp only [hn, if_false] at h
    split at h
    · cases h
    rename_i act fc wp hzt
    simp only [Option.some.injEq] at h
    exact ⟨_, rfl, hk, ha, Or.inr ⟨hz, hn, hzt⟩, h.symm⟩
  · simp only [hz, if_false, Option.some.injEq] at h
    exact ⟨_, rfl, hk, ha, Or.inl ⟨hz, rfl⟩, h.symm⟩

theorem rootZoneWater_ranges (F : Fn α) (cells : List (Cell α)) (zRoot zTop zMin aer : α)
    (r : RZ α) (h : rootZoneWater F cells zRoot zTop zMin aer = some r) :
    0 ≤ r.wrAct ∧ 0 ≤ r.tawRz ∧ 0 ≤ r.tawZt ∧ r.drRz ≤ r.tawRz ∧ r.drZt ≤ r.tawZt := by
  obtain ⟨rd, k, a, zt, -, -, -, -, rfl⟩ := rootZoneWater_ok_inv h
  simp only [pmax_eq, pmin_eq]
  exact ⟨clamp0_nonneg _, le_max_right _ _, le_max_right _ _, min_le_right _ _, min_le_right _ _⟩

theorem rootZoneWater_tawRz_nonneg (F : Fn α) (cells : List (Cell α)) (zRoot zTop zMin aer : α)
    (r : RZ α) (h : rootZoneWater F cells zRoot zTop zMin aer = some r) : 0 ≤ r.tawRz :=
  (rootZoneWater_ranges F cells zRoot zTop zMin aer r h).2.1

theorem rootZoneWater_tawZt_nonneg (F : Fn α) (cells : List (Cell α)) (zRoot zTop zMin aer : α)
    (r : RZ α) (h : rootZoneWater F cells zRoot zTop zMin aer = some r) : 0 ≤ r.tawZt :=
  (rootZoneWater_ranges F cells zRoot zTop zMin aer r h).2.2.1

theorem rootZoneWater_drRz_le_taw (F : Fn α) (cells : List (Cell α)) (zRoot zTop zMin aer : α)
    (r : RZ α) (h : rootZoneWater F cells zRoot zTop zMin aer = some r) : r.drRz ≤ r.tawRz :=
  (rootZoneWater_ranges F cells zRoot zTop zMin aer r h).2.2.2.1

theorem rootZoneWater_drZt_le_taw (F : Fn α) (cells : List (Cell α)) (zRoot zTop zMin aer : α)
    (r : RZ α) (h : rootZoneWater F cells zRoot zTop zMin aer = some r) : r.drZt ≤ r.tawZt :=
  (rootZoneWater_ranges F cells zRoot zTop zMin aer r h).2.2.2.2

end Aqua
