import AquaVerif.Proofs.CatalogueCfg
import AquaVerif.Proofs.PrepareGddOrder
import AquaVerif.Proofs.PrepareGddTotal

/-
Property C05 above the single processes: the envelope on every simulated day of every run
(`run_crop_envelope` and its closed and catalogue forms), the parameter premises over the crop
catalogue, and the thermal and converted crop calendars.  The one-day theorems about `canopy_cover`,
`root_development`, the harvest index, `biomass_accumulation` and `growing_degree_day` are in
`Properties/C05.lean`, which `Proofs/Day.lean` and the run-level lemma files cite.
-/

set_option linter.unusedSectionVars false
namespace Aqua.C05
open Aqua
variable {α : Type} [Field α] [LinearOrder α] [IsStrictOrderedRing α]

/-! ### every simulated day of every run -/

/-- **Run level.** The crop envelope `CropInv` (0 ≤ CC ≤ CC_ns ≤ CCx, adjusted covers ≤ 1, rooting
depth within [Zmin, Zmax] and below the layer-limited potential, HI ≤ HI0, HIadj ≤ (1+dHI0/100)·HI,
0 ≤ B ≤ B_ns, …) holds on every reachable state and on every simulated day of every run, through
the season-start resets — by induction over the run; the per-day hypotheses that are not
discharged from the previous day (`DayCropOK`: rewatering cap, yield-formation switch, Tr ≤
TrPot_ns, ET0 > 0) are explicit. -/
theorem run_crop_envelope {F : Fn α} {T : TrigFn α} {cfg : RunCfg α} {s : RunState α}
    (hr : RunReach F T cfg s) (hs0 : -1 ≤ cfg.clock.season0)
    (h0 : CropInv F (paramsOf cfg cfg.clock.season0 false) cfg.init)
    (hreset : ∀ k, ResetCropOK (cfg.seasonCrop k))
    (hOK : ∀ d ∈ s.daysRev, DayCropOK F T d) :
    -1 ≤ s.season ∧ CropInv F (paramsOf cfg s.season false) s.day ∧
      ∀ d ∈ s.daysRev, CropInv F d.P d.st ∧ CropInv F d.P d.r.state :=
  run_cropInv hr hs0 h0 hreset hOK

/-! ### the crop catalogue satisfies the parameter premises (generated from `crop_params.py` + `crop.py` on every run) -/

section catalogue

/-- Every crop that `crop_params.py` defines satisfies `CropFullOK`: the raw-parameter premises of
the C05 theorems (root parameters well-formed, `0 < CC0`, `0 < CCx ≤ 1`, `0 ≤ CDC`,
`CC0 ≤ CCx·(1 − CGC·dtMax)`, `0 < HIini < HI0`, `b_HI` switched off or ≥ 1, `0 ≤ 1 + dHI0/100`,
ordered thresholds, `0 ≤ WPy ≤ 100`, `0 ≤ WP`, `Tbase ≤ Tupp`, …) other than those of
`catalogue_premise_exceptions` and `canopyDevEnd_exceptions`. -/
theorem catalogue_crops_satisfy_parameter_premises :
    ∀ c ∈ Aqua.Generated.cropFullTable, CropFullOK c := catalogue_ok

/-- Three parameter premises that do NOT hold for the whole catalogue, each with the exact list of
crops violating it. -/
theorem catalogue_premise_exceptions : ∀ c ∈ Aqua.Generated.cropFullTable,
    (c.LeafyOK ↔ c.name ∉ ["SugarCane"]) ∧
    (c.LagLe3 ↔ c.name ∉ ["PaddyRice", "PaddyRiceGDD", "localpaddy"]) ∧
    (c.YldWCOK ↔ c.name ∉ ["PotatoLocalGDD", "localpaddy", "MaizeChampionGDD", "Cassava"]) :=
  catalogue_exceptions

/-- The root record of every crop that `crop_params.py` defines is well-formed
(`0 ≤ Zmin ≤ Zmax`, `PctZmin ≤ 100`, `0 < fshape_r`). -/
theorem catalogue_root_parameters_wellformed (K : CropDerived α) :
    ∀ c ∈ Aqua.Generated.cropFullTable, (c.rdCrop K).WF :=
  fun c hc => rdCrop_wf (catalogue_ok c hc)

/-- Every crop that `crop_params.py` defines satisfies `ResetCropOK` (`0 ≤ CC0`, `0 ≤ CCx`,
`0 ≤ HI0`, `-0.004 ≤ HIini`), the premise under which the state `reset_initial_conditions` leaves at
a season start is inside the crop's envelope (`resetState_cropInv`). -/
theorem catalogue_reset_inside_envelope (K : CropDerived α) :
    ∀ c ∈ Aqua.Generated.cropFullTable, ResetCropOK (c.cropParams K) :=
  fun c hc => resetCropOK_of_ok (catalogue_ok c hc)

/-- One day (or one day's degree days) of unrestricted growth from CC0 stays below CCx for every
catalogue crop: the premise `CcCropPre` of the canopy envelope, from the laws of exp alone. -/
theorem catalogue_canopy_growth_step_below_ccx {F : Fn α} (hF : ExpOrdLaws F) (hG : ExpGeomLaw F)
    (K : CropDerived α) :
    ∀ c ∈ Aqua.Generated.cropFullTable, ∀ P : DayParams α, P.cx = c.cropX K → CcCropPre F P :=
  fun c hc _ hP => ccCropPre_of_ok hP (catalogue_ok c hc) hF hG

/-- `run_crop_envelope` with `hreset` discharged: every season's crop is a catalogue crop. -/
theorem run_crop_envelope_catalogue {F : Fn α} {T : TrigFn α} {cfg : RunCfg α} {s : RunState α}
    (hr : RunReach F T cfg s) (hs0 : -1 ≤ cfg.clock.season0)
    (h0 : CropInv F (paramsOf cfg cfg.clock.season0 false) cfg.init)
    (hcrop : ∀ k, ∃ c ∈ Aqua.Generated.cropFullTable, ∃ K : CropDerived α,
      cfg.seasonCrop k = c.cropParams K)
    (hOK : ∀ d ∈ s.daysRev, DayCropOK F T d) :
    -1 ≤ s.season ∧ CropInv F (paramsOf cfg s.season false) s.day ∧
      ∀ d ∈ s.daysRev, CropInv F d.P d.st ∧ CropInv F d.P d.r.state :=
  run_cropInv hr hs0 h0
    (fun k => by
      obtain ⟨c, hc, K, e⟩ := hcrop k
      rw [e]; exact catalogue_reset_inside_envelope K c hc) hOK
end catalogue

/-! ### run level, per-day premises discharged (`Proofs/RunClosed*.lean`) -/

section closed

/-- **Run level, closed.** The C05 envelope `CropEnv` (canopy, roots, harvest index, `0 ≤ B`) in
every reachable state and at the start/end of every simulated day, `ccx_act ≤ CCx` on every day
(rewatering days included), harvest index and biomass non-decreasing within a season — premises
on configuration and weather only, plus the capillary-rise residual. -/
theorem run_crop_envelope_closed {F : Fn α} {T : TrigFn α} {cfg : RunCfg α} {s : RunState α}
    {A : α} (hC : CfgOK F T cfg) (hT : CfgTrOK F cfg A) (hJ : CfgRwOK F cfg)
    (hW : WeatherOK F cfg) (hr : RunReach F T cfg s) (hR : ∀ d ∈ s.daysRev, ResidualW d) :
    (-1 ≤ s.season ∧ CropEnv F (paramsOf cfg s.season false) s.day ∧ RunInvT cfg A s ∧
        RunInvJ F cfg s) ∧
      ∀ d ∈ s.daysRev, CropEnv F d.P d.st ∧ CropEnv F d.P d.r.state ∧
        d.r.state.ccxAct ≤ d.P.cx.cc.ccx ∧ 0 ≤ d.r.flux.trPot ∧
        (d.D.gs = true → d.st.hi ≤ d.r.state.hi ∧ d.st.biomass ≤ d.r.state.biomass ∧
          0 ≤ d.r.flux.tr ∧ d.r.flux.tr ≤ d.r.flux.trPot) ∧
        (0 ≤ d.st.ccxW ∧ d.st.ccxW ≤ d.P.cx.cc.ccx) :=
  (run_crop_closed hC hT hJ hW hr hR).imp_right fun hdays d hd =>
    have h := hdays d hd
    ⟨h.env, h.envOut, h.ccx, h.trPot, h.inSeason, h.ccxW0, h.ccxW1⟩

/-- the full `CropInv` (with `B ≤ B_ns`) needs `TrPot ≤ TrPot_ns` in addition — which is false
inside the envelope (`RunClosedExample.trPot_gt_trPotNS`) and stays a hypothesis (`ResidualNS`) -/
theorem run_crop_envelope_full_closed {F : Fn α} {T : TrigFn α} {cfg : RunCfg α}
    {s : RunState α} {A : α} (hC : CfgOK F T cfg) (hT : CfgTrOK F cfg A) (hJ : CfgRwOK F cfg)
    (hW : WeatherOK F cfg) (hr : RunReach F T cfg s) (hR : ∀ d ∈ s.daysRev, ResidualNS d) :
    -1 ≤ s.season ∧ CropInv F (paramsOf cfg s.season false) s.day ∧
      ∀ d ∈ s.daysRev, CropInv F d.P d.st ∧ CropInv F d.P d.r.state := by
  obtain ⟨_, hdays⟩ := run_crop_closed hC hT hJ hW hr (fun d hd => (hR d hd).cr)
  apply run_cropInv_closed hC hW hr
  intro d hd
  have h := hdays d hd
  exact ⟨(hR d hd).cr, fun _ => h.ccx, fun hg => ⟨h.trPot, (hR d hd).trNS hg⟩⟩

/-- same conclusion as `run_crop_envelope`, hypotheses `CfgOK`, `WeatherOK`, `Residual` -/
theorem run_crop_envelope_of_residual {F : Fn α} {T : TrigFn α} {cfg : RunCfg α}
    {s : RunState α} (hC : CfgOK F T cfg) (hW : WeatherOK F cfg) (hr : RunReach F T cfg s)
    (hR : ∀ d ∈ s.daysRev, Residual d) :
    -1 ≤ s.season ∧ CropInv F (paramsOf cfg s.season false) s.day ∧
      ∀ d ∈ s.daysRev, CropInv F d.P d.st ∧ CropInv F d.P d.r.state :=
  run_cropInv_closed hC hW hr hR
end closed

/-! ### degree days counted for the crop calendar -/

section calendarGdd

/-- given `Tbase ≤ Tupp`, the degree-day series from which the thermal calendar is derived (at
initialisation and at every season start) lie in `[0, Tupp − Tbase]` day by day, and the running sum
of the season-start series never decreases -/
theorem calendar_degree_days_in_range (m : GddMethod) {tbase tupp : α} (h : tbase ≤ tupp)
    (temps : List (α × α)) :
    (∀ g ∈ gddSeriesInit m tbase tupp temps, 0 ≤ g ∧ g ≤ tupp - tbase) ∧
    (∀ g ∈ gddSeriesReset m tbase tupp temps, 0 ≤ g ∧ g ≤ tupp - tbase) ∧
    (cumsum (gddSeriesReset m tbase tupp temps)).Pairwise (· ≤ ·) :=
  ⟨gddSeriesInit_range m h temps, gddSeriesReset_range m h temps,
    cumsum_pairwise (fun g hg => (gddSeriesReset_range m h temps g hg).1)⟩

/-- the derived calendar is ordered: 1 ≤ start of yield formation ≤ its end ≤ maturity < 365 days —
given `0 ≤ YldForm` and `HIstart + YldForm ≤ Maturity` of the input calendar -/
theorem thermal_calendar_ordered {F : Fn α} {c : CalGDDIn α} {temps : List (α × α)}
    {o : CalGDDOut α} (h : calendarInit F c temps = .ok o) (hy : 0 ≤ c.yldForm)
    (hm : c.hiStart + c.yldForm ≤ c.maturity) :
    1 ≤ o.days.hiStartCD ∧ o.days.hiStartCD ≤ o.days.hiEndCD ∧
    o.days.hiEndCD ≤ o.days.maturityCD ∧ o.days.maturityCD < 365 ∧ 0 ≤ o.days.yldFormCD := by
  obtain ⟨m, _, hd⟩ := calendarInit_days h
  exact calendarDays_order hd (le_add_of_nonneg_right hy) hm

/-- the six order relations of the converted calendar (emergence ≤ max canopy ≤ senescence ≤ maturity,
start ≤ end of yield formation ≤ maturity), each under the order of the calendar-day positions it was
read at, for mean and median alike and any number of seasons -/
theorem converted_calendar_order_relations {F : Fn α} {toInt : α → Int} {c : CalCDIn α} {m : Nat}
    {tbase tupp oldYF oldFD : α} {hasCol : Bool} {sumFun : Nat} {rows : List (Option Nat × α × α)}
    {r : CalSwitchOut α} (hsf : sumFun = 0 ∨ sumFun = 1) (htb : tbase ≤ tupp)
    (h : calendarInitCDSwitch F toInt c m tbase tupp hasCol sumFun oldYF oldFD rows = .ok r) :
    (0 ≤ toInt c.emergenceCD → toInt c.emergenceCD ≤ toInt r.cal.maxCanopyCD →
      r.cal.emergence ≤ r.cal.maxCanopy) ∧
    (0 ≤ toInt r.cal.maxCanopyCD → toInt r.cal.maxCanopyCD ≤ toInt c.senescenceCD →
      r.cal.maxCanopy ≤ r.cal.senescence) ∧
    (0 ≤ toInt c.emergenceCD → toInt c.emergenceCD ≤ toInt c.senescenceCD →
      r.cal.emergence ≤ r.cal.senescence) ∧
    (0 ≤ toInt c.senescenceCD → toInt c.senescenceCD ≤ toInt c.maturityCD →
      r.cal.senescence ≤ r.cal.maturity) ∧
    (0 ≤ toInt c.hiStartCD → toInt c.hiStartCD ≤ toInt r.cal.hiEndCD →
      r.cal.hiStart ≤ r.cal.hiEnd) ∧
    (0 ≤ toInt r.cal.hiEndCD → toInt r.cal.hiEndCD ≤ toInt c.maturityCD →
      r.cal.hiEnd ≤ r.cal.maturity) := by
  obtain ⟨mth, g, _, hg, rfl⟩ := calendarInitCDSwitch_ok h
  have hnn : ∀ q ∈ switchRows mth tbase tupp rows, 0 ≤ q.2 := by
    intro q hq
    obtain ⟨q0, _, rfl⟩ := List.mem_map.mp hq
    exact (gddDayInit_range mth htb q0.2.1 q0.2.2).1
  exact ⟨prepareGdd_mono' hsf hnn hg (a := .emergence) (b := .maxCanopy),
    prepareGdd_mono' hsf hnn hg (a := .maxCanopy) (b := .senescence),
    prepareGdd_mono' hsf hnn hg (a := .emergence) (b := .senescence),
    prepareGdd_mono' hsf hnn hg (a := .senescence) (b := .maturity),
    prepareGdd_mono' hsf hnn hg (a := .hiStart) (b := .hiEnd),
    prepareGdd_mono' hsf hnn hg (a := .hiEnd) (b := .maturity)⟩

/-- **calendar-day crop converted to thermal time** (`SwitchGDD = 1`, `compute_crop_calendar` +
`prepare_gdd`, summary `'mean'`): the converted thresholds keep the order of the calendar-day
positions they were read at.  `toInt` is Python's `int(·)`; no law of `F` is used, and neither is
the premise `hn` (fewer than 8 seasons in the window): `converted_calendar_ordered_any_seasons`. -/
theorem converted_calendar_ordered {F : Fn α} {toInt : α → Int} {c : CalCDIn α} {m : Nat}
    {tbase tupp oldYF oldFD : α} {hasCol : Bool} {rows : List (Option Nat × α × α)}
    {r : CalSwitchOut α} (htb : tbase ≤ tupp)
    (hn : (uniqLabels (rows.map (·.1))).length < 8)
    (h : calendarInitCDSwitch F toInt c m tbase tupp hasCol 0 oldYF oldFD rows = .ok r)
    (h0 : 0 ≤ toInt c.emergenceCD) (h1 : toInt c.emergenceCD ≤ toInt c.senescenceCD)
    (h2 : toInt c.senescenceCD ≤ toInt c.maturityCD) :
    r.cal.emergence ≤ r.cal.senescence ∧ r.cal.senescence ≤ r.cal.maturity :=
  let o := converted_calendar_order_relations (Or.inl rfl) htb h
  ⟨o.2.2.1 h0 h1, o.2.2.2.1 (le_trans h0 h1) h2⟩

/-- The same without `hn`, for any number of seasons in the window (numpy's pairwise / eight-lane
summation equals the plain sum over a field: `npSum_eq_sum`), summary `'mean'`. -/
theorem converted_calendar_ordered_any_seasons {F : Fn α} {toInt : α → Int} {c : CalCDIn α} {m : Nat}
    {tbase tupp oldYF oldFD : α} {hasCol : Bool} {rows : List (Option Nat × α × α)}
    {r : CalSwitchOut α} (htb : tbase ≤ tupp)
    (h : calendarInitCDSwitch F toInt c m tbase tupp hasCol 0 oldYF oldFD rows = .ok r)
    (h0 : 0 ≤ toInt c.emergenceCD) (h1 : toInt c.emergenceCD ≤ toInt c.senescenceCD)
    (h2 : toInt c.senescenceCD ≤ toInt c.maturityCD) :
    r.cal.emergence ≤ r.cal.senescence ∧ r.cal.senescence ≤ r.cal.maturity :=
  let o := converted_calendar_order_relations (Or.inl rfl) htb h
  ⟨o.2.2.1 h0 h1, o.2.2.2.1 (le_trans h0 h1) h2⟩

/-- … and for summary `'median'` (sorting keeps pointwise order, `sortAsc_forall₂`, so `np.median`
is monotone, `gddNpMedian_mono`), any number of seasons. -/
theorem converted_calendar_ordered_median {F : Fn α} {toInt : α → Int} {c : CalCDIn α} {m : Nat}
    {tbase tupp oldYF oldFD : α} {hasCol : Bool} {rows : List (Option Nat × α × α)}
    {r : CalSwitchOut α} (htb : tbase ≤ tupp)
    (h : calendarInitCDSwitch F toInt c m tbase tupp hasCol 1 oldYF oldFD rows = .ok r)
    (h0 : 0 ≤ toInt c.emergenceCD) (h1 : toInt c.emergenceCD ≤ toInt c.senescenceCD)
    (h2 : toInt c.senescenceCD ≤ toInt c.maturityCD) :
    r.cal.emergence ≤ r.cal.senescence ∧ r.cal.senescence ≤ r.cal.maturity :=
  let o := converted_calendar_order_relations (Or.inr rfl) htb h
  ⟨o.2.2.1 h0 h1, o.2.2.2.1 (le_trans h0 h1) h2⟩

/-- … with a single season in the window the converted threshold of every stage IS the cumulative
growing degrees at its calendar-day position (mean and median alike). -/
theorem converted_calendar_single_season {toInt : α → Int} {cropType : Nat} {hasCol : Bool}
    {sumFun : Nat} {s : GddStagesIn α} {old g : GddStages α} {rows : List (Option Nat × α)} {k : Option Nat}
    (h : prepareGdd toInt cropType hasCol sumFun s old rows = .ok g)
    (hk : uniqLabels (rows.map (·.1)) = [k]) (hs : sumFun = 0 ∨ sumFun = 1) (a : Stage) :
    iloc (cumsum (seasonGdd rows k)) (toInt (a.cd s)) = some (a.val g) :=
  prepareGdd_single_season h hk hs a

/-- **round trip of a converted threshold** (single season, non-negative daily growing degrees): the thermal
threshold `prepare_gdd` stores for a stage read at calendar-day position `i = int(stageCD) ≥ 0` is, by the Mode-2
search (`firstAbove` = first position with cumulative growing degrees STRICTLY above the threshold), first exceeded at
position `i + 1`, provided day `i + 1` has positive growing degrees: the converted calendar reproduces the calendar
day it came from plus one. -/
theorem converted_threshold_round_trips {toInt : α → Int} {cropType : Nat} {hasCol : Bool} {sumFun : Nat}
    {s : GddStagesIn α} {old g : GddStages α} {rows : List (Option Nat × α)} {k : Option Nat}
    (h : prepareGdd toInt cropType hasCol sumFun s old rows = .ok g)
    (hk : uniqLabels (rows.map (·.1)) = [k]) (hs : sumFun = 0 ∨ sumFun = 1) (a : Stage)
    (hg : ∀ r ∈ rows, 0 ≤ r.2) (ha : 0 ≤ toInt (a.cd s))
    (hi : (toInt (a.cd s)).toNat + 1 < (seasonGdd rows k).length)
    (hpos : 0 < (seasonGdd rows k)[(toInt (a.cd s)).toNat + 1]) :
    firstAbove (cumsum (seasonGdd rows k)) (a.val g) = (toInt (a.cd s)).toNat + 1 := by
  have h1 := prepareGdd_single_season h hk hs a
  rw [iloc_of_nonneg ha] at h1
  obtain ⟨t, h0, h2⟩ := firstAbove_cumsum_succ hi (seasonGdd_nonneg hg k) hpos
  rw [h0] at h1
  cases h1
  exact h2

/-- **Finding (modelled faithfully, proved of the model).**  After a successful conversion the
calendar type is 2 but `YldForm` and the flowering length still hold their *calendar-day* values
(`prepare_gdd` stores the converted lengths under the attribute names `YieldFormation` /
`FloweringDuration`, which nothing reads). -/
theorem converted_calendar_keeps_day_valued_lengths {F : Fn α} {toInt : α → Int} {c : CalCDIn α}
    {m : Nat} {tbase tupp oldYF oldFD : α} {hasCol : Bool} {sumFun : Nat}
    {rows : List (Option Nat × α × α)} {r : CalSwitchOut α}
    (h : calendarInitCDSwitch F toInt c m tbase tupp hasCol sumFun oldYF oldFD rows = .ok r) :
    r.cal.yldForm = c.yldFormCD ∧ r.cal.floweringCD = c.floweringCD ∧ r.calendarType = 2 ∧
    r.cal.hiEndCD = c.hiStartCD + c.yldFormCD := by
  obtain ⟨m, g, _, _, rfl⟩ := calendarInitCDSwitch_ok h
  have hfl := calendarInitCD_floweringCD_kept (calendarInitCD_noSwitch_ok F c)
  exact ⟨rfl, hfl, rfl, rfl⟩
end calendarGdd

/-! ### run level, catalogue configurations (`Proofs/Catalogue*.lean`): every hypothesis is membership in a table
regenerated from the sources, a fact about initialisation outputs, or a premise on the weather -/

section catalogueRun
open Aqua.Response Aqua.HarvestIndexReal Aqua.Generated

/-- **Run level, catalogue configurations.** The C05 envelope in every reachable state and at both
ends of every simulated day, `ccx_act ≤ CCx`, harvest index and biomass non-decreasing within a
season, for every run of every catalogue configuration with `ET0 > 0` (with a water table: under
`ResidualW`). -/
theorem catalogue_run_crop_envelope {cfg : RunCfg ℝ} {s : RunState ℝ} (h : CatCfg cfg)
    (het : ∀ t, 0 < (cfg.weather t).et0) (hr : RunReach realFn realTrig cfg s)
    (hR : ∀ d ∈ s.daysRev, ResidualW d) :
    (-1 ≤ s.season ∧ CropEnv realFn (paramsOf cfg s.season false) s.day ∧
        RunInvT cfg ((ageMax : ℚ) : ℝ) s ∧ RunInvJ realFn cfg s) ∧
      ∀ d ∈ s.daysRev, CropEnv realFn d.P d.st ∧ CropEnv realFn d.P d.r.state ∧
        d.r.state.ccxAct ≤ d.P.cx.cc.ccx ∧ 0 ≤ d.r.flux.trPot ∧
        (d.D.gs = true → d.st.hi ≤ d.r.state.hi ∧ d.st.biomass ≤ d.r.state.biomass ∧
          0 ≤ d.r.flux.tr ∧ d.r.flux.tr ≤ d.r.flux.trPot) ∧
        (0 ≤ d.st.ccxW ∧ d.st.ccxW ≤ d.P.cx.cc.ccx) :=
  (Aqua.catalogue_run_crop_envelope h het hr hR).imp_right fun hdays d hd =>
    have h := hdays d hd
    ⟨h.env, h.envOut, h.ccx, h.trPot, h.inSeason, h.ccxW0, h.ccxW1⟩

/-- the catalogue crops for which `CanopyDevEnd ≤ Senescence` (premise of the rewatering cap)
fails on raw parameters -/
theorem canopyDevEnd_exceptions : ∀ c ∈ cropFullTable,
    (c.DevEndOK ↔ c.name ∉ ["Barley", "BarleyGDD", "PaddyRice", "PaddyRiceGDD"]) :=
  fun c hc => (catalogue_rowOK c hc).2.2.2.2.2.2.2.2.1
end catalogueRun

end Aqua.C05
