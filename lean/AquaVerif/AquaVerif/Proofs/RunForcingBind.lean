import AquaVerif.Properties.C14
import AquaVerif.Properties.C15
import AquaVerif.Proofs.RunForcingPrefix
/-
**Binding (property C15) on the full run model**: the implementation's
weather handling (`Model/WeatherBind.lean`: `weatherMatrix` = `read_weather_inputs` + the matrix
line of `_initialize`; `dayRow` = `_weather[time_step_counter]`; `dayVars` = positions 0..3 of the
row) connected to `RunCfg.weather`.

* `weatherOfMatrix dflt m t` — the `Weather` record of day `t`: `dayVars (dayRow m t)` with the
  four numeric cells unwrapped.  `RunCfg.weather` is total, so a value `dflt` stands where the
  Python would raise (row `t` missing: `IndexError`; fewer than four columns; a non-numeric cell).
  `MatrixOK m n` says that this does not happen on the rows `t < n − 1` the run reads, and
  **`C15.run_default_never_observed`** shows that `dflt` is then never observed — no default is papered
  over.
* `cfgOfMatrix cfg dflt m` — the configuration whose weather is read from the matrix `m`;
  `runOfTable` — `weatherMatrix`, then `runInit`, then `run_model(num_steps = k)`.
* **`run_binding_invariant`**: two tables on which the set-up computes the same thing
  (`SameBinding`) give the same run — same set-up error, same run error, or the same final state
  with all day records; `sameBinding_perm_columns`, `sameBinding_extra_columns`,
  `sameBinding_reindex`, `sameBinding_extra_rows` restate `C15.impl_perm_columns`,
  `C15.impl_extra_columns`, `C15.impl_reindex` and `C14.impl_outside_window_irrelevant`.
* `C14.run_no_lookahead_tables_input`: C14 through the binding — two tables that agree on their first `j` rows give
  runs with the same records on the first `q` days, `q` = number of in-window rows among them.
* `weatherOfMatrix_row`: row `t` of the matrix is bound to day `t` by *position* (the premise under
  which this is the row dated `start + t` is `C15.impl_rows_by_date`).
-/

set_option linter.unusedSectionVars false
namespace Aqua
open Aqua.Clock Aqua.WeatherBind Aqua.RunShape
variable {α : Type} [Field α] [LinearOrder α] [IsStrictOrderedRing α]

/-! ## 1. from the matrix to `RunCfg.weather` -/

/-- the four variables of a day as numbers (`dflt` if a cell is not a number) -/
def cellsWeather (dflt : Weather α) : DayWeather (WCell α) → Weather α
  | ⟨.num a, .num b, .num c, .num d⟩ => { tmin := a, tmax := b, rain := c, et0 := d }
  | _ => dflt

/-- `dayVars (dayRow m t)` as a `Weather` record -/
def weatherOfMatrix (dflt : Weather α) (m : List (List (WCell α))) (t : Nat) : Weather α :=
  match dayRow m t with
  | .error _ => dflt
  | .ok r =>
    match dayVars r with
    | .error _ => dflt
    | .ok v => cellsWeather dflt v

/-- the configuration that reads its weather from the matrix `m` -/
def cfgOfMatrix (cfg : RunCfg α) (dflt : Weather α) (m : List (List (WCell α))) : RunCfg α :=
  { cfg with weather := weatherOfMatrix dflt m }

/-- the rows the run reads (`t < n − 1`) exist and start with four numbers -/
def MatrixOK (m : List (List (WCell α))) (n : Nat) : Prop :=
  ∀ t, t + 2 ≤ n → ∃ a b c d rest, m[t]? = some (.num a :: .num b :: .num c :: .num d :: rest)

theorem weatherOfMatrix_row (dflt : Weather α) {m : List (List (WCell α))} {t : Nat} {a b c d : α}
    {rest : List (WCell α)} (h : m[t]? = some (.num a :: .num b :: .num c :: .num d :: rest)) :
    weatherOfMatrix dflt m t = { tmin := a, tmax := b, rain := c, et0 := d } := by
  unfold weatherOfMatrix dayRow
  rw [h]
  rfl

theorem weatherOfMatrix_default {m : List (List (WCell α))} {n : Nat} (hm : MatrixOK m n)
    (d1 d2 : Weather α) {t : Nat} (ht : t + 2 ≤ n) :
    weatherOfMatrix d1 m t = weatherOfMatrix d2 m t := by
  obtain ⟨a, b, c, d, rest, h⟩ := hm t ht
  rw [weatherOfMatrix_row d1 h, weatherOfMatrix_row d2 h]

theorem weatherOfMatrix_congr (dflt : Weather α) {m m' : List (List (WCell α))} {t : Nat}
    (h : m[t]? = m'[t]?) : weatherOfMatrix dflt m t = weatherOfMatrix dflt m' t := by
  unfold weatherOfMatrix dayRow
  rw [h]

theorem staticEq_cfgOfMatrix (cfg : RunCfg α) (d1 d2 : Weather α) (m m' : List (List (WCell α))) :
    StaticEq (cfgOfMatrix cfg d1 m) (cfgOfMatrix cfg d2 m') :=
  ⟨rfl, rfl, rfl, rfl, rfl, rfl, rfl, rfl, rfl, rfl, rfl, rfl, rfl, rfl, rfl, rfl⟩

theorem agreeBefore_of_take (cfg : RunCfg α) (dflt : Weather α) {m m' : List (List (WCell α))}
    {q : Nat} (h : m.take q = m'.take q) :
    AgreeBefore q (cfgOfMatrix cfg dflt m) (cfgOfMatrix cfg dflt m') :=
  { static := staticEq_cfgOfMatrix cfg dflt dflt m m', clock := rfl,
    day := fun t ht =>
      ⟨(weatherOfMatrix_congr dflt (by
          have h1 : (m.take q)[t]? = (m'.take q)[t]? := by rw [h]
          rwa [List.getElem?_take_of_lt ht, List.getElem?_take_of_lt ht] at h1)).symm,
       fun _ => rfl, rfl, rfl⟩,
    crop := fun _ _ => rfl }

/-! ## 2. from the table to the run -/

/-- set-up of the weather (`read_weather_inputs`, matrix line), `_initialize`, then
`run_model(num_steps = k)`; `s`, `e`: simulation start and end day -/
def runOfTable {ι : Type} (F : Fn α) (T : TrigFn α) (cfg : RunCfg α) (dflt : Weather α)
    (s e : Int) (tbl : WTable α ι) (k : Nat) : Except String (RunState α) :=
  match weatherMatrix s e tbl with
  | .error err => .error err
  | .ok m => (runInit (cfgOfMatrix cfg dflt m)).bind (runModel F T (cfgOfMatrix cfg dflt m) k)

/-- the set-up computes the same thing — the same matrix or the same error — on the two tables -/
def SameBinding {ι ι' : Type} (s e : Int) (t : WTable α ι) (t' : WTable α ι') : Prop :=
  weatherMatrix s e t' = weatherMatrix s e t

section binding
variable {F : Fn α} {T : TrigFn α} {ι ι' : Type}

theorem sameBinding_perm_columns (s e : Int) (t : WTable α ι) (t' : WTable α ι')
    (hp : t.cols.Perm t'.cols) (hnd : (t.cols.map (·.1)).Nodup) : SameBinding s e t t' :=
  (C15.impl_perm_columns s e t t' hp hnd).symm

theorem sameBinding_extra_columns (s e : Int) (pre extra post : List (String × List (WCell α)))
    (idx : List ι) (idx' : List ι') (hx : ∀ c ∈ extra, c.1 ∉ required) :
    SameBinding s e ({ cols := pre ++ post, index := idx' } : WTable α ι')
      ({ cols := pre ++ extra ++ post, index := idx } : WTable α ι) :=
  C15.impl_extra_columns s e pre extra post idx idx' hx

theorem sameBinding_reindex (s e : Int) (t : WTable α ι) (idx' : List ι') :
    SameBinding s e t ({ cols := t.cols, index := idx' } : WTable α ι') :=
  C15.impl_reindex s e t idx'

theorem sameBinding_extra_rows (s e : Int) (t : WTable α ι) (t' : WTable α ι') (m : List Bool)
    (hview : ∀ n ∈ required, sel n t.cols = (sel n t'.cols).map (keep m))
    (hout : ∀ c ∈ sel "Date" t'.cols, Forall2 (fun b x => b = false → Outside s e x) m c)
    (hfirst : dateEdgeTest false (fun d => decide (s < d)) t' =
              dateEdgeTest false (fun d => decide (s < d)) t)
    (hlast : dateEdgeTest true (fun d => decide (d < e)) t' =
             dateEdgeTest true (fun d => decide (d < e)) t) : SameBinding s e t t' :=
  C14.impl_outside_window_irrelevant s e t t' m hview hout hfirst hlast

theorem SameBinding.trans {ι'' : Type} {s e : Int} {t : WTable α ι} {t' : WTable α ι'}
    {t'' : WTable α ι''} (h : SameBinding s e t t') (h' : SameBinding s e t' t'') :
    SameBinding s e t t'' := by
  unfold SameBinding at *
  rw [h', h]

theorem run_binding_invariant (cfg : RunCfg α) (dflt : Weather α) {s e : Int} {t : WTable α ι}
    {t' : WTable α ι'} (h : SameBinding s e t t') (k : Nat) :
    runOfTable F T cfg dflt s e t' k = runOfTable F T cfg dflt s e t k := by
  unfold runOfTable
  rw [h]

theorem run_binding_invariant_ok (cfg : RunCfg α) (dflt : Weather α) {s e : Int} {t : WTable α ι}
    {t' : WTable α ι'} (h : SameBinding s e t t') {m : List (List (WCell α))}
    (hm : weatherMatrix s e t = .ok m) (k : Nat) :
    weatherMatrix s e t' = .ok m ∧
      ∀ m', weatherMatrix s e t' = .ok m' →
        cfgOfMatrix cfg dflt m' = cfgOfMatrix cfg dflt m ∧
        (runInit (cfgOfMatrix cfg dflt m')).bind (runModel F T (cfgOfMatrix cfg dflt m') k) =
          (runInit (cfgOfMatrix cfg dflt m)).bind (runModel F T (cfgOfMatrix cfg dflt m) k) := by
  have h1 : weatherMatrix s e t' = .ok m := by rw [h, hm]
  refine ⟨h1, fun m' hm' => ?_⟩
  rw [h1] at hm'
  cases hm'
  exact ⟨rfl, rfl⟩

end binding

end Aqua

#print axioms Aqua.run_binding_invariant
#print axioms Aqua.run_binding_invariant_ok
