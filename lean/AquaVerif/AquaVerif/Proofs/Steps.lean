import AquaVerif.Proofs.ListBasic
/-
The loops of `run_model` over an arbitrary `step : σ → Except ε σ` and finish test
`fin : σ → Bool` (namespace `Aqua.Steps`): step-wise execution equals one uninterrupted run (C09),
a pure consequence of the shape of the loops; `iter`, plain repetition of `step`, from which the
rules for invariants and counting are read off; totality from a measure (`run_total`); two runs side
by side (`Rel`, `Sim`, `run_rel`, `iter_rel`, `iter_transfer`, `run_transfer`).
`Proofs/ClockRun.lean` shows the clock model's loops to be these, `Proofs/Run.lean` and
`Proofs/RunForcingSteps.lean` those of the full run model.
Core Lean only.
-/

namespace Aqua.Steps

variable {σ ε : Type} {step : σ → Except ε σ} {fin : σ → Bool}

/-- `for i in range(k): step(); if fin: return` -/
def run (step : σ → Except ε σ) (fin : σ → Bool) : Nat → σ → Except ε σ
  | 0, s => .ok s
  | k + 1, s => (step s).bind fun s' => if fin s' then .ok s' else run step fin k s'

/-- `run_model(num_steps=k)`; `e1` is raised for `k < 1` -/
def model (step : σ → Except ε σ) (fin : σ → Bool) (e1 : ε) (k : Nat) (s : σ) : Except ε σ :=
  if k < 1 then .error e1 else run step fin k s

/-- a sequence of `run_model(num_steps=k)` calls -/
def calls (step : σ → Except ε σ) (fin : σ → Bool) (e1 : ε) : List Nat → σ → Except ε σ
  | [], s => .ok s
  | k :: ks, s => (model step fin e1 k s).bind (calls step fin e1 ks)

/-- `while not fin: step()` with explicit fuel; `e2` is raised when it runs out -/
def till (step : σ → Except ε σ) (fin : σ → Bool) (e2 : ε) : Nat → σ → Except ε σ
  | 0, s => if fin s then .ok s else .error e2
  | f + 1, s => if fin s then .ok s else (step s).bind (till step fin e2 f)

/-! ### The `for` loop and sequences of calls -/

theorem cont_ok {s' r : σ} {k : σ → Except ε σ}
    (h : (if fin s' then .ok s' else k s') = Except.ok r) :
    (fin s' = true ∧ s' = r) ∨ (fin s' = false ∧ k s' = .ok r) := by
  cases hf : fin s' with
  | true => simp only [hf, if_true] at h; cases h; exact Or.inl ⟨rfl, rfl⟩
  | false => simp only [hf, Bool.false_eq_true, if_false] at h; exact Or.inr ⟨rfl, h⟩

theorem run_succ_inv {k : Nat} {s r : σ} (h : run step fin (k + 1) s = .ok r) :
    ∃ s', step s = .ok s' ∧ (if fin s' then .ok s' else run step fin k s') = Except.ok r :=
  bind_ok_iff.1 h

theorem model_run {e1 : ε} {k : Nat} {s r : σ} (h : model step fin e1 k s = .ok r) :
    run step fin k s = .ok r := by
  unfold model at h
  split at h
  · cases h
  · exact h

theorem run_add (a b : Nat) (s : σ) (hs : fin s = false) :
    run step fin (a + b) s =
      (run step fin a s).bind fun s' => if fin s' then .ok s' else run step fin b s' := by
  induction a generalizing s with
  | zero =>
    show _ = if fin s then _ else _
    simp only [hs, Nat.zero_add, Bool.false_eq_true, if_false]
  | succ a ih =>
    rw [Nat.add_right_comm]
    show (step s).bind _ = ((step s).bind _).bind _
    cases step s with
    | error e => rfl
    | ok s1 =>
      show (if fin s1 then _ else _) = Except.bind (if fin s1 then _ else _) _
      cases hf : fin s1 with
      | true => simp only [if_true]; show _ = if fin s1 then _ else _; simp only [hf, if_true]
      | false => simp only [Bool.false_eq_true, if_false]; exact ih s1 hf

theorem run_add' {a b : Nat} {s s1 : σ} (h1 : run step fin a s = .ok s1) (hf : fin s1 = false) :
    run step fin (a + b) s = run step fin b s1 := by
  induction a generalizing s with
  | zero => cases h1; rw [Nat.zero_add]
  | succ a ih =>
    obtain ⟨s2, hp, h1⟩ := run_succ_inv h1
    rw [Nat.add_right_comm]
    show (step s).bind _ = _
    rw [hp]
    show (if fin s2 then _ else _) = _
    rcases cont_ok h1 with ⟨hf2, rfl⟩ | ⟨hf2, h1⟩
    · rw [hf2] at hf; cases hf
    · simp only [hf2, Bool.false_eq_true, if_false]; exact ih h1

theorem overshoot {a : Nat} (b : Nat) {s s1 : σ} (hs : fin s = false)
    (h1 : run step fin a s = .ok s1) (hf : fin s1 = true) : run step fin (a + b) s = .ok s1 := by
  rw [run_add a b s hs, h1]
  show (if fin s1 then _ else _) = _
  simp only [hf, if_true]

section raises
/- `hstep`: a step on a finished state raises -/
variable (hstep : ∀ s s', step s = .ok s' → fin s = false)
include hstep

theorem unfinished_of_run_succ_ok {k : Nat} {s r : σ} (h : run step fin (k + 1) s = .ok r) :
    fin s = false := by
  obtain ⟨s', hp, _⟩ := run_succ_inv h
  exact hstep _ _ hp

theorem run_split {a b : Nat} {s r : σ} (h : run step fin (a + b) s = .ok r)
    (hf : fin r = false) :
    ∃ s1, run step fin a s = .ok s1 ∧ fin s1 = false ∧ run step fin b s1 = .ok r := by
  have hs : fin s = false := by
    cases hk : a + b with
    | zero => rw [hk] at h; cases h; exact hf
    | succ k => rw [hk] at h; exact unfinished_of_run_succ_ok hstep h
  rw [run_add a b s hs] at h
  obtain ⟨s1, h1, h⟩ := bind_ok_iff.1 h
  rcases cont_ok h with ⟨hf1, rfl⟩ | ⟨hf1, h⟩
  · rw [hf1] at hf; cases hf
  · exact ⟨s1, h1, hf1, h⟩

theorem model_ok {e1 : ε} {k : Nat} {s s' : σ} (h : model step fin e1 k s = .ok s') :
    1 ≤ k ∧ run step fin k s = .ok s' ∧ fin s = false := by
  unfold model at h
  split at h
  · cases h
  · obtain ⟨k, rfl⟩ : ∃ j, k = j + 1 := ⟨k - 1, by omega⟩
    exact ⟨by omega, h, unfinished_of_run_succ_ok hstep h⟩

theorem model_add {e1 : ε} {a b : Nat} (ha : 1 ≤ a) (hb : 1 ≤ b) (s : σ) :
    model step fin e1 (a + b) s =
      (model step fin e1 a s).bind fun s1 => if fin s1 then .ok s1 else model step fin e1 b s1 := by
  unfold model
  simp only [if_neg (show ¬ a + b < 1 by omega), if_neg (show ¬ a < 1 by omega),
    if_neg (show ¬ b < 1 by omega)]
  cases hs : fin s with
  | false => exact run_add a b s hs
  | true =>
    -- both sides raise at their first step
    obtain ⟨a, rfl⟩ : ∃ j, a = j + 1 := ⟨a - 1, by omega⟩
    rw [Nat.add_right_comm]
    show (step s).bind _ = ((step s).bind _).bind _
    cases hp : step s with
    | error e => rfl
    | ok s' => rw [hstep _ _ hp] at hs; cases hs

theorem calls_cons_unfinished {e1 : ε} {k2 : Nat} {ks : List Nat} {s1 r : σ}
    (h : calls step fin e1 (k2 :: ks) s1 = .ok r) : fin s1 = false := by
  obtain ⟨_, h2, _⟩ := bind_ok_iff.1 h
  exact (model_ok hstep h2).2.2

theorem calls_eq_one {e1 : ε} : ∀ (ks : List Nat) {s r : σ}, ks ≠ [] →
    calls step fin e1 ks s = .ok r → model step fin e1 ks.sum s = .ok r
  | [], _, _, hne, _ => absurd rfl hne
  | [k], s, r, _, h => by
    obtain ⟨s1, h1, h⟩ := bind_ok_iff.1 h
    cases h
    simpa using h1
  | k :: k2 :: ks, s, r, _, h => by
    obtain ⟨s1, h1, h'⟩ := bind_ok_iff.1 h
    have ih := calls_eq_one (k2 :: ks) (by simp) h'
    rw [List.sum_cons, model_add hstep (model_ok hstep h1).1 (model_ok hstep ih).1, h1]
    show (if fin s1 then _ else _) = _
    simp only [calls_cons_unfinished hstep h', Bool.false_eq_true, if_false]
    exact ih

theorem calls_of_one {e1 : ε} : ∀ (ks : List Nat) {s r : σ}, (∀ k ∈ ks, 1 ≤ k) →
    run step fin ks.sum s = .ok r → fin r = false → calls step fin e1 ks s = .ok r
  | [], s, r, _, h, _ => h
  | k :: ks, s, r, hpos, h, hf => by
    rw [List.sum_cons] at h
    obtain ⟨s1, h1, hf1, h2⟩ := run_split hstep h hf
    have hk : ¬ k < 1 := Nat.not_lt.mpr (hpos k List.mem_cons_self)
    show (model step fin e1 k s).bind _ = _
    rw [model, if_neg hk, h1]
    exact calls_of_one ks (fun k' hk' => hpos k' (List.mem_cons_of_mem _ hk')) h2 hf

end raises

theorem model_finished {e0 e1 : ε} {s : σ} (k : Nat) (h : step s = .error e0) :
    model step fin e1 k s = .error (if k < 1 then e1 else e0) := by
  unfold model
  cases k with
  | zero => rfl
  | succ k =>
    rw [if_neg (by omega), if_neg (by omega)]
    show (step s).bind _ = _
    rw [h]; rfl

/-! ### The `while` loop -/

theorem till_of_fin {e2 : ε} {s : σ} (h : fin s = true) (f : Nat) :
    till step fin e2 f s = .ok s := by
  cases f <;> simp only [till, h, if_true]

theorem till_succ_of_step {e2 : ε} {s s' : σ} (hs : fin s = false) (hp : step s = .ok s')
    (f : Nat) : till step fin e2 (f + 1) s = till step fin e2 f s' := by
  show (if fin s then _ else (step s).bind _) = _
  simp only [hs, Bool.false_eq_true, if_false, hp]; rfl

theorem till_succ_inv {e2 : ε} {f : Nat} {s r : σ} (hs : fin s = false)
    (h : till step fin e2 (f + 1) s = .ok r) :
    ∃ s', step s = .ok s' ∧ till step fin e2 f s' = .ok r := by
  have h : (if fin s then _ else (step s).bind _) = Except.ok r := h
  simp only [hs, Bool.false_eq_true, if_false] at h
  exact bind_ok_iff.1 h

theorem till_fin {e2 : ε} (f : Nat) {s r : σ} (h : till step fin e2 f s = .ok r) :
    fin r = true := by
  cases hs : fin s with
  | true => rw [till_of_fin hs] at h; cases h; exact hs
  | false =>
    induction f generalizing s with
    | zero => simp only [till, hs, Bool.false_eq_true, if_false] at h; cases h
    | succ f ih =>
      obtain ⟨s', _, h⟩ := till_succ_inv hs h
      cases hs' : fin s' with
      | true => rw [till_of_fin hs'] at h; cases h; exact hs'
      | false => exact ih h hs'

theorem till_mono {e2 : ε} (f : Nat) {s r : σ} (h : till step fin e2 f s = .ok r) (g : Nat)
    (hg : f ≤ g) : till step fin e2 g s = .ok r := by
  cases hs : fin s with
  | true => rw [till_of_fin hs] at h ⊢; exact h
  | false =>
    induction f generalizing s g with
    | zero => simp only [till, hs, Bool.false_eq_true, if_false] at h; cases h
    | succ f ih =>
      obtain ⟨g, rfl⟩ : ∃ g', g = g' + 1 := ⟨g - 1, by omega⟩
      obtain ⟨s', hp, h⟩ := till_succ_inv hs h
      rw [till_succ_of_step hs hp]
      cases hs' : fin s' with
      | true => rw [till_of_fin hs'] at h ⊢; exact h
      | false => exact ih h g (by omega) hs'

section raises
variable (hstep : ∀ s s', step s = .ok s' → fin s = false)
include hstep

theorem till_of_run_finished {e2 : ε} : ∀ (k : Nat) {s r : σ}, run step fin k s = .ok r →
    fin r = true → ∀ f, k ≤ f → till step fin e2 f s = .ok r
  | 0, s, r, h, hf, f, _ => by cases h; exact till_of_fin hf f
  | k + 1, s, r, h, hf, f, hkf => by
    obtain ⟨f, rfl⟩ : ∃ g, f = g + 1 := ⟨f - 1, by omega⟩
    obtain ⟨s1, hp, h⟩ := run_succ_inv h
    rw [till_succ_of_step (hstep _ _ hp) hp]
    rcases cont_ok h with ⟨hf1, rfl⟩ | ⟨_, h⟩
    · exact till_of_fin hf1 f
    · exact till_of_run_finished k h hf f (by omega)

theorem till_of_run_unfinished {e2 : ε} : ∀ (k : Nat) {s s1 : σ}, run step fin k s = .ok s1 →
    fin s1 = false → ∀ f, till step fin e2 (k + f) s = till step fin e2 f s1
  | 0, s, s1, h, _, f => by cases h; rw [Nat.zero_add]
  | k + 1, s, s1, h, hf, f => by
    obtain ⟨s2, hp, h⟩ := run_succ_inv h
    rw [Nat.add_right_comm, till_succ_of_step (hstep _ _ hp) hp]
    rcases cont_ok h with ⟨hf2, rfl⟩ | ⟨_, h⟩
    · rw [hf2] at hf; cases hf
    · exact till_of_run_unfinished k h hf f

theorem calls_eq_till {e1 e2 : ε} : ∀ (ks : List Nat) {s₀ s : σ},
    calls step fin e1 ks s₀ = .ok s → fin s = true →
    ∃ f, ∀ g, f ≤ g → till step fin e2 g s₀ = .ok s
  | [], s₀, s, h, hf => by cases h; exact ⟨0, fun g _ => till_of_fin hf g⟩
  | k :: ks, s₀, s, h, hf => by
    obtain ⟨s1, h1, h⟩ := bind_ok_iff.1 h
    obtain ⟨_, hst, _⟩ := model_ok hstep h1
    cases hf1 : fin s1 with
    | true =>
      -- no further call can have been made
      cases ks with
      | nil => cases h; exact ⟨k, till_of_run_finished hstep k hst hf1⟩
      | cons k2 ks => rw [calls_cons_unfinished hstep h] at hf1; cases hf1
    | false =>
      obtain ⟨f, hfu⟩ := calls_eq_till ks h hf
      refine ⟨k + f, fun g hg => ?_⟩
      obtain ⟨d, rfl⟩ : ∃ d, g = k + d := ⟨g - k, by omega⟩
      rw [till_of_run_unfinished hstep k hst hf1 d]
      exact hfu d (by omega)

end raises

theorem run_of_till {e2 : ε} : ∀ (f : Nat) {s r : σ}, fin s = false →
    till step fin e2 f s = .ok r → run step fin f s = .ok r
  | 0, s, r, hs, h => by simp only [till, hs, Bool.false_eq_true, if_false] at h; cases h
  | f + 1, s, r, hs, h => by
    obtain ⟨s1, hp, h⟩ := till_succ_inv hs h
    show (step s).bind _ = _
    rw [hp]
    show (if fin s1 then _ else _) = Except.ok r
    cases hf1 : fin s1 with
    | true => rw [till_of_fin hf1] at h; rw [if_pos rfl]; exact h
    | false => rw [if_neg Bool.false_ne_true]; exact run_of_till f hf1 h

/-! ### `j` single steps

The notion behind the loops: `run k` is `j ≤ k` single steps, `j < k` only if they end the run
(`run_iter`, `run_of_iter`).  What is proved step by step — an invariant, a counter — is proved for
`iter` and read off for the loops. -/

/-- `j` steps, whatever `fin` says -/
def iter (step : σ → Except ε σ) : Nat → σ → Except ε σ
  | 0, s => .ok s
  | j + 1, s => (iter step j s).bind step

theorem iter_add (m n : Nat) (s : σ) :
    iter step (m + n) s = (iter step n s).bind (iter step m) := by
  induction m with
  | zero => rw [Nat.zero_add]; cases iter step n s <;> rfl
  | succ m ih =>
    rw [Nat.succ_add]
    show (iter step (m + n) s).bind step = _
    rw [ih]; cases iter step n s <;> rfl

theorem iter_succ' (j : Nat) (s : σ) : iter step (j + 1) s = (step s).bind (iter step j) :=
  iter_add j 1 s

theorem iter_len {P : σ → Prop} {len : σ → Nat}
    (hP : ∀ s s', P s → step s = .ok s' → P s' ∧ len s' = len s + 1) :
    ∀ (j : Nat) {s r : σ}, P s → iter step j s = .ok r → P r ∧ len r = len s + j
  | 0, _, _, hs, h => by cases h; exact ⟨hs, rfl⟩
  | j + 1, _, _, hs, h => by
    obtain ⟨a, ha, h⟩ := bind_ok_iff.1 h
    obtain ⟨h1, h2⟩ := iter_len hP j hs ha
    obtain ⟨h3, h4⟩ := hP _ _ h1 h
    exact ⟨h3, by omega⟩

theorem iter_inv {P : σ → Prop} (hP : ∀ s s', P s → step s = .ok s' → P s') :
    ∀ (j : Nat) {s r : σ}, P s → iter step j s = .ok r → P r
  | 0, _, _, hs, h => by cases h; exact hs
  | j + 1, _, _, hs, h => by
    obtain ⟨a, ha, h⟩ := bind_ok_iff.1 h
    exact hP _ _ (iter_inv hP j hs ha) h

theorem run_iter : ∀ (k : Nat) {s r : σ}, run step fin k s = .ok r →
    ∃ j, j ≤ k ∧ iter step j s = .ok r ∧ (j < k → fin r = true ∧ 1 ≤ j)
  | 0, _, _, h => ⟨0, Nat.le_refl _, h, fun h => absurd h (Nat.lt_irrefl _)⟩
  | k + 1, s, r, h => by
    obtain ⟨s1, hp, h⟩ := run_succ_inv h
    have h1 : iter step 1 s = .ok s1 := hp
    rcases cont_ok h with ⟨hf, rfl⟩ | ⟨_, h⟩
    · exact ⟨1, by omega, h1, fun _ => ⟨hf, Nat.le_refl _⟩⟩
    · obtain ⟨j, hj, hit, hfin⟩ := run_iter k h
      refine ⟨j + 1, by omega, ?_, fun hlt => ⟨(hfin (by omega)).1, by omega⟩⟩
      rw [iter_succ', hp]; exact hit

section raises
variable (hstep : ∀ s s', step s = .ok s' → fin s = false)
include hstep

theorem iter_fin {j : Nat} {s r : σ} (hf : fin s = true) (h : iter step j s = .ok r) : j = 0 := by
  cases j with
  | zero => rfl
  | succ j =>
    rw [iter_succ'] at h
    obtain ⟨a, ha, _⟩ := bind_ok_iff.1 h
    rw [hstep _ _ ha] at hf; cases hf

theorem run_of_iter : ∀ (k j : Nat) {s r : σ}, iter step j s = .ok r → j ≤ k →
    (j < k → fin r = true ∧ 1 ≤ j) → run step fin k s = .ok r
  | 0, j, s, r, h, hj, _ => by
    obtain rfl : j = 0 := by omega
    exact h
  | k + 1, 0, s, r, h, _, hfin => absurd (hfin (Nat.succ_pos k)).2 (by omega)
  | k + 1, j + 1, s, r, h, hj, hfin => by
    rw [iter_succ'] at h
    obtain ⟨a, hp, h⟩ := bind_ok_iff.1 h
    show (step s).bind _ = _
    rw [hp]
    show (if fin a then _ else _) = Except.ok r
    cases hf : fin a with
    | true =>
      obtain rfl := iter_fin hstep hf h
      cases h; rfl
    | false =>
      rw [if_neg Bool.false_ne_true]
      refine run_of_iter k j h (by omega) (fun hlt => ⟨(hfin (by omega)).1, ?_⟩)
      -- `j = 0` would make `r = a`, which is unfinished
      cases j with
      | zero => cases h; rw [(hfin (by omega)).1] at hf; cases hf
      | succ j => omega

end raises

/-! ### Rules for a set `P` of states closed under steps

What steps preserve, the loops preserve (`run_preserves`, `calls_inv`); if steps from unfinished
`P`-states succeed and a measure drops, the loops succeed (`run_total`, `till_total`); if every step
adds one to a counter, `k` steps add `min k d`, `d` the steps to termination (`run_len_min`). -/

section closed
variable {P : σ → Prop}

theorem run_preserves (hP : ∀ s s', P s → step s = .ok s' → P s') (k : Nat) {s r : σ} (hs : P s)
    (h : run step fin k s = .ok r) : P r := by
  obtain ⟨j, _, hit, _⟩ := run_iter k h
  exact iter_inv hP j hs hit

theorem calls_inv {e1 : ε} (hP : ∀ s s', P s → step s = .ok s' → P s') :
    ∀ (ks : List Nat) {s r : σ}, P s → calls step fin e1 ks s = .ok r → P r
  | [], _, _, hs, h => by cases h; exact hs
  | k :: ks, _, _, hs, h => by
    obtain ⟨s1, h1, h⟩ := bind_ok_iff.1 h
    exact calls_inv hP ks (run_preserves hP k hs (model_run h1)) h

theorem run_total {μ : σ → Nat}
    (hP : ∀ s, P s → fin s = false →
      ∃ s', step s = .ok s' ∧ P s' ∧ (fin s' = false → μ s' < μ s)) :
    ∀ (k : Nat) {s : σ}, P s → fin s = false →
      ∃ r, run step fin k s = .ok r ∧ P r ∧ (fin r = false → μ r + k ≤ μ s)
  | 0, s, hs, _ => ⟨s, rfl, hs, fun _ => Nat.le_refl _⟩
  | k + 1, s, hs, hf => by
    obtain ⟨s1, hp, hs1, hμ⟩ := hP s hs hf
    show ∃ r, (step s).bind _ = .ok r ∧ _
    rw [hp]
    show ∃ r, (if fin s1 then _ else _) = Except.ok r ∧ _
    cases hf1 : fin s1 with
    | true => exact ⟨s1, rfl, hs1, fun h => by rw [hf1] at h; cases h⟩
    | false =>
      obtain ⟨r, h1, h2, h3⟩ := run_total hP k hs1 hf1
      exact ⟨r, h1, h2, fun h => by have := h3 h; have := hμ hf1; omega⟩

theorem till_total {μ : σ → Nat} {e2 : ε} (hstep : ∀ s s', step s = .ok s' → fin s = false)
    (hP : ∀ s, P s → fin s = false →
      ∃ s', step s = .ok s' ∧ P s' ∧ (fin s' = false → μ s' < μ s))
    (hpos : ∀ s, P s → fin s = false → 0 < μ s) {s : σ} (hs : P s) {f : Nat} (hf : μ s ≤ f) :
    ∃ r, till step fin e2 f s = .ok r ∧ fin r = true ∧ P r ∧
      (fin s = false → run step fin f s = .ok r) := by
  cases hfs : fin s with
  | true => exact ⟨s, till_of_fin hfs f, hfs, hs, fun h => by cases h⟩
  | false =>
    obtain ⟨r, h1, h2, h3⟩ := run_total hP f hs hfs
    have hr : fin r = true := by
      cases hfr : fin r with
      | true => rfl
      | false => have := h3 hfr; have := hpos r h2 hfr; omega
    exact ⟨r, till_of_run_finished hstep f h1 hr f (Nat.le_refl _), hr, h2, fun _ => h1⟩

theorem run_len_min {len : σ → Nat} {e2 : ε} (hstep : ∀ s s', step s = .ok s' → fin s = false)
    (hP : ∀ s s', P s → step s = .ok s' → P s' ∧ len s' = len s + 1) (k : Nat) {f : Nat}
    {s rT : σ} (hs : P s) (hf : fin s = false) (hT : till step fin e2 f s = .ok rT) :
    ∃ r, run step fin k s = .ok r ∧ len r = len s + min k (len rT - len s) := by
  have hfT := till_fin f hT
  -- the run to termination is `d` single steps, of which `min k d` are a prefix
  obtain ⟨d, _, hd, _⟩ := run_iter f (run_of_till f hf hT)
  have hlT := (iter_len hP d hs hd).2
  have hd1 : 1 ≤ d := by
    cases d with
    | zero => cases hd; rw [hfT] at hf; cases hf
    | succ d => omega
  obtain ⟨e, he⟩ : ∃ e, d = e + min k d := ⟨d - min k d, by omega⟩
  rw [he, iter_add] at hd
  obtain ⟨r, hr, hrest⟩ := bind_ok_iff.1 hd
  refine ⟨r, run_of_iter hstep k _ hr (Nat.min_le_left _ _) fun hlt => ?_,
    by rw [(iter_len hP _ hs hr).2]; omega⟩
  -- fewer than `k` steps: all `d` of them
  obtain rfl : e = 0 := by omega
  cases hrest
  exact ⟨hfT, by omega⟩

end closed

/-! ### Two machines

Two runs side by side, `step' : σ' → Except ε σ'` with finish test `fin'` beside `step`, `fin`.
`Rel R x x'`: two outcomes agree up to `R`.  Three ways from a step lemma to the loops: `Sim`, a
lock-step simulation with the same outcomes, errors included (`Sim.run`, `Sim.model`); `run_rel`, a
relation that survives the two runs stopping at different times (`iter_rel`: the same for `j` steps
of each machine, where nothing stops); `iter_transfer`, `run_transfer`, the second machine does what
the first does for as long as the first ends inside `Q`.  What the step lemma needs of one of the
runs (an invariant, reachability) is a conjunct of `R`. -/

section two
variable {σ' τ τ' : Type}

def Rel (R : σ → σ' → Prop) : Except ε σ → Except ε σ' → Prop
  | .ok a, .ok a' => R a a'
  | .error e, .error e' => e = e'
  | _, _ => False

theorem Rel.ok_left {R : σ → σ' → Prop} {a : σ} {x' : Except ε σ'} (h : Rel R (.ok a) x') :
    ∃ a', x' = .ok a' ∧ R a a' := by
  cases x' with
  | error e => exact h.elim
  | ok a' => exact ⟨a', rfl, h⟩

theorem Rel.error_left {R : σ → σ' → Prop} {e : ε} {x' : Except ε σ'} (h : Rel R (.error e) x') :
    x' = .error e := by
  cases x' with
  | error e' => exact congrArg _ (Eq.symm h)
  | ok a' => exact h.elim

theorem Rel.bind {R : σ → σ' → Prop} {S : τ → τ' → Prop} {x : Except ε σ} {x' : Except ε σ'}
    {f : σ → Except ε τ} {f' : σ' → Except ε τ'} (h : Rel R x x')
    (hf : ∀ a a', R a a' → Rel S (f a) (f' a')) : Rel S (x.bind f) (x'.bind f') := by
  cases x with
  | error e => rw [h.error_left]; exact rfl
  | ok a => obtain ⟨a', rfl, hR⟩ := h.ok_left; exact hf a a' hR

theorem Rel.eq {R : σ → σ → Prop} {x x' : Except ε σ} (h : Rel R x x')
    (hR : ∀ a a', R a a' → a' = a) : x' = x := by
  cases x with
  | error e => exact h.error_left
  | ok a => obtain ⟨a', rfl, hr⟩ := h.ok_left; rw [hR a a' hr]

theorem Rel.diag {P : σ → Prop} {x : Except ε σ} (hP : ∀ a, x = .ok a → P a) :
    Rel (fun a a' => a' = a ∧ P a) x x := by
  cases x with
  | error e => exact rfl
  | ok a => exact ⟨rfl, hP a rfl⟩

theorem Rel.map_eq {R : σ → σ' → Prop} {g : σ → τ} {g' : σ' → τ} {x : Except ε σ}
    {x' : Except ε σ'} (h : Rel R x x') (hR : ∀ a a', R a a' → g' a' = g a) :
    x'.map g' = x.map g := by
  cases x with
  | error e => rw [h.error_left]; rfl
  | ok a => obtain ⟨a', rfl, hr⟩ := h.ok_left; exact congrArg Except.ok (hR a a' hr)

theorem Rel.of_map_eq {g : σ → τ} {g' : σ' → τ} {P : σ → Prop} {x : Except ε σ}
    {x' : Except ε σ'} (h : x'.map g' = x.map g) (hP : ∀ a, x = .ok a → P a) :
    Rel (fun a a' => g' a' = g a ∧ P a) x x' := by
  cases x with
  | error e =>
    cases x' with
    | error e' => exact (Except.error.inj h).symm
    | ok a' => cases h
  | ok a =>
    cases x' with
    | error e' => cases h
    | ok a' => exact ⟨Except.ok.inj h, hP a rfl⟩

/-- lock-step simulation: from related states the two steps have related outcomes (the same
error, or related results), and related states are finished together -/
structure Sim (step : σ → Except ε σ) (fin : σ → Bool) (step' : σ' → Except ε σ')
    (fin' : σ' → Bool) (R : σ → σ' → Prop) : Prop where
  step : ∀ {s s'}, R s s' → Rel R (step s) (step' s')
  fin : ∀ {s s'}, R s s' → fin' s' = fin s

variable {step' : σ' → Except ε σ'} {fin' : σ' → Bool} {R : σ → σ' → Prop}

theorem Sim.cont (h : Sim step fin step' fin' R) {k : σ → Except ε σ} {k' : σ' → Except ε σ'}
    (hk : ∀ a a', R a a' → Rel R (k a) (k' a')) {a : σ} {a' : σ'} (hR : R a a') :
    Rel R (if fin a then .ok a else k a) (if fin' a' then .ok a' else k' a') := by
  rw [h.fin hR]
  cases fin a with
  | true => exact hR
  | false => exact hk a a' hR

theorem Sim.run (h : Sim step fin step' fin' R) : ∀ (k : Nat) {s : σ} {s' : σ'}, R s s' →
    Rel R (run step fin k s) (run step' fin' k s')
  | 0, _, _, hR => hR
  | k + 1, _, _, hR => (h.step hR).bind fun _ _ => h.cont fun _ _ => h.run k

theorem Sim.model (h : Sim step fin step' fin' R) (e1 : ε) (k : Nat) {s : σ} {s' : σ'}
    (hR : R s s') : Rel R (model step fin e1 k s) (model step' fin' e1 k s') := by
  unfold Steps.model
  cases Nat.decLt k 1 with
  | isTrue hk => rw [if_pos hk, if_pos hk]; exact rfl
  | isFalse hk => rw [if_neg hk, if_neg hk]; exact h.run k hR

theorem run_rel_right
    (right : ∀ {s s' a'}, R s s' → fin s = true → fin' s' = false → step' s' = .ok a' → R s a') :
    ∀ (k : Nat) {s : σ} {s' r' : σ'}, R s s' → fin s = true → fin' s' = false →
      run step' fin' k s' = .ok r' → R s r'
  | 0, _, _, _, hR, _, _, h => by cases h; exact hR
  | k + 1, _, _, _, hR, hf, hf', h => by
    obtain ⟨a', hp', h⟩ := run_succ_inv h
    have hR' := right hR hf hf' hp'
    rcases cont_ok h with ⟨_, rfl⟩ | ⟨hfa', h⟩
    · exact hR'
    · exact run_rel_right right k hR' hf hfa' h

theorem run_rel_left
    (left : ∀ {s s' a}, R s s' → fin' s' = true → fin s = false → step s = .ok a → R a s') :
    ∀ (k : Nat) {s r : σ} {s' : σ'}, R s s' → fin' s' = true → fin s = false →
      run step fin k s = .ok r → R r s' :=
  fun k _ _ _ hR hf' hf h =>
    run_rel_right (R := fun a' a => R a a') (fun hR hf' hf hp => left hR hf' hf hp) k hR hf' hf h

theorem run_rel (both : ∀ {s s' a a'}, R s s' → step s = .ok a → step' s' = .ok a' → R a a')
    (left : ∀ {s s' a}, R s s' → fin' s' = true → fin s = false → step s = .ok a → R a s')
    (right : ∀ {s s' a'}, R s s' → fin s = true → fin' s' = false → step' s' = .ok a' → R s a') :
    ∀ (k : Nat) {s r : σ} {s' r' : σ'}, R s s' → run step fin k s = .ok r →
      run step' fin' k s' = .ok r' → R r r'
  | 0, _, _, _, _, hR, h, h' => by cases h; cases h'; exact hR
  | k + 1, _, _, _, _, hR, h, h' => by
    obtain ⟨a, hp, h⟩ := run_succ_inv h
    obtain ⟨a', hp', h'⟩ := run_succ_inv h'
    have hRa := both hR hp hp'
    rcases cont_ok h with ⟨hf, rfl⟩ | ⟨hf, h⟩ <;> rcases cont_ok h' with ⟨hf', rfl⟩ | ⟨hf', h'⟩
    · exact hRa
    · exact run_rel_right right k hRa hf hf' h'
    · exact run_rel_left left k hRa hf' hf h
    · exact run_rel both left right k hRa h h'

theorem iter_rel (both : ∀ {s s' a a'}, R s s' → step s = .ok a → step' s' = .ok a' → R a a') :
    ∀ (j : Nat) {s r : σ} {s' r' : σ'}, R s s' → iter step j s = .ok r →
      iter step' j s' = .ok r' → R r r'
  | 0, _, _, _, _, hR, h, h' => by cases h; cases h'; exact hR
  | j + 1, _, _, _, _, hR, h, h' => by
    obtain ⟨a, ha, hp⟩ := bind_ok_iff.1 h
    obtain ⟨a', ha', hp'⟩ := bind_ok_iff.1 h'
    exact both (iter_rel both j hR ha ha') hp hp'

end two

/-- **while the first machine ends inside `Q`, the second machine does the same steps**: `Q` of
the state after a step (from a state satisfying the invariant `I` of the first machine) gives `Q`
before it and the same step under `step'`.  Success of the second machine is a conclusion. -/
theorem iter_transfer {step' : σ → Except ε σ} {I Q : σ → Prop}
    (hI : ∀ {s a}, I s → step s = .ok a → I a)
    (hQ : ∀ {s a}, I s → step s = .ok a → Q a → Q s ∧ step' s = .ok a) :
    ∀ (j : Nat) {s r : σ}, I s → iter step j s = .ok r → Q r →
      Q s ∧ iter step' j s = .ok r
  | 0, _, _, _, h, hq => by cases h; exact ⟨hq, rfl⟩
  | j + 1, s, r, hs, h, hq => by
    obtain ⟨a, ha, hp⟩ := bind_ok_iff.1 h
    obtain ⟨hqa, hp'⟩ := hQ (iter_inv (fun _ _ h hp => hI h hp) j hs ha) hp hq
    obtain ⟨hqs, ha'⟩ := iter_transfer hI hQ j hs ha hqa
    exact ⟨hqs, bind_ok_iff.2 ⟨a, ha', hp'⟩⟩

theorem run_transfer {step' : σ → Except ε σ} {I Q : σ → Prop}
    (hstep' : ∀ s s', step' s = .ok s' → fin s = false)
    (hI : ∀ {s a}, I s → step s = .ok a → I a)
    (hQ : ∀ {s a}, I s → step s = .ok a → Q a → Q s ∧ step' s = .ok a)
    (k : Nat) {s r : σ} (hs : I s) (h : run step fin k s = .ok r) (hq : Q r) :
    Q s ∧ run step' fin k s = .ok r := by
  obtain ⟨j, hj, hit, hfin⟩ := run_iter k h
  obtain ⟨hqs, hit'⟩ := iter_transfer hI hQ j hs hit hq
  exact ⟨hqs, run_of_iter hstep' k j hit' hj hfin⟩

end Aqua.Steps
