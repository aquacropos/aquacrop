import AquaVerif.Properties.C07
import AquaVerif.Proofs.RunTotalCatalogue
import AquaVerif.Proofs.CropCalendar
import AquaVerif.Proofs.PrepareGdd
import AquaVerif.Proofs.PrepareGddTotal
import AquaVerif.Proofs.CropFull
import AquaVerif.Proofs.Clock
import AquaVerif.Proofs.ClockCalendar
import AquaVerif.Proofs.SoilBuild
import AquaVerif.Proofs.ResponseMono
import AquaVerif.Properties.C16
/-
Property C16, the part that needs more than the process lemma files: the clock and the date set-up,
the profile-deepening loop, the two copies of the CO2 code, the option switches of the crop
catalogue, the thermal calendar and the `SwitchGDD` conversion, and the whole run of a catalogue
configuration (`catalogue_run_terminates`).  The theorems about single calls of the water and crop
processes are in `Properties/C16.lean`, which the lemma files of the run (`Proofs/RunTotalProc.lean`,
`RunTotalDay.lean`, `CropFull.lean`) cite.
-/

set_option linter.unusedSectionVars false
namespace Aqua.C16
open Aqua Aqua.Clock Aqua.Calendar

/-! ## Clock and calendar -/

/-- From every unfinished reachable state of a well-formed configuration the next
`_perform_timestep` succeeds (no `IndexError` / `KeyError` from the time and season indexing). -/
theorem clock_step_never_raises {c : Cfg} {ev : Ev} {s : St} (hw : WF c) (hr : Reach c ev s)
    (hf : s.finished = false) : ∃ s', perform c ev s = .ok s' := C07.no_exception_before_termination hw hr hf

/-- The run to termination of a well-formed configuration never raises, for every oracle, and ends
finished within `n` steps. -/
theorem clock_never_raises {c : Cfg} (hw : WF c) (ev : Ev) {s₀ : St} (hi : init c = .ok s₀) :
    ∃ s, runTill c ev s₀ = .ok s ∧ s.finished = true ∧ Reach c ev s := runTill_ok hw ev hi

/-- Whatever the date set-up of `read_model_parameters` accepts is a valid clock configuration … -/
theorem accepted_dates_give_valid_clock {sy sm sd ey em ed pm pd hm hd : Int} {r : Seasons}
    (off : Bool) (h : seasonDates sy sm sd ey em ed pm pd hm hd = .ok r) : Valid (toCfg r off) :=
  C07.date_setup_is_valid off h

/-- … so for every date set-up it accepts the clock (the control skeleton of `run_model`, the day's
biophysics an arbitrary oracle) initialises and runs to termination without raising. -/
theorem accepted_dates_run_to_completion {sy sm sd ey em ed pm pd hm hd : Int} {r : Seasons}
    (off : Bool) (ev : Ev) (h : seasonDates sy sm sd ey em ed pm pd hm hd = .ok r) :
    ∃ s₀ s, init (toCfg r off) = .ok s₀ ∧ runTill (toCfg r off) ev s₀ = .ok s ∧
      s.finished = true := by
  have hv := C07.date_setup_is_valid off h
  obtain ⟨s₀, h0⟩ := init_ok hv.wf
  obtain ⟨s, h1, h2, _⟩ := runTill_ok hv.wf ev h0
  exact ⟨s₀, s, h0, h1, h2⟩

section field
variable {α : Type} [Field α] [LinearOrder α] [IsStrictOrderedRing α]

/-! ## Profile deepening -/

/-- The deepening loop of `read_model_parameters` terminates on every non-empty list of compartment
thicknesses (loop condition false from some depth on, fuel covering the distance). -/
theorem deepen_terminates (more : Nat → Bool) (T : Nat) (hT : ∀ c, T ≤ c → more c = false)
    (fuel : Nat) (dz : List Nat) (k : Nat) (hne : dz ≠ []) (hf : T ≤ sumNat dz + 10 * fuel) :
    ∃ dz' k', deepen more fuel dz k = .ok (dz', k') :=
  Aqua.deepen_terminates more T hT fuel dz k hne hf

/-! ## The CO2 factor -/

/-- The CO2 factor: the season-0 code never fails; the copy run at later season starts fails
exactly for `550 < CO2conc ≤ CO2ref` (impossible with the default reference 369.41). -/
theorem co2_factor_defined (F : Fn α) (conc ref bsted bface fsink wp : α) :
    (fco2Init F conc ref bsted bface fsink wp).isSome ∧
      (fco2Reset F conc ref bsted bface fsink wp = none ↔ (550 < conc ∧ conc ≤ ref)) :=
  ⟨fco2Init_isSome F conc ref bsted bface fsink wp,
   fco2Reset_eq_none_iff F conc ref bsted bface fsink wp⟩

/-! ## Option switches of the crop catalogue (generated from the sources on every run) -/

/-- The option switches of every catalogue crop are ones the code handles: GDD method 1–3, both
pollination-stress flags 0/1, TrColdStress 0/1 (KsCold bound), calendar type 1/2. -/
theorem catalogue_option_switches_defined (F : Fn α) (K : CropDerived α) :
    ∀ c ∈ Aqua.Generated.cropFullTable, ∀ tmax tmin gdd : α,
    (growingDegreeDay (c.cropX K).gddMethod (c.cropX K).tupp (c.cropX K).tbase tmax tmin).isSome ∧
    (temperatureStress F (c.hikCrop (α := α)).polHeatStress (c.hikCrop (α := α)).polColdStress
      (c.hikCrop (α := α)).tmaxUp (c.hikCrop (α := α)).tmaxLo (c.hikCrop (α := α)).tminUp
      (c.hikCrop (α := α)).tminLo (c.hikCrop (α := α)).fshapeB tmax tmin).isSome ∧
    (trKsCold F (c.trCrop K).trColdStress (c.trCrop K).gddUp (c.trCrop K).gddLo gdd).isSome ∧
    (c.calendarType = 1 ∨ c.calendarType = 2) :=
  fun c hc tmax tmin gdd =>
    ⟨gdd_defined (catalogue_ok c hc) tmax tmin,
     temperatureStress_defined (catalogue_ok c hc) F tmax tmin,
     trKsCold_defined (catalogue_ok c hc) F gdd, (catalogue_ok c hc).canopy.2.1⟩

/-- `growth_stage` assigns a stage for every catalogue crop, whatever the day's inputs. -/
theorem catalogue_growth_stage_defined : ∀ c ∈ Aqua.Generated.cropFullTable,
    ∀ (dap dc g dg c10 mx sen : α) (gs : Bool) (old : Nat),
    (growthStage c.calendarType dap dc g dg c10 mx sen gs old).isSome = true :=
  fun c hc => growthStage_defined (catalogue_ok c hc)

/-- `FreshYield = DryYield / (YldWC / 100)` divides by zero exactly for these four crops
(known finding `freshyield-yldwc-unset`). -/
theorem catalogue_fresh_yield_divides_by_zero_iff : ∀ c ∈ Aqua.Generated.cropFullTable,
    (c.yldWC = 0 ↔ c.name ∈ ["PotatoLocalGDD", "localpaddy", "MaizeChampionGDD", "Cassava"]) :=
  fun c hc => not_iff_not.mp (catalogue_exceptions c hc).2.2

/-! ## Thermal crop calendar at initialisation and at season start, and the `SwitchGDD` conversion (`Model/CropCalendar.lean`) -/

/-- `compute_crop_calendar` for a thermal-time crop succeeds exactly when the degree days accumulated
from planting to the end of the record exceed the maturity threshold and maturity is reached within
364 days — the two documented `assert`s — for a known GDD method and a non-empty record. -/
theorem thermal_calendar_init_succeeds_iff (F : Fn α) {c : CalGDDIn α} {m : GddMethod}
    (hm : GddMethod.ofNat? c.gddMethod = some m) (temps : List (α × α)) :
    (∃ o, calendarInit F c temps = .ok o) ↔
      ∃ last, (cumsum (gddSeriesInit m c.tbase c.tupp temps)).getLast? = some last ∧
        c.maturity < last ∧
        firstAbove (cumsum (gddSeriesInit m c.tbase c.tupp temps)) c.maturity + 1 < 365 := by
  rw [calendarInit_eq hm, exceptMap_isOk]
  exact calendarDays_ok_iff _ _ _

/-- … and it fails in no other way than: unknown GDD method, empty record, the two asserts. -/
theorem thermal_calendar_init_errors {F : Fn α} {c : CalGDDIn α} {temps : List (α × α)} {e : String}
    (h : calendarInit F c temps = .error e) :
    (e = "E:unbound" ∧ ¬ (c.gddMethod = 1 ∨ c.gddMethod = 2 ∨ c.gddMethod = 3)) ∨
    (e = "E:index" ∧ temps = []) ∨ e = "E:assert:maturity" ∨ e = "E:assert:year" := by
  cases hm : GddMethod.ofNat? c.gddMethod with
  | none =>
    rw [calendarInit_unbound hm] at h
    exact .inl ⟨(Except.error.inj h).symm, GddMethod.ofNat?_eq_none_iff.mp hm⟩
  | some m =>
    rw [calendarInit_eq hm, exceptMap_eq_error] at h
    exact .inr ((calendarDays_cumsum_error h).imp_left (And.imp_right List.map_eq_nil_iff.mp))

/-- the season-start recomputation fails only in those ways or by the harvest-index-coefficient
search not terminating (`E:fuel`) -/
theorem thermal_calendar_reset_errors {F : Fn α} {fuel : Nat} {c : CalResetIn α}
    {temps : List (α × α)} {e : String} (h : calendarReset F fuel c temps = .error e) :
    (e = "E:unbound" ∧ ¬ (c.gddMethod = 1 ∨ c.gddMethod = 2 ∨ c.gddMethod = 3)) ∨
    (e = "E:index" ∧ temps = []) ∨ e = "E:assert:maturity" ∨ e = "E:assert:year" ∨
    e = "E:fuel" := by
  unfold calendarReset at h
  cases hd : calendarResetDays c temps with
  | error e' =>
    simp only [hd, Except.error.injEq] at h
    subst h
    exact (calendarResetDays_error hd).imp_right (Or.imp_right (Or.imp_right Or.inl))
  | ok d =>
    simp only [hd] at h
    cases hb : hiBlock F fuel c.cropType d.yldFormCD c.hi0 c.hiIni with
    | error e' =>
      simp only [hb, Except.error.injEq] at h
      subst h
      exact .inr (.inr (.inr (.inr (hiBlock_error hb))))
    | ok r => simp [hb] at h

/-- **Finding (modelled faithfully).**  When the season-start recomputation gets a length of yield
formation ≤ 0 days (what `argmax` of an all-false vector yields when the end of yield formation is
never reached in the record) and `0 < HIini ≤ 0.98·HI0`, the search for the harvest-index growth
coefficient (`calculate_HIGC`) never terminates: the model runs out of fuel for every fuel. -/
theorem yield_formation_never_reached_hangs {F : Fn α} (hF : ExpOrdLaws F) {fuel : Nat}
    {c : CalResetIn α} {temps : List (α × α)} {d : CalDays}
    (hd : calendarResetDays c temps = .ok d) (hy : d.yldFormCD ≤ 0)
    (h1 : 0 < c.hiIni) (h2 : c.hiIni ≤ 0.98 * c.hi0) :
    calendarReset F fuel c temps = .error "E:fuel" := by
  have hy' : ((d.yldFormCD : Int) : α) ≤ 0 := by exact_mod_cast hy
  have := calculateHIGC_none_of_nonpos hF fuel (d.yldFormCD : α) c.hi0 c.hiIni h1 h2 hy'
  unfold calendarReset
  simp only [hd, hiBlock, this]

/-- In the calendar `compute_crop_calendar` computes at initialisation (when it succeeds) the length
of yield formation in days is positive, when `Tbase ≤ Tupp`, `HIstart ≥ 0`, yield formation spans
at least one day's maximum degree days and ends no later than maturity. -/
theorem yield_formation_days_positive {F : Fn α} {c : CalGDDIn α} {temps : List (α × α)}
    {o : CalGDDOut α} (h : calendarInit F c temps = .ok o) (hb : c.tbase ≤ c.tupp)
    (h0 : 0 ≤ c.hiStart) (hy : c.tupp - c.tbase ≤ c.yldForm)
    (hm : c.hiStart + c.yldForm ≤ c.maturity) : 0 < o.days.yldFormCD := by
  obtain ⟨m, _, hd⟩ := calendarInit_days h
  exact calendarDays_yldFormCD_pos hd (fun g hg => (gddSeriesInit_range m hb temps g hg).2) h0
    (add_le_add_right hy c.hiStart) hm

/-- **`SwitchGDD = 1`** (`prepare_gdd`): the conversion of a calendar-day crop to thermal time
returns exactly when the `season` column exists (a planting date inside the window), no row of the
window is left unlabelled and every calendar-day position used is a valid position in *every* season
present — so a window that ends fewer than `MaturityCD + 1` days into its last season makes the
conversion fail (recorded finding `switchgdd-short-last-season`). -/
theorem switchgdd_conversion_succeeds_iff (toInt : α → Int) (cropType : Nat) (hasCol : Bool)
    (sumFun : Nat) (s : GddStagesIn α) (old : GddStages α) (rows : List (Option Nat × α)) :
    (∃ g, prepareGdd toInt cropType hasCol sumFun s old rows = .ok g) ↔
      hasCol = true ∧ (∀ r ∈ rows, r.1 ≠ none) ∧
      (∀ k, some k ∈ rows.map (·.1) → StagesInRange toInt cropType s (seasonLen rows k)) :=
  prepareGdd_ok_iff toInt cropType hasCol sumFun s old rows

/-- **`SwitchGDD = 1`, whole initialisation branch**: `compute_crop_calendar` (Mode 1, SwitchGDD) returns exactly
when `GDDmethod ∈ {1,2,3}`, the `season` column exists, no row of the window is unlabelled and every calendar-day
position handed to `prepare_gdd` (`switchStagesIn`: EmergenceCD, Canopy10PctCD, MaxRootingCD, MaxCanopyCD,
CanopyDevEndCD, SenescenceCD, MaturityCD, HIstartCD, HIendCD, and FloweringEndCD for CropType 3) is a valid
position in every season of the original window; the calendar-day part (`calendarInitCD`) never fails. -/
theorem switchgdd_initialisation_succeeds_iff (F : Fn α) (toInt : α → Int) (c : CalCDIn α) (gddMethod : Nat)
    (tbase tupp : α) (hasCol : Bool) (sumFun : Nat) (oldYF oldFD : α) (rows : List (Option Nat × α × α)) :
    (∃ r, calendarInitCDSwitch F toInt c gddMethod tbase tupp hasCol sumFun oldYF oldFD rows = .ok r) ↔
      (gddMethod = 1 ∨ gddMethod = 2 ∨ gddMethod = 3) ∧ hasCol = true ∧ (∀ r ∈ rows, r.1 ≠ none) ∧
      (∀ k, some k ∈ rows.map (·.1) →
        StagesInRange toInt c.cropType (switchStagesIn F c) (seasonLenT rows k)) :=
  calendarInitCDSwitch_ok_iff F toInt c gddMethod tbase tupp hasCol sumFun oldYF oldFD rows

/-- … and when it raises, it is `UnboundLocalError` (GDDmethod not 1/2/3), else `KeyError` (no `season`
column), else `IndexError` (unlabelled row or a calendar-day position outside a season). -/
theorem switchgdd_initialisation_errors {F : Fn α} {toInt : α → Int} {c : CalCDIn α} {gddMethod : Nat}
    {tbase tupp : α} {hasCol : Bool} {sumFun : Nat} {oldYF oldFD : α} {rows : List (Option Nat × α × α)}
    {e : String}
    (h : calendarInitCDSwitch F toInt c gddMethod tbase tupp hasCol sumFun oldYF oldFD rows = .error e) :
    (e = "E:unbound" ∧ ¬ (gddMethod = 1 ∨ gddMethod = 2 ∨ gddMethod = 3)) ∨
    (e = "E:key" ∧ (gddMethod = 1 ∨ gddMethod = 2 ∨ gddMethod = 3) ∧ hasCol = false) ∨
    (e = "E:index" ∧ (gddMethod = 1 ∨ gddMethod = 2 ∨ gddMethod = 3) ∧ hasCol = true) :=
  calendarInitCDSwitch_error h

/-! ## The whole run of a catalogue configuration -/

/-- **A run of a catalogue configuration terminates without raising** (over `ℝ`), under `CatCfg`
(crops of the generated table other than SugarCane with derived values satisfying `DerivedRunOK`,
profile and initial water content built by the model of the initialisation, the scalars
`_initialize` leaves, seasons of at most 358 days, the parameter ranges `CfgRanges`) and the
geometric / management premises `CatTotOK` and `TopOK` (`assert comp_sto > 0` of
`root_zone_water`).  No premise on the daily weather, none on values computed during the run. -/
theorem catalogue_run_terminates {cfg : RunCfg ℝ} {Zcap Zev : ℝ} (h : CatCfg cfg)
    (hX : CatTotOK cfg Zcap Zev)
    (hTop : TopOK Response.realFn cfg.W0.soil.zTop cfg.init.cells) :
    (∃ s₀ s, runInit cfg = .ok s₀ ∧
      runModel Response.realFn HarvestIndexReal.realTrig cfg cfg.clock.n s₀ = .ok s ∧
      s.finished = true ∧ RunReach Response.realFn HarvestIndexReal.realTrig cfg s) ∧
    ∀ s, RunReach Response.realFn HarvestIndexReal.realTrig cfg s → s.finished = false →
      (∃ s', performR Response.realFn HarvestIndexReal.realTrig cfg s = .ok s') ∧
      ∀ k, 1 ≤ k → ∃ s', runModel Response.realFn HarvestIndexReal.realTrig cfg k s = .ok s' :=
  catalogue_run_total h hX hTop

/-- No catalogue crop has `SxBot = 0` (the Python-float division of `root_development`). -/
theorem catalogue_sx_bot_positive : ∀ c ∈ Aqua.Generated.cropFullTable, 0 < c.sxBot :=
  Aqua.catalogue_sxBot_pos

end field

end Aqua.C16
