import AquaVerif.Proofs.RunClosedExampleCfg
import AquaVerif.Proofs.RunClosedEs

/-
Non-vacuity of `Proofs/RunClosed.lean` over `ℚ`, and the counter-example behind the `trPot`
residual.

The configuration `cfgE wt` and its premises `cfgOK_E`, `weatherOK_E` are in
`Proofs/RunClosedExampleCfg.lean`.

* `reach10`: ten `_perform_timestep`s succeed from the initial state, with and without the water
  table; every simulated day satisfies `Residual`, all three fields read off what `check10`
  computes (with and without the table).
* `closed_example`: the final theorems of `Proofs/RunClosed.lean` apply to that run.
* `cfgTrOK_E`, `cfgRwOK_E`, `cfgEsOK_E`: the further configuration premises of
  `Proofs/RunClosedTr.lean`, `RunClosedRw.lean`, `RunClosedEs.lean` hold for `cfgE wt`;
  `closed_tr_example`; `crop_closed_example` / `flux_closed_example`: for **every** reachable state
  of **every** run of `cfgE 0` (no water table) the C05 envelope, `ccx_act ≤ CCx`, `0 ≤ Es ≤ EsPot`,
  `0 ≤ Tr ≤ TrPot`, … hold with no hypothesis about computed values at all.
* `trPot_gt_trPotNS`: a canopy state inside the crop envelope for which the potential
  transpiration exceeds the no-stress potential transpiration — `TrPot ≤ TrPot_NS` (hence
  `DayCropOK.tr`, and `B ≤ B_NS`) is not a consequence of the envelope.
-/

set_option linter.unusedSectionVars false
namespace Aqua
namespace RunClosedExample
open DayExample FullDayExample RunExample

/-! ### a run of ten days -/

/-- what is checked by computation on the ten simulated days: growing-season days with no early
senescence pending, `0 ≤ TrPot ≤ TrPot_NS`, no overshoot of capillary rise; the last day has
positive canopy cover, deepening roots and positive transpiration -/
def check10 (wt : Nat) : Bool :=
  match runInit (cfgE wt) with
  | .error _ => false
  | .ok s0 =>
    match runStepsR Fq2 Tq (cfgE wt) 10 s0 with
    | .ok s => decide (s.t = 10 ∧ s.season = 0 ∧ s.day.dap = 10 ∧ s.daysRev.length = 10 ∧
        0 < s.day.cc ∧ 0.2 < s.day.zRoot ∧
        s.daysRev.all (fun d => decide (d.D.gs = true ∧ d.st.tEarlySen ≤ 0 ∧ 0 ≤ d.r.flux.trPot ∧
          d.r.flux.trPot ≤ d.r.water.trPotNS ∧
          d.r.water.crCells.all (fun y => decide (y.th ≤ y.c.thS)) = true)) = true ∧
        (s.daysRev.head?.map (fun d => decide (0 < d.r.flux.tr))) = some true)
    | .error _ => false

theorem check10_0 : check10 0 = true := by decide +kernel
theorem check10_1 : check10 1 = true := by decide +kernel

theorem check10_eq (wt : Nat) : check10 wt = runChecks Fq2 Tq (cfgE wt) 10 (fun s =>
    decide (s.t = 10 ∧ s.season = 0 ∧ s.day.dap = 10 ∧ s.daysRev.length = 10 ∧
        0 < s.day.cc ∧ 0.2 < s.day.zRoot ∧
        s.daysRev.all (fun d => decide (d.D.gs = true ∧ d.st.tEarlySen ≤ 0 ∧ 0 ≤ d.r.flux.trPot ∧
          d.r.flux.trPot ≤ d.r.water.trPotNS ∧
          d.r.water.crCells.all (fun y => decide (y.th ≤ y.c.thS)) = true)) = true ∧
        (s.daysRev.head?.map (fun d => decide (0 < d.r.flux.tr))) = some true)) := by
  -- not `rfl`: `runInit (cfgE wt)` reduces, and the unifier would start running the model
  unfold check10 runChecks okAnd
  generalize runInit (cfgE wt) = x
  cases x with
  | error e => rfl
  | ok s0 =>
    dsimp only
    generalize runStepsR Fq2 Tq (cfgE wt) 10 s0 = y
    cases y <;> rfl

theorem reach10 (wt : Nat) (hc : check10 wt = true) :
    ∃ s, RunReach Fq2 Tq (cfgE wt) s ∧ s.t = 10 ∧ s.daysRev.length = 10 ∧ 0 < s.day.cc ∧
      (∀ d ∈ s.daysRev, Residual d) ∧ ∃ d ∈ s.daysRev, 0 < d.r.flux.tr := by
  rw [check10_eq] at hc
  obtain ⟨s, hr, hp⟩ := reach_of_runChecks hc
  simp only [decide_eq_true_eq, List.all_eq_true] at hp
  obtain ⟨a1, _, _, a4, a5, _, a7, a8⟩ := hp
  refine ⟨s, hr, a1, a4, a5, fun d hd => ?_, ?_⟩
  · obtain ⟨_, b2, b3, b4, b5⟩ := a7 d hd
    exact ⟨fun _ => b5, fun hrw => by
        obtain ⟨_, _, _, _, _, hpos⟩ := hrw
        exact absurd hpos (not_lt.mpr b2), fun _ => ⟨b3, b4⟩⟩
  · cases hh : s.daysRev with
    | nil => rw [hh] at a8; simp at a8
    | cons d rest =>
      rw [hh] at a8
      simp only [List.head?_cons, Option.map_some, Option.some.injEq, decide_eq_true_eq] at a8
      exact ⟨d, List.mem_cons_self, a8⟩

theorem closed_example (wt : Nat) (hc : check10 wt = true) :
    ∃ s, RunReach Fq2 Tq (cfgE wt) s ∧ s.daysRev.length = 10 ∧ 0 < s.day.cc ∧
      RunInvAll Fq2 (cfgE wt) s ∧
      (∀ d ∈ s.daysRev, (∀ y ∈ d.r.state.cells, y.Inv) ∧
        storage d.r.state.cells + d.r.state.pond =
          storage d.st.cells + d.st.pond + d.r.flux.infl + d.r.water.preIrr + d.r.water.irrNet
            + d.r.water.crAdded + d.r.flux.gwIn - d.r.flux.deepPerc - d.r.flux.es - d.r.flux.tr ∧
        CropInv Fq2 d.P d.r.state) := by
  obtain ⟨s, hr, _, hlen, hcc, hR, _⟩ := reach10 wt hc
  have hRW : ∀ d ∈ s.daysRev, ResidualW d := fun d hd => (hR d hd).cr
  obtain ⟨hall, hdays⟩ := run_invAll (cfgOK_E wt) (weatherOK_E wt) hr hR
  have h1 := run_inv_closed (cfgOK_E wt) hr hRW
  have h2 := run_closes_closed (cfgOK_E wt) hr hRW
  exact ⟨s, hr, hlen, hcc, hall, fun d hd => ⟨(h1.2 d hd).2.1, h2 d hd, (hdays d hd).2⟩⟩

example := closed_example 0 check10_0
example := closed_example 1 check10_1

/-- without a water table the water residual of every day of every run is trivially true -/
example {s : RunState ℚ} (hr : RunReach Fq2 Tq (cfgE 0) s) :
    WaterInv (cfgE 0) s ∧ (∀ x ∈ s.day.cells, 0 ≤ x.aer) ∧ 0 ≤ s.day.rCor :=
  by
  obtain ⟨_, _, hI, _⟩ := run_dayFacts (cfgOK_E 0) hr (run_residualW_of_no_table (by decide) hr)
  exact ⟨hI.water, hI.aer, hI.rCor⟩

/-! ### the premises for `0 ≤ TrPot` (`Proofs/RunClosedTr.lean`) -/

theorem trCropOK_q : TrCropOK Fq2 cropq' 10 :=
  { kcb := by show (0 : ℚ) ≤ 1.1; norm_num
    fage := by show (0 : ℚ) ≤ 0.15; norm_num
    aged := by show ((10 : ℚ) - 5) * (0.15 / 100) * 0.9 ≤ 1.1; norm_num
    ccx1 := by show (0.9 : ℚ) ≤ 1; norm_num
    ksCold := ksCold_of_no_cold_stress rfl }

/-- seasons of at most 21 days, maximum canopy after 60: the canopy age stays below `A = 10` -/
theorem cfgTrOK_E (wt : Nat) : CfgTrOK Fq2 (cfgE wt) 10 :=
  { wf := by
      show Clock.WF { n := 14, planting := [0], harvest := [20], offSeason := false, season0 := 0 }
      decide
    initOK := ⟨rfl, rfl, rfl, rfl⟩
    crop := cropOf_ind (Q := fun p => TrCropOK Fq2 p 10) (fun _ => trCropOK_q)
      (trCropOK_fallowAdjust trCropOK_q)
    age := fun k dap h => by
      -- season 0 runs from day 0 to day 20; there is no other season
      have h21 : (dap : Int) ≤ 21 := by
        cases k with
        | zero =>
          have h' : (dap : Int) ≤ (20 : Int) - ((0 : Nat) : Int) + 1 := h
          omega
        | succ k =>
          have h' : (dap : Int) ≤ (0 : Int) - ((0 : Nat) : Int) + 1 := h
          omega
      have h21' : (natNum dap : ℚ) ≤ 21 := by
        rw [natNum_eq_cast]; exact_mod_cast h21
      show (natNum dap : ℚ) - 60 ≤ 10
      exact (sub_le_sub_right h21' 60).trans (by norm_num)
    co2 := fun season h => by
      have : (369 : ℚ) < 369 := h
      exact absurd this (lt_irrefl _)
    A0 := by norm_num
    ageDays0 := by show (0 : ℚ) ≤ 10; norm_num
    delayed0 := le_refl _
    ccxW0 := le_refl _
    ccxW1 := by
      show (0 : ℚ) ≤ 0.9
      norm_num }

/-! ### the premises for the rewatering cap (`Proofs/RunClosedRw.lean`) -/

theorem cfgRwOK_E (wt : Nat) : CfgRwOK Fq2 (cfgE wt) :=
  { devEnd := cropOf_ind (Q := fun p => p.cx.cc.canopyDevEnd ≤ p.cx.cc.senescence)
      (fun _ => by show (50 : ℚ) ≤ 100; norm_num) (by show (50 : ℚ) ≤ 100; norm_num)
    init := Or.inl (le_refl _) }

/-- `run_crop_closed` on the ten-day run: of what `check10` computes only the capillary-rise
residual is used -/
theorem closed_tr_example (wt : Nat) (hc : check10 wt = true) :
    ∃ s, RunReach Fq2 Tq (cfgE wt) s ∧ s.daysRev.length = 10 ∧
      CropEnv Fq2 (paramsOf (cfgE wt) s.season false) s.day ∧
      (∀ d ∈ s.daysRev, 0 ≤ d.r.flux.trPot ∧ 0 ≤ d.r.flux.tr ∧ d.r.flux.tr ≤ d.r.flux.trPot) ∧
      ∃ d ∈ s.daysRev, 0 < d.r.flux.tr := by
  obtain ⟨s, hr, _, hlen, _, hR, hpos⟩ := reach10 wt hc
  have hRW : ∀ d ∈ s.daysRev, ResidualW d := fun d hd => (hR d hd).cr
  obtain ⟨⟨_, henv, _⟩, hdays⟩ := run_crop_closed (cfgOK_E wt) (cfgTrOK_E wt) (cfgRwOK_E wt)
    (weatherOK_E wt) hr hRW
  have hsign := run_flux_signs_closed (cfgOK_E wt) hr hRW
  exact ⟨s, hr, hlen, henv, fun d hd =>
    have p0 := (hdays d hd).trPot
    ⟨p0, (hsign d hd).2.2.2.2.2.2 p0⟩, hpos⟩

example := closed_tr_example 0 check10_0

theorem crop_closed_example {s : RunState ℚ} (hr : RunReach Fq2 Tq (cfgE 0) s) :
    CropEnv Fq2 (paramsOf (cfgE 0) s.season false) s.day ∧
      ∀ d ∈ s.daysRev, CropEnv Fq2 d.P d.st ∧ CropEnv Fq2 d.P d.r.state ∧
        d.r.state.ccxAct ≤ d.P.cx.cc.ccx ∧ 0 ≤ d.r.flux.trPot ∧
        (d.D.gs = true → d.st.hi ≤ d.r.state.hi ∧ d.st.biomass ≤ d.r.state.biomass ∧
          0 ≤ d.r.flux.tr ∧ d.r.flux.tr ≤ d.r.flux.trPot) :=
  (run_crop_closed_no_table (cfgOK_E 0) (cfgTrOK_E 0) (cfgRwOK_E 0) (weatherOK_E 0) (by decide)
    hr).imp_right fun hdays d hd =>
    have h := hdays d hd
    ⟨h.env, h.envOut, h.ccx, h.trPot, h.inSeason⟩

/-! ### the premises for `0 ≤ EsPot` (`Proofs/RunClosedEs.lean`) -/

theorem cfgEsOK_E (wt : Nat) : CfgEsOK (cfgE wt) :=
  { kex := by show (0 : ℚ) ≤ 1.1; norm_num
    fwcc0 := by show (0 : ℚ) ≤ 50; norm_num
    fwcc1 := by show (50 : ℚ) ≤ 100; norm_num
    mulch := fun h => absurd h Bool.false_ne_true
    mulchF := fun h => absurd h Bool.false_ne_true
    wet := fun _ => by show (0 : ℚ) ≤ 100; norm_num
    wetF := fun _ => by show (0 : ℚ) ≤ 100; norm_num }

theorem flux_closed_example {s : RunState ℚ} (hr : RunReach Fq2 Tq (cfgE 0) s) :
    ∀ d ∈ s.daysRev,
      (0 ≤ d.r.flux.esPot ∧ 0 ≤ d.r.flux.es ∧ d.r.flux.es ≤ d.r.flux.esPot) ∧
      (0 ≤ d.r.flux.trPot ∧ 0 ≤ d.r.flux.tr ∧ d.r.flux.tr ≤ d.r.flux.trPot) ∧
      (0 ≤ d.r.flux.deepPerc ∧ 0 ≤ d.r.flux.cr ∧ 0 ≤ d.r.flux.gwIn ∧ 0 ≤ d.r.water.irr ∧
        (d.P.W.irr.method ≠ 4 → 0 ≤ d.r.flux.irrDay)) ∧
      (0 ≤ d.r.state.pond ∧
        (d.P.fm.bunds = false ∨ d.P.fm.zBund ≤ 0.001 → d.r.state.pond = 0) ∧
        (d.P.fm.bunds = true → d.st.pond ≤ d.P.fm.zBund → d.r.state.pond ≤ d.P.fm.zBund)) :=
  run_flux_closed (cfgOK_E 0) (cfgTrOK_E 0) (cfgRwOK_E 0) (cfgEsOK_E 0) (weatherOK_E 0) hr
    (run_residualW_of_no_table (by decide) hr)

/-! ### `TrPot ≤ TrPot_NS` is not a consequence of the crop envelope -/

/-- `cropq` with a stronger ageing coefficient (`fage = 0.3`); with `stT` the canopy is 40 days past
its maximum -/
def cropT : TrCrop ℚ := { cropq with fage := 0.3, maxCanopyCD := 60 }

/-- a canopy state inside the envelope of any crop with `CCx ≥ 0.99`: `cc = 0.97 ≤ cc_ns = 0.99`,
`ccx_w = 0.97 ≤ ccx_w_ns = 0.99`, both adjusted covers at their cap 1 (`1.72c − c² + 0.3c³ > 1`
for `c ≥ 0.97`) -/
def stT : TrState ℚ :=
  { dap := 100, delayedCds := 0, ageDaysNS := 39, ageDays := 39, ccxWNS := 0.99, ccxW := 0.97,
    ccAdjNS := 1, ccNS := 0.99, ccAdj := 1, cc := 0.97, ccPrev := 0.97, pond := 0,
    daySubmerged := 0, zRoot := 0.5, tEarlySen := 0, aerDays := 0, rCor := 1, irrNetCum := 0,
    trRatio := 1, tPot := 4, depletion := 0, taw := 0 }

/-- **`TrPot > TrPot_NS`** for that state: the canopy-ageing reduction
`(age − 5)·fage/100·CCxW` of the crop coefficient is larger for the larger no-stress canopy, and
with both adjusted covers capped at 1 nothing compensates.  (`TrPot = 4.99075`,
`TrPot_NS = 4.98025` at `ET0 = 5`.) -/
theorem trPot_gt_trPotNS :
    ∃ pot, trPotential Fq cropT stT 5 369 369 10 = .ok pot ∧ 0 ≤ pot.trPotNS ∧
      pot.trPotNS < pot.trPot0 ∧ stT.cc ≤ stT.ccNS ∧ stT.ccxW ≤ stT.ccxWNS ∧
      stT.ccAdj = microAdv Fq stT.cc ∧ stT.ccAdjNS = microAdv Fq stT.ccNS := by
  have h : okAnd (trPotential Fq cropT stT 5 369 369 10)
      (fun pot => decide (0 ≤ pot.trPotNS ∧ pot.trPotNS < pot.trPot0)) = true := by decide +kernel
  obtain ⟨pot, hp, h⟩ := okAnd_decide_iff.mp h
  refine ⟨pot, hp, h.1, h.2, by norm_num [stT], by norm_num [stT], ?_, ?_⟩
  · simp only [stT, microAdv, microAdvPoly, Fq]; norm_num
  · simp only [stT, microAdv, microAdvPoly, Fq]; norm_num

end RunClosedExample
end Aqua

#print axioms Aqua.RunClosedExample.reach10
#print axioms Aqua.RunClosedExample.closed_example
#print axioms Aqua.RunClosedExample.trPot_gt_trPotNS
#print axioms Aqua.RunClosedExample.cfgTrOK_E
#print axioms Aqua.RunClosedExample.closed_tr_example
#print axioms Aqua.RunClosedExample.crop_closed_example
#print axioms Aqua.RunClosedExample.flux_closed_example
