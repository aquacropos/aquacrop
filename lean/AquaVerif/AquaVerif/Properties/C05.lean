import AquaVerif.Proofs.CanopyCover
import AquaVerif.Proofs.RootDevelopment
import AquaVerif.Proofs.HarvestIndex
import AquaVerif.Proofs.Yield
/-
Property C05 — crop state stays inside its configured envelope.

One-day statements about the models of `canopy_cover` (with `adjust_CCx`, `update_CCx_CDC`),
`root_development`, `HIref_current_day`, `harvest_index` (with the three `HIadj_*` helpers),
`biomass_accumulation` and `growing_degree_day`, at an arbitrary linearly ordered field, for every
profile, state and parameter vector satisfying the stated premises.  The premises that are
*invariants* (previous canopy within range, previous harvest index below the reference, …) are the
conclusions of the same theorems for the previous day, so each envelope is preserved day after
day; the premises on crop parameters hold for the whole catalogue (checked by the tie and, for
the response functions, by the generated obligations of C17).  Laws of `exp`, `pow`, `sin` are
hypotheses (`ExpOrdLaws`, `PowLaws`, `PowNonneg`, `SinLaw`; bundled as `FnOK` at run level), shown
satisfiable at ℝ in `Proofs/*Real.lean`.

This file holds the one-day theorems and imports the lemma files of those processes only; the run
level, the crop catalogue and the crop calendars are in `Properties/C05Run.lean`.
-/

set_option linter.unusedSectionVars false
namespace Aqua.C05
open Aqua
variable {α : Type} [Field α] [LinearOrder α] [IsStrictOrderedRing α]

/-! ### canopy cover -/

/-- Canopy cover lies between 0 and the no-stress canopy, the no-stress canopy does not exceed the
crop's maximum canopy cover, the micro-advection adjusted covers do not exceed 1, and outside a
growing season all of them are zero — given the incoming state within range (`CcPre`, `NsRng`,
`ccx_act ≤ CCx`), `0 ≤ CCx`, the crop premises `CcParamsFor` and the order laws of `exp`. -/
theorem canopy_in_envelope {F : Fn α} (hF : ExpOrdLaws F) {crop : CcCrop α} {cells : List (Cell α)}
    {zTop : α} {st out : CcState α} {gdd et0 : α} {gs : Bool} (hccx : 0 ≤ crop.ccx)
    (hp : CcParamsFor F crop st gdd) (hpre : CcPre crop st) (hx : st.ccxAct ≤ crop.ccx)
    (hns : NsRng crop st)
    (h : canopyCover F crop cells zTop st gdd et0 gs = .ok out) :
    0 ≤ out.cc ∧ out.cc ≤ out.ccNS ∧ out.ccNS ≤ crop.ccx ∧ out.ccAdj ≤ 1 ∧ out.ccAdjNS ≤ 1 ∧
      (gs = false → out.cc = 0 ∧ out.ccNS = 0 ∧ out.ccAdj = 0 ∧ out.ccAdjNS = 0) := by
  obtain ⟨a1, a2⟩ := ccadj_le_one h
  cases gs
  · obtain ⟨h1, h2, h3, h4, _⟩ := cc_offseason rfl h
    exact ⟨by rw [h1], by rw [h1, h2], by rw [h2]; exact hccx, a1, a2, fun _ => ⟨h1, h2, h3, h4⟩⟩
  · obtain ⟨c0, _, _, _⟩ := cc_range hF hp hpre hx h
    obtain ⟨_, n1, _⟩ := ccns_range hF hp hpre hx hns h
    exact ⟨c0, cc_le_ns h, n1, a1, a2, fun hf => by cases hf⟩

/-- In a growing season the actual canopy never exceeds the no-stress canopy — no premise. -/
theorem canopy_le_nostress {F : Fn α} {crop : CcCrop α} {cells : List (Cell α)} {zTop : α}
    {st out : CcState α} {gdd et0 : α}
    (h : canopyCover F crop cells zTop st gdd et0 true = .ok out) : out.cc ≤ out.ccNS :=
  cc_le_ns h

/-- In season the canopy stays within `[0, CCx]` and the invariant on the adjusted initial cover is
kept (`CcPre` on the incoming state, `ccx_act ≤ CCx`, `CcParamsFor`, the order laws of `exp`). -/
theorem canopy_range_preserved {F : Fn α} (hF : ExpOrdLaws F) {crop : CcCrop α} {cells : List (Cell α)}
    {zTop : α} {st out : CcState α} {gdd et0 : α}
    (hp : CcParamsFor F crop st gdd) (hpre : CcPre crop st) (hx : st.ccxAct ≤ crop.ccx)
    (h : canopyCover F crop cells zTop st gdd et0 true = .ok out) :
    0 ≤ out.cc ∧ out.cc ≤ crop.ccx ∧ 0 ≤ out.cc0Adj ∧ out.cc0Adj ≤ crop.cc0 :=
  cc_range hF hp hpre hx h

/-! ### rooting depth -/

/-- Outside a growing season the rooting depth is zero. -/
theorem roots_zero_offseason {F : Fn α} {C : RdCrop α} {cells : List (Cell α)}
    {dap zRoot dcd gddCum dgdd tr cc ccNS rCor tPot zGW gdd : α} {germ : Bool} {wt : Nat}
    {out : RdOut α}
    (h : rootDevelopment F C cells dap zRoot dcd gddCum dgdd tr cc ccNS germ rCor tPot zGW gdd false wt
      = .ok out) : out.zRoot = 0 ∧ out.rCor = rCor := by
  rw [rootDevelopment_offseason] at h
  obtain rfl := Except.ok.inj h
  exact ⟨rfl, rfl⟩

/-- In season, under `RdHyp`, the rooting depth is not below the depth the day starts from
(`Zroot_init`: `Zmin` on day 1, else yesterday's depth), except when a water table above the new
root tip forces it (then it is set to the table depth, but not above the minimum rooting depth). -/
theorem roots_never_shrink_except_for_water_table {F : Fn α} {C : RdCrop α} {cells : List (Cell α)}
    {dap zRoot dcd gddCum dgdd tr cc ccNS rCor tPot zGW gdd : α} {germ : Bool} {wt : Nat}
    {out : RdOut α} (H : RdHyp F C cells tr gdd)
    (h : rootDevelopment F C cells dap zRoot dcd gddCum dgdd tr cc ccNS germ rCor tPot zGW gdd true wt
      = .ok out) :
    out.zInit = zInitOf C dap zRoot ∧
    (¬ (wt = 1 ∧ 0 < zGW ∧ zGW < out.zInit + out.dZr) →
      out.zRoot = out.zInit + out.dZr ∧ out.zInit ≤ out.zRoot) ∧
    ((wt = 1 ∧ 0 < zGW ∧ zGW < out.zInit + out.dZr) → out.zRoot = max zGW C.zmin) :=
  zroot_nonshrinking H h

/-- The daily root increment is non-negative, also below restrictive layers: today's and
yesterday's potential depth are limited alike (in season, under `RdHyp`). -/
theorem root_increment_nonneg {F : Fn α} {C : RdCrop α} {cells : List (Cell α)}
    {dap zRoot dcd gddCum dgdd tr cc ccNS rCor tPot zGW gdd : α} {germ : Bool} {wt : Nat}
    {out : RdOut α} (H : RdHyp F C cells tr gdd)
    (h : rootDevelopment F C cells dap zRoot dcd gddCum dgdd tr cc ccNS germ rCor tPot zGW gdd true wt
      = .ok out) : 0 ≤ out.dZr0 ∧ 0 ≤ out.dZr ∧ out.dZr ≤ out.dZr0 := dZr_nonneg H h

/-- The roots never reach below a present water table (unless the table is shallower than the
minimum rooting depth). -/
theorem roots_not_below_water_table {F : Fn α} {C : RdCrop α} {cells : List (Cell α)}
    {dap zRoot dcd gddCum dgdd tr cc ccNS rCor tPot zGW gdd : α} {germ : Bool} {wt : Nat}
    {out : RdOut α}
    (h : rootDevelopment F C cells dap zRoot dcd gddCum dgdd tr cc ccNS germ rCor tPot zGW gdd true wt
      = .ok out) (hwt : wt = 1) (hgw : 0 < zGW) (hz : C.zmin ≤ zGW) : out.zRoot ≤ zGW :=
  zroot_le_gw h hwt hgw hz

/-- The rooting depth stays at or above the minimum rooting depth (in season, under `RdHyp`) … -/
theorem roots_ge_zmin {F : Fn α} {C : RdCrop α} {cells : List (Cell α)}
    {dap zRoot dcd gddCum dgdd tr cc ccNS rCor tPot zGW gdd : α} {germ : Bool} {wt : Nat}
    {out : RdOut α} (H : RdHyp F C cells tr gdd)
    (h : rootDevelopment F C cells dap zRoot dcd gddCum dgdd tr cc ccNS germ rCor tPot zGW gdd true wt
      = .ok out) (hi : C.zmin ≤ zInitOf C dap zRoot) : C.zmin ≤ out.zRoot := by
  obtain ⟨_, hnn, _⟩ := dZr_nonneg H h
  obtain ⟨d0, b0, d2, b2, _, _, _, _, _, e2, _, _, e5, _⟩ := rdSeason_ok (rootDevelopment_season h)
  rw [e5, rdGwCap_fst]
  split_ifs
  · exact le_max_right _ _
  · exact hi.trans (le_add_of_nonneg_right hnn)

/-- … and at or below the maximum rooting depth: the invariant "not deeper than the layer-limited
potential depth" (`RdInv`) is preserved by a day in season (premises: `RdHyp`, penetrabilities
≤ 100, `SkipOK`, starting depth ≥ `Zmin`). -/
theorem roots_le_zmax {F : Fn α} {C : RdCrop α} {cells : List (Cell α)}
    {dap zRoot dcd gddCum dgdd tr cc ccNS rCor tPot zGW gdd : α} {germ : Bool} {wt : Nat}
    {out : RdOut α} (H : RdHyp F C cells tr gdd) (hl1 : LaysLe100 (layersOf cells))
    (hs : SkipOK F C.zmin)
    (h : rootDevelopment F C cells dap zRoot dcd gddCum dgdd tr cc ccNS germ rCor tPot zGW gdd true wt
      = .ok out)
    (hi : RdInv F C (layersOf cells) (zInitOf C dap zRoot) (rdTOld C dap dcd gddCum dgdd gdd))
    (hz : C.zmin ≤ zInitOf C dap zRoot) :
    out.zRoot ≤ C.zmax ∧ out.zRoot ≤ out.zrPot ∧
      RdInv F C (layersOf cells) out.zRoot (rdTAdj C dap dcd gddCum dgdd) := by
  have hs' := rootDevelopment_season h
  have ht := rdTOld_le C dap dcd gddCum dgdd H.gdd0
  obtain ⟨_, q1, q2⟩ := rdSeason_dZr H ht hs'
  obtain ⟨d0, b0, d2, b2, _, hd, _, e0, e1, _, _, _, e5, _⟩ := rdSeason_ok hs'
  rw [e0] at q2
  -- one day preserves the invariant, for the depth before the water-table cap
  have hinv : RdInv F C (layersOf cells) (zInitOf C dap zRoot + out.dZr)
      (rdTAdj C dap dcd gddCum dgdd) := by
    rcases rdDZr0_ok hd with ⟨hc, a, b, h1, h2, rfl⟩ | ⟨hc, rfl⟩
    · -- `zInit ≤ a` by the invariant and `dZr ≤ b - a`: the new depth is at most `b ≤ zrPot tAdj`
      have hzb : zInitOf C dap zRoot + out.dZr ≤ b :=
        (add_le_add (hi.2 a h1) q2).trans_eq (add_sub_cancel _ _)
      refine ⟨hzb.trans ((limit_bounds H.lays hs hc.le h2).2 hl1), fun b' hb' => ?_⟩
      rwa [← Except.ok.inj (h2.symm.trans hb')]
    · -- the potential depth is still `Zmin` on both days, nothing is added
      have hm := zrPot_mono H.pow H.crop ht
      have e2 := le_antisymm hm ((not_lt.mp hc).trans (zrPot_ge_zmin F C _))
      rw [le_antisymm (q2.trans (sub_nonpos.mpr e2.ge)) q1, add_zero]
      unfold RdInv at hi ⊢
      rwa [← e2]
  -- the cap only lowers the depth
  have hle : out.zRoot ≤ zInitOf C dap zRoot + out.dZr := by
    rw [e5, rdGwCap_fst]
    split_ifs with hc
    · exact max_le hc.2.2.le (hz.trans (le_add_of_nonneg_right q1))
    · exact le_rfl
  have hpot := hle.trans hinv.1
  exact ⟨hpot.trans (zrPot_le_zmax H.pow H.crop _), e1 ▸ hpot, hpot,
    fun a ha => hle.trans (hinv.2 a ha)⟩

/-- On the first day of a season the rooting depth lies in `[Zmin, Zmax]` whatever it was before
(premises: `RdHyp`, penetrabilities ≤ 100, `SkipOK`). -/
theorem roots_in_range_on_day_one {F : Fn α} {C : RdCrop α} {cells : List (Cell α)}
    {zRoot dcd gddCum dgdd tr cc ccNS rCor tPot zGW gdd : α} {germ : Bool} {wt : Nat}
    {out : RdOut α} (H : RdHyp F C cells tr gdd) (hl1 : LaysLe100 (layersOf cells))
    (hs : SkipOK F C.zmin)
    (h : rootDevelopment F C cells 1 zRoot dcd gddCum dgdd tr cc ccNS germ rCor tPot zGW gdd true wt
      = .ok out) : C.zmin ≤ out.zRoot ∧ out.zRoot ≤ C.zmax :=
  ⟨roots_ge_zmin H h (by rw [zInitOf_day1]),
   (roots_le_zmax H hl1 hs h (by rw [zInitOf_day1]; exact rdInv_zmin H.lays hs _)
      (by rw [zInitOf_day1])).1⟩

/-! ### harvest index -/

/-- The reference harvest index never exceeds the crop's reference value `HI0` … -/
theorem reference_hi_le_hi0 (F : Fn α) (c : HiCrop α) (s : HiRefIn α) (gs : Bool) (h0 : 0 ≤ c.hi0) :
    (hiRefCurrentDay F c s gs).hiRef ≤ c.hi0 := by
  rcases hiref_zero_or_min F c s gs h0 with e | e <;> rw [e]
  exacts [h0, (min_le_left _ _).trans (hiRefLimit_le_hi0 c _ h0)]

/-- … and never decreases within a season (time since the start of yield formation does not go
back, the final index is `≥ 0` and is not lowered; crop premise `BuildUp`). -/
theorem reference_hi_never_decreases {F : Fn α} (hF : ExpOrdLaws F) (c : HiCrop α) (hb : c.BuildUp)
    (s s' : HiRefIn α) (ht : s.dap - s.delayedCDs ≤ s'.dap - s'.delayedCDs)
    (hfin : s.hiFinal ≤ s'.hiFinal) (hf0 : 0 ≤ s.hiFinal) :
    (hiRefCurrentDay F c s true).hiRef ≤ (hiRefCurrentDay F c s' true).hiRef := by
  have h0 := hb.hi0_nonneg
  have hT : hiTime c s.dap s.delayedCDs ≤ hiTime c s'.dap s'.delayedCDs :=
    sub_le_sub_right (sub_le_sub_right ht _) _
  by_cases h1 : 0 < hiTime c s.dap s.delayedCDs
  · rw [hiref_eq F c s h0 h1, hiref_eq F c s' h0 (h1.trans_le hT)]
    exact min_le_min (hiRefLimit_mono c (hiRefRaw_mono hF c hb _ _ hT) h0 hb.ini_ge) hfin
  · rw [hiref_eq_zero F c s (not_lt.mp h1)]
    exact hiref_nonneg F c s' true h0 hb.ini_ge (hf0.trans hfin)

/-- One day of the harvest-index chain (steps 15 and 17 of `solution_single_time_step`): the index
never decreases, never exceeds the day's reference index, the crop's `HI0`, or the final index.
`r` are yesterday's arguments of `HIref_current_day`, `r'` today's (`HIt` did not decrease,
`HIfinal` unchanged or larger); `s` is the state `harvest_index` receives today: its `hi_ref` is
today's reference index and its `harvest_index` is not above yesterday's reference index.
Further premises: yesterday's `HIfinal ≥ 0`, the crop premise `BuildUp`, the order laws of `exp`. -/
theorem harvest_index_day {F : Fn α} {T : TrigFn α} (hF : ExpOrdLaws F) (c : HiCrop α) (hb : c.BuildUp)
    (r r' : HiRefIn α) (ht : r.dap - r.delayedCDs ≤ r'.dap - r'.delayedCDs)
    (hfin : r.hiFinal ≤ r'.hiFinal) (hf0 : 0 ≤ r.hiFinal)
    {cells : List (Cell α)} {zTop : α} {k : HiStressCrop α} {s o : HiState α} {et0 tmax tmin : α}
    (hs : s.hiRef = (hiRefCurrentDay F c r' true).hiRef)
    (hprev : s.hi ≤ (hiRefCurrentDay F c r true).hiRef)
    (h : harvestIndex F T cells zTop c k s et0 tmax tmin true = .ok o) :
    s.hi ≤ o.hi ∧ o.hi ≤ (hiRefCurrentDay F c r' true).hiRef ∧ o.hi ≤ c.hi0 ∧ o.hi ≤ r'.hiFinal := by
  have h0 := hb.hi0_nonneg
  have hle : s.hi ≤ s.hiRef := by rw [hs]; exact hprev.trans (reference_hi_never_decreases hF c hb r r' ht hfin hf0)
  -- the stored index is today's reference index or stays: it lies between the two
  have hst := hi_stored h
  rw [if_pos rfl] at hst
  obtain ⟨a, b⟩ : s.hi ≤ o.hi ∧ o.hi ≤ s.hiRef := by
    rw [hst]; split_ifs
    exacts [⟨hle, le_rfl⟩, ⟨le_rfl, hle⟩]
  rw [hs] at b
  exact ⟨a, b, b.trans (reference_hi_le_hi0 F c r' true h0),
    b.trans (hiref_le_of_hifinal_small F c r' h0 (hf0.trans hfin))⟩

/-- The stress-adjusted index does not exceed the harvest index by more than the crop's allowed
maximum increase: `HIadj ≤ (1 + dHI0/100)·HI ≤ (1 + dHI0/100)·HI0`; the non-negativity invariant of the
adjustment factors is preserved.  Premises: the same bounds and invariant on the incoming state,
`0 ≤ hi_ref ≤ HI0`, ordered water-stress thresholds, the crop premises, laws of `exp`, `sin`, `pow`. -/
theorem adjusted_hi_within_allowed_increase {F : Fn α} {T : TrigFn α} (hF : ExpOrdLaws F)
    (hT : SinLaw T) (hP : PowNonneg F) {cells : List (Cell α)} {zTop : α} {c : HiCrop α}
    (hc : c.PostOK) {k : HiStressCrop α} {s o : HiState α} {et0 tmax tmin : α} {gs : Bool}
    (h : harvestIndex F T cells zTop c k s et0 tmax tmin gs = .ok o)
    (hord : ∀ i, wsUp F k.pUp k.etAdj k.beta s.tEarlySen et0 true i ≤ wsLo F k.pLo k.etAdj et0 i)
    (hf : ∀ i : Fin 4, i.val < 3 → k.fshapeW i ≠ 0)
    (h0 : 0 ≤ c.hi0) (hcap : 0 ≤ 1 + c.dHI0 / 100) (hleafy : c.cropType = 1 → 0 ≤ c.dHI0)
    (href : 0 ≤ s.hiRef) (href' : s.hiRef ≤ c.hi0)
    (hs : s.NN) (hprev : s.hi ≤ c.hi0) (inv : s.hiAdj ≤ (1 + c.dHI0 / 100) * s.hi) :
    o.NN ∧ o.hi ≤ c.hi0 ∧ o.hiAdj ≤ (1 + c.dHI0 / 100) * o.hi ∧
      o.hiAdj ≤ (1 + c.dHI0 / 100) * c.hi0 := by
  have hi := hi_le_hi0 h h0 hprev href'
  suffices hna : o.NN ∧ o.hiAdj ≤ (1 + c.dHI0 / 100) * o.hi from
    ⟨hna.1, hi, hna.2, hna.2.trans (mul_le_mul_of_nonneg_left hi hcap)⟩
  cases gs
  · rw [hi_offseason] at h; cases h
    exact ⟨hs.congr rfl, (mul_zero _).ge⟩
  obtain ⟨r, polH, polC, _, hcore⟩ := harvestIndex_ok_inseason h
  obtain ⟨dr, taw, e⟩ := hiWaterStress_eq F k r s.tEarlySen et0
  have hw := waterStress_mem hF k.pUp k.pLo k.fshapeW k.etAdj k.beta s.tEarlySen dr taw et0 true hf
  rw [e] at hcore
  rcases hiCore_ok hcore with ⟨_, h2 | ⟨h1, rfl⟩⟩ | ⟨_, rfl⟩
  · -- yield formation: `HIadj = HImult · min(hi_ref, HImax)` with `0 ≤ HImult ≤ 1 + dHI0/100`
    have hn := hiYieldFormation_nn hT hP hc h2 hw.1.2 hw.2.1.1 hs
    obtain ⟨e1, hiMax, e2⟩ := hiYieldFormation_spec h2
    refine ⟨hn, ?_⟩
    rw [e1, e2]
    calc hiMult c o.fPre o.fPost * min s.hiRef hiMax
        ≤ hiMult c o.fPre o.fPost * s.hiRef := mul_le_mul_of_nonneg_left (min_le_left _ _)
          (hiMult_nonneg c (mul_nonneg hn.fPre hn.fPost) hcap)
      _ ≤ (1 + c.dHI0 / 100) * s.hiRef := mul_le_mul_of_nonneg_right (hiMult_le c _ _) href
  · -- leafy crops: `HIadj = HI = hi_ref`
    exact ⟨hs.congr rfl, le_mul_of_one_le_left href
      (le_add_of_nonneg_right (div_nonneg (hleafy h1) (by norm_num)))⟩
  · exact ⟨hs, inv⟩

/-- Outside a growing season both harvest indices are zero. -/
theorem harvest_index_zero_offseason (F : Fn α) (T : TrigFn α) (cells : List (Cell α)) (zTop : α)
    (c : HiCrop α) (k : HiStressCrop α) (s : HiState α) (et0 tmax tmin : α) :
    harvestIndex F T cells zTop c k s et0 tmax tmin false = .ok { s with hi := 0, hiAdj := 0 } :=
  hi_offseason F T cells zTop c k s et0 tmax tmin

/-! ### biomass and degree days -/

/-- Biomass never decreases within a season (the daily gain `WPadj · Tr/ET0` is non-negative) and
is monotone in transpiration — given `0 ≤ Tr`, `ET0 > 0`, `BioSwitchOK`, `0 ≤ WPy ≤ 100`,
`0 ≤ WP·fCO2`. -/
theorem biomass_never_decreases (crop : BioCrop α)
    (dap delayedCDs hiRef pctLag b bNS tr tr' trPot et0 : α)
    (hy0 : 0 ≤ crop.wpy) (hy1 : crop.wpy ≤ 100) (hw : 0 ≤ crop.wp * crop.fco2)
    (h : BioSwitchOK crop dap delayedCDs pctLag) (htr : 0 ≤ tr) (htr' : tr ≤ tr') (het : 0 < et0) :
    b ≤ (biomassAccumulation crop dap delayedCDs hiRef pctLag b bNS tr trPot et0 true).1 ∧
      (biomassAccumulation crop dap delayedCDs hiRef pctLag b bNS tr trPot et0 true).1 ≤
        (biomassAccumulation crop dap delayedCDs hiRef pctLag b bNS tr' trPot et0 true).1 := by
  have hwp := bioWPadj_nonneg crop dap delayedCDs hiRef pctLag hy0 hy1 hw fun _ => h
  rw [biomass_step, biomass_step]
  exact ⟨le_add_of_nonneg_right (mul_nonneg hwp (div_nonneg htr het.le)),
    add_le_add le_rfl (mul_le_mul_of_nonneg_left (div_le_div_of_nonneg_right htr' het.le) hwp)⟩

/-- Outside a growing season biomass is zero. -/
theorem biomass_zero_offseason (crop : BioCrop α)
    (dap delayedCDs hiRef pctLag b bNS tr trPot et0 : α) :
    biomassAccumulation crop dap delayedCDs hiRef pctLag b bNS tr trPot et0 false = (0, 0) := by
  simp [biomassAccumulation]

/-- Daily growing degree days lie between zero and the crop's upper-minus-base temperature range
(all three methods) … -/
theorem degree_days_in_range {m : Nat} {tupp tbase tmax tmin g : α} (h : tbase ≤ tupp)
    (hg : growingDegreeDay m tupp tbase tmax tmin = some g) : 0 ≤ g ∧ g ≤ tupp - tbase :=
  gdd_range h hg

/-- … hence the cumulative value, which the day adds them to, never decreases. -/
theorem cumulative_degree_days_never_decrease {m : Nat} {tupp tbase tmax tmin g cum : α}
    (h : tbase ≤ tupp) (hg : growingDegreeDay m tupp tbase tmax tmin = some g) : cum ≤ cum + g :=
  le_add_of_nonneg_right (gdd_range h hg).1


end Aqua.C05
