import AquaVerif.Model.PreIrrigation
import AquaVerif.Proofs.GwCommon
import AquaVerif.Proofs.Sweep
/-
Lemmas about `preIrrigation` (`Model/PreIrrigation.lean`) at an arbitrary ordered field.
Everything is proved for `preIrrigationR rnd` with an *arbitrary* rounding function `rnd`, hence
for `preIrrigationT F b` and `preIrrigation F`; no law of `F` is used.
-/

set_option linter.unusedSectionVars false
namespace Aqua
variable {α : Type} [Field α] [LinearOrder α] [IsStrictOrderedRing α]

/-! ### the loop -/

def preIrrRaise (smt : α) (n : Nat) (cells : List (Cell α)) : List (Cell α) :=
  (cells.take n).map (fun x => x.raiseTo (preIrrCrit smt x.c)) ++ cells.drop n

theorem preIrrLoop_eq (smt : α) (n : Nat) (cells : List (Cell α)) (acc : α) :
    preIrrLoop smt n cells acc =
      (preIrrRaise smt n cells, acc + (storage (preIrrRaise smt n cells) - storage cells)) := by
  induction n generalizing cells acc with
  | zero => simp [preIrrLoop, preIrrRaise]
  | succ n ih =>
    cases cells with
    | nil => simp [preIrrLoop, preIrrRaise]
    | cons x xs =>
      rw [preIrrLoop]
      by_cases h : x.th < preIrrCrit smt x.c
      · have e : x.raiseTo (preIrrCrit smt x.c) = { x with th := preIrrCrit smt x.c } := by
          rw [Cell.raiseTo, max_eq_right h.le]
        simp only [if_pos h, ih, preIrrRaise, List.take_succ_cons, List.map_cons,
          List.drop_succ_cons, List.cons_append, storage_cons, e, Cell.water]
        exact Prod.ext rfl (by simp only []; ring)
      · have e : x.raiseTo (preIrrCrit smt x.c) = x := by
          rw [Cell.raiseTo, max_eq_left (not_lt.mp h)]
        simp only [if_neg h, ih, preIrrRaise, List.take_succ_cons, List.map_cons,
          List.drop_succ_cons, List.cons_append, storage_cons, e]
        exact Prod.ext rfl (by simp only []; ring)

theorem preIrrRaise_rel (smt : α) (n : Nat) (cells : List (Cell α)) :
    List.Forall₂ (Raised fun x => preIrrCrit smt x.c) cells (preIrrRaise smt n cells) := by
  conv => enter [2]; rw [← List.take_append_drop n cells]
  exact List.rel_append
    (List.forall₂_map_right_iff.2 (List.forall₂_same.mpr fun x _ => x.raiseTo_raised _))
    (List.forall₂_same.mpr fun x _ => Raised.refl _ x)

/-- the loop is `range(compRz)`: compartment `compRz` (which contains the bottom of the root zone)
and everything below it is untouched. -/
theorem preIrrLoop_drop (smt : α) (n : Nat) (cells : List (Cell α)) (acc : α) :
    (preIrrLoop smt n cells acc).1.drop n = cells.drop n := by
  induction n generalizing cells acc with
  | zero => rfl
  | succ n ih =>
    cases cells with
    | nil => rfl
    | cons x xs =>
      rw [preIrrLoop]
      exact ite_ind (fun r : List (Cell α) × α => r.1.drop (n + 1) = (x :: xs).drop (n + 1))
        (fun _ => ih xs _) fun _ => ih xs _

theorem preIrrLoop_take (smt : α) (n : Nat) (cells : List (Cell α)) (acc : α) :
    ∀ y ∈ (preIrrLoop smt n cells acc).1.take n, preIrrCrit smt y.c ≤ y.th := by
  induction n generalizing cells acc with
  | zero => exact nofun
  | succ n ih =>
    cases cells with
    | nil => exact nofun
    | cons x xs =>
      rw [preIrrLoop]
      exact ite_ind (fun r : List (Cell α) × α => ∀ y ∈ r.1.take (n + 1), preIrrCrit smt y.c ≤ y.th)
        (fun _ => List.forall_mem_cons.2 ⟨le_refl _, ih xs _⟩)
        fun h => List.forall_mem_cons.2 ⟨not_lt.mp h, ih xs _⟩

theorem preIrrCrit_le_fc (smt : α) (c : Comp α) (h0 : 0 ≤ smt) (h100 : smt ≤ 100)
    (hwf : c.thWP ≤ c.thFC) : c.thWP ≤ preIrrCrit smt c ∧ preIrrCrit smt c ≤ c.thFC := by
  have hd : 0 ≤ c.thFC - c.thWP := sub_nonneg.mpr hwf
  exact ⟨le_add_of_nonneg_right (mul_nonneg (div_nonneg h0 (by norm_num)) hd),
    le_sub_iff_add_le'.1 (mul_le_of_le_one_left hd ((div_le_one (by norm_num)).2 h100))⟩

/-! ### the process -/

theorem preIrrigationR_cases (rnd : α → α) (cells : List (Cell α)) (gs : Bool) (m : Nat)
    (dap : Int) (zRoot zMin smt : α) (r : List (Cell α) × α)
    (h : preIrrigationR rnd cells gs m dap zRoot zMin smt = some r) :
    r = (cells, 0) ∨ ∃ k, firstGE (rnd (pmax zRoot zMin)) cells = some k ∧
      gs = true ∧ m = 4 ∧ dap = 1 ∧ r = preIrrLoop smt k cells 0 := by
  unfold preIrrigationR at h
  by_cases hg : gs = true
  · by_cases hm : m ≠ 4 ∨ dap ≠ 1
    · simp only [hg, hm, if_true] at h
      exact Or.inl (Option.some.inj h).symm
    · simp only [hg, hm, if_true, if_false] at h
      rw [not_or, not_not, not_not] at hm
      cases hk : firstGE (rnd (pmax zRoot zMin)) cells with
      | none => rw [hk] at h; simp at h
      | some k =>
        rw [hk] at h
        exact Or.inr ⟨k, rfl, hg, hm.1, hm.2, (Option.some.inj h).symm⟩
  · simp only [hg] at h
    exact Or.inl (Option.some.inj h).symm

theorem preIrrigationR_spec (rnd : α → α) (cells : List (Cell α)) (gs : Bool) (m : Nat)
    (dap : Int) (zRoot zMin smt : α) (r : List (Cell α) × α)
    (h : preIrrigationR rnd cells gs m dap zRoot zMin smt = some r) :
    List.Forall₂ (Raised fun x => preIrrCrit smt x.c) cells r.1 ∧
      storage r.1 = storage cells + r.2 ∧ ((∀ x ∈ cells, 0 ≤ x.c.dz) → 0 ≤ r.2) := by
  have key : List.Forall₂ (Raised fun x => preIrrCrit smt x.c) cells r.1 ∧
      storage r.1 = storage cells + r.2 := by
    rcases preIrrigationR_cases rnd cells gs m dap zRoot zMin smt r h with rfl | ⟨k, _, _, _, _, rfl⟩
    · exact ⟨List.forall₂_same.mpr (fun x _ => Raised.refl _ x), (add_zero _).symm⟩
    · rw [preIrrLoop_eq]
      exact ⟨preIrrRaise_rel smt k cells, by simp only []; ring⟩
  refine ⟨key.1, key.2, fun hdz => ?_⟩
  linarith only [storage_le_of_forall₂ key.1 (fun _ _ h => ⟨h.1, h.2.2.2.2.1⟩) hdz, key.2]

theorem preIrrigation_balance (F : Fn α) (cells : List (Cell α)) (gs : Bool) (m : Nat)
    (dap : Int) (zRoot zMin smt : α) (r : List (Cell α) × α)
    (h : preIrrigation F cells gs m dap zRoot zMin smt = some r) :
    storage r.1 = storage cells + r.2 :=
  (preIrrigationR_spec _ cells gs m dap zRoot zMin smt r h).2.1

theorem preIrrigationR_length (rnd : α → α) (cells : List (Cell α)) (gs : Bool) (m : Nat)
    (dap : Int) (zRoot zMin smt : α) (r : List (Cell α) × α)
    (h : preIrrigationR rnd cells gs m dap zRoot zMin smt = some r) :
    r.1.length = cells.length :=
  (preIrrigationR_spec rnd cells gs m dap zRoot zMin smt r h).1.length_eq.symm

theorem preIrrigationR_inv (rnd : α → α) (cells : List (Cell α)) (gs : Bool) (m : Nat)
    (dap : Int) (zRoot zMin smt : α) (r : List (Cell α) × α)
    (h0 : 0 ≤ smt) (h100 : smt ≤ 100) (hinv : ∀ x ∈ cells, x.Inv)
    (h : preIrrigationR rnd cells gs m dap zRoot zMin smt = some r) :
    ∀ y ∈ r.1, y.Inv ∧ ∃ x ∈ cells, y.c = x.c ∧ x.th ≤ y.th ∧ y.th ≤ max x.th x.c.thFC := by
  have hf := (preIrrigationR_spec rnd cells gs m dap zRoot zMin smt r h).1
  intro y hy
  obtain ⟨x, hx, hr⟩ := forall₂_mem_right hf hy
  have ix := hinv x hx
  have hcr := preIrrCrit_le_fc smt x.c h0 h100 (le_of_lt ix.wf.wp_fc)
  refine ⟨hr.inv ix (hcr.2.trans ix.wf.fc_s), x, hx, hr.1, hr.2.2.2.2.1, ?_⟩
  rcases hr.2.2.2.2.2 with e | ⟨-, e⟩ <;> rw [e]
  · exact le_max_left _ _
  · exact le_trans hcr.2 (le_max_right _ _)

theorem preIrrigationR_inactive (rnd : α → α) (cells : List (Cell α)) (gs : Bool) (m : Nat)
    (dap : Int) (zRoot zMin smt : α) (hna : gs = false ∨ m ≠ 4 ∨ dap ≠ 1) :
    preIrrigationR rnd cells gs m dap zRoot zMin smt = some (cells, 0) := by
  unfold preIrrigationR
  rcases hna with h | h
  · simp [h]
  · by_cases hg : gs = true <;> simp [hg, h]

/-- `none` is the Python `IndexError` -/
theorem preIrrigationR_error_iff (rnd : α → α) (cells : List (Cell α)) (zRoot zMin smt : α) :
    preIrrigationR rnd cells true 4 1 zRoot zMin smt = none ↔
      firstGE (rnd (pmax zRoot zMin)) cells = none := by
  unfold preIrrigationR
  cases hk : firstGE (rnd (pmax zRoot zMin)) cells <;> simp [hk]

/-! ### non-vacuity: a concrete two-compartment call at `ℚ` -/

example :
    (preIrrigationR id [⟨gwExComp (1/10) (1/20), 1/10, 3/10, 0, 0⟩, ⟨gwExComp (1/5) (3/20), 1/10, 3/10, 0, 0⟩]
      true 4 1 (1/5) (1/10) 50).map (·.2) = some 10 := by
  decide +kernel

end Aqua

section
open Aqua
#print axioms preIrrigationR_spec
#print axioms preIrrigationR_inv
end
