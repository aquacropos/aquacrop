import AquaVerif.Proofs.Basic
/-
The law of `x ** 2`.

Python's `x ** 2` on a Python float or a numpy float64 *scalar* is C `pow(x, 2.0)`; the model
therefore writes `F.pow x 2` at those sites (and `x * x` only where the Python has a product or
`np.power`, whose ufunc squares exactly).  C `pow` is not correctly rounded, so at `Float` the two
can differ by one unit in the last place; over an ordered field the algebra needs the real-number
identity `x ** 2 = x · x`.  It is the one law about `pow` with the literal exponent 2, stated for
*every* base (also `x ≤ 0`): the real power (`Real.rpow`, `Proofs/RealInstance.lean`:
`powSqLaw_real`) and the ℚ example instances satisfy it.
-/

set_option linter.unusedSectionVars false
namespace Aqua
variable {α : Type} [Field α] [LinearOrder α] [IsStrictOrderedRing α]

structure PowSqLaw (F : Fn α) : Prop where
  pow_two : ∀ x : α, F.pow x 2 = x * x

theorem PowSqLaw.nonneg {F : Fn α} (h : PowSqLaw F) (x : α) : 0 ≤ F.pow x 2 := by
  rw [h.pow_two]; exact mul_self_nonneg x

theorem PowSqLaw.pos {F : Fn α} (h : PowSqLaw F) {x : α} (hx : x ≠ 0) : 0 < F.pow x 2 := by
  rw [h.pow_two]; exact mul_self_pos.mpr hx

theorem PowSqLaw.mono {F : Fn α} (h : PowSqLaw F) {x y : α} (hx : 0 ≤ x) (hxy : x ≤ y) :
    F.pow x 2 ≤ F.pow y 2 := by
  rw [h.pow_two, h.pow_two]; exact mul_self_le_mul_self hx hxy

end Aqua
