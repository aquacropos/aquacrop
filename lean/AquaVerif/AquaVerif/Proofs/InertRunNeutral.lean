import AquaVerif.Proofs.InertRun
/-
**Neutral settings at run level**: equalities of runs between *different switch settings*.  The
theorems for the season's records that are not here stand with their proofs in
`Properties/C20.lean`.

Field management (`run_sim_fm`):
* `run_mulch_neutral`, `run_fallow_mulch_neutral` — mulches on with cover 0 % or factor 0 ≡ mulches
  off;
* `run_fallow_low_bund` — bunds lower than 0.001 mm ≡ no bunds (strictly lower: see the finding in
  `Proofs/InertRunExample.lean`);
* `run_fallow_cnAdj_zero` — curve-number adjustment of 0 % ≡ no adjustment.

Irrigation (`runSim_rainfed_of_zero`; the right-hand configuration is `cfg.rainfed`, the same record
with `IrrMethod = 0` — by `run_inert` every other rain-fed record gives the same run):
* `run_depth0_rainfed` — constant depth (method 5) with depth 0;
* `zeroDemand_sched0` — schedule (method 3) with an entry of 0 ("empty schedule":
  `read_irrigation_management` fills the days without an event with 0);
* `zeroDemand_maxIrr0` — `MaxIrr = 0` under methods 1, 2, 3, 5;
* `run_maxSeason0_rainfed` — `MaxIrrSeason = 0` under methods 1, 2, 3, 5.  The equality covers the
  daily tables **and** the summary (its `IrrTot` is the seasonal counter, which does not
  move).
The last two need that the strategy itself does not raise (`NoIrrError`: an interval of 0 days, a
missing or negative schedule entry raise in Python whatever the maxima — the rain-fed run does not)
and the run invariants `growth_stage ≤ 4` (so that `SMT[stage − 1]` exists) and, for the seasonal
maximum, `0 ≤ irr_cum`; both hold initially by premise and are preserved (`irrInv_day`,
`irrInv_reset`).
-/

set_option linter.unusedSectionVars false
namespace Aqua
variable {α : Type} [Field α] [LinearOrder α] [IsStrictOrderedRing α]

/-! ## 1. field management -/

section fm
variable {F : Fn α} {T : TrigFn α} {cfg : RunCfg α}

theorem runSim_of_mgmt {Inv : DayState' α → Prop} {I' : IrrSet α} {fm' ffm' : FieldMngt α}
    (hI : ∀ st t gs, Inv st →
      IrrSim F gs st.growthStage st.irrCum cfg.irr.irr cfg.irr.netIrrSMT cfg.irr.wetSurf
        (cfg.irr.sched t) I'.irr I'.netIrrSMT I'.wetSurf (I'.sched t))
    (h1 : FmSim F cfg.fm fm') (h2 : FmSim F cfg.fallowFm ffm')
    (hday : ∀ season gs st D r, Inv st → fullDay F T (paramsOf cfg season gs) st D = .ok r →
      Inv r.state)
    (hreset : ∀ crop st, Inv st → Inv (resetState cfg crop st)) :
    RunSim F T Inv cfg { cfg with irr := I', fm := fm', fallowFm := ffm' } :=
  { clock := rfl, waterTable := rfl, soil := rfl, evapTimeSteps := rfl, simOffSeason := rfl,
    co2Ref := rfl, zGerm := rfl, seasonCrop := fun _ => rfl, fallowCrop := rfl,
    co2Cur := fun _ => rfl, weather := fun _ => rfl, zgw := fun _ _ => rfl, thini := fun _ => rfl,
    pond0 := fun _ => resetPond_of_fmSim (F := F)
      (cfg' := { cfg with irr := I', fm := fm', fallowFm := ffm' }) h1 (fun _ _ => rfl),
    irr := hI, fm := h1, fallowFm := h2, invDay := hday, invReset := hreset }

theorem run_sim_fm {fm' ffm' : FieldMngt α} (h1 : FmSim F cfg.fm fm')
    (h2 : FmSim F cfg.fallowFm ffm') (k : Nat) (s : RunState α) :
    (runModel F T { cfg with fm := fm', fallowFm := ffm' } k s).map RunState.view =
      (runModel F T cfg k s).map RunState.view :=
  run_sim (runSim_of_mgmt (Inv := fun _ => True) (I' := cfg.irr)
    (fun _ _ gs _ => IrrSim.refl F gs _ _ _ _ _ _) h1 h2 (fun _ _ _ _ _ _ _ => trivial)
    (fun _ _ _ => trivial)) k trivial

theorem run_mulch_neutral (h0 : cfg.fm.mulchPct = 0 ∨ cfg.fm.fMulch = 0) (k : Nat)
    (s : RunState α) :
    (runModel F T { cfg with fm := { cfg.fm with mulches := false } } k s).map RunState.view =
      (runModel F T cfg k s).map RunState.view :=
  run_sim_fm (fmSim_mulch_neutral F cfg.fm h0) (FmSim.refl F cfg.fallowFm) k s

theorem run_fallow_mulch_neutral (h0 : cfg.fallowFm.mulchPct = 0 ∨ cfg.fallowFm.fMulch = 0)
    (k : Nat) (s : RunState α) :
    (runModel F T { cfg with fallowFm := { cfg.fallowFm with mulches := false } } k s).map
        RunState.view =
      (runModel F T cfg k s).map RunState.view :=
  run_sim_fm (FmSim.refl F cfg.fm) (fmSim_mulch_neutral F cfg.fallowFm h0) k s

theorem run_fallow_low_bund (hz : cfg.fallowFm.zBund < 0.001) (k : Nat) (s : RunState α) :
    (runModel F T { cfg with fallowFm := { cfg.fallowFm with bunds := false } } k s).map
        RunState.view =
      (runModel F T cfg k s).map RunState.view :=
  run_sim_fm (FmSim.refl F cfg.fm) (fmSim_low_bund F cfg.fallowFm hz) k s

theorem run_fallow_cnAdj_zero (h0 : cfg.fallowFm.cnAdjPct = 0) (k : Nat) (s : RunState α) :
    (runModel F T { cfg with fallowFm := { cfg.fallowFm with cnAdj := false } } k s).map
        RunState.view =
      (runModel F T cfg k s).map RunState.view :=
  run_sim_fm (FmSim.refl F cfg.fm) (fmSim_cnAdj_zero F cfg.fallowFm h0) k s

end fm

/-! ## 2. irrigation: the invariants -/

/-- what the neutral irrigation settings need of the state object -/
structure IrrInv (st : DayState' α) : Prop where
  irrCum : 0 ≤ st.irrCum
  stage : st.growthStage ≤ 4

theorem irrInv_day {F : Fn α} {T : TrigFn α} {P : DayParams α} {st : DayState' α} {D : DayIn' α}
    {r : DayResult α} (hI : IrrInv st) (h : fullDay F T P st D = .ok r) : IrrInv r.state := by
  obtain ⟨hs, hr⟩ := fullDay_ok h
  have e1 : r.state.irrCum = r.trace.i.irrCum := by rw [hr]; rfl
  have e2 : r.state.growthStage = r.trace.gst := by rw [hr]; rfl
  refine ⟨?_, ?_⟩
  · rw [e1]
    have hi := hs.water.hi
    cases hg : D.gs with
    | false =>
      have hg' : D.water.gs = false := hg
      rw [hg'] at hi
      exact le_of_eq (irr_offseason hi).2.1.symm
    | true =>
      have hg' : D.water.gs = true := hg
      rw [hg'] at hi
      exact le_trans hI.irrCum (irr_cum_mono hi)
  · rw [e2]
    have hg := hs.hgst
    cases hgs : D.gs with
    | false =>
      rw [hgs, growthStage_offseason] at hg
      simp only [Option.some.injEq] at hg
      omega
    | true =>
      rw [hgs] at hg
      exact (growthStage_inseason _ _ _ _ _ _ _ _ _ _ hg).2.1

theorem irrInv_reset (cfg : RunCfg α) (crop : CropParams α) (st : DayState' α) :
    IrrInv (resetState cfg crop st) := by
  obtain ⟨h1, _, _, _, _, _, h7⟩ := resetState_fields cfg crop st
  exact ⟨h1.ge, h7.le.trans (Nat.zero_le 4)⟩

/-! ## 3. irrigation: when the demand is capped to nothing -/

/-- the `if/elif` chain over the method does not raise, for the growth stage `stg` and the schedule
entry `s`: a known method, a positive interval (method 2), a non-negative schedule entry
(method 3), a growth stage with a threshold (method 1) -/
structure NoIrrError (I : IrrParams α) (s : Option α) (stg : Nat) : Prop where
  method : I.method ≤ 5
  stage : I.method = 1 → stg ≤ 4
  interval : I.method = 2 → I.interval ≠ 0
  sched : I.method = 3 → ∃ v, s = some v ∧ 0 ≤ v

theorem irrDemand_ok {I : IrrParams α} {s : Option α} {stg : Nat} (h : NoIrrError I s stg)
    (dap : Nat) (dep taw : α) :
    ∃ x n, irrDemand I (if dap = 1 then 1 else stg) dep taw dap s = .ok (x, n) := by
  by_cases h0 : I.method = 0
  · exact ⟨0, 0, irrDemand_rainfed I _ dep taw dap s h0⟩
  by_cases h1 : I.method = 1
  · have hs : (if dap = 1 then 1 else stg) ≤ 4 := by
      have := h.stage h1
      split_ifs <;> omega
    obtain ⟨i, hi⟩ : ∃ i, smtIndex (if dap = 1 then 1 else stg) = some i := by
      generalize (if dap = 1 then 1 else stg) = q at hs
      match q, hs with
      | 0, _ => exact ⟨_, rfl⟩
      | 1, _ => exact ⟨_, rfl⟩
      | 2, _ => exact ⟨_, rfl⟩
      | 3, _ => exact ⟨_, rfl⟩
      | 4, _ => exact ⟨_, rfl⟩
    rw [irrDemand_smt I _ dep taw dap s h1, hi]
    simp only []
    split_ifs <;> exact ⟨_, _, rfl⟩
  by_cases h2 : I.method = 2
  · rw [irrDemand_interval I _ dep taw dap s h2, if_neg (h.interval h2)]
    split_ifs <;> exact ⟨_, _, rfl⟩
  by_cases h3 : I.method = 3
  · obtain ⟨v, hv, hv0⟩ := h.sched h3
    rw [irrDemand_schedule I _ dep taw dap s h3, hv]
    simp only [hv0, if_true]
    exact ⟨_, _, rfl⟩
  by_cases h4 : I.method = 4
  · exact ⟨0, 0, irrDemand_net I _ dep taw dap s h4⟩
  by_cases h5 : I.method = 5
  · exact ⟨_, _, irrDemand_constant I _ dep taw dap s h5⟩
  have := h.method
  omega

theorem irrCap_zero_season (c y : α) (hc : 0 ≤ c) (hy : 0 ≤ y) : irrCap 0 c y = 0 := by
  rw [irrCap_eq]
  by_cases h : 0 < c + y
  · rw [if_pos h]; exact max_eq_left (sub_nonpos.mpr hc)
  · rw [if_neg h]
    exact le_antisymm ((le_add_of_nonneg_left hc).trans (not_lt.mp h)) hy

theorem zeroDemand_maxIrr0 {I : IrrParams α} {s : Option α} {stg : Nat} (irrCum : α)
    (h : NoIrrError I s stg) (hx : I.maxIrr = 0) : ZeroDemand I s stg irrCum := by
  intro dap dep taw
  obtain ⟨x, n, hd⟩ := irrDemand_ok h dap dep taw
  refine ⟨x, n, hd, ?_⟩
  have hle := irrDemand_le_max I _ _ _ _ _ x n (by rw [hx]) hd
  rw [hx] at hle
  rw [pmax_eq, max_eq_left hle, irrCap_zero]

theorem zeroDemand_maxSeason0 {I : IrrParams α} {s : Option α} {stg : Nat} {irrCum : α}
    (h : NoIrrError I s stg) (hs : I.maxSeason = 0) (hc : 0 ≤ irrCum) :
    ZeroDemand I s stg irrCum := by
  intro dap dep taw
  obtain ⟨x, n, hd⟩ := irrDemand_ok h dap dep taw
  refine ⟨x, n, hd, ?_⟩
  rw [hs]
  exact irrCap_zero_season _ _ hc (by rw [pmax_eq]; exact le_max_left _ _)

theorem zeroDemand_depth0 {I : IrrParams α} (s : Option α) (stg : Nat) (irrCum : α)
    (hm : I.method = 5) (hd : I.depth = 0) : ZeroDemand I s stg irrCum := by
  intro dap dep taw
  refine ⟨_, _, irrDemand_constant I _ dep taw dap s hm, ?_⟩
  rw [hd, pmax0_pmin_nonpos _ _ (le_refl _), irrCap_zero]

theorem zeroDemand_sched0 {I : IrrParams α} (stg : Nat) (irrCum : α) (hm : I.method = 3) :
    ZeroDemand I (some 0) stg irrCum := by
  intro dap dep taw
  refine ⟨pmin I.maxIrr 0, 1, ?_, ?_⟩
  · rw [irrDemand_schedule I _ dep taw dap _ hm]
    simp
  · rw [pmax0_pmin_nonpos _ _ (le_refl _), irrCap_zero]

/-! ## 4. irrigation: the runs -/

def IrrSet.rainfed (I : IrrSet α) : IrrSet α := { I with irr := { I.irr with method := 0 } }

/-- the configuration with its (season) irrigation record switched to rain-fed -/
def RunCfg.rainfed (cfg : RunCfg α) : RunCfg α := { cfg with irr := cfg.irr.rainfed }

section irr
variable {F : Fn α} {T : TrigFn α} {cfg : RunCfg α}

theorem runSim_rainfed_of_zero {Inv : DayState' α → Prop} (h4 : cfg.irr.irr.method ≠ 4)
    (hz : ∀ st t, Inv st → ZeroDemand cfg.irr.irr (cfg.irr.sched t) st.growthStage st.irrCum)
    (hday : ∀ season gs st D r, Inv st → fullDay F T (paramsOf cfg season gs) st D = .ok r →
      Inv r.state)
    (hreset : ∀ crop st, Inv st → Inv (resetState cfg crop st)) :
    RunSim F T Inv cfg cfg.rainfed :=
  runSim_of_mgmt (I' := cfg.irr.rainfed)
    (fun st t gs hI => irrSim_of_zero F gs _ _
      (fun _ => ⟨fun h => by simp [IrrSet.rainfed] at h, fun h => absurd h h4⟩)
      (fun _ h => absurd h h4) (fun _ => hz st t hI)
      (fun _ => zeroDemand_rainfed_net (Or.inl rfl)))
    (FmSim.refl F _) (FmSim.refl F _) hday hreset

theorem run_depth0_rainfed (hm : cfg.irr.irr.method = 5) (hd : cfg.irr.irr.depth = 0) (k : Nat)
    (s : RunState α) :
    (runModel F T cfg.rainfed k s).map RunState.view = (runModel F T cfg k s).map RunState.view :=
  run_sim (Inv := fun _ => True)
    (runSim_rainfed_of_zero (by rw [hm]; decide)
      (fun st t _ => zeroDemand_depth0 _ _ _ hm hd) (fun _ _ _ _ _ _ _ => trivial)
      (fun _ _ _ => trivial)) k trivial

/-- the strategy of the configuration never raises (on states with `growth_stage ≤ 4`) -/
structure CfgNoIrrError (cfg : RunCfg α) : Prop where
  method : cfg.irr.irr.method ≤ 5
  notNet : cfg.irr.irr.method ≠ 4
  interval : cfg.irr.irr.method = 2 → cfg.irr.irr.interval ≠ 0
  sched : cfg.irr.irr.method = 3 → ∀ t, ∃ v, cfg.irr.sched t = some v ∧ 0 ≤ v

theorem CfgNoIrrError.day (h : CfgNoIrrError cfg) (t : Nat) {stg : Nat} (hs : stg ≤ 4) :
    NoIrrError cfg.irr.irr (cfg.irr.sched t) stg :=
  ⟨h.method, fun _ => hs, h.interval, fun h3 => h.sched h3 t⟩

theorem run_maxSeason0_rainfed (he : CfgNoIrrError cfg) (hx : cfg.irr.irr.maxSeason = 0) (k : Nat)
    {s : RunState α} (hI : IrrInv s.day) :
    (runModel F T cfg.rainfed k s).map RunState.view = (runModel F T cfg k s).map RunState.view :=
  run_sim (Inv := IrrInv)
    (runSim_rainfed_of_zero he.notNet
      (fun _ t hst => zeroDemand_maxSeason0 (he.day t hst.stage) hx hst.irrCum)
      (fun _ _ _ _ _ hst h => irrInv_day hst h) (fun crop st _ => irrInv_reset cfg crop st)) k hI

theorem run_maxSeason0_summary (he : CfgNoIrrError cfg) (hx : cfg.irr.irr.maxSeason = 0) {k : Nat}
    {s r : RunState α} (hI : IrrInv s.day) (hr : runModel F T cfg k s = .ok r) :
    ∃ r', runModel F T cfg.rainfed k s = .ok r' ∧ r'.summaryTable = r.summaryTable ∧
      r'.fluxTable = r.fluxTable ∧ r'.growthTable = r.growthTable ∧
      r'.storageTable = r.storageTable ∧ r'.day = r.day := by
  have := run_maxSeason0_rainfed (F := F) (T := T) he hx k hI
  rw [hr] at this
  obtain ⟨r', hr', hv⟩ := except_map_eq_ok this
  obtain ⟨a, b, c, d, e, _⟩ := view_tables hv
  exact ⟨r', hr', d, b, c, a, e⟩

end irr
end Aqua
