import AquaVerif.Proofs.RunLiftIrr
import AquaVerif.Proofs.RunLiftSum

/-
Property C13, run-level companion file: the per-strategy contracts of `Properties/C13.lean` on every day of every
run of the modelled loop (`Proofs/RunLiftIrr.lean`).  A separate file because `Proofs/Summary.lean`, which the run
lemmas depend on, imports `Properties/C13.lean`.
-/
set_option linter.unusedSectionVars false

namespace Aqua.C13
open Aqua Aqua.Clock
variable {α : Type} [Field α] [LinearOrder α] [IsStrictOrderedRing α]

/-! ### every day of every run (`Proofs/RunLiftIrr.lean`) -/

section run
variable {F : Fn α} {T : TrigFn α} {cfg : RunCfg α} {s : RunState α}

/-- **Run level.** Every recorded day is one `day` of the strategy: the recorded `IrrOut` is `day`
applied to what the day read (`DayRec.irrIn`) with yesterday's seasonal counter — so every
per-call theorem of `Properties/C13.lean` applies to every day of every run. -/
theorem run_day_is_strategy_day (hr : RunReach F T cfg s) :
    ∀ d ∈ s.daysRev, day F d.P.W.irr d.st.irrCum d.irrIn = .ok d.r.trace.i ∧
      d.r.water.irr = d.r.trace.i.irr ∧ d.r.state.irrCum = d.r.trace.i.irrCum :=
  run_irr_day hr

/-- **Run level**, for `MaxIrr ≥ 0` in season and fallow. No surface irrigation outside a growing
season, under the rain-fed strategy or under net irrigation; a single application is not negative
and does not exceed the daily maximum. -/
theorem run_none_and_daily_max (hmax : ∀ season, 0 ≤ (irrSetOf cfg season).irr.maxIrr)
    (hr : RunReach F T cfg s) :
    ∀ d ∈ s.daysRev,
      (d.D.gs = false ∨ (irrSetOf cfg d.D.season).irr.method = 0 ∨
        (irrSetOf cfg d.D.season).irr.method = 4 → d.r.water.irr = 0) ∧
      0 ≤ d.r.water.irr ∧ d.r.water.irr ≤ (irrSetOf cfg d.D.season).irr.maxIrr :=
  fun d hd => ⟨run_irr_none hr d hd, run_irr_daily_max hmax hr d hd⟩

/-- **Run level.** Fixed-interval irrigation occurs only on growing-season days 1, 1+k, 1+2k, …
after planting. -/
theorem run_interval_days (hr : RunReach F T cfg s) :
    ∀ d ∈ s.daysRev, (irrSetOf cfg d.D.season).irr.method = 2 → 0 < d.r.water.irr →
      d.D.gs = true ∧ (irrSetOf cfg d.D.season).irr.interval ≠ 0 ∧
        (d.r.growth.dap - 1) % (irrSetOf cfg d.D.season).irr.interval = 0 ∧
        d.r.growth.dap = d.st.dap + 1 := by
  intro d hd hm hpos
  have hday := run_days hr d hd
  obtain ⟨_, _, _, e⟩ := fullDay_irrigation hday
  obtain ⟨a, b, _⟩ := run_irr_cfg hr d hd
  rw [b] at hpos
  have hg : d.D.gs = true := (irr_interval a hm hpos).1
  have hdap : d.r.growth.dap = d.st.dap + 1 := ((fullDay_counters hday).2.2.2.2.1 hg).1
  obtain ⟨g1, g2, g3⟩ := interval_days F _ d.st.irrCum d.irrIn d.r.trace.i a hm hpos
    (by show 1 ≤ d.r.trace.tc.dap; rw [← e, hdap]; omega)
  exact ⟨g1, g2, by rw [e]; exact g3, hdap⟩

/-- **Run level.** Scheduled irrigation applies on a growing-season day exactly the depth the
configured schedule holds for that day (capped), and nothing on a day whose scheduled depth is
zero. -/
theorem run_schedule_exact (hr : RunReach F T cfg s) :
    ∀ d ∈ s.daysRev, (irrSetOf cfg d.D.season).irr.method = 3 →
      (d.D.gs = true → ∃ v, (irrSetOf cfg d.D.season).sched d.D.tsc = some v ∧ 0 ≤ v ∧
        d.r.water.irr = irrCap (irrSetOf cfg d.D.season).irr.maxSeason d.st.irrCum
          (pmax 0 (pmin (irrSetOf cfg d.D.season).irr.maxIrr v))) ∧
      ((irrSetOf cfg d.D.season).sched d.D.tsc = some 0 → d.r.water.irr = 0) := by
  intro d hd hm
  obtain ⟨a, b, hsched⟩ := run_irr_cfg hr d hd
  rw [b, ← hsched]
  exact ⟨fun hg => schedule_exact F _ _ _ _ a hg hm, schedule_zero F _ _ _ _ a hm⟩

/-- **Run level.** The threshold rule on every growing-season day. -/
theorem run_threshold_contract (hr : RunReach F T cfg s) :
    ∀ d ∈ s.daysRev, d.D.gs = true → d.P.W.irr.method = 1 →
      ∃ i pre, smtIndex (if d.r.growth.dap = 1 then 1 else d.st.growthStage) = some i ∧
        pre = (if 1 - d.P.W.irr.smt i / 100 < d.r.trace.i.depletion / d.r.trace.i.taw
                then pmax 0 (irrGross d.P.W.irr d.r.trace.i.depletion) else 0) ∧
        d.r.water.irr = irrCap d.P.W.irr.maxSeason d.st.irrCum pre ∧
        (d.P.W.irr.appEff < 200 →
          (0 < pre ↔ (1 - d.P.W.irr.smt i / 100 < d.r.trace.i.depletion / d.r.trace.i.taw ∧
            0 < d.r.trace.i.depletion ∧ 0 < d.P.W.irr.maxIrr))) := by
  intro d hd hg hm
  obtain ⟨a, b, _, e⟩ := fullDay_irrigation (run_days hr d hd)
  rw [b, e]
  exact threshold_contract F d.P.W.irr d.st.irrCum d.irrIn d.r.trace.i a hg hm

/-- **Run level.** Constant-depth irrigation on every growing-season day (capped). -/
theorem run_constant_depth (hr : RunReach F T cfg s) :
    ∀ d ∈ s.daysRev, d.D.gs = true → (irrSetOf cfg d.D.season).irr.method = 5 →
      d.r.water.irr = irrCap (irrSetOf cfg d.D.season).irr.maxSeason d.st.irrCum
        (pmax 0 (pmin (irrSetOf cfg d.D.season).irr.maxIrr (irrSetOf cfg d.D.season).irr.depth)) := by
  intro d hd hg hm
  obtain ⟨a, b, _⟩ := run_irr_cfg hr d hd
  rw [b]
  exact C13.constant_depth F _ _ _ _ a hg hm

/-- **Run level: the seasonal cap is an invariant of the run** (through the counter reset at every
season start), under `IrrCapOK` (`MaxIrrSeason ≥ 0`, initial counter not above it): the counter
is a running sum in season, 0 off season, at most `MaxIrrSeason` in every reachable state and at
the start and end of every simulated day, and 0 on the first day after every change of the season
counter. -/
theorem run_season_total_le_max (hK : IrrCapOK cfg) (hr : RunReach F T cfg s) :
    s.day.irrCum ≤ (irrSetOf cfg s.season).irr.maxSeason ∧
    (∀ d ∈ s.daysRev, d.st.irrCum ≤ (irrSetOf cfg d.D.season).irr.maxSeason ∧
      d.r.state.irrCum ≤ (irrSetOf cfg d.D.season).irr.maxSeason ∧
      (d.D.gs = true → d.r.state.irrCum = d.st.irrCum + d.r.water.irr) ∧
      (d.D.gs = false → d.r.state.irrCum = 0)) ∧
    (∀ i (h : i + 1 < s.daysRev.length),
      s.daysRev[i].D.season ≠ s.daysRev[i + 1].D.season →
        s.daysRev[i].st.irrCum = 0 ∧ s.daysRev[i].st.irrNetCum = 0) := by
  obtain ⟨a, b⟩ := run_season_cap hK hr
  refine ⟨a, fun d hd => ⟨(b d hd).1, (b d hd).2, fun hg => ?_, fun hg => ?_⟩, fun i h hne => ?_⟩
  · obtain ⟨k, e1, e2⟩ := run_irr_day hr d hd
    rw [e2, e1]
    exact counter_is_running_sum F _ _ _ _ k hg
  · obtain ⟨k, _, e2⟩ := run_irr_day hr d hd
    have hg' : d.irrIn.gs = false := hg
    unfold day at k
    rw [hg'] at k
    rw [e2]
    exact (irr_offseason k).2.1
  · obtain ⟨_, c1, c2, _⟩ := (run_counter_reset hr).getElem i h hne
    exact ⟨c1, c2⟩

/-- **Run level.** The seasonal irrigation reported in every summary row is at most the seasonal
maximum (strategies other than net irrigation; under `IrrCapOK`, a valid clock, `InitOK`). -/
theorem run_summary_total_le_max (hv : Valid cfg.clock) (hi : InitOK cfg) (hK : IrrCapOK cfg)
    (hm : cfg.irr.irr.method ≠ 4) (hr : RunReach F T cfg s) :
    ∀ x ∈ s.summaryTable, x.irrTot ≤ cfg.irr.irr.maxSeason := by
  have key : ∀ d ∈ s.daysRev, ∀ x, d.r.summary = some x →
      0 ≤ d.D.season ∧ x.irrTot = d.r.state.irrCum :=
    run_days_of_step (fun {s s' d} hr hs x hx => by
      obtain ⟨hs0, hfl⟩ := fullDay_summary_written hs.day hx
      obtain ⟨_, _, _, _, _, x6⟩ := (fullDay_summary hs.day).2.2.2 x hx
      obtain ⟨c1, _⟩ := hs.ctr hv hi hr (hs.season ▸ hs0) (hs.st ▸ hfl)
      unfold ctrOf at c1
      rw [if_neg hm] at c1
      exact ⟨hs0, by rw [x6, c1]⟩) hr
  intro x hx
  obtain ⟨d, hd, hdx⟩ := mem_summaryTable.mp hx
  obtain ⟨k0, k1⟩ := key d hd x hdx
  have := ((run_season_cap hK hr).2 d hd).2
  rw [irrSetOf_of_nonneg k0] at this
  rw [k1]; exact this

end run

end Aqua.C13
