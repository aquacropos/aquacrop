import AquaVerif.Model.RootZone
import AquaVerif.Model.WaterStress
/-
Model of `aquacrop/solution/transpiration.py` (`transpiration`): potential transpiration with
canopy ageing / CO2 / dying-canopy / cold-stress corrections, uptake from ponded water, root-zone
water stress, the per-compartment extraction loop, the net-irrigation refill (irrigation method 4),
canopy feedback and transpiration ratio.

Integers of the Python (`dap`, `delayed_cds`, `MaxCanopyCD`, `age_days*`, `day_submerged`,
`LagAer`, …) are carried in the number type `α` (all operations on them are `+`, `-`, comparisons,
and mixed float arithmetic, exact for small integers in `Float`).

Python partiality that is modelled (`Except.error`):
* `E:zerodiv`  `(cur - ref) / (550 - ref)` with `ref = 550` (Python floats; a numpy-typed
               concentration would give `inf` instead), and
               `day_submerged / LagAer` with `LagAer = 0`;
* `E:unbound`  `KsCold` when `TrColdStress ∉ {0,1}` (`p_up_sto` is bound for every `ETadj`, repo
               commit 1d7b670: the ET0 adjustment applies iff `ETadj == 1`);
* `E:index`    `aer_days_comp[ii]` for `ii ≥ len` when `nComp > len`; `dzsum[ii]` in the `RootFact`
               loop when `comp_sto > len`; every failure of `root_zone_water`.
-/

namespace Aqua
section
variable {α : Type} [Add α] [Sub α] [Mul α] [Div α] [Neg α] [LT α] [LE α]
  [DecidableLT α] [DecidableLE α] [OfScientific α] [OfNat α 0] [OfNat α 1] [OfNat α 2] [OfNat α 3]
  [OfNat α 5] [OfNat α 9] [OfNat α 10] [OfNat α 100] [OfNat α 550] [OfNat α 1000]

/-- the crop parameters `transpiration` reads -/
structure TrCrop (α : Type) where
  maxCanopyCD : α
  kcb : α
  fage : α
  aTr : α
  /-- `Crop.TrColdStress`: `0`, `1`, anything else (→ `KsCold` unbound) -/
  trColdStress : Nat
  gddUp : α
  gddLo : α
  lagAer : α
  zMin : α
  aer : α
  pUp : Fin 4 → α
  pLo : Fin 4 → α
  fshW : Fin 4 → α
  /-- `Crop.ETadj == 1` -/
  etAdj : Bool
  beta : α
  sxTop : α
  sxBot : α

/-- the `NewCond` scalars `transpiration` reads and/or writes (`th`, `aer_days_comp` live in the
cells).  Written: `ageDaysNS ageDays daySubmerged pond aerDays depletion taw irrNetCum cc trRatio
tPot`. -/
structure TrState (α : Type) where
  dap : α
  delayedCds : α
  ageDaysNS : α
  ageDays : α
  ccxWNS : α
  ccxW : α
  ccAdjNS : α
  ccNS : α
  ccAdj : α
  cc : α
  ccPrev : α
  /-- `surface_storage` -/
  pond : α
  daySubmerged : α
  zRoot : α
  tEarlySen : α
  aerDays : α
  rCor : α
  irrNetCum : α
  trRatio : α
  tPot : α
  depletion : α
  taw : α

structure TrOut (α : Type) where
  trAct : α
  trPotNS : α
  trPot0 : α
  irrNet : α
  cells : List (Cell α)
  st : TrState α
  /-- ghost: transpiration taken from the ponded water (`TrAct0`) -/
  trAct0 : α
  /-- ghost: potential root-zone transpiration handed to the extraction loop (`TrPot`) -/
  trPotRz : α
  /-- ghost: `comp_sto` -/
  compSto : Nat

/-! ### 1. potential transpiration -/

/-- crop coefficient with canopy ageing -/
def trKcbAged (kcb fage age ccxw : α) : α :=
  if 5 < age then kcb - ((age - 5) * (fage / 100)) * ccxw else kcb

/-- CO2 correction of the crop coefficient; `none` = `ZeroDivisionError` -/
def trCo2Adj (k cur ref : α) : Option α :=
  if ref < cur then
    if 550 - ref ≤ 0 ∧ 0 ≤ 550 - ref then none
    else some (k * (1 - 0.05 * ((cur - ref) / (550 - ref))))
  else some k

/-- correction for the dying green canopy -/
def trDyingAdj (F : Fn α) (tr cc ccxw aTr : α) : α :=
  if cc < ccxw then
    if 0.001 < ccxw ∧ 0.001 < cc then tr * (F.pow (cc / ccxw) aTr) else tr
  else tr

/-- cold-stress coefficient; `none` = `KsCold` unbound -/
def trKsCold (F : Fn α) (trColdStress : Nat) (gddUp gddLo gdd : α) : Option α :=
  match trColdStress with
  | 0 => some 1
  | 1 =>
    if gddUp ≤ gdd then some 1
    else if gdd ≤ gddLo then some 0
    else
      let fshapeb := (-1) * (F.log (((0.02 * 1) - 0.98 * 0.02) / (0.98 * (1 - 0.02))))
      let gddRel := (gdd - gddLo) / (gddUp - gddLo)
      let k := (1 * 0.02) / (0.02 + (1 - 0.02) * F.exp (-fshapeb * gddRel))
      some (k - 0.02 * (1 - gddRel))
  | _ => none

structure TrPotR (α : Type) where
  ageNS : α
  age : α
  trPotNS : α
  trPot0 : α

/-- steps 1–3 of the growing-season branch -/
def trPotential (F : Fn α) (crop : TrCrop α) (st : TrState α) (et0 cur ref gdd : α) :
    Except String (TrPotR α) :=
  let dapAdj := st.dap - st.delayedCds
  let ageNS := if crop.maxCanopyCD < dapAdj then dapAdj - crop.maxCanopyCD else st.ageDaysNS
  match trCo2Adj (trKcbAged crop.kcb crop.fage ageNS st.ccxWNS) cur ref with
  | none => .error "E:zerodiv"
  | some kcbNS =>
    let trNS := trDyingAdj F (kcbNS * st.ccAdjNS * et0) st.ccNS st.ccxWNS crop.aTr
    let age := if crop.maxCanopyCD < dapAdj then dapAdj - crop.maxCanopyCD else st.ageDays
    match trCo2Adj (trKcbAged crop.kcb crop.fage age st.ccxW) cur ref with
    | none => .error "E:zerodiv"
    | some kcb =>
      let tr0 := trDyingAdj F (kcb * st.ccAdj * et0) st.cc st.ccxW crop.aTr
      match trKsCold F crop.trColdStress crop.gddUp crop.gddLo gdd with
      | none => .error "E:unbound"
      | some kc => .ok { ageNS := ageNS, age := age, trPotNS := trNS * kc, trPot0 := tr0 * kc }

/-! ### 2. uptake from ponded water -/

/-- `for ii in range(nComp): aer_days_comp[ii] = min(aer_days_comp[ii] + 1, LagAer)`;
`none` = `IndexError` (`nComp > len`). -/
def trIncAer (lagAer : α) : Nat → List (Cell α) → Option (List (Cell α))
  | 0, cs => some cs
  | _+1, [] => none
  | n+1, x :: xs =>
    let a := x.aer + 1
    match trIncAer lagAer n xs with
    | none => none
    | some r => some ({ x with aer := if lagAer < a then lagAer else a } :: r)

structure TrSurfR (α : Type) where
  cells : List (Cell α)
  pond : α
  daySub : α
  trAct0 : α
  trPot : α

def trSurface (lagAer : α) (nComp : Nat) (cells : List (Cell α)) (pond daySub trPot0 : α) :
    Except String (TrSurfR α) :=
  if 0 < pond ∧ daySub < lagAer then
    let daySub' := daySub + 1
    match trIncAer lagAer nComp cells with
    | none => .error "E:index"
    | some cells' =>
      if lagAer ≤ 0 ∧ 0 ≤ lagAer then .error "E:zerodiv" else
      let fSub := 1 - (daySub' / lagAer)
      let pond' := if fSub * trPot0 < pond then pond - (fSub * trPot0) else pond
      let trAct0 := if fSub * trPot0 < pond then fSub * trPot0 else 0
      let trPot := if trAct0 < fSub * trPot0 then (fSub * trPot0) - trAct0 else 0
      .ok { cells := cells', pond := pond', daySub := daySub', trAct0 := trAct0, trPot := trPot }
  else .ok { cells := cells, pond := pond, daySub := daySub, trAct0 := 0, trPot := trPot0 }

/-! ### 3. per-compartment quantities -/

/-- `RootFact[ii]` -/
def trRootFact (rootdepth : α) (x : Cell α) : α :=
  if rootdepth < x.c.dzsum then 1 - ((x.c.dzsum - rootdepth) / x.c.dz) else 1

/-- `SxCompBot` after visiting compartment `x` (irrigation method ≠ 4) -/
def trSxBotOf (sxTop sxBot rCor rootdepth : α) (x : Cell α) : α :=
  if x.c.dzsum ≤ rootdepth then
    sxBot * rCor + ((sxTop - sxBot * rCor) * ((rootdepth - x.c.dzsum) / rootdepth))
  else sxBot * rCor

/-- stomatal stress factor `KsComp` of one compartment -/
def trKsComp (F : Fn α) (pUp1 pLo1 fsh1 pUpSto : α) (x : Cell α) : α :=
  let thTAW := x.c.thFC - x.c.thWP
  let thCrit := x.c.thFC - (thTAW * pUpSto)
  if thCrit ≤ x.th then 1
  else if x.c.thWP < x.th then
    let wrel := (x.c.thFC - x.th) / (x.c.thFC - x.c.thWP)
    let pRel := (wrel - pUp1) / (pLo1 - pUp1)
    let k := if pRel ≤ 0 then 1 else if 1 ≤ pRel then 0
             else 1 - ((F.exp (pRel * fsh1) - 1) / (F.exp fsh1 - 1))
    if 1 < k then 1 else if k < 0 then 0 else k
  else 0

/-- aeration factor `AerComp` of one compartment and its updated `aer_days_comp` -/
def trAerComp (lagAer aer daySub : α) (x : Cell α) : α × α :=
  if lagAer ≤ daySub then (0, x.aer)
  else if x.c.thS - (aer / 100) < x.th then
    let a1 := x.aer + 1
    let a2 := if lagAer ≤ a1 then lagAer else a1
    let fAer : α := if lagAer ≤ a1 then 0 else 1
    let ac := (x.c.thS - x.th) / (x.c.thS - (x.c.thS - (aer / 100)))
    let ac := if ac < 0 then 0 else ac
    ((fAer + (a2 - 1) * ac) / (fAer + a2 - 1), a2)
  else (1, 0)

/-- the final `Sink` of one compartment: stress-reduced maximum sink, limited to the demand and
to the air-dry water content -/
def trSink (stress sx rf toExtract : α) (x : Cell α) : α :=
  let thToExtract := (toExtract / 1000) / x.c.dz
  let sink := stress * sx * rf
  let sink := if thToExtract < sink then thToExtract else sink
  if (x.th - sink) < x.c.thDry then
    let s := x.th - x.c.thDry
    if s < 0 then 0 else s
  else sink

/-- parameters of the extraction loop that do not change between compartments -/
structure TrLoopP (α : Type) where
  net : Bool          -- IrrMethod == 4
  rootdepth : α
  sxTop : α
  sxBot : α
  rCor : α
  pUp1 : α
  pLo1 : α
  fsh1 : α
  pUpSto : α
  lagAer : α
  aer : α
  daySub : α

/-- `while (ToExtract > 0) and (comp < comp_sto - 1)`; `n` = compartments of the root zone not
yet visited, `sxPrev` = `SxCompBot` of the previous compartment.  Returns the cells, `TrAct`. -/
def trExtractLoop (F : Fn α) (p : TrLoopP α) :
    Nat → List (Cell α) → (toExtract trAct sxPrev : α) → List (Cell α) × α
  | 0, cs, _, trAct, _ => (cs, trAct)
  | _+1, [], _, trAct, _ => ([], trAct)
  | n+1, x :: xs, toExtract, trAct, sxPrev =>
    if 0 < toExtract then
      let sxB := trSxBotOf p.sxTop p.sxBot p.rCor p.rootdepth x
      let sx := if p.net then (p.sxTop + p.sxBot) / 2 else (sxPrev + sxB) / 2
      let ks := trKsComp F p.pUp1 p.pLo1 p.fsh1 p.pUpSto x
      let ac := trAerComp p.lagAer p.aer p.daySub x
      let stress := if p.net then ac.1 else pmin ks ac.1
      let sink := trSink stress sx (trRootFact p.rootdepth x) toExtract x
      let r := trExtractLoop F p n xs (toExtract - (sink * 1000 * x.c.dz))
                 (trAct + (sink * 1000 * x.c.dz)) sxB
      ({ x with th := x.th - sink, aer := ac.2 } :: r.1, r.2)
    else (x :: xs, trAct)

/-- net-irrigation refill `for ii in range(comp_sto)`; returns the cells and `IrrNet` -/
def trNetIrrLoop (smt rootdepth : α) :
    Nat → List (Cell α) → (prelayer : Nat) → (thCrit irrNet : α) → List (Cell α) × α
  | 0, cs, _, _, irrNet => (cs, irrNet)
  | _+1, [], _, _, irrNet => ([], irrNet)
  | n+1, x :: xs, prelayer, thCrit, irrNet =>
    let thCrit' := if prelayer < x.c.layer then
                     x.c.thWP + ((smt / 100) * (x.c.thFC - x.c.thWP)) else thCrit
    let prelayer' := if prelayer < x.c.layer then x.c.layer else prelayer
    let dWC := trRootFact rootdepth x * (thCrit' - x.th) * 1000 * x.c.dz
    let r := trNetIrrLoop smt rootdepth n xs prelayer' thCrit' (irrNet + dWC)
    ({ x with th := x.th + (dWC / (1000 * x.c.dz)) } :: r.1, r.2)

structure TrNetR (α : Type) where
  cells : List (Cell α)
  irrNet : α
  irrNetCum : α
  depletion : α
  taw : α

/-- the `## Add net irrigation water requirement` block -/
def trNetIrr (F : Fn α) (crop : TrCrop α) (irrMethod : Nat) (smt zTop rootdepth : α)
    (compSto : Nat) (cells : List (Cell α)) (st : TrState α) (trPot : α) :
    Except String (TrNetR α) :=
  if irrMethod = 4 ∧ 0 < trPot then
    match rootZoneWater F cells st.zRoot zTop crop.zMin crop.aer with
    | none => .error "E:index"
    | some rz =>
      let thCrit := rz.thWP + ((smt / 100) * (rz.thFC - rz.thWP))
      let r := if rz.thAct < thCrit then trNetIrrLoop smt rootdepth compSto cells 0 thCrit 0
               else (cells, 0)
      .ok { cells := r.1, irrNet := r.2, irrNetCum := st.irrNetCum + r.2,
            depletion := rz.drRz, taw := rz.tawRz }
  else if irrMethod = 4 ∧ trPot ≤ 0 then
    .ok { cells := cells, irrNet := 0, irrNetCum := st.irrNetCum,
          depletion := st.depletion, taw := st.taw }
  else
    .ok { cells := cells, irrNet := 0, irrNetCum := 0, depletion := st.depletion, taw := st.taw }

/-- `Ks` and the new `aer_days` from the root-zone state -/
def trKs (F : Fn α) (crop : TrCrop α) (rz : RZ α) (tEarlySen aerDays et0 : α) : α × α :=
  let useRz : Bool := decide ((rz.drRz / rz.tawRz) ≤ (rz.drZt / rz.tawZt))
  let dr := if useRz then rz.drRz else rz.drZt
  let taw := if useRz then rz.tawRz else rz.tawZt
  let ksw := waterStress F crop.pUp crop.pLo crop.fshW crop.etAdj crop.beta tEarlySen dr taw et0 true
  let a := aerationStress aerDays crop.lagAer rz.thAct rz.thS rz.thAer
  (pmin ksw.stoLin a.1, a.2)

/-- canopy feedback, transpiration ratio -/
def trRatioOf (trAct trPot0 : α) : α :=
  let r := if 0 < trPot0 then (if trAct < trPot0 then trAct / trPot0 else 1) else 1
  if r < 0 then 0 else if 1 < r then 1 else r

/-- `rootdepth = round(max(float(z_root), float(Zmin)), 2)` (Python floats) -/
def trRootdepth (F : Fn α) (crop : TrCrop α) (st : TrState α) : α :=
  F.pyRound2 (pmax st.zRoot crop.zMin)

/-- `comp_sto = min(np.sum(dzsum < rootdepth) + 1, int(nComp))` -/
def trCompSto (rootdepth : α) (cells : List (Cell α)) (nComp : Nat) : Nat :=
  min (countBelow rootdepth cells + 1) nComp

/-- `TrPot` handed to the extraction loop: `Ks` applies unless in net-irrigation mode -/
def trPotRzOf (irrMethod : Nat) (trPot ks : α) : α :=
  if irrMethod ≠ 4 then trPot * ks else trPot

def trLoopPOf (F : Fn α) (crop : TrCrop α) (irrMethod : Nat) (st : TrState α) (et0 daySub : α) :
    TrLoopP α :=
  { net := decide (irrMethod = 4), rootdepth := trRootdepth F crop st, sxTop := crop.sxTop,
    sxBot := crop.sxBot, rCor := st.rCor, pUp1 := crop.pUp 1, pLo1 := crop.pLo 1,
    fsh1 := crop.fshW 1,
    pUpSto := if crop.etAdj then etAdjust F (crop.pUp 1) et0 else crop.pUp 1,
    lagAer := crop.lagAer,
    aer := crop.aer, daySub := daySub }

/-- final bookkeeping: total transpiration, canopy feedback, transpiration ratio, state -/
def trFinish (st : TrState α) (pot : TrPotR α) (sf : TrSurfR α) (aerDays' : α) (ni : TrNetR α)
    (trActRz trPot : α) (compSto : Nat) : TrOut α :=
  let trAct := trActRz + sf.trAct0
  let cc' := if 0.005 < (st.cc - st.ccPrev) ∧ (trAct ≤ 0 ∧ 0 ≤ trAct) then st.ccPrev else st.cc
  { trAct := trAct, trPotNS := pot.trPotNS, trPot0 := pot.trPot0, irrNet := ni.irrNet,
    cells := ni.cells,
    st := { st with ageDaysNS := pot.ageNS, ageDays := pot.age,
                    daySubmerged := sf.daySub, pond := sf.pond, aerDays := aerDays',
                    depletion := ni.depletion, taw := ni.taw,
                    irrNetCum := ni.irrNetCum, cc := cc',
                    trRatio := trRatioOf trAct pot.trPot0, tPot := pot.trPot0 },
    trAct0 := sf.trAct0, trPotRz := trPot, compSto := compSto }

/-- the growing-season branch after potential transpiration, ponded uptake and the first
`root_zone_water` call succeeded -/
def trCore (F : Fn α) (nComp : Nat) (zTop : α) (crop : TrCrop α) (irrMethod : Nat) (smt : α)
    (st : TrState α) (et0 : α) (pot : TrPotR α) (sf : TrSurfR α) (rz : RZ α) :
    Except String (TrOut α) :=
  let k := trKs F crop rz st.tEarlySen st.aerDays et0
  let trPot := trPotRzOf irrMethod sf.trPot k.1
  let rootdepth := trRootdepth F crop st
  let compSto := trCompSto rootdepth sf.cells nComp
  if sf.cells.length < compSto then .error "E:index" else
  let ex := trExtractLoop F (trLoopPOf F crop irrMethod st et0 sf.daySub) compSto sf.cells trPot 0
              crop.sxTop
  match trNetIrr F crop irrMethod smt zTop rootdepth compSto ex.1 st trPot with
  | .error e => .error e
  | .ok ni => .ok (trFinish st pot sf k.2 ni ex.2 trPot compSto)

/-- `transpiration(Soil_Profile, nComp, zTop, Crop, IrrMethod, NetIrrSMT, InitCond, et0, CO2,
growing_season, gdd)`; `cells` carry `th` and `aer_days_comp`. -/
def transpiration (F : Fn α) (cells : List (Cell α)) (nComp : Nat) (zTop : α) (crop : TrCrop α)
    (irrMethod : Nat) (smt : α) (st : TrState α) (et0 cur ref : α) (gs : Bool) (gdd : α) :
    Except String (TrOut α) :=
  if gs then
    match trPotential F crop st et0 cur ref gdd with
    | .error e => .error e
    | .ok pot =>
    match trSurface crop.lagAer nComp cells st.pond st.daySubmerged pot.trPot0 with
    | .error e => .error e
    | .ok sf =>
    match rootZoneWater F sf.cells st.zRoot zTop crop.zMin crop.aer with
    | none => .error "E:index"
    | some rz => trCore F nComp zTop crop irrMethod smt st et0 pot sf rz
  else
    .ok { trAct := 0, trPotNS := 0, trPot0 := 0, irrNet := 0, cells := cells,
          st := { st with irrNetCum := 0, tPot := 0 },
          trAct0 := 0, trPotRz := 0, compSto := 0 }

end
end Aqua
