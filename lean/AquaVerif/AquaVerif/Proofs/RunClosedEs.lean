import AquaVerif.Proofs.RunClosedRw

/-
**C04 and the bund part of C03 along a run, closed.**

With `ccx_w ∈ [0, CCx]` (`RunInvT`), `CCx ≤ 1` and the canopy envelope at the start of every day
(`run_crop_closed`) the premise record `DayEsPre` of the potential soil evaporation is a consequence
of premises on the configuration (`CfgEsOK`: `Kex ≥ 0`, `0 ≤ fwcc ≤ 100`, mulch reduction `≤ 1`,
wetted fraction `≥ 0`), so that on every simulated day of every run

  `0 ≤ EsPot`, `0 ≤ Es ≤ EsPot`, `0 ≤ TrPot`, `0 ≤ Tr ≤ TrPot`, deep percolation, capillary rise,
  groundwater inflow, irrigation `≥ 0`, and ponded water not above the bunds after a day that
  started with it not above them

(`run_flux_closed`) — with the capillary-rise overshoot (`ResidualW`) as the only hypothesis about
computed values.  (Runoff `≥ 0` additionally needs `rain ≥ 0` and the range of the adjusted curve
number, not treated here.)
-/

set_option linter.unusedSectionVars false
namespace Aqua
open Aqua.Clock
variable {α : Type} [Field α] [LinearOrder α] [IsStrictOrderedRing α]

/-- premises on the configuration for `0 ≤ EsPot` -/
structure CfgEsOK (cfg : RunCfg α) : Prop where
  kex : 0 ≤ cfg.W0.soil.kex
  fwcc0 : 0 ≤ cfg.W0.soil.fwcc
  fwcc1 : cfg.W0.soil.fwcc ≤ 100
  mulch : cfg.fm.mulches = true → cfg.fm.fMulch * (cfg.fm.mulchPct / 100) ≤ 1
  mulchF : cfg.fallowFm.mulches = true → cfg.fallowFm.fMulch * (cfg.fallowFm.mulchPct / 100) ≤ 1
  wet : cfg.irr.irr.method ≠ 4 → 0 ≤ cfg.irr.wetSurf
  wetF : cfg.fallowIrr.irr.method ≠ 4 → 0 ≤ cfg.fallowIrr.wetSurf

section run
variable {F : Fn α} {T : TrigFn α} {cfg : RunCfg α} {s s' : RunState α} {A : α}

theorem run_flux_closed (hC : CfgOK F T cfg) (hT : CfgTrOK F cfg A) (hJ0 : CfgRwOK F cfg)
    (hE : CfgEsOK cfg) (hW : WeatherOK F cfg) (hr : RunReach F T cfg s)
    (hR : ∀ d ∈ s.daysRev, ResidualW d) :
    ∀ d ∈ s.daysRev,
      (0 ≤ d.r.flux.esPot ∧ 0 ≤ d.r.flux.es ∧ d.r.flux.es ≤ d.r.flux.esPot) ∧
      (0 ≤ d.r.flux.trPot ∧ 0 ≤ d.r.flux.tr ∧ d.r.flux.tr ≤ d.r.flux.trPot) ∧
      (0 ≤ d.r.flux.deepPerc ∧ 0 ≤ d.r.flux.cr ∧ 0 ≤ d.r.flux.gwIn ∧ 0 ≤ d.r.water.irr ∧
        (d.P.W.irr.method ≠ 4 → 0 ≤ d.r.flux.irrDay)) ∧
      (0 ≤ d.r.state.pond ∧
        (d.P.fm.bunds = false ∨ d.P.fm.zBund ≤ 0.001 → d.r.state.pond = 0) ∧
        (d.P.fm.bunds = true → d.st.pond ≤ d.P.fm.zBund → d.r.state.pond ≤ d.P.fm.zBund)) := by
  obtain ⟨_, hcrop⟩ := run_crop_closed hC hT hJ0 hW hr hR
  obtain ⟨wp, fc, _, hF⟩ := run_dayFacts hC hr hR
  intro d hd
  have h := hF d hd
  have hP := h.cfg.P
  have hc := hcrop d hd
  obtain ⟨a1, a2, a3, a4, a5, _⟩ := run_flux_signs_closed hC hr hR d hd
  have hx1 : d.P.cx.cc.ccx ≤ 1 := by rw [hP]; exact (hT.crop d.D.season).ccx1
  -- the premises of the potential evaporation
  have hes : DayEsPre d.P.W d.P.fm d.r.crop d.D.water :=
    { kex_nn := by rw [hP]; exact hE.kex
      et0_nn := by
        show 0 ≤ d.D.et0
        rw [h.cfg.et0]; exact (hW.et0 _).le
      ccAdj_le := fun _ _ => by
        obtain ⟨X, hs, e⟩ := fullDay_ok' h.day
        rw [e]; exact (ccadj_le_one hs.hcc).1
      ccxW_le := fun hg _ => by
        obtain ⟨_, f2, f3, _⟩ := fullDay_canopy_facts h.day hg h.cc hC.fn.powNN
          hC.fn.powSq hc.env.cc hx1 hc.ccxW0 hc.ccxW1
        have q0 : 0 ≤ d.P.W.soil.fwcc / 100 := by
          rw [hP]; exact div_nonneg hE.fwcc0 (by norm_num)
        have q1 : d.P.W.soil.fwcc / 100 ≤ 1 := by
          rw [hP, div_le_one (by norm_num)]; exact hE.fwcc1
        calc d.r.crop.ccxW * (d.P.W.soil.fwcc / 100) ≤ 1 * 1 :=
              mul_le_mul (le_trans f3 hx1) q1 q0 zero_le_one
          _ = 1 := one_mul 1
      mulch_le := by
        rw [hP]
        exact fmOf_ind (Q := fun fm => fm.mulches = true → fm.fMulch * (fm.mulchPct / 100) ≤ 1)
          hE.mulch hE.mulchF d.D.gs
      wet_nn := by
        rw [hP]
        exact irrSetOf_ind (Q := fun i => i.irr.method ≠ 4 → 0 ≤ i.wetSurf) hE.wet hE.wetF _ }
  have w := fullDay_waterOf h.day
  obtain ⟨e1, e2, e3⟩ := C04.day_es_bounds w.day h.dz hes
  obtain ⟨b1, b2, b3⟩ := C03.day_pond w.day h.pre
  rw [← w.esPot] at e1 e3 b3
  rw [← w.es] at e2 e3
  rw [← w.pond] at b1 b2 b3
  rw [← w.trPot] at b3
  exact ⟨⟨e1, e2, e3⟩, ⟨hc.trPot, h.trb hc.trPot⟩, ⟨a1, a2, a3, a4, a5⟩, b1, b2,
    fun hb hz => b3 hb hz e1 hc.trPot h.lagAer⟩

end run

end Aqua

#print axioms Aqua.run_flux_closed
