import AquaVerif.Properties.C05
import AquaVerif.Properties.C16
import AquaVerif.Proofs.RunTotalProc

/-
`fullDay_total` — a simulated day of a valid configuration takes no error branch.

Premises (none is about a value computed the same day):

* `ProfOK F soil wt zGerm Zcap Zev cells` — the geometry of the profile (compartment records,
  which no process changes: `ProfOK.congr`): non-empty, positive thicknesses; every depth
  `z ≤ Zcap` rounds (numpy and Python rounding) to a depth inside the profile and `Zcap` itself lies
  inside it (rooting depths never exceed `Zcap ≥ Zmax`); the germination depth and — when the
  curve number is adjusted — `z_cn` lie inside the profile; one whole compartment lies below the
  deepest evaporation layer `Zev`; with a water table the bottom compartment belongs to the last
  layer; every layer number `1 … nLayer` has a compartment; `nComp` compartments exist;
* `TopOK F zTop cells` — the top compartment ends inside the rounded top-soil depth `z_top`
  (otherwise `root_zone_water` fails its `assert comp_sto > 0` as soon as the roots are deeper
  than `z_top`: `RunTotalExample.top_assert_reachable`);
* `DayParOK F P D Zcap Zev` — option switches and parameter ranges of the day's parameter record
  and inputs;
* `RootPre F P cells` (`Proofs/Day.lean`) — the parameter premises of the root envelope;
* `DayStOK F P st Zev` — the start state: root envelope (`RootInv`), `growth_stage ≤ 4`,
  `EvapZmax − 100 ≤ evap_z ≤ Zev` (the loop fuel; `evap_z = 0` initially).

`fullDay_stOK`: the end state satisfies the two state premises `growth_stage ≤ 4`, `evap_z` in
range again (`RootInv`: `fullDay_rootInv`).
-/

set_option linter.unusedSectionVars false
namespace Aqua
variable {α : Type} [Field α] [LinearOrder α] [IsStrictOrderedRing α]

/-! ## the premises -/

/-- geometry of the profile as far as the error sites of the day read it -/
structure ProfOK (F : Fn α) (soil : SoilW α) (wt : Nat) (zGerm Zcap Zev : α)
    (cells : List (Cell α)) : Prop where
  ne : cells ≠ []
  dz : ∀ x ∈ cells, 0 < x.c.dz
  /-- `0 ≤ Penetrability ≤ 100`, `th_wp < th_fc` -/
  pen : ∀ x ∈ cells, 0 ≤ x.c.pen ∧ x.c.pen ≤ 100 ∧ x.c.thWP < x.c.thFC
  /-- numpy's `round(z, 2)` of a depth up to `Zcap` lies inside the profile -/
  deep2 : ∀ z, z ≤ Zcap → ∃ x ∈ cells, F.round2 z ≤ x.c.dzsum
  /-- Python's `round(z, 2)` of a depth up to `Zcap` lies inside the profile -/
  deepPy : ∀ z, z ≤ Zcap → ∃ x ∈ cells, F.pyRound2 z ≤ x.c.dzsum
  tip : ∃ x ∈ cells, Zcap ≤ x.c.dzsum
  germ : ∃ x ∈ cells, zGerm ≤ x.c.dzsum
  cn : soil.adjCN = true → ∃ x ∈ cells, soil.zCN ≤ x.c.dzsum
  evap : EvapDeep Zev cells
  lastLayer : wt = 1 → ∀ b, cells.getLast? = some b → b.c.layer = soil.nLayer
  layers : LaysFull (layersOf cells)
  nComp : soil.nComp ≤ cells.length

/-- the top compartment ends inside the rounded top-soil depth (`assert comp_sto > 0` of
`root_zone_water`) -/
def TopOK (F : Fn α) (zTop : α) (cells : List (Cell α)) : Prop :=
  ∃ x ∈ cells, x.c.dzsum ≤ F.pyRound2 zTop

theorem TopOK.congr {F : Fn α} {zTop : α} {xs ys : List (Cell α)}
    (hc : ys.map (·.c) = xs.map (·.c)) (h : TopOK F zTop xs) : TopOK F zTop ys :=
  exists_of_map_eq (·.c) hc (fun c => c.dzsum ≤ F.pyRound2 zTop) h

theorem getLast?_map_c {xs ys : List (Cell α)} (h : ys.map (·.c) = xs.map (·.c)) :
    ys.getLast?.map (·.c) = xs.getLast?.map (·.c) := by
  rw [← List.getLast?_map, ← List.getLast?_map, h]

theorem ProfOK.congr {F : Fn α} {soil : SoilW α} {wt : Nat} {zGerm Zcap Zev : α}
    {xs ys : List (Cell α)} (hc : ys.map (·.c) = xs.map (·.c))
    (h : ProfOK F soil wt zGerm Zcap Zev xs) : ProfOK F soil wt zGerm Zcap Zev ys :=
  { ne := by
      intro hy
      rw [hy] at hc
      exact h.ne (List.map_eq_nil_iff.mp hc.symm)
    dz := forall_of_map_eq (·.c) hc (fun c => 0 < c.dz) h.dz
    pen := forall_of_map_eq (·.c) hc (fun c => 0 ≤ c.pen ∧ c.pen ≤ 100 ∧ c.thWP < c.thFC) h.pen
    deep2 := fun z hz => exists_of_map_eq (·.c) hc (fun c => F.round2 z ≤ c.dzsum) (h.deep2 z hz)
    deepPy := fun z hz => exists_of_map_eq (·.c) hc (fun c => F.pyRound2 z ≤ c.dzsum) (h.deepPy z hz)
    tip := exists_of_map_eq (·.c) hc (fun c => Zcap ≤ c.dzsum) h.tip
    germ := exists_of_map_eq (·.c) hc (fun c => zGerm ≤ c.dzsum) h.germ
    cn := fun ha => exists_of_map_eq (·.c) hc (fun c => soil.zCN ≤ c.dzsum) (h.cn ha)
    evap := h.evap.congr hc
    lastLayer := fun hw b hb => by
      have e := getLast?_map_c hc
      rw [hb] at e
      cases hx : xs.getLast? with
      | none => rw [hx] at e; cases e
      | some b' =>
        rw [hx] at e
        simp only [Option.map_some, Option.some.injEq] at e
        rw [e]; exact h.lastLayer hw b' hx
    layers := by rw [layersOf_congr hc]; exact h.layers
    nComp := by rw [length_of_map_eq hc]; exact h.nComp }

/-- option switches and parameter ranges of the day's parameter record and inputs -/
structure DayParOK (F : Fn α) (P : DayParams α) (D : DayIn' α) (Zcap Zev : α) : Prop where
  /-- `GDDmethod ∈ {1,2,3}` (`growing_degree_day`) -/
  gdd : D.gs = true → P.cx.gddMethod = 1 ∨ P.cx.gddMethod = 2 ∨ P.cx.gddMethod = 3
  /-- `water_table ∈ {0,1}` (`capillary_rise`) -/
  wt : P.W.waterTable = 0 ∨ P.W.waterTable = 1
  /-- the water-table depth of the day is defined and non-negative (`check_groundwater_table`) -/
  zgw : P.W.waterTable = 1 → 0 ≤ D.zGW
  /-- `CalendarType ∈ {1,2}`, in every record that carries it -/
  calW : D.gs = true → P.W.crop.calendarType = 1 ∨ P.W.crop.calendarType = 2
  calRd : D.gs = true → P.cx.rd.calendarType = 1 ∨ P.cx.rd.calendarType = 2
  calCc : D.gs = true → P.cx.cc.calendarType = 1 ∨ P.cx.cc.calendarType = 2
  irrM : P.W.irr.method ≤ 5
  irrInt : P.W.irr.method = 2 → 1 ≤ P.W.irr.interval
  irrSched : D.gs = true → P.W.irr.method = 3 → ∃ s, D.sched = some s ∧ 0 ≤ s
  appEff : 0 ≤ P.W.irr.appEff
  steps : P.W.evapTimeSteps ≠ 0
  evLo : P.W.soil.evapZMin ≤ Zev
  evHi : P.W.soil.evapZMax + 0.001 ≤ Zev
  evFuel : P.W.soil.evapZMax - P.W.soil.evapZMin ≤ 100
  co2 : P.W.co2Ref ≠ 550
  cold : P.W.crop.tr.trColdStress = 0 ∨ P.W.crop.tr.trColdStress = 1
  ctype : P.cx.hi.cropType = 1 ∨ P.cx.hi.cropType = 2 ∨ P.cx.hi.cropType = 3
  pol : (P.cx.hik.polHeatStress = 0 ∨ P.cx.hik.polHeatStress = 1) ∧
    (P.cx.hik.polColdStress = 0 ∨ P.cx.hik.polColdStress = 1)
  zminPos : 0 < P.cx.rd.zmin
  sxBot : P.cx.rd.sxBot ≠ 0
  -- every rooting depth the day rounds is at most `Zcap`
  capZmax : P.cx.rd.zmax ≤ Zcap
  capTr : P.W.crop.tr.zMin ≤ Zcap
  capCc : P.cx.cc.zMin ≤ Zcap
  capHi : P.cx.hik.zMin ≤ Zcap
  cap0 : 0 ≤ Zcap

structure DayStOK (F : Fn α) (P : DayParams α) (st : DayState' α) (Zev : α) : Prop where
  root : RootInv F P st
  stage : st.growthStage ≤ 4
  evLo : P.W.soil.evapZMax - 100 ≤ st.evapZ
  evHi : st.evapZ ≤ Zev

/-! ## the day -/

theorem rootDevelopment_zRoot_le {F : Fn α} {C : RdCrop α} {cells : List (Cell α)}
    {dap zRoot dcd gddCum dgdd tr cc ccNS rCor tPot zGW gdd Zcap : α} {germ gs : Bool} {wt : Nat}
    {out : RdOut α}
    (h : rootDevelopment F C cells dap zRoot dcd gddCum dgdd tr cc ccNS germ rCor tPot zGW gdd gs wt
      = .ok out)
    (H : gs = true → RdHyp F C cells tr gdd) (hl1 : LaysLe100 (layersOf cells))
    (hs : SkipOK F C.zmin)
    (hi : gs = true → RdInv F C (layersOf cells) (zInitOf C dap zRoot)
      (rdTOld C dap dcd gddCum dgdd gdd))
    (hz : gs = true → C.zmin ≤ zInitOf C dap zRoot) (hcap : C.zmax ≤ Zcap) (h0 : 0 ≤ Zcap) :
    out.zRoot ≤ Zcap := by
  cases gs with
  | false => rw [(C05.roots_zero_offseason h).1]; exact h0
  | true => exact le_trans (C05.roots_le_zmax (H rfl) hl1 hs h (hi rfl) (hz rfl)).1 hcap

section day
variable {F : Fn α} {T : TrigFn α} {P : DayParams α} {st : DayState' α} {D : DayIn' α}
  {Zcap Zev : α}

/-- The proof walks through the steps of `fullDayTrace` in order; `hG.congr` carries the geometry
premises from the start profile to the profile each step receives. -/
theorem fullDay_total
    (hG : ProfOK F P.W.soil P.W.waterTable P.zGerm Zcap Zev st.cells)
    (hTop : TopOK F P.W.soil.zTop st.cells)
    (hP : DayParOK F P D Zcap Zev) (hR : RootPre F P st.cells) (hS : DayStOK F P st Zev) :
    ∃ r, fullDay F T P st D = .ok r := by
  obtain ⟨tc, htc⟩ := dayCounters_total P.cx st D hP.gdd
  obtain ⟨tcS, _⟩ := dayCounters_ok htc
  obtain ⟨g, hg⟩ := checkGroundwaterTable_total F st.cells P.W.waterTable D.zGW hP.zgw
  have cg : g.cells.map (·.c) = st.cells.map (·.c) :=
    map_eq_of_forall₂ (checkGroundwaterTable_frame F st.cells _ _ _ hg) (·.c) (fun x y h => h.1)
  have Gg := hG.congr cg
  -- the premises of `rootDevelopment_total`, on the profile `check_groundwater_table` returns
  have hlg : layersOf g.cells = layersOf st.cells := layersOf_congr cg
  have H : D.gs = true → RdHyp F P.cx.rd g.cells st.trRatio tc.gdd := fun hgs =>
    (hR.rdHyp hS.root cg (gdd_range hR.temp (tcS hgs).2.1).1).1
  have hl1 : LaysLe100 (layersOf g.cells) := laysLe100_layersOf (fun x hx => (Gg.pen x hx).2.1)
  have hz : D.gs = true → P.cx.rd.zmin ≤ zInitOf P.cx.rd (natNum tc.dap) st.zRoot := fun hgs => by
    rw [(tcS hgs).1]; exact hS.root.zInit.1
  have hinv : D.gs = true → RdInv F P.cx.rd (layersOf g.cells)
      (zInitOf P.cx.rd (natNum tc.dap) st.zRoot)
      (rdTOld P.cx.rd (natNum tc.dap) st.delayedCds tc.gddCum st.delayedGdds tc.gdd) := fun hgs => by
    rw [(tcS hgs).1, (tcS hgs).2.2]
    exact hS.root.rdInv_start (H hgs).lays hR.skip hlg tc.gdd
  obtain ⟨rd, hrd⟩ := rootDevelopment_total (F := F) (C := P.cx.rd) (cells := g.cells)
    (dap := natNum tc.dap) (zRoot := st.zRoot) (dcd := st.delayedCds) (gddCum := tc.gddCum)
    (dgdd := st.delayedGdds) (tr := st.trRatio) (cc := st.cc) (ccNS := st.ccNS)
    (rCor := st.rCor) (tPot := st.tPot) (zGW := g.zGW) (gdd := tc.gdd) (germ := st.germination)
    (gs := D.gs) (wt := P.W.waterTable) hP.calRd H hl1 hR.skip Gg.layers hinv hz hP.zminPos
    hP.sxBot (by
      obtain ⟨x, hx, hzx⟩ := Gg.tip
      exact ⟨x, hx, le_trans hP.capZmax hzx⟩)
  have hzr : rd.zRoot ≤ Zcap :=
    rootDevelopment_zRoot_le hrd H hl1 hR.skip hinv hz hP.capZmax hP.cap0
  -- every rounded rooting depth of the day lies inside the profile
  have capTr : pmax rd.zRoot P.W.crop.tr.zMin ≤ Zcap := pmax_le hzr hP.capTr
  have capCc : pmax rd.zRoot P.cx.cc.zMin ≤ Zcap := pmax_le hzr hP.capCc
  have capHi : pmax rd.zRoot P.cx.hik.zMin ≤ Zcap := pmax_le hzr hP.capHi
  obtain ⟨p, hp⟩ := preIrrigationT_total F (zRootNpOf P.cx.zMinNp rd.zRoot P.W.crop.tr.zMin)
    g.cells D.gs P.W.irr.method (Int.ofNat tc.dap) rd.zRoot P.W.crop.tr.zMin P.W.netIrrSMT
    (Gg.deep2 _ capTr) (Gg.deepPy _ capTr)
  have cp : p.1.map (·.c) = st.cells.map (·.c) :=
    (map_eq_of_forall₂ (preIrrigationR_spec _ _ _ _ _ _ _ _ _ hp).1 (·.c) (fun x y h => h.1)).trans cg
  have cd : (drainage F p.1).cells.map (·.c) = st.cells.map (·.c) :=
    (drainage_frame F p.1 (·.c) (fun _ _ => rfl) fun _ _ => rfl).trans cp
  have Gd := hG.congr cd
  have Td := hTop.congr cd
  obtain ⟨r, hr⟩ := rainPartition_total F D.rain (drainage F p.1).cells st.water.daySubmerged
    P.fm.srInhb P.fm.bunds P.fm.zBund (if P.fm.cnAdj then P.fm.cnAdjPct else 0) P.W.soil.cn
    P.W.soil.adjCN P.W.soil.zCN Gd.cn
  obtain ⟨i, hi⟩ := irrigation_total F P.W.irr (drainage F p.1).cells st.growthStage
    st.water.irrCum st.water.ePot st.water.tPot rd.zRoot tc.dap D.sched P.W.crop.tr.zMin
    P.W.crop.tr.aer P.W.soil.zTop D.gs D.rain r.runoff
    (rootZoneWater_total F (drainage F p.1).cells rd.zRoot P.W.soil.zTop P.W.crop.tr.zMin
      P.W.crop.tr.aer (Gd.deep2 _ capTr) Td)
    hP.irrM hS.stage hP.irrInt hP.irrSched
  obtain ⟨f, hf⟩ := infiltration_total F Gd.ne st.water.pond r.infl i.irr P.W.irr.appEff P.fm.zBund
    (drainage F p.1).deepPerc r.runoff P.fm.bunds D.gs
    (fun _ => mul_nonneg (irr_nonneg hi) (div_nonneg hP.appEff (by norm_num)))
  have cf : f.cells.map (·.c) = st.cells.map (·.c) := (infiltration_frame hf (·.c) (fun _ _ => rfl) fun _ _ => rfl).trans cd
  have Gf := hG.congr cf
  obtain ⟨c, hc⟩ := capillaryRise_total F f.cells P.W.soil.nLayer P.W.soil.fshapeCR g.zGW
    P.W.waterTable hP.wt Gf.ne Gf.lastLayer
  have cc' : c.cells.map (·.c) = st.cells.map (·.c) :=
    (map_eq_of_forall₂ (capillaryRise_spec F _ _ _ _ _ _ hc).1 (·.c) (fun x y h => h.1)).trans cf
  have Gc := hG.congr cc'
  have Tc := hTop.congr cc'
  obtain ⟨ge, hge⟩ := germination_total F st.germ P.zGerm c.cells P.cx.germThr P.cx.sown tc.gdd
    D.gs Gc.germ
  have hgst : ∃ n, growthStage P.W.crop.calendarType (natNum tc.dap) ge.s.delayedCds tc.gddCum
      ge.s.delayedGdds P.cx.canopy10 P.cx.maxCanopy P.W.crop.senescence D.gs st.growthStage
      = some n := by
    apply Option.isSome_iff_exists.mp
    rw [C16.growth_stage_defined_iff]
    cases hgs : D.gs with
    | false => exact Or.inl rfl
    | true => exact Or.inr (hP.calW hgs)
  obtain ⟨gst, hgst⟩ := hgst
  obtain ⟨cv, hcv⟩ := canopyCover_total F P.cx.cc c.cells P.W.soil.zTop (ccStateOf st tc rd ge)
    tc.gdd D.et0 D.gs hP.calCc (fun _ => Gc.deep2 _ capCc) Tc
  obtain ⟨e, he, _, _⟩ := soilEvaporation_total F (dayEvapParams P.W P.fm)
    (dayEvapState (cropDayOf P st tc rd ge cv) st.water f.pond) c.cells
    (dayEvapDay D.water f.infl i.irr) Zev hP.steps hP.calW hP.evLo hP.evHi Gc.evap hP.evFuel
    hS.evLo hS.evHi
  have ce : e.cells.map (·.c) = st.cells.map (·.c) :=
    (soilEvap_frame _ _ _ _ _ _ he (·.c) fun _ _ => rfl).trans cc'
  have Ge := hG.congr ce
  have Te := hTop.congr ce
  obtain ⟨t, ht⟩ := transpiration_total F e.cells P.W.soil.nComp P.W.soil.zTop P.W.crop.tr
    P.W.irr.method P.W.netIrrSMT
    (dayTrState (cropDayOf P st tc rd ge cv) st.water e.pond r.daySub i.depletion i.taw) D.et0
    P.W.co2Cur P.W.co2Ref D.gs tc.gdd hP.co2 hP.cold Ge.nComp (natNum_nonneg _)
    (fun _ => Ge.deep2 _ capTr) Te
  have ct : t.cells.map (·.c) = st.cells.map (·.c) := (transp_frame ht (·.c) (fun _ _ => rfl) fun _ _ => rfl).trans ce
  obtain ⟨w, hw⟩ := groundwaterInflow_total F hg ct
  have cw : w.1.map (·.c) = st.cells.map (·.c) :=
    (map_eq_of_forall₂ (groundwaterInflow_frame _ _ _ _ hw) (·.c) (fun x y h => h.1)).trans ct
  have Gw := hG.congr cw
  have Tw := hTop.congr cw
  -- `hi_ref_current_day` and `biomass_accumulation` cannot fail: named for `FullSteps` only
  obtain ⟨hr', hhr⟩ : ∃ x, x = hiRefCurrentDay F P.cx.hi (hiRefInOf st tc ge cv t) D.gs := ⟨_, rfl⟩
  obtain ⟨bio, hbio⟩ : ∃ x, x = biomassAccumulation P.cx.bio (natNum tc.dap) ge.s.delayedCds
    hr'.hiRef hr'.pctLagPhase st.biomass st.biomassNS t.trAct t.trPotNS D.et0 D.gs := ⟨_, rfl⟩
  obtain ⟨hix, hhi⟩ := harvestIndex_total F T w.1 P.W.soil.zTop P.cx.hi P.cx.hik
    (hiStateOf st tc rd ge cv t hr' bio) D.et0 D.tmax D.tmin D.gs hP.ctype hP.pol
    (fun _ => Gw.deep2 _ capHi) Tw
  obtain ⟨rz, hrz⟩ := rootZoneWater_total F w.1 rd.zRoot P.W.soil.zTop P.W.crop.tr.zMin
    P.W.crop.tr.aer (Gw.deep2 _ capTr) Tw
  have hs : FullSteps F T P st D
      { tc := tc, g := g, rd := rd, p := p, d := drainage F p.1, r := r, i := i, f := f, c := c,
        ge := ge, gst := gst, cc := cv, e := e, t := t, w := w, hr := hr', bio := bio, hi := hix,
        y := yieldStep bio.2 bio.1 hix.hi hix.hiAdj P.cx.yldWC D.gs, rz := rz } :=
    { htc := htc, hrd := hrd, hge := hge, hgst := hgst, hcc := hcv, hhr := hhr, hbio := hbio,
      hhi := hhi, hy := rfl,
      water := ⟨hg, hp, rfl, hr, hi, hf, hc, he, ht, hw, hrz⟩ }
  exact ⟨_, fullDay_of_steps hs⟩

theorem fullDay_stOK {r : DayResult α} (h : fullDay F T P st D = .ok r)
    (hG : ProfOK F P.W.soil P.W.waterTable P.zGerm Zcap Zev st.cells)
    (hP : DayParOK F P D Zcap Zev) (hS : DayStOK F P st Zev) :
    r.state.growthStage ≤ 4 ∧ P.W.soil.evapZMax - 100 ≤ r.state.evapZ ∧ r.state.evapZ ≤ Zev := by
  obtain ⟨X, hs, rfl⟩ := fullDay_ok' h
  have hst : X.gst ≤ 4 := by
    have hgst := hs.hgst
    cases hg : D.gs with
    | false =>
      rw [hg, growthStage_offseason] at hgst
      rw [← Option.some.inj hgst]
      exact Nat.zero_le 4
    | true =>
      rw [hg] at hgst
      exact (growthStage_inseason _ _ _ _ _ _ _ _ _ _ hgst).2.1
  refine ⟨hst, ?_⟩
  have hc := (day_comps hs.water).c
  have he := hs.water.he
  simp only [FullTrace.water_c, FullTrace.water_f, FullTrace.water_i, FullTrace.water_e] at hc he
  obtain ⟨e, he', lo, hi⟩ := soilEvaporation_total F (dayEvapParams P.W P.fm)
    (dayEvapState (X.cropDay P st) st.water X.f.pond) X.c.cells
    (dayEvapDay D.water X.f.infl X.i.irr) Zev hP.steps hP.calW hP.evLo hP.evHi
    (hG.evap.congr hc) hP.evFuel hS.evLo hS.evHi
  rw [he] at he'
  have e1 : X.e = e := Except.ok.inj he'
  show _ ≤ X.e.evapZ ∧ X.e.evapZ ≤ _
  rw [e1]
  exact ⟨lo, hi⟩

end day
end Aqua

#print axioms Aqua.fullDay_total
#print axioms Aqua.fullDay_stOK
