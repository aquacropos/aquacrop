import AquaVerif.Proofs.Clock
import AquaVerif.Proofs.ClockCalendar
/-
Property C07 — the simulation calendar is exact.

The clock/season state machine (`Aqua.Clock`, model of `core._perform_timestep`, the control
skeleton of `solution_single_time_step`, `check_model_is_finished`, `update_time` and the
season-start reset) with the biophysics abstracted to an oracle `ev : Nat → Bool × Bool`
(maturity / death declared on a day).  Every theorem is for **every** well-formed configuration
(`WF`, resp. `Valid`), **every** oracle (hence every day function) and **every** reachable state
(hence every way of stepping through the run).  `seasonDates` is the model of the planting /
harvest date set-up of `read_model_parameters`; `date_setup_is_valid` shows that whatever it
produces satisfies the premises.

This file holds the theorems about the clock model and the date set-up and imports their lemma
files only; the two theorems about the full run model are in `Properties/C07Run.lean`.
-/

namespace Aqua.C07
open Aqua.Clock Aqua.Calendar

variable {c : Cfg} {ev : Ev} {s : St}

/-- Each calendar day is simulated at most once and in chronological order. -/
theorem each_day_once_in_order (hw : WF c) (hr : Reach c ev s) :
    s.rows.Pairwise (fun a b => a.t < b.t) := by
  unfold St.rows; rw [List.pairwise_reverse]
  exact (good_of_reach hw hr).hist.incr

/-- Days after planting count 1, 2, 3, … without gaps from the season's planting date, and are 0
outside a growing season. -/
theorem dap_counts_from_planting (hw : WF c) (hr : Reach c ev s) :
    ∀ r ∈ s.rows, r.dap = if r.gs then r.t + 1 - c.pl r.season.toNat else 0 := dap_counts hw hr

/-- A growing-season row belongs to a season and lies on or after its planting date. -/
theorem growing_day_in_its_season (hw : WF c) (hr : Reach c ev s) :
    ∀ r ∈ s.rows, r.gs = true → 0 ≤ r.season ∧ c.pl r.season.toNat ≤ r.t := by
  intro r hmem hg
  have := ((good_of_reach hw hr).hist.dapOK r (by simpa [St.rows] using hmem)).1 hg
  exact ⟨this.1, this.2.1⟩

/-- Consecutive simulated days are consecutive calendar days, except — only without off-season
simulation — the jump from the day a season's summary row was written to the next planting date. -/
theorem no_skip_except_jump_to_next_planting (hw : WF c) (hr : Reach c ev s) :
    ∀ i (h : i + 1 < s.rows.length), Adj c s.summary s.rows[i] s.rows[i + 1] := by
  intro i h
  rcases neighbours_reverse (good_of_reach hw hr).hist.consec i h with h1 | ⟨h1, h2, h3⟩
  · exact Or.inl h1
  · exact Or.inr ⟨h1, List.mem_reverse.mpr h2, h3⟩

/-- With off-season simulation no day between the start date and the last simulated day is
skipped: the `i`-th row is day `i`. -/
theorem offseason_simulates_every_day (hw : WF c) (hr : Reach c ev s) (hoff : c.offSeason = true) :
    ∀ i (h : i < s.rows.length), s.rows[i].t = i := by
  intro i
  induction i with
  | zero =>
    intro h
    apply (good_of_reach hw hr).hist.first
    have h0 : s.rows.head? = some s.rows[0] := by
      rw [List.head?_eq_getElem?, List.getElem?_eq_getElem h]
    simpa [St.rows, List.head?_reverse] using h0
  | succ i ih =>
    intro h
    have h0 := ih (by omega)
    rcases no_skip_except_jump_to_next_planting hw hr i h with h1 | ⟨h1, _⟩
    · omega
    · rw [hoff] at h1; cases h1

/-- A season ends (its summary row is written) on the *first* simulated day of that season on
which the crop is mature or dead or the next day is the latest harvest date. -/
theorem season_ends_on_first_end_condition (hw : WF c) (hr : Reach c ev s) (k : Int) (t : Nat) :
    (k, t) ∈ s.summary ↔ FirstEnd s.rows k t := season_ends_first hw hr k t

/-- … where "end condition" means exactly: in a season, and mature ∨ dead ∨ harvest date tomorrow. -/
theorem end_condition_meaning (hw : WF c) (hr : Reach c ev s) :
    ∀ r ∈ s.rows, r.endc = (decide (0 ≤ r.season) && (r.mature || r.dead ||
      decide (c.hv r.season.toNat = (r.t : Int) + 1))) := by
  intro r hmem
  obtain ⟨s', rfl⟩ := row_of_reach hw hr r hmem
  rfl

/-- The run always terminates: `n` steps suffice, stepping and running to termination agree. -/
theorem run_terminates (hw : WF c) (ev : Ev) {s₀ : St} (hi : init c = .ok s₀) :
    ∃ s, runSteps c ev c.n s₀ = .ok s ∧ runTill c ev s₀ = .ok s ∧ s.finished = true :=
  terminates hw ev hi

/-- It terminates on the day before the end date or on the harvest day of the last season. -/
theorem terminates_at_end_or_last_harvest (hw : WF c) (hr : Reach c ev s) (hf : s.finished = true) :
    s.t + 2 ≤ c.n ∧ (s.t + 2 = c.n ∨ (c.nSeasons - 1, s.t) ∈ s.summary) ∧
    (∃ r, s.rows.getLast? = some r ∧ r.t = s.t) := by
  have hF := (good_of_reach hw hr).final hf
  refine ⟨hF.tn, ?_, ?_⟩
  · rcases hF.why with h | h
    · exact Or.inl h
    · exact Or.inr (by simpa [St.summary] using h)
  · simpa [St.rows, List.getLast?_reverse] using hF.lastRow

/-- No Python exception on the way: from every unfinished reachable state the next step succeeds. -/
theorem no_exception_before_termination (hw : WF c) (hr : Reach c ev s) (hf : s.finished = false) :
    ∃ s', perform c ev s = .ok s' :=
  ⟨_, perform_eq hw ev ((good_of_reach hw hr).live hf)⟩

/-- Under the harvest clauses of `Valid`: a season's summary row is written on the day before its
latest harvest date at the latest. -/
theorem harvest_not_after_latest_date (hv : Valid c) (hr : Reach c ev s) {k : Int} {t : Nat}
    (h : (k, t) ∈ s.summary) : (t : Int) + 1 ≤ c.hv k.toNat := harvest_by_latest_date hv hr h

/-- A growing day lies strictly before its season's latest harvest date: a row with
`growing_season = True` has `t + 1 ≤ harvest[season]` (the growing-season test is
`planting_date <= day < harvest_date`, repository commit d260679). -/
theorem growing_day_before_latest_harvest_date (hw : WF c) (hr : Reach c ev s) :
    ∀ r ∈ s.rows, r.gs = true → (r.t : Int) + 1 ≤ c.hv r.season.toNat :=
  fun r hmem hg => (gs_meaning hw hr r hmem hg).2.2

/-- No growing day on or after the latest harvest date: a simulated day on or after
`harvest[season]` has `growing_season = False` and `dap = 0`. -/
theorem no_growing_day_on_or_after_latest_harvest_date (hw : WF c) (hr : Reach c ev s) :
    ∀ r ∈ s.rows, c.hv r.season.toNat ≤ (r.t : Int) → r.gs = false ∧ r.dap = 0 := by
  intro r hmem hle
  have hg : r.gs = false := by
    cases hg : r.gs with
    | false => rfl
    | true => have := growing_day_before_latest_harvest_date hw hr r hmem hg; omega
  refine ⟨hg, ?_⟩
  have := dap_counts hw hr r hmem
  simpa [hg] using this

/-- While the harvest flag of the current season is up, the day about to be simulated is not a
growing day. -/
theorem no_growing_day_while_harvest_flag_up (hw : WF c) (hr : Reach c ev s)
    (hf : s.finished = false) (hfl : s.harvestFlag = true) : gsOf c s = false :=
  gsOf_false_of_flag ((good_of_reach hw hr).liveG hf) hfl

/-- After a season has been closed (its summary row `(k, t)` written) no later simulated day of
that season is a growing day — with the off-season simulated, the days from the harvest date to
the next planting date are fallow days (`growing_season = False`, `dap = 0`). -/
theorem no_growing_day_after_season_closed (hw : WF c) (hr : Reach c ev s) {k : Int} {t : Nat}
    (h : (k, t) ∈ s.summary) :
    ∀ r ∈ s.rows, r.season = k → t < r.t → r.gs = false ∧ r.dap = 0 :=
  no_growing_day_after_summary hw hr h

/-- The growing days of a closed season `k` all lie in `[planting k, harvest k)`, at or before the
step of its summary row. -/
theorem growing_days_of_closed_season (hw : WF c) (hr : Reach c ev s) {k : Int} {t : Nat}
    (h : (k, t) ∈ s.summary) :
    ∀ r ∈ s.rows, r.season = k → r.gs = true →
      c.pl k.toNat ≤ r.t ∧ r.t ≤ t ∧ (r.t : Int) + 1 ≤ c.hv k.toNat := by
  intro r hm hs hg
  obtain ⟨_, h2, h3⟩ := gs_meaning hw hr r hm hg
  rw [hs] at h2 h3
  refine ⟨h2, ?_, h3⟩
  by_cases hlt : t < r.t
  · have := (no_growing_day_after_summary hw hr h r hm hs hlt).1
    rw [hg] at this; cases this
  · omega

/-- Seasons begin on the configured planting day of consecutive years, starting with the first
planting date on or after the start date (`SeasonsSpec`). -/
theorem seasons_consecutive_years_from_first_planting {sy sm sd ey em ed pm pd hm hd : Int} {r : Seasons}
    (h : seasonDates sy sm sd ey em ed pm pd hm hd = .ok r) :
    SeasonsSpec sy sm sd ey em ed pm pd hm hd r := by
  obtain ⟨hvs, hve, n, py, hy, hn, hn2, h3, h⟩ := seasonDates_ok h
  obtain ⟨hvp, hvh, hcases⟩ := yearLists_spec h3
  -- common conclusion from the shape of the year lists
  have key : ∀ (a δ : Int), py = pyRange sy a → hy = pyRange (sy + δ) (a + δ) →
      a ≤ ey + 1 →
      ((δ = 0 ∧ daysFromCivil 1990 pm pd < daysFromCivil 1990 hm hd) ∨
       (δ = 1 ∧ ¬ daysFromCivil 1990 pm pd < daysFromCivil 1990 hm hd)) →
      (∀ y, y < a → validDate y pm pd = true →
        daysFromCivil y pm pd < daysFromCivil ey em ed) →
      SeasonsSpec sy sm sd ey em ed pm pd hm hd r := by
    intro a δ hpy hhy hale hδ hlast
    rw [hpy, hhy] at h
    obtain ⟨y0, hy0a, _, hy0, hpl, hhl, hs0, hrn, hvall, _⟩ := finishSeasons_spec h
    rw [← hrn] at hn hn2
    have hL : ∀ y ∈ pyRange y0 a, daysFromCivil y pm pd < daysFromCivil ey em ed :=
      fun y hy => hlast y (mem_pyRange.mp hy).2 (hvall y hy)
    unfold SeasonsSpec
    -- the years next to the start year differ from it by a whole year
    rcases hy0 with ⟨rfl, hle⟩ | ⟨rfl, hlt⟩
    · exact ⟨y0, a, δ, hy0a, Or.inl rfl, hale, hδ, hpl, hhl, hle,
        dfc_year_lt (by omega) hvp hvs, hs0, hn, hn2, hL, hvp, hvh, hvs, hve⟩
    · refine ⟨sy + 1, a, δ, hy0a, Or.inr rfl, hale, hδ, hpl, hhl,
        Int.le_of_lt (dfc_year_lt (by omega) hvs hvp), ?_, hs0, hn, hn2, hL, hvp, hvh,
        hvs, hve⟩
      rw [Int.add_sub_cancel]; exact hlt
  rcases hcases with ⟨hlt, hvme, hpy, hhy⟩ | ⟨hnlt, hvl, hc⟩
  · -- planting and harvest in one calendar year
    refine key _ 0 hpy (by rw [hhy, hpy]; simp) (by split <;> omega) (Or.inl ⟨rfl, hlt⟩) ?_
    intro y hya hvy
    split at hya
    · -- the end date does not reach the planting date of its year
      exact dfc_year_lt (by omega) hvp hve
    · rcases Int.lt_or_eq_of_le (show y ≤ ey by omega) with hy | rfl
      · exact dfc_year_lt hy hvp hve
      · exact (md_order_transfer hvp hvme hvy hve).mp (by omega)
  · -- season spanning New Year
    have hlate := dfc_year_lt (show ey < ey + 2 by omega) hve hvl
    rcases hc with ⟨hc, _⟩ | ⟨_, hpy, hhy⟩
    · omega
    · exact key ey 1 hpy hhy (by omega) (Or.inr ⟨rfl, hnlt⟩)
        (fun y hya _ => dfc_year_lt hya hvp hve)

/-- Whatever the date set-up of `read_model_parameters` produces is a valid clock configuration,
so all of the above holds for every run the implementation can start. -/
theorem date_setup_is_valid {sy sm sd ey em ed pm pd hm hd : Int} {r : Seasons} (off : Bool)
    (h : seasonDates sy sm sd ey em ed pm pd hm hd = .ok r) : Valid (toCfg r off) := by
  obtain ⟨y0, a, δ, hya, _, _, hδ, hpl, hhl, hstart, _, hs0, hn, hn2, hlast, hvp, hvh, _, _⟩ :=
    seasons_consecutive_years_from_first_planting h
  -- season `i` is planted in year `y0 + i` and harvested in year `y0 + δ + i`
  have e : toCfg r off =
      { n := r.n,
        planting := (List.range (a - y0).toNat).map fun i : Nat =>
          (daysFromCivil (y0 + i) pm pd - daysFromCivil sy sm sd).toNat,
        harvest := (List.range (a + δ - (y0 + δ)).toNat).map fun i : Nat =>
          daysFromCivil (y0 + δ + i) hm hd - daysFromCivil sy sm sd,
        offSeason := off, season0 := r.season0 } := by
    simp only [toCfg, hpl, hhl, pyRange, List.map_map]; rfl
  rw [e, show a + δ - (y0 + δ) = a - y0 by omega]
  refine valid_of_seasons off hn2 (by omega) (by simpa using hstart)
    (fun i j hij => Int.sub_lt_sub_right (dfc_year_lt (by omega) hvp hvp) _) ?_
    (by rw [hs0, Int.natCast_zero, Int.add_zero]; split <;> split <;> omega) ?_ ?_
  · intro i hi
    have := hlast (y0 + i) (mem_pyRange.mpr (by omega))
    omega
  · -- planting before harvest
    intro k _
    rcases hδ with ⟨rfl, hlt⟩ | ⟨rfl, _⟩
    · have := (md_order_transfer hvp hvh (validDate_of_1990 hvp (y0 + k))
        (validDate_of_1990 hvh (y0 + k))).mp hlt
      simp only [Int.add_zero]; omega
    · have := dfc_year_lt (show y0 + k < y0 + 1 + k by omega) hvp hvh
      omega
  · -- harvest not after the next planting
    intro k _
    rcases hδ with ⟨rfl, _⟩ | ⟨rfl, hnlt⟩
    · have := dfc_year_lt (show y0 + 0 + k < y0 + ((k + 1 : Nat) : Int) by omega) hvh hvp
      omega
    · have := mt (md_order_transfer hvp hvh (validDate_of_1990 hvp (y0 + 1 + k))
        (validDate_of_1990 hvh (y0 + 1 + k))).mpr hnlt
      rw [show y0 + ((k + 1 : Nat) : Int) = y0 + 1 + k by omega]
      omega


end Aqua.C07
