import AquaVerif.Model.Response
import AquaVerif.Model.HIinit
/-
Model of the crop phenological calendar, which the repository computes at two hand-duplicated
sites:

* `aquacrop/initialize/compute_crop_calendar.py` (`compute_crop_calendar`, called from
  `read_model_parameters` when no harvest date is configured and again from `compute_variables`)
    - `Mode == 1` (calendar days)        → `calendarInitCD`
    - `Mode == 2` (growing degree days)  → `calendarInit`
  followed in `compute_variables` by the harvest-index block (`calculate_HIGC`,
  `calculate_HI_linear`)               → `hiBlock`, `calendarInitHI`
* the `if crop.CalendarType == 2:` block at the end of
  `aquacrop/timestep/reset_initial_conditions.py` (start of every season after the first)
                                         → `calendarReset`

Inputs that are *derived* by the Python before the modelled part (and by the encoders in the same
way): the list `temps` of `(MinTemp, MaxTemp)` records from the season's planting date to the end
of the simulation (init: `weather_df.loc[pd.date_range(pl_date, time_span[-1])]`; reset:
`weather[weather[:, 4] >= planting_dates[season_counter]]`).

The two sites differ in how they clip:
* init uses `pandas.Series.clip(lower=Tbase, upper=Tupp)`, which (pandas "GH 2747") first
  *swaps* the bounds when `lower > upper`, then applies the lower bound, then the upper bound;
  the one-sided clips of method 3 do not swap;
* reset uses numpy in-place assignment: first `x[x > Tupp] = Tupp`, then `x[x < Tbase] = Tbase`
  (exactly the daily `growing_degree_day`, `growingDegreeDay` of `Model/Response.lean`).
They coincide when `Tbase ≤ Tupp` (`Proofs/CropCalendar.lean`, with a counterexample otherwise).

Errors (`Except String`): `E:unbound` (a `GDDmethod` other than 1, 2, 3 leaves `gdd` unbound),
`E:index` (no weather record from the planting date on: `gdd_cum[-1]` on an empty array),
`E:assert:maturity` / `E:assert:year` (the two `assert`s), `E:fuel` (the `while` loops of
`calculate_HIGC` / `calculate_HI_linear`; the Python loop of `calculate_HIGC` does not terminate
for `YldFormCD ≤ 0`), `E:unsupported` (`SwitchGDD == 1` in mode 1: that branch, with `prepare_gdd`,
is `calendarInitCDSwitch` of `Model/PrepareGdd.lean`).

Day numbers are `Nat`, their differences `Int` (`YldFormCD`, `FloweringCD`; `NO_VALUE = -999`).
-/

namespace Aqua
section
variable {α : Type} [Add α] [Sub α] [Mul α] [Div α] [Neg α] [LT α] [LE α]
  [DecidableLT α] [DecidableLE α] [OfScientific α] [IntCast α] [OfNat α 0] [OfNat α 1] [OfNat α 2]
  [OfNat α 100] [OfNat α 999]

/-! ### daily growing degrees, the two clipping variants -/

/-- `GDDmethod` (1, 2, 3) -/
inductive GddMethod where
  | m1
  | m2
  | m3
  deriving DecidableEq, Repr

def GddMethod.ofNat? (n : Nat) : Option GddMethod :=
  if n = 1 then some .m1 else if n = 2 then some .m2 else if n = 3 then some .m3 else none

def GddMethod.toNat : GddMethod → Nat
  | .m1 => 1
  | .m2 => 2
  | .m3 => 3

/-- `s.clip(lower=lo)` on one element: `where(isna | s >= lo, lo)` -/
@[inline] def clipLower (x lo : α) : α := pmax x lo
/-- `s.clip(upper=hi)` on one element: `where(isna | s <= hi, hi)` -/
@[inline] def clipUpper (x hi : α) : α := pmin x hi

/-- `s.clip(lower=lo, upper=hi)` of pandas on one element: the scalar bounds are reordered
(`lower, upper = min(lower, upper), max(lower, upper)`), then the lower bound is applied, then the
upper bound. -/
def pdClip (x lo hi : α) : α :=
  let lo' := pmin lo hi
  let hi' := pmax lo hi
  clipUpper (clipLower x lo') hi'

/-- one day's growing degrees in `compute_crop_calendar` (pandas clipping) -/
def gddDayInit (m : GddMethod) (tbase tupp tmin tmax : α) : α :=
  match m with
  | .m1 =>
    let tmean := (tmax + tmin) / 2
    let tmean := pdClip tmean tbase tupp
    tmean - tbase
  | .m2 =>
    let tmax := pdClip tmax tbase tupp
    let tmin := pdClip tmin tbase tupp
    let tmean := (tmax + tmin) / 2
    tmean - tbase
  | .m3 =>
    let tmax := pdClip tmax tbase tupp
    let tmin := clipUpper tmin tupp
    let tmean := (tmax + tmin) / 2
    let tmean := clipLower tmean tbase
    tmean - tbase

/-- one day's growing degrees in `reset_initial_conditions` (numpy in-place clipping: upper bound
first, then lower bound) -/
def gddDayReset (m : GddMethod) (tbase tupp tmin tmax : α) : α :=
  match m with
  | .m1 =>
    let tmean := (tmax + tmin) / 2
    let tmean := pmin tmean tupp
    let tmean := pmax tmean tbase
    tmean - tbase
  | .m2 =>
    let tmax := pmin tmax tupp
    let tmax := pmax tmax tbase
    let tmin := pmin tmin tupp
    let tmin := pmax tmin tbase
    let tmean := (tmax + tmin) / 2
    tmean - tbase
  | .m3 =>
    let tmax := pmin tmax tupp
    let tmax := pmax tmax tbase
    let tmin := pmin tmin tupp
    let tmean := (tmax + tmin) / 2
    let tmean := pmax tmean tbase
    tmean - tbase

/-- the `gdd` vector of `compute_crop_calendar`; `temps` are `(MinTemp, MaxTemp)` records -/
def gddSeriesInit (m : GddMethod) (tbase tupp : α) (temps : List (α × α)) : List α :=
  temps.map (fun t => gddDayInit m tbase tupp t.1 t.2)

/-- the `gdd` vector of `reset_initial_conditions` -/
def gddSeriesReset (m : GddMethod) (tbase tupp : α) (temps : List (α × α)) : List α :=
  temps.map (fun t => gddDayReset m tbase tupp t.1 t.2)

/-! ### cumulative sum and threshold look-up -/

/-- running sums continuing from `acc` -/
def cumsumFrom (acc : α) : List α → List α
  | [] => []
  | x :: xs => (acc + x) :: cumsumFrom (acc + x) xs

/-- `np.cumsum`: plain left-to-right summation, the first element is the first term itself -/
def cumsum : List α → List α
  | [] => []
  | x :: xs => x :: cumsumFrom x xs

/-- position of the first element exceeding `x` -/
def findAbove (x : α) : List α → Option Nat
  | [] => none
  | c :: cs => if x < c then some 0 else (findAbove x cs).map (· + 1)

/-- `(cum > x).idxmax()` on a default-indexed Series / `(cum > x).argmax()`: the position of the
first element exceeding `x`, and **0 when there is none**. -/
def firstAbove (cum : List α) (x : α) : Nat := (findAbove x cum).getD 0

/-! ### the look-ups shared by the two sites -/

/-- growing-degree thresholds the look-ups read -/
structure CalThresh (α : Type) where
  maturity : α       -- crop.Maturity
  maxCanopy : α      -- crop.MaxCanopy
  canopyDevEnd : α   -- crop.CanopyDevEnd
  hiStart : α        -- crop.HIstart
  hiEnd : α          -- crop.HIend
  floweringEnd : α   -- crop.FloweringEnd (read only when CropType == 3)

/-- calendar-day fields written by the look-ups -/
structure CalDays where
  maturityCD : Nat
  maxCanopyCD : Nat
  canopyDevEndCD : Nat
  hiStartCD : Nat
  hiEndCD : Nat
  yldFormCD : Int
  floweringCD : Int    -- `NO_VALUE` (-999) unless CropType == 3
  deriving DecidableEq, Repr

/-- `ModelConstants.NO_VALUE` -/
def noValue : Int := -999

/-- from `assert gdd_cum[-1] > crop.Maturity` to the assignment of `crop.FloweringCD`
(the same statements at both sites; `idxmax` of a default-indexed Series = `argmax`). -/
def calendarDays (cropType : Nat) (th : CalThresh α) (cum : List α) : Except String CalDays :=
  match cum.getLast? with
  | none => .error "E:index"
  | some last =>
    if th.maturity < last then
      let maturityCD := firstAbove cum th.maturity + 1
      if maturityCD < 365 then
        let maxCanopyCD := firstAbove cum th.maxCanopy + 1
        let canopyDevEndCD := firstAbove cum th.canopyDevEnd + 1
        let hiStartCD := firstAbove cum th.hiStart + 1
        let hiEndCD := firstAbove cum th.hiEnd + 1
        let yldFormCD : Int := (hiEndCD : Int) - (hiStartCD : Int)
        let floweringCD : Int :=
          if cropType = 3 then ((firstAbove cum th.floweringEnd + 1 : Nat) : Int) - (hiStartCD : Int)
          else noValue
        .ok { maturityCD := maturityCD, maxCanopyCD := maxCanopyCD,
              canopyDevEndCD := canopyDevEndCD, hiStartCD := hiStartCD, hiEndCD := hiEndCD,
              yldFormCD := yldFormCD, floweringCD := floweringCD }
      else .error "E:assert:year"
    else .error "E:assert:maturity"

/-! ### harvest-index block (`compute_variables` lines after the calendar call; reset, end) -/

/-- `crop.HIGC = calculate_HIGC(YldFormCD, HI0, HIini)`; for `CropType == 3`
`tLinSwitch, dHILinear = calculate_HI_linear(YldFormCD, HIini, HI0, HIGC)`, else `0`, `0.0`.
Returns `(HIGC, tLinSwitch, dHILinear)`. -/
def hiBlock (F : Fn α) (fuel : Nat) (cropType : Nat) (yldFormCD : Int) (hi0 hiIni : α) :
    Except String (α × α × α) :=
  match calculateHIGC F fuel (yldFormCD : α) hi0 hiIni with
  | none => .error "E:fuel"
  | some g =>
    if cropType = 3 then
      match calculateHILinear F fuel (yldFormCD : α) hiIni hi0 g with
      | none => .error "E:fuel"
      | some (t, d) => .ok (g, t, d)
    else .ok (g, 0, 0)

/-! ### compute_crop_calendar, Mode == 2 -/

/-- crop fields `compute_crop_calendar` reads in mode 2 -/
structure CalGDDIn (α : Type) where
  determinant : Bool   -- crop.Determinant == 1
  cropType : Nat       -- crop.CropType
  gddMethod : Nat      -- crop.GDDmethod
  tbase : α
  tupp : α
  emergence : α
  maturity : α
  hiStart : α
  flowering : α
  yldForm : α
  senescence : α
  cc0 : α
  ccx : α
  cgc : α
  floweringEnd : α     -- previous value of crop.FloweringEnd (kept unless CropType == 3)

/-- crop fields `compute_crop_calendar` writes in mode 2 -/
structure CalGDDOut (α : Type) where
  canopyDevEnd : α
  canopy10Pct : α
  maxCanopy : α
  hiEnd : α
  floweringEnd : α
  days : CalDays

/-- the growing-degree thresholds after the first part of mode 2 -/
def initThresh (F : Fn α) (c : CalGDDIn α) : CalThresh α × α :=
  let canopyDevEnd :=
    if c.determinant then F.round0 (c.hiStart + c.flowering / 2) else c.senescence
  let canopy10Pct := F.round0 (c.emergence + F.log (0.1 / c.cc0) / c.cgc)
  let maxCanopy := F.round0 (c.emergence +
    F.log ((0.25 * c.ccx * c.ccx / c.cc0) / (c.ccx - 0.98 * c.ccx)) / c.cgc)
  let hiEnd := c.hiStart + c.yldForm
  let floweringEnd := if c.cropType = 3 then c.hiStart + c.flowering else c.floweringEnd
  ({ maturity := c.maturity, maxCanopy := maxCanopy, canopyDevEnd := canopyDevEnd,
     hiStart := c.hiStart, hiEnd := hiEnd, floweringEnd := floweringEnd }, canopy10Pct)

/-- `compute_crop_calendar` for `crop.CalendarType == 2` -/
def calendarInit (F : Fn α) (c : CalGDDIn α) (temps : List (α × α)) :
    Except String (CalGDDOut α) :=
  let (th, canopy10Pct) := initThresh F c
  match GddMethod.ofNat? c.gddMethod with
  | none => .error "E:unbound"
  | some m =>
    match calendarDays c.cropType th (cumsum (gddSeriesInit m c.tbase c.tupp temps)) with
    | .error e => .error e
    | .ok d =>
      .ok { canopyDevEnd := th.canopyDevEnd, canopy10Pct := canopy10Pct,
            maxCanopy := th.maxCanopy, hiEnd := th.hiEnd, floweringEnd := th.floweringEnd,
            days := d }

/-- mode 2 of `compute_crop_calendar` followed by the harvest-index block of
`compute_variables`: `(calendar, HIGC, tLinSwitch, dHILinear)` -/
def calendarInitHI (F : Fn α) (fuel : Nat) (c : CalGDDIn α) (hi0 hiIni : α)
    (temps : List (α × α)) : Except String (CalGDDOut α × α × α × α) :=
  match calendarInit F c temps with
  | .error e => .error e
  | .ok o =>
    match hiBlock F fuel c.cropType o.days.yldFormCD hi0 hiIni with
    | .error e => .error e
    | .ok (g, t, d) => .ok (o, g, t, d)

/-! ### reset_initial_conditions, thermal-calendar block -/

/-- crop fields the reset block reads -/
structure CalResetIn (α : Type) where
  cropType : Nat
  gddMethod : Nat
  tbase : α
  tupp : α
  th : CalThresh α
  hi0 : α
  hiIni : α

/-- crop fields the reset block writes -/
structure CalResetOut (α : Type) where
  days : CalDays
  higc : α
  tLinSwitch : α
  dHILinear : α

/-- the calendar-day part of the reset block (up to `crop.FloweringCD = …`) -/
def calendarResetDays (c : CalResetIn α) (temps : List (α × α)) : Except String CalDays :=
  match GddMethod.ofNat? c.gddMethod with
  | none => .error "E:unbound"
  | some m => calendarDays c.cropType c.th (cumsum (gddSeriesReset m c.tbase c.tupp temps))

/-- the `if crop.CalendarType == 2:` block of `reset_initial_conditions` -/
def calendarReset (F : Fn α) (fuel : Nat) (c : CalResetIn α) (temps : List (α × α)) :
    Except String (CalResetOut α) :=
  match calendarResetDays c temps with
  | .error e => .error e
  | .ok d =>
    match hiBlock F fuel c.cropType d.yldFormCD c.hi0 c.hiIni with
    | .error e => .error e
    | .ok (g, t, dl) => .ok { days := d, higc := g, tLinSwitch := t, dHILinear := dl }

/-! ### compute_crop_calendar, Mode == 1 -/

/-- crop fields `compute_crop_calendar` reads in mode 1 -/
structure CalCDIn (α : Type) where
  determinant : Bool   -- crop.Determinant == 1
  cropType : Nat
  switchGDD : Bool     -- crop.SwitchGDD == 1
  hiStartCD : α
  floweringCD : α
  senescenceCD : α
  emergenceCD : α
  maxRootingCD : α
  maturityCD : α
  yldFormCD : α
  cc0 : α
  ccx : α
  cgcCD : α
  cdcCD : α
  floweringEnd : α     -- previous value of crop.FloweringEnd (kept when CropType == 3)

/-- crop fields `compute_crop_calendar` writes in mode 1 (without `SwitchGDD`) -/
structure CalCDOut (α : Type) where
  canopyDevEndCD : α
  canopy10PctCD : α
  maxCanopyCD : α
  hiEndCD : α
  emergence : α
  canopy10Pct : α
  maxRooting : α
  senescence : α
  maturity : α
  maxCanopy : α
  canopyDevEnd : α
  hiStart : α
  hiEnd : α
  yldForm : α
  floweringEndCD : α
  floweringEnd : α
  floweringCD : α
  cdc : α
  cgc : α

/-- `compute_crop_calendar` for `crop.CalendarType == 1`.  `SwitchGDD == 1` (conversion to thermal
time through `prepare_gdd`) is not modelled here (`E:unsupported`) but by `calendarInitCDSwitch` of
`Model/PrepareGdd.lean`. -/
def calendarInitCD (F : Fn α) (c : CalCDIn α) : Except String (CalCDOut α) :=
  let canopyDevEndCD :=
    if c.determinant then F.round0 (c.hiStartCD + c.floweringCD / 2) else c.senescenceCD
  let canopy10PctCD := F.round0 (c.emergenceCD + F.log (0.1 / c.cc0) / c.cgcCD)
  let maxCanopyCD := F.round0 (c.emergenceCD +
    F.log ((0.25 * c.ccx * c.ccx / c.cc0) / (c.ccx - 0.98 * c.ccx)) / c.cgcCD)
  let hiEndCD := c.hiStartCD + c.yldFormCD
  let fl : α × α × α :=
    if c.cropType = 3 then (c.hiStartCD + c.floweringCD, c.floweringEnd, c.floweringCD)
    else (-999, -999, c.floweringCD)   -- `FloweringCD` (an input, read above) is left as given
  if c.switchGDD then .error "E:unsupported"
  else
    .ok { canopyDevEndCD := canopyDevEndCD, canopy10PctCD := canopy10PctCD,
          maxCanopyCD := maxCanopyCD, hiEndCD := hiEndCD,
          emergence := c.emergenceCD, canopy10Pct := canopy10PctCD, maxRooting := c.maxRootingCD,
          senescence := c.senescenceCD, maturity := c.maturityCD, maxCanopy := maxCanopyCD,
          canopyDevEnd := canopyDevEndCD, hiStart := c.hiStartCD, hiEnd := hiEndCD,
          yldForm := c.yldFormCD, floweringEndCD := fl.1, floweringEnd := fl.2.1,
          floweringCD := fl.2.2, cdc := c.cdcCD, cgc := c.cgcCD }

end
end Aqua
