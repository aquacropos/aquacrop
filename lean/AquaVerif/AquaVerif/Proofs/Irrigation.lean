import AquaVerif.Model.Irrigation
import AquaVerif.Proofs.Basic
/-
Lemmas about the model of `aquacrop/solution/irrigation.py` (`Model/Irrigation.lean`) and of the
schedule re-indexing of `read_irrigation_management` (method 3); `Properties/C13.lean` states
property C13 with them.

All statements are about *successful* calls (`irrigation … = .ok out`) at an arbitrary linearly
ordered field.  No law about `F` (exp/log/round) is needed.
-/

set_option linter.unusedSectionVars false
namespace Aqua
variable {α : Type} [Field α] [LinearOrder α] [IsStrictOrderedRing α]

/-! ### the seasonal cap -/

theorem irrCap_eq (m c x : α) : irrCap m c x = if m < c + x then max 0 (m - c) else x := by
  unfold irrCap; rw [pmax_eq]

theorem irrCap_nonneg (m c x : α) (hx : 0 ≤ x) : 0 ≤ irrCap m c x := by
  rw [irrCap_eq]; exact ite_ind (fun r : α => 0 ≤ r) (fun _ => le_max_left _ _) fun _ => hx

theorem irrCap_le (m c x : α) (hx : 0 ≤ x) : irrCap m c x ≤ x := by
  rw [irrCap_eq]
  exact ite_ind (fun r : α => r ≤ x) (fun h => max_le hx (sub_left_lt_of_lt_add h).le)
    fun _ => le_refl _

theorem irrCap_zero (m c : α) : irrCap m c 0 = 0 := by
  rw [irrCap_eq]
  exact ite_ind (fun r : α => r = 0) (fun h => max_eq_left (sub_nonpos.2 (add_zero c ▸ h).le))
    fun _ => rfl

theorem irrCap_total_le (m c x : α) (hc : c ≤ m) : c + irrCap m c x ≤ m := by
  rw [irrCap_eq]
  exact ite_ind (fun r : α => c + r ≤ m)
    (fun _ => by rw [max_eq_right (sub_nonneg.2 hc), add_sub_cancel]) not_lt.mp

theorem irrCap_total_eq (m c x : α) (hc : c ≤ m) (h : m < c + x) : c + irrCap m c x = m := by
  rw [irrCap_eq, if_pos h, max_eq_right (sub_nonneg.2 hc), add_sub_cancel]

/-! ### the method chain -/

/-- every leaf of the chain is an error, `0`, the gross requirement `pmin MaxIrr _`, or another
`pmin MaxIrr _` -/
theorem irrDemand_le_max (P : IrrParams α) (stage : Nat) (dep taw : α) (dap : Nat)
    (sched : Option α) (irr0 : α) (f : Nat) (hm : 0 ≤ P.maxIrr)
    (h : irrDemand P stage dep taw dap sched = .ok (irr0, f)) : irr0 ≤ P.maxIrr := by
  let Q : Except IrrErr (α × Nat) → Prop := fun r => ∀ v g, r = .ok (v, g) → v ≤ P.maxIrr
  have ok : ∀ (v : α) (g : Nat), v ≤ P.maxIrr → Q (.ok (v, g)) :=
    fun v g hv w k e => (Prod.mk.inj (Except.ok.inj e)).1 ▸ hv
  have er : ∀ e, Q (.error e) := fun e v g h => nomatch h
  have hg : irrGross P dep ≤ P.maxIrr := pmin_le_left _ _
  suffices Q (irrDemand P stage dep taw dap sched) from this irr0 f h
  unfold irrDemand
  refine ite_ind Q (fun _ => ok 0 0 hm) fun _ => ite_ind Q (fun _ => ?_) fun _ =>
    ite_ind Q (fun _ => ?_) fun _ => ite_ind Q (fun _ => ?_) fun _ =>
    ite_ind Q (fun _ => ok 0 0 hm) fun _ => ite_ind Q (fun _ => ok _ 1 (pmin_le_left _ _)) fun _ => er _
  · cases smtIndex stage with
    | none => exact er _
    | some i => exact ite_ind Q (fun _ => ok _ 1 hg) fun _ => ok 0 0 hm
  · exact ite_ind Q (fun _ => er _) fun _ => ite_ind Q (fun _ => ok _ 1 hg) fun _ => ok 0 0 hm
  · cases sched with
    | none => exact er _
    | some s => exact ite_ind Q (fun _ => ok _ 1 (pmin_le_left _ _)) fun _ => er _

theorem irrDemand_rainfed (P : IrrParams α) (stage : Nat) (dep taw : α) (dap : Nat)
    (sched : Option α) (hm : P.method = 0) :
    irrDemand P stage dep taw dap sched = .ok (0, 0) := by
  unfold irrDemand; rw [if_pos hm]

theorem irrDemand_net (P : IrrParams α) (stage : Nat) (dep taw : α) (dap : Nat)
    (sched : Option α) (hm : P.method = 4) :
    irrDemand P stage dep taw dap sched = .ok (0, 0) := by
  unfold irrDemand; simp [hm]

theorem irrDemand_smt (P : IrrParams α) (stage : Nat) (dep taw : α) (dap : Nat)
    (sched : Option α) (hm : P.method = 1) :
    irrDemand P stage dep taw dap sched =
      match smtIndex stage with
      | none => .error .index
      | some i =>
        if 1 - P.smt i / 100 < dep / taw then .ok (irrGross P dep, 1) else .ok (0, 0) := by
  unfold irrDemand; simp [hm]; cases smtIndex stage <;> rfl

theorem irrDemand_interval (P : IrrParams α) (stage : Nat) (dep taw : α) (dap : Nat)
    (sched : Option α) (hm : P.method = 2) :
    irrDemand P stage dep taw dap sched =
      if P.interval = 0 then .error .zerodiv
      else if ((dap : Int) - 1) % (P.interval : Int) = 0 then .ok (irrGross P dep, 1)
      else .ok (0, 0) := by
  unfold irrDemand; simp [hm]

theorem irrDemand_schedule (P : IrrParams α) (stage : Nat) (dep taw : α) (dap : Nat)
    (sched : Option α) (hm : P.method = 3) :
    irrDemand P stage dep taw dap sched =
      match sched with
      | none => .error .index
      | some s => if 0 ≤ s then .ok (pmin P.maxIrr s, 1) else .error .assert := by
  unfold irrDemand; simp [hm]; cases sched <;> rfl

theorem irrDemand_constant (P : IrrParams α) (stage : Nat) (dep taw : α) (dap : Nat)
    (sched : Option α) (hm : P.method = 5) :
    irrDemand P stage dep taw dap sched = .ok (pmin P.maxIrr P.depth, 1) := by
  unfold irrDemand; simp [hm]

/-! ### decomposition of a successful call -/

theorem irrigation_offseason (F : Fn α) (P : IrrParams α) (cells : List (Cell α)) (st : Nat)
    (irrCum ePot tPot zRoot : α) (dap : Nat) (sched : Option α) (zMin aer zTop rain runoff : α) :
    ∃ out, irrigation F P cells st irrCum ePot tPot zRoot dap sched zMin aer zTop false rain runoff
        = .ok out ∧ out.irr = 0 ∧ out.irrCum = 0 ∧ out.depletion = 0 ∧ out.taw = 0 := by
  refine ⟨_, by unfold irrigation; simp only [Bool.false_eq_true, if_false]; rfl, ?_, ?_, rfl, rfl⟩
  · simp only [irrFinish, irrCap_zero]
  · simp only [irrFinish, irrCap_zero, add_zero]

/-- in season: the call is `root_zone_water`, then the method chain on
`(Depletion, TAW)`, then `max(0, ·)`, the cap and the counter update. -/
theorem irrigation_spec {F : Fn α} {P : IrrParams α} {cells : List (Cell α)} {st : Nat}
    {irrCum ePot tPot zRoot : α} {dap : Nat} {sched : Option α} {zMin aer zTop rain runoff : α}
    {out : IrrOut α}
    (h : irrigation F P cells st irrCum ePot tPot zRoot dap sched zMin aer zTop true rain runoff
        = .ok out) :
    ∃ rz irr0 fired, rootZoneWater F cells zRoot zTop zMin aer = some rz ∧
      out.depletion = irrDepletion rz ePot tPot zRoot zMin rain runoff ∧ out.taw = rz.tawRz ∧
      irrDemand P (if dap = 1 then 1 else st) out.depletion out.taw dap sched = .ok (irr0, fired) ∧
      out.irr = irrCap P.maxSeason irrCum (pmax 0 irr0) ∧ out.irrCum = irrCum + out.irr := by
  unfold irrigation at h
  simp only [if_true] at h
  split at h
  · cases h
  · rename_i rz hrz
    split at h
    · cases h
    · rename_i irr0 fired hd
      simp only [Except.ok.injEq] at h
      subst h
      exact ⟨rz, irr0, fired, hrz, rfl, rfl, hd, rfl, rfl⟩

/-! ### contracts of a successful call, method by method -/

section contracts
variable {F : Fn α} {P : IrrParams α} {cells : List (Cell α)} {st : Nat}
  {irrCum ePot tPot zRoot : α} {dap : Nat} {sched : Option α} {zMin aer zTop rain runoff : α}
  {gs : Bool} {out : IrrOut α}

theorem irr_nonneg
    (h : irrigation F P cells st irrCum ePot tPot zRoot dap sched zMin aer zTop gs rain runoff
      = .ok out) : 0 ≤ out.irr := by
  cases gs
  · obtain ⟨o, ho, h1, -⟩ := irrigation_offseason F P cells st irrCum ePot tPot zRoot dap sched
      zMin aer zTop rain runoff
    rw [ho] at h; cases h; exact h1.ge
  · obtain ⟨rz, irr0, fired, -, -, -, -, hi, -⟩ := irrigation_spec h
    rw [hi]; exact irrCap_nonneg _ _ _ (le_pmax_left _ _)

theorem irr_offseason
    (h : irrigation F P cells st irrCum ePot tPot zRoot dap sched zMin aer zTop false rain runoff
      = .ok out) : out.irr = 0 ∧ out.irrCum = 0 ∧ out.depletion = 0 ∧ out.taw = 0 := by
  obtain ⟨o, ho, h1⟩ := irrigation_offseason F P cells st irrCum ePot tPot zRoot dap sched
    zMin aer zTop rain runoff
  rw [ho] at h; cases h; exact h1

private theorem irr_zero_of_demand_zero
    (h : irrigation F P cells st irrCum ePot tPot zRoot dap sched zMin aer zTop gs rain runoff
      = .ok out)
    (hd : ∀ stage dep taw, irrDemand P stage dep taw dap sched = .ok (0, 0)) : out.irr = 0 := by
  cases gs
  · exact (irr_offseason h).1
  · obtain ⟨rz, irr0, fired, -, -, -, hd', hi, -⟩ := irrigation_spec h
    rw [hd] at hd'
    simp only [Except.ok.injEq, Prod.mk.injEq] at hd'
    rw [hi, ← hd'.1, pmax_self, irrCap_zero]

theorem irr_rainfed
    (h : irrigation F P cells st irrCum ePot tPot zRoot dap sched zMin aer zTop gs rain runoff
      = .ok out) (hm : P.method = 0) : out.irr = 0 :=
  irr_zero_of_demand_zero h (fun stage dep taw => irrDemand_rainfed P stage dep taw dap sched hm)

/-- net irrigation (method 4): nothing is applied by this process (the net requirement is computed
after transpiration). -/
theorem irr_net
    (h : irrigation F P cells st irrCum ePot tPot zRoot dap sched zMin aer zTop gs rain runoff
      = .ok out) (hm : P.method = 4) : out.irr = 0 :=
  irr_zero_of_demand_zero h (fun stage dep taw => irrDemand_net P stage dep taw dap sched hm)

theorem irr_le_max
    (h : irrigation F P cells st irrCum ePot tPot zRoot dap sched zMin aer zTop gs rain runoff
      = .ok out) (hmax : 0 ≤ P.maxIrr) : out.irr ≤ P.maxIrr := by
  cases gs
  · rw [(irr_offseason h).1]; exact hmax
  · obtain ⟨rz, irr0, fired, -, -, -, hd, hi, -⟩ := irrigation_spec h
    have h0 := irrDemand_le_max P _ _ _ _ _ _ _ hmax hd
    rw [hi]
    refine le_trans (irrCap_le _ _ _ (le_pmax_left _ _)) ?_
    rw [pmax_eq]; exact max_le hmax h0

theorem irr_cum_step
    (h : irrigation F P cells st irrCum ePot tPot zRoot dap sched zMin aer zTop true rain runoff
      = .ok out) : out.irrCum = irrCum + out.irr := by
  obtain ⟨rz, irr0, fired, -, -, -, -, -, hc⟩ := irrigation_spec h
  exact hc

theorem irr_cum_mono
    (h : irrigation F P cells st irrCum ePot tPot zRoot dap sched zMin aer zTop true rain runoff
      = .ok out) : irrCum ≤ out.irrCum := by
  rw [irr_cum_step h]; linarith [irr_nonneg h]

theorem irr_season_cap
    (h : irrigation F P cells st irrCum ePot tPot zRoot dap sched zMin aer zTop gs rain runoff
      = .ok out) (hs : 0 ≤ P.maxSeason) (hc : irrCum ≤ P.maxSeason) :
    out.irrCum ≤ P.maxSeason := by
  cases gs
  · rw [(irr_offseason h).2.1]; exact hs
  · obtain ⟨rz, irr0, fired, -, -, -, -, hi, hcum⟩ := irrigation_spec h
    rw [hcum, hi]; exact irrCap_total_le _ _ _ hc

theorem irr_zero_of_cum_above
    (h : irrigation F P cells st irrCum ePot tPot zRoot dap sched zMin aer zTop true rain runoff
      = .ok out) (hc : P.maxSeason ≤ irrCum) : out.irr = 0 := by
  obtain ⟨rz, irr0, fired, -, -, -, -, hi, -⟩ := irrigation_spec h
  rw [hi, irrCap_eq]
  exact ite_ind (fun r : α => r = 0) (fun _ => max_eq_left (sub_nonpos.2 hc))
    fun hlt => le_antisymm (by linarith only [not_lt.mp hlt, hc]) (le_pmax_left _ _)

theorem irr_interval
    (h : irrigation F P cells st irrCum ePot tPot zRoot dap sched zMin aer zTop gs rain runoff
      = .ok out) (hm : P.method = 2) (hpos : 0 < out.irr) :
    gs = true ∧ P.interval ≠ 0 ∧ ((dap : Int) - 1) % (P.interval : Int) = 0 := by
  cases gs
  · rw [(irr_offseason h).1] at hpos; exact absurd hpos (lt_irrefl _)
  · obtain ⟨rz, irr0, fired, -, -, -, hd, hi, -⟩ := irrigation_spec h
    rw [irrDemand_interval _ _ _ _ _ _ hm] at hd
    split_ifs at hd with h0 h1
    · exact ⟨rfl, h0, h1⟩
    · simp only [Except.ok.injEq, Prod.mk.injEq] at hd
      rw [hi, ← hd.1, pmax_self, irrCap_zero] at hpos
      exact absurd hpos (lt_irrefl _)

/-- `irr_interval` in natural-number arithmetic, for `DAP ≥ 1` (always the case in a season) -/
theorem irr_interval_nat
    (h : irrigation F P cells st irrCum ePot tPot zRoot dap sched zMin aer zTop gs rain runoff
      = .ok out) (hm : P.method = 2) (hpos : 0 < out.irr) (hdap : 1 ≤ dap) :
    (dap - 1) % P.interval = 0 := by
  obtain ⟨-, -, h1⟩ := irr_interval h hm hpos
  have e : ((dap : Int) - 1) = ((dap - 1 : Nat) : Int) := by omega
  rw [e] at h1
  exact_mod_cast h1

theorem irr_interval_amount
    (h : irrigation F P cells st irrCum ePot tPot zRoot dap sched zMin aer zTop true rain runoff
      = .ok out) (hm : P.method = 2) (hday : ((dap : Int) - 1) % (P.interval : Int) = 0) :
    out.irr = irrCap P.maxSeason irrCum
      (pmax 0 (pmin P.maxIrr (pmax 0 out.depletion * ((100 - P.appEff + 100) / 100)))) := by
  obtain ⟨rz, irr0, fired, -, -, -, hd, hi, -⟩ := irrigation_spec h
  rw [irrDemand_interval _ _ _ _ _ _ hm] at hd
  split_ifs at hd with h0
  simp only [Except.ok.injEq, Prod.mk.injEq] at hd
  rw [hi, ← hd.1]; rfl

/-- the outer `max(0, ·)` is redundant for sane parameters -/
theorem pmax0_irrGross (P : IrrParams α) (d : α) (hmax : 0 ≤ P.maxIrr) (he : P.appEff ≤ 200) :
    pmax 0 (irrGross P d) = irrGross P d := by
  rw [pmax_eq]; apply max_eq_right
  unfold irrGross; rw [pmin_eq, pmax_eq]
  apply le_min hmax
  apply mul_nonneg (le_max_left _ _)
  apply div_nonneg _ (by norm_num)
  linarith

theorem irr_interval_amount'
    (h : irrigation F P cells st irrCum ePot tPot zRoot dap sched zMin aer zTop true rain runoff
      = .ok out) (hm : P.method = 2) (hday : ((dap : Int) - 1) % (P.interval : Int) = 0)
    (hmax : 0 ≤ P.maxIrr) (he : P.appEff ≤ 200) :
    out.irr = irrCap P.maxSeason irrCum
      (pmin P.maxIrr (pmax 0 out.depletion * ((100 - P.appEff + 100) / 100))) := by
  rw [irr_interval_amount h hm hday]
  exact congrArg _ (pmax0_irrGross P out.depletion hmax he)

theorem irr_schedule_exact
    (h : irrigation F P cells st irrCum ePot tPot zRoot dap sched zMin aer zTop true rain runoff
      = .ok out) (hm : P.method = 3) :
    ∃ s, sched = some s ∧ 0 ≤ s ∧
      out.irr = irrCap P.maxSeason irrCum (pmax 0 (pmin P.maxIrr s)) := by
  obtain ⟨rz, irr0, fired, -, -, -, hd, hi, -⟩ := irrigation_spec h
  rw [irrDemand_schedule _ _ _ _ _ _ hm] at hd
  cases sched with
  | none => cases hd
  | some s =>
    simp only at hd
    split_ifs at hd with h0
    simp only [Except.ok.injEq, Prod.mk.injEq] at hd
    exact ⟨s, rfl, h0, by rw [hi, ← hd.1]⟩

theorem irr_schedule_zero
    (h : irrigation F P cells st irrCum ePot tPot zRoot dap sched zMin aer zTop gs rain runoff
      = .ok out) (hm : P.method = 3) (hs : sched = some 0) : out.irr = 0 := by
  cases gs
  · exact (irr_offseason h).1
  · obtain ⟨s, hs', -, hi⟩ := irr_schedule_exact h hm
    rw [hs] at hs'; cases hs'
    rw [hi, pmin_eq, pmax_eq, max_eq_left (min_le_right _ _), irrCap_zero]

theorem irr_constant
    (h : irrigation F P cells st irrCum ePot tPot zRoot dap sched zMin aer zTop true rain runoff
      = .ok out) (hm : P.method = 5) :
    out.irr = irrCap P.maxSeason irrCum (pmax 0 (pmin P.maxIrr P.depth)) := by
  obtain ⟨rz, irr0, fired, -, -, -, hd, hi, -⟩ := irrigation_spec h
  rw [irrDemand_constant _ _ _ _ _ _ hm] at hd
  simp only [Except.ok.injEq, Prod.mk.injEq] at hd
  rw [hi, ← hd.1]

/-- positivity of the gross requirement (needs `AppEff < 200`, i.e. a positive `EffAdj`) -/
theorem irrGross_pos_iff (P : IrrParams α) (d : α) (he : P.appEff < 200) :
    0 < pmax 0 (irrGross P d) ↔ 0 < d ∧ 0 < P.maxIrr := by
  have hE : (0 : α) < (100 - P.appEff + 100) / 100 := by
    apply div_pos _ (by norm_num); linarith
  unfold irrGross
  rw [pmax_eq, pmin_eq, pmax_eq, lt_max_iff, lt_min_iff, mul_pos_iff_of_pos_right hE, lt_max_iff]
  simp only [lt_irrefl, false_or]
  exact and_comm

theorem irr_smt
    (h : irrigation F P cells st irrCum ePot tPot zRoot dap sched zMin aer zTop true rain runoff
      = .ok out) (hm : P.method = 1) :
    ∃ i pre, smtIndex (if dap = 1 then 1 else st) = some i ∧
      pre = (if 1 - P.smt i / 100 < out.depletion / out.taw
              then pmax 0 (irrGross P out.depletion) else 0) ∧
      out.irr = irrCap P.maxSeason irrCum pre ∧
      (P.appEff < 200 →
        (0 < pre ↔ (1 - P.smt i / 100 < out.depletion / out.taw ∧ 0 < out.depletion ∧
          0 < P.maxIrr))) := by
  obtain ⟨rz, irr0, fired, -, -, -, hd, hi, -⟩ := irrigation_spec h
  rw [irrDemand_smt _ _ _ _ _ _ hm] at hd
  cases hidx : smtIndex (if dap = 1 then 1 else st) with
  | none => rw [hidx] at hd; cases hd
  | some i =>
    rw [hidx] at hd
    simp only at hd
    refine ⟨i, _, rfl, rfl, ?_, ?_⟩
    · split_ifs at hd with ht <;> simp only [Except.ok.injEq, Prod.mk.injEq] at hd
      · rw [hi, ← hd.1, if_pos ht]
      · rw [hi, ← hd.1, if_neg ht, pmax_self]
    · intro he
      by_cases ht : 1 - P.smt i / 100 < out.depletion / out.taw
      · rw [if_pos ht, irrGross_pos_iff P _ he]; exact ⟨fun hx => ⟨ht, hx⟩, fun hx => hx.2⟩
      · rw [if_neg ht]; exact ⟨fun hx => absurd hx (lt_irrefl _), fun hx => absurd hx.1 ht⟩

/-- growth stages 1…4 (what `growth_stage` produces in season) always index `SMT` validly;
stage 0 silently wraps to the *last* threshold (Python negative index). -/
theorem smtIndex_valid (s : Nat) (h1 : 1 ≤ s) (h4 : s ≤ 4) :
    smtIndex s = some ⟨s - 1, by omega⟩ := by
  match s, h1, h4 with
  | 1, _, _ => rfl
  | 2, _, _ => rfl
  | 3, _, _ => rfl
  | 4, _, _ => rfl

theorem smtIndex_zero_wraps : smtIndex 0 = some 3 := rfl

end contracts

/-! ### schedule re-indexing -/

section schedule
variable {β : Type} [OfNat β 0]

theorem dayMem_iff (d : Int) (s : List (Int × β)) : dayMem d s = true ↔ d ∈ s.map Prod.fst := by
  induction s with
  | nil => simp [dayMem]
  | cons x xs ih =>
    obtain ⟨k, v⟩ := x
    by_cases hk : k = d
    · simp [dayMem, hk]
    · simp only [dayMem, hk, if_false, ih, List.map_cons, List.mem_cons]
      constructor
      · exact fun hx => Or.inr hx
      · rintro (hx | hx)
        · exact absurd hx.symm hk
        · exact hx

theorem daysUnique_iff (s : List (Int × β)) : daysUnique s = true ↔ (s.map Prod.fst).Nodup := by
  induction s with
  | nil => simp [daysUnique]
  | cons x xs ih =>
    obtain ⟨k, v⟩ := x
    by_cases hk : dayMem k xs = true
    · have := (dayMem_iff k xs).mp hk
      simp [daysUnique, hk, this]
    · have hn : k ∉ xs.map Prod.fst := fun hx => hk ((dayMem_iff k xs).mpr hx)
      have hk' : dayMem k xs = false := by simpa using hk
      simp only [daysUnique, hk', Bool.false_eq_true, if_false, ih, List.map_cons,
        List.nodup_cons]
      exact ⟨fun hx => ⟨hn, hx⟩, fun hx => hx.2⟩

theorem depthOn_of_mem (d : Int) (v : β) (s : List (Int × β)) (hu : daysUnique s = true)
    (hm : (d, v) ∈ s) : depthOn d s = v := by
  induction s with
  | nil => cases hm
  | cons x xs ih =>
    obtain ⟨k, w⟩ := x
    by_cases hk : dayMem k xs = true
    · simp [daysUnique, hk] at hu
    · have hk' : dayMem k xs = false := by simpa using hk
      simp only [daysUnique, hk', Bool.false_eq_true, if_false] at hu
      rcases List.mem_cons.mp hm with hx | hx
      · cases hx; simp [depthOn]
      · have hne : k ≠ d := by
          intro e; subst e
          exact hk ((dayMem_iff _ _).mpr (List.mem_map.mpr ⟨(k, v), hx, rfl⟩))
        simp only [depthOn, hne, if_false]
        exact ih hu hx

theorem depthOn_of_not_mem (d : Int) (s : List (Int × β)) (hn : ∀ v, (d, v) ∉ s) :
    depthOn d s = 0 := by
  induction s with
  | nil => rfl
  | cons x xs ih =>
    obtain ⟨k, w⟩ := x
    have hne : k ≠ d := by
      intro e; subst e; exact hn w (List.mem_cons_self ..)
    simp only [depthOn, hne, if_false]
    exact ih (fun v hv => hn v (List.mem_cons_of_mem _ hv))

/-- the re-indexing succeeds exactly when the dates are unique (pandas raises otherwise) -/
theorem scheduleReindex_isSome_iff (s : List (Int × β)) (start : Int) (n : Nat) :
    (scheduleReindex s start n).isSome = true ↔ (s.map Prod.fst).Nodup := by
  rw [← daysUnique_iff]; unfold scheduleReindex
  cases daysUnique s <;> simp

theorem nothing_off_schedule (s : List (Int × β)) (start : Int) (n : Nat) (arr : List β)
    (h : scheduleReindex s start n = some arr) :
    arr.length = n ∧
    ∀ i, (hi : i < n) → ∀ (hlen : i < arr.length),
      (∀ v, (start + (i : Int), v) ∈ s → arr[i] = v) ∧
      ((∀ v, (start + (i : Int), v) ∉ s) → arr[i] = 0) := by
  unfold scheduleReindex at h
  split_ifs at h with hu
  simp only [Option.some.injEq] at h
  subst h
  refine ⟨by simp, fun i hi hlen => ?_⟩
  simp only [List.getElem_map, List.getElem_range]
  exact ⟨fun v hv => depthOn_of_mem _ _ _ hu hv, fun hn => depthOn_of_not_mem _ _ hn⟩

theorem schedule_entry_cases (s : List (Int × β)) (start : Int) (n : Nat) (arr : List β)
    (h : scheduleReindex s start n = some arr) (i : Nat) (hlen : i < arr.length) :
    arr[i] = 0 ∨ (start + (i : Int), arr[i]) ∈ s := by
  obtain ⟨hl, hall⟩ := nothing_off_schedule s start n arr h
  obtain ⟨h1, h2⟩ := hall i (hl ▸ hlen) hlen
  by_cases hex : ∃ v, (start + (i : Int), v) ∈ s
  · obtain ⟨v, hv⟩ := hex
    right; rw [h1 v hv]; exact hv
  · left; exact h2 (fun v hv => hex ⟨v, hv⟩)

end schedule

end Aqua
