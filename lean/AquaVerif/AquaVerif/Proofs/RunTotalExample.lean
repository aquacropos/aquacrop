import AquaVerif.Proofs.RunTotal
import AquaVerif.Proofs.RunClosedExampleCfg
import AquaVerif.Model.CropFull
/-
Non-vacuity of `Proofs/RunTotal.lean` over `ℚ`, the reachable error sites as counter-examples, and
the general statements behind three of them (`fullDay_gw_error`, `rdRCor_zerodiv_of_sxBot_zero`,
`freshYield_yldWC_zero`, over any ordered field).

`cfgZ wt zTop zg` is the configuration of `Proofs/RunClosedExampleCfg.lean` (`cfgE wt`: four
compartments of 0.1 m, a calendar-day fruit/grain crop planted on day 0, window of 14 days, constant
weather) with the maximum rooting depth lowered to `Zmax = 0.35 m` so that it fits the 0.4 m
profile (`cfgE`'s own `Zmax = 1 m` exceeds it: `deep_crop_violates`, `CropTotOK.capZmax` fails at
the cap 0.4), top-soil depth `zTop` and water-table depth `zg`.

* `cfgOK_Z`, `cfgTotOK_Z'`: `CfgOK` and `CfgTotOK` (`Zcap = 0.35`, `Zev = 0.2`) hold for
  `wt ∈ {0,1}`, every `zTop` and every `zg ≥ 0` (`cfgTotOK_Z`: at `zg = 1`); `topOK_Z`: `TopOK` holds
  iff `0.1 ≤ zTop`.
* `total_example`: hence (no computation) the 14-day run of `cfgZ wt 0.1 1` terminates without an
  error branch, with and without water table; `total_example_computed` cross-checks the statement by
  kernel evaluation of the run.
* `top_assert_reachable` (finding `raises-AssertionError-root_zone_water`): with `zTop = 0.05`
  (top compartment 0.1 m thick, thicker than the top soil) every premise except `TopOK` holds and
  the very first `_perform_timestep` fails: `irrigation` → `root_zone_water` →
  `assert comp_sto > 0` (`E:rz`).
* `gw_undefined_reachable` (finding `raises-UnboundLocalError-check_groundwater_table`): with
  a water table whose depth is negative (the order-theoretic stand-in for the NaN of a `Variable`
  series before its first observation: both comparisons of `check_groundwater_table` fail) every
  premise except `CfgTotOK.zgw` holds and the first step fails with `E:unbound`;
  `fullDay_gw_error` is the general statement.
* `rdRCor_zerodiv_of_sxBot_zero` (finding, user-supplied crop parameters only): `SxBot = 0`
  (derived for `SxBotQ < SxTopQ/7`) makes the `rCor` update of `root_development` divide by zero;
  no catalogue crop is affected (`catalogue_sxBot_pos`).
* `freshYield_yldWC_zero`: the fresh-yield division is NOT an error site of the model
  (`yieldStep` is total: at `Float` it yields `inf`/`NaN`, in an ordered field `x / 0 = 0`); the
  Python raises `ZeroDivisionError` only when `DryYield` is a Python float — finding
  `freshyield-yldwc-unset`: it concerns the finiteness half of C16.
-/

set_option linter.unusedSectionVars false
namespace Aqua
namespace RunTotalExample
open DayExample FullDayExample RunExample RunClosedExample Aqua.Clock

/-! ## the configuration -/

def cropZ : CropParams ℚ :=
  { cw := Wq.crop, cx := { cxq with rd := { rdq with zmax := 0.35 } } }

def cfgZ (wt : Nat) (zTop zg : ℚ) : RunCfg ℚ :=
  { cfgE wt with
    W0 := { Wq with waterTable := wt, soil := { Wq.soil with zTop := zTop } },
    fallowCrop := cropZ, seasonCrop := fun _ => cropZ, zgw := fun _ => zg }

theorem cropOK_Z : CropOK Fq2 Tq cropZ :=
  { cropOK_q with
    rdWF := by constructor <;> norm_num [cropZ, cxq, rdq] }

/-- the initial state is inside the envelope of `cropZ` (the canopy and harvest-index records are
those of `cxq`; the root part is vacuous on day 0) -/
theorem init_Z (P : DayParams ℚ) (hP : P.cx = cropZ.cx) : CropInv Fq2 P cfgq.init := by
  obtain ⟨W, fm, z, cx⟩ := P
  simp only at hP
  subst hP
  have h := init_q ⟨W, fm, z, cxq⟩ rfl
  exact ⟨h.cc, ⟨h.root.tr0, h.root.tr1, fun hd => absurd rfl hd⟩,
    ⟨h.hi.fPre, h.hi.fPost, h.hi.sCor1, h.hi.sCor2, h.hi.upp, h.hi.dwn, h.hi.hi_le, h.hi.adj_le,
     h.hi.fin0, h.hi.fut⟩, h.bio⟩

theorem cfgOK_Z (wt : Nat) (zTop zg : ℚ) : CfgOK Fq2 Tq (cfgZ wt zTop zg) :=
  { cfgOK_E wt with
    gw := fun _ => gw_q
    crop := cropOf_ind (fun _ => cropOK_Z) (cropOK_fallowAdjust cropOK_Z rd03)
    init := init_Z _ rfl }

/-! ## the totality premises -/

def botq : Cell ℚ := { c := cq 0.4, th := 0.3, fcAdj := 0.3, flux := 0, aer := 0 }
def topq : Cell ℚ := { c := cq 0.1, th := 0.2, fcAdj := 0.3, flux := 0, aer := 0 }

theorem cellsq_comp {x : Cell ℚ} (hx : x ∈ cellsq) : ∃ z : ℚ, 0.1 ≤ z ∧ x.c = cq z := by
  simp only [cellsq, List.mem_cons, List.not_mem_nil, or_false] at hx
  rcases hx with rfl | rfl | rfl | rfl <;> exact ⟨_, by norm_num, rfl⟩

theorem exists_below {z : ℚ} (hz : z ≤ 0.4) : ∃ x ∈ cellsq, z ≤ x.c.dzsum :=
  ⟨botq, by simp [cellsq, botq], hz⟩

theorem profOK_Z (wt : Nat) (zTop : ℚ) :
    ProfOK Fq2 { Wq.soil with zTop := zTop } wt 0.3 0.35 0.2 cellsq :=
  { ne := List.cons_ne_nil _ _
    dz := fun x hx => by
      obtain ⟨z, _, e⟩ := cellsq_comp hx
      rw [e]
      show (0 : ℚ) < 0.1
      norm_num
    pen := fun x hx => by
      obtain ⟨z, _, e⟩ := cellsq_comp hx
      rw [e]
      show (0 : ℚ) ≤ 100 ∧ (100 : ℚ) ≤ 100 ∧ (0.1 : ℚ) < 0.3
      norm_num
    deep2 := fun z hz => exists_below (le_trans hz (by norm_num))
    deepPy := fun z hz => exists_below (le_trans hz (by norm_num))
    tip := exists_below (by norm_num)
    germ := exists_below (by norm_num)
    cn := fun h => Bool.noConfusion h
    evap := by
      unfold EvapDeep
      have : countBelow (0.2 : ℚ) cellsq = 1 := by decide +kernel
      rw [this]
      exact Nat.le_of_ble_eq_true rfl
    lastLayer := fun _ b hb => by
      have : cellsq.getLast? = some ⟨cq 0.4, 0.3, 0.3, 0, 0⟩ := rfl
      rw [this] at hb
      cases hb
      rfl
    layers := by
      have h : (layersOf cellsq).isEmpty = false ∧ (layersOf cellsq).all (fun l => l.2.isSome) = true := by
        decide +kernel
      refine ⟨fun he => by rw [he] at h; simp at h, fun l hl => ?_⟩
      exact Option.isSome_iff_exists.mp (List.all_eq_true.mp h.2 l hl)
    nComp := Nat.le_of_ble_eq_true rfl }

theorem cropTotOK_Z : CropTotOK cropZ 0.35 :=
  { gdd := Or.inr (Or.inr rfl), calW := Or.inl rfl, calRd := Or.inl rfl, calCc := Or.inl rfl,
    cold := Or.inl rfl, ctype := Or.inr (Or.inr rfl), pol := ⟨Or.inl rfl, Or.inl rfl⟩,
    sxBot := by decide +kernel
    capZmax := by decide +kernel
    capTr := by decide +kernel
    capCc := by decide +kernel
    capHi := by decide +kernel }

theorem cfgTotOK_Z' (wt : Nat) (hwt : wt = 0 ∨ wt = 1) (zTop zg : ℚ)
    (hzg : wt = 1 → 0 ≤ zg) : CfgTotOK Fq2 (cfgZ wt zTop zg) 0.35 0.2 :=
  { wf := by
      show WF { n := 14, planting := [0], harvest := [20], offSeason := false, season0 := 0 }
      decide
    initOK := ⟨rfl, rfl, rfl, rfl⟩
    prof := profOK_Z wt zTop
    crop := cropOf_ind (Q := fun p => CropTotOK p 0.35) (fun _ => cropTotOK_Z)
      (cropTotOK_Z.fallowAdjust (by norm_num))
    cap0 := by norm_num
    irr := ⟨by show (5 : Nat) ≤ 5; omega, fun h => by have h' : (5 : Nat) = 2 := h; omega,
      by show (0 : ℚ) ≤ 90; norm_num⟩
    fallowIrr := ⟨by show (0 : Nat) ≤ 5; omega, fun h => by have h' : (0 : Nat) = 2 := h; omega,
      by show (0 : ℚ) ≤ 90; norm_num⟩
    sched := fun h => by have h' : (5 : Nat) = 3 := h; omega
    wt := hwt
    zgw := fun h t => hzg h
    steps := by show (2 : Nat) ≠ 0; omega
    evLo := by show (0.15 : ℚ) ≤ 0.2; norm_num
    evHi := by show (0.152 : ℚ) + 0.001 ≤ 0.2; norm_num
    evFuel := by show (0.152 : ℚ) - 0.15 ≤ 100; norm_num
    co2 := by show (369 : ℚ) ≠ 550; norm_num
    stage0 := by show (0 : Nat) ≤ 4; omega
    ev0 := by show (0.152 : ℚ) - 100 ≤ 0.15; norm_num
    ev1 := by show (0.15 : ℚ) ≤ 0.2; norm_num }

theorem cfgTotOK_Z (wt : Nat) (hwt : wt = 0 ∨ wt = 1) (zTop : ℚ) :
    CfgTotOK Fq2 (cfgZ wt zTop 1) 0.35 0.2 :=
  cfgTotOK_Z' wt hwt zTop 1 (fun _ => by norm_num)

theorem topOK_Z (wt : Nat) (zTop zg : ℚ) :
    TopOK Fq2 (cfgZ wt zTop zg).W0.soil.zTop (cfgZ wt zTop zg).init.cells ↔ 0.1 ≤ zTop := by
  show (∃ x ∈ cellsq, x.c.dzsum ≤ zTop) ↔ _
  constructor
  · rintro ⟨x, hx, h⟩
    obtain ⟨z, hz, e⟩ := cellsq_comp hx
    rw [e] at h
    exact le_trans hz h
  · intro h
    exact ⟨topq, by simp [cellsq, topq], by show (cq 0.1).dzsum ≤ zTop; simpa [cq] using h⟩

/-! ## non-vacuity: the theorems apply -/

theorem total_example (wt : Nat) (hwt : wt = 0 ∨ wt = 1) :
    ∃ s₀ s, runInit (cfgZ wt 0.1 1) = .ok s₀ ∧ runModel Fq2 Tq (cfgZ wt 0.1 1) 14 s₀ = .ok s ∧
      s.finished = true ∧ RunReach Fq2 Tq (cfgZ wt 0.1 1) s :=
  run_finishes (cfgOK_Z wt 0.1 1) (cfgTotOK_Z wt hwt 0.1) ((topOK_Z wt 0.1 1).mpr (le_refl _))

theorem step_example (wt : Nat) (hwt : wt = 0 ∨ wt = 1) {s : RunState ℚ}
    (hr : RunReach Fq2 Tq (cfgZ wt 0.1 1) s) (hf : s.finished = false) :
    ∃ s', performR Fq2 Tq (cfgZ wt 0.1 1) s = .ok s' := by
  obtain ⟨s', h, _⟩ := performR_total (cfgOK_Z wt 0.1 1) (cfgTotOK_Z wt hwt 0.1)
    ((topOK_Z wt 0.1 1).mpr (le_refl _)) hr hf
  exact ⟨s', h⟩

/-- cross-check by kernel evaluation: the 14-day call returns `.ok`, finished, after 13 simulated
days, the last one on day 12 -/
def checkRun (wt : Nat) : Bool :=
  match runInit (cfgZ wt 0.1 1) with
  | .error _ => false
  | .ok s0 =>
    match runModel Fq2 Tq (cfgZ wt 0.1 1) 14 s0 with
    | .ok s => s.finished && decide (s.daysRev.length = 13 ∧ s.t = 12)
    | .error _ => false

theorem total_example_computed : checkRun 0 = true ∧ checkRun 1 = true := by
  constructor <;> decide +kernel

/-! ## the reachable error sites -/

def firstStep (cfg : RunCfg ℚ) : Except String Bool :=
  match runInit cfg with
  | .error e => .error e
  | .ok s0 =>
    match performR Fq2 Tq cfg s0 with
    | .error e => .error e
    | .ok _ => .ok true

/-- Finding (reachable for a configuration that is valid in every other respect): top
compartment (0.1 m) thicker than the top soil (`z_top = 0.05 m`): `CfgOK` and `CfgTotOK` hold,
`TopOK` fails, and the first `_perform_timestep` raises inside `irrigation`'s `root_zone_water`
(`assert comp_sto > 0`) -/
theorem top_assert_reachable :
    CfgOK Fq2 Tq (cfgZ 0 0.05 1) ∧ CfgTotOK Fq2 (cfgZ 0 0.05 1) 0.35 0.2 ∧
      ¬ TopOK Fq2 (cfgZ 0 0.05 1).W0.soil.zTop (cfgZ 0 0.05 1).init.cells ∧
      firstStep (cfgZ 0 0.05 1) = .error "E:rz" :=
  ⟨cfgOK_Z 0 0.05 1, cfgTotOK_Z 0 (Or.inl rfl) 0.05,
    fun h => by have := (topOK_Z 0 0.05 1).mp h; norm_num at this, by decide +kernel⟩

/-- with a water table of negative depth `check_groundwater_table` assigns nothing and the day
raises `UnboundLocalError` (at `Float` the same happens for NaN: both comparisons fail) -/
theorem fullDay_gw_error {α : Type} [Field α] [LinearOrder α] [IsStrictOrderedRing α] (F : Fn α)
    (T : TrigFn α) (P : DayParams α) (st : DayState' α) (D : DayIn' α) {tc : DayCounters α}
    (htc : dayCounters P.cx st D = .ok tc) (hwt : P.W.waterTable = 1) (hz : D.zGW < 0) :
    fullDay F T P st D = .error "E:unbound" := by
  have hg : checkGroundwaterTable F st.cells P.W.waterTable D.zGW = none :=
    (checkGroundwaterTable_error_iff F st.cells _ _).mpr ⟨hwt, hz⟩
  unfold fullDay fullDayTrace
  simp only [htc, hg, optErr, bind, Except.bind]

/-- Finding: a water table whose depth is undefined on a simulated day — everything else
valid (`CfgOK`; `CfgTotOK` holds for every depth `zg ≥ 0`) — makes the first step raise -/
theorem gw_undefined_reachable :
    CfgOK Fq2 Tq (cfgZ 1 0.1 (-1)) ∧ (∀ zg : ℚ, 0 ≤ zg → CfgTotOK Fq2 (cfgZ 1 0.1 zg) 0.35 0.2) ∧
      TopOK Fq2 (cfgZ 1 0.1 (-1)).W0.soil.zTop (cfgZ 1 0.1 (-1)).init.cells ∧
      firstStep (cfgZ 1 0.1 (-1)) = .error "E:unbound" :=
  ⟨cfgOK_Z 1 0.1 (-1), fun zg h => cfgTotOK_Z' 1 (Or.inr rfl) 0.1 zg (fun _ => h),
    (topOK_Z 1 0.1 (-1)).mpr (le_refl _), by decide +kernel⟩

/-- at the cap `Zcap = 0.4`, the depth of `cfgE`'s profile, the example crop of `cfgE` (`Zmax = 1 m`)
fails `CropTotOK.capZmax` (only this cap is refuted here; `ProfOK.tip` asks `Zcap ≤ 0.4` of that
profile).  In the Python `pre_irrigation`/`root_zone_water` would raise `IndexError` once
`round(z_root, 2) > 0.4`; `read_model_parameters` deepens the profile to `Zmax + 0.1`, which is what
`ProfOK` records -/
theorem deep_crop_violates : ¬ CropTotOK cropq' 0.4 := fun h => by
  have := h.capZmax
  norm_num [cropq', cxq, rdq] at this

/-- Finding (user-supplied crop parameters; no catalogue crop: `catalogue_sxBot_pos`): when
`Crop.calculate_additional_params` derives `SxBot = 0` (it does for `SxBotQ < SxTopQ / 7`), the
`rCor` update of `root_development` divides a Python float by zero as soon as the roots lag behind
the potential depth: `Crop('Wheat', planting_date='10/01', SxTopQ=0.048, SxBotQ=0.005)` on a dry
profile raises `ZeroDivisionError` -/
theorem rdRCor_zerodiv_of_sxBot_zero {α : Type} [Field α] [LinearOrder α] [IsStrictOrderedRing α]
    (C : RdCrop α) (h : C.sxBot = 0) {zNew zrPot : α} (hlt : zNew < zrPot) (tr tPot : α) :
    rdRCor C false zNew zrPot tr tPot = .error "E:zerodiv" := by
  unfold rdRCor
  rw [if_pos hlt, if_pos]
  exact ⟨by simp, Or.inr ⟨by rw [h], by rw [h]⟩⟩

def wheatSx : CropFull := { wheatFull with sxTopQ := 0.048, sxBotQ := 0.005 }

/-- the premise `C.sxBot = 0` of `rdRCor_zerodiv_of_sxBot_zero` is what the derivation of `SxBot`
from `SxTopQ`, `SxBotQ` yields for these values -/
theorem wheatSx_sxBot : wheatSx.sxBot = 0 := by decide +kernel

/-- the fresh-yield division by `YldWC = 0` is not an error site of the model: in an ordered field
the quotient is `0`, at `Float` `inf`/`NaN` (finiteness, not totality) -/
theorem freshYield_yldWC_zero {α : Type} [Field α] [LinearOrder α] [IsStrictOrderedRing α]
    (bNS b hi hiAdj : α) : (yieldStep bNS b hi hiAdj 0 true).freshYield = 0 := by
  simp [yieldStep]

end RunTotalExample
end Aqua

section AxiomAudit
open Aqua.RunTotalExample
#print axioms cfgOK_Z
#print axioms cfgTotOK_Z
#print axioms total_example
#print axioms total_example_computed
#print axioms top_assert_reachable
#print axioms fullDay_gw_error
#print axioms rdRCor_zerodiv_of_sxBot_zero
#print axioms gw_undefined_reachable
end AxiomAudit
