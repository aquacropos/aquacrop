import AquaVerif.Model.SoilBuild
import AquaVerif.Proofs.Basic
/-
Lemmas about the soil-profile builder (`Model/SoilBuild.lean`), property C18.  What a successful build
guarantees is collected in `Built` (`soilProfile_built`).  At the end: the schema of the table of
built-in soils (`BLayer`, `LayerOK`) and a hand-written copy of that table (`builtinLayers`; the one
generated from the source is `Generated.builtinLayersGen`, `Generated/SoilTable.lean`).
-/

set_option linter.unusedSectionVars false
namespace Aqua

/-! ## Geometry -/

theorem buildGeoFrom_length (acc : Nat) (dz : List Nat) : (buildGeoFrom acc dz).length = dz.length := by
  induction dz generalizing acc with
  | nil => rfl
  | cons d ds ih => simp [buildGeoFrom, ih]

theorem buildGeoFrom_dz (acc : Nat) (dz : List Nat) : (buildGeoFrom acc dz).map (·.dz) = dz := by
  induction dz generalizing acc with
  | nil => rfl
  | cons d ds ih => simp [buildGeoFrom, ih]

def prefixSums : Nat → List Nat → List Nat
  | _, [] => []
  | acc, d :: ds => (acc + d) :: prefixSums (acc + d) ds

theorem buildGeoFrom_dzsum (acc : Nat) (dz : List Nat) :
    (buildGeoFrom acc dz).map (·.dzsum) = prefixSums acc dz := by
  induction dz generalizing acc with
  | nil => rfl
  | cons d ds ih => simp [buildGeoFrom, prefixSums, ih]

theorem prefixSums_getElem (acc : Nat) (dz : List Nat) (i : Nat) (h : i < (prefixSums acc dz).length) :
    (prefixSums acc dz)[i] = acc + sumNat (dz.take (i + 1)) := by
  induction dz generalizing acc i with
  | nil => simp [prefixSums] at h
  | cons d ds ih =>
    cases i with
    | zero => simp [prefixSums, sumNat]
    | succ i =>
      simp only [prefixSums, List.getElem_cons_succ, List.take_succ_cons, sumNat]
      rw [ih]; omega

theorem dzsum_is_prefix_sum (dz : List Nat) (i : Nat) (h : i < (buildGeometry dz).length) :
    ((buildGeometry dz)[i]).dzsum = sumNat (dz.take (i + 1)) := by
  have e : ((buildGeometry dz).map (·.dzsum))[i]'(by simpa using h) = ((buildGeometry dz)[i]).dzsum :=
    List.getElem_map _
  rw [← e]
  simp only [buildGeometry, buildGeoFrom_dzsum, prefixSums_getElem, Nat.zero_add]

theorem refreshFrom_dzsum (acc : Nat) (gs : List GComp) (dz : List Nat) (h : gs.length = dz.length) :
    (refreshFrom acc gs dz).map (·.dzsum) = prefixSums acc dz ∧
    (refreshFrom acc gs dz).map (·.dz) = dz := by
  induction gs generalizing acc dz with
  | nil => cases dz <;> simp_all [refreshFrom, prefixSums]
  | cons g gs ih =>
    cases dz with
    | nil => simp at h
    | cons d ds =>
      have := ih (acc + d) ds (by simpa using h)
      simp [refreshFrom, prefixSums, this.1, this.2]

theorem refreshFrom_stale (acc : Nat) (gs : List GComp) (dz : List Nat) (h : gs.length = dz.length) :
    (refreshFrom acc gs dz).map (fun g => (g.zBot, g.zTop)) = gs.map (fun g => (g.zBot, g.zTop)) := by
  induction gs generalizing acc dz with
  | nil => cases dz <;> simp_all [refreshFrom]
  | cons g gs ih =>
    cases dz with
    | nil => simp at h
    | cons d ds => simp [refreshFrom, ih (acc + d) ds (by simpa using h)]

theorem buildGeoFrom_mem (acc : Nat) (dz : List Nat) (g : GComp) (h : g ∈ buildGeoFrom acc dz) :
    g.zBot = g.dzsum ∧ g.zTop + g.dz = g.dzsum ∧ acc ≤ g.zTop := by
  induction dz generalizing acc with
  | nil => simp [buildGeoFrom] at h
  | cons d ds ih =>
    simp only [buildGeoFrom, List.mem_cons] at h
    rcases h with rfl | h
    · simp
    · have := ih (acc + d) h
      omega

example : (refreshFrom 0 (buildGeometry [10, 10]) [10, 20]).map (fun g => (g.zMid2, g.mid2)) =
    [(10, 10), (30, 40)] := by decide

/-! ## The deepening loop -/

theorem bumpLast_none_iff (dz : List Nat) : bumpLast dz = none ↔ ∀ x ∈ dz, 25 ≤ x := by
  fun_induction bumpLast dz with
  | case1 => simp
  | case2 d ds ds' hb ih =>
    have : ¬ ∀ x ∈ ds, 25 ≤ x := fun hall => by rw [ih.2 hall] at hb; cases hb
    simp [this]
  | case3 d ds hb hd ih => simp [Nat.not_le.2 hd]
  | case4 d ds hb hd ih => simpa [Nat.not_lt.1 hd] using ih.1 hb

theorem bumpLast_spec (dz dz' : List Nat) (h : bumpLast dz = some dz') :
    ∃ pre d post, dz = pre ++ d :: post ∧ dz' = pre ++ (d + 10) :: post ∧ d < 25 ∧
      ∀ x ∈ post, 25 ≤ x := by
  fun_induction bumpLast dz generalizing dz' with
  | case1 => cases h
  | case2 d ds ds' hb ih =>
    cases h
    obtain ⟨pre, e, post, h1, h2, h3, h4⟩ := ih ds' hb
    exact ⟨d :: pre, e, post, by simp [h1], by simp [h2], h3, h4⟩
  | case3 d ds hb hd => cases h; exact ⟨[], d, ds, rfl, rfl, hd, (bumpLast_none_iff ds).mp hb⟩
  | case4 => cases h

theorem bumpBottom_spec (dz dz' : List Nat) (h : bumpBottom dz = some dz') :
    ∃ pre d, dz = pre ++ [d] ∧ dz' = pre ++ [d + 10] := by
  fun_induction bumpBottom dz generalizing dz' with
  | case1 => cases h
  | case2 d => cases h; exact ⟨[], d, rfl, rfl⟩
  | case3 d ds _ ih =>
    cases hb : bumpBottom ds with
    | none => rw [hb] at h; cases h
    | some r =>
      rw [hb] at h; cases h
      obtain ⟨pre, x, h1, h2⟩ := ih r hb
      exact ⟨d :: pre, x, by simp [h1], by simp [h2]⟩

theorem bumpBottom_isSome (dz : List Nat) (h : dz ≠ []) : ∃ dz', bumpBottom dz = some dz' := by
  induction dz with
  | nil => exact absurd rfl h
  | cons d ds ih =>
    cases ds with
    | nil => exact ⟨[d + 10], rfl⟩
    | cons e es =>
      obtain ⟨r, hr⟩ := ih (by simp)
      exact ⟨d :: r, by simp only [bumpBottom, hr, Option.map_some]⟩

theorem deepenStep_spec (dz dz' : List Nat) (h : deepenStep dz = some dz') :
    (∃ pre d post, dz = pre ++ d :: post ∧ dz' = pre ++ (d + 10) :: post ∧ d < 25 ∧
        ∀ x ∈ post, 25 ≤ x) ∨
    ((∀ x ∈ dz, 25 ≤ x) ∧ ∃ pre d, dz = pre ++ [d] ∧ dz' = pre ++ [d + 10]) := by
  unfold deepenStep at h
  cases hb : bumpLast dz with
  | some r =>
    simp only [hb, Option.some.injEq] at h
    subst h
    exact Or.inl (bumpLast_spec dz r hb)
  | none =>
    simp only [hb] at h
    exact Or.inr ⟨(bumpLast_none_iff dz).mp hb, bumpBottom_spec dz dz' h⟩

theorem deepenStep_bump (dz dz' : List Nat) (h : deepenStep dz = some dz') :
    ∃ pre d post, dz = pre ++ d :: post ∧ dz' = pre ++ (d + 10) :: post := by
  rcases deepenStep_spec dz dz' h with ⟨pre, d, post, e1, e2, _⟩ | ⟨_, pre, d, e1, e2⟩
  · exact ⟨pre, d, post, e1, e2⟩
  · exact ⟨pre, d, [], e1, e2⟩

theorem sumNat_eq_sum (l : List Nat) : sumNat l = l.sum := by
  induction l with
  | nil => rfl
  | cons x xs ih => simp only [sumNat, ih, List.sum_cons]

theorem deepenStep_sum (dz dz' : List Nat) (h : deepenStep dz = some dz') :
    sumNat dz' = sumNat dz + 10 ∧ dz'.length = dz.length := by
  obtain ⟨pre, d, post, rfl, rfl⟩ := deepenStep_bump dz dz' h
  simp only [sumNat_eq_sum, List.sum_append, List.sum_cons, List.length_append, List.length_cons,
    and_true]
  omega

theorem bumpLast_sum (dz dz' : List Nat) (h : bumpLast dz = some dz') :
    sumNat dz' = sumNat dz + 10 ∧ dz'.length = dz.length :=
  deepenStep_sum dz dz' (by simp only [deepenStep, h])

theorem deepenStep_isSome (dz : List Nat) (h : dz ≠ []) : ∃ dz', deepenStep dz = some dz' := by
  unfold deepenStep
  cases hb : bumpLast dz with
  | some r => exact ⟨r, rfl⟩
  | none => exact bumpBottom_isSome dz h

/-- induction along a successful run of the loop, for a relation `R` between its arguments and its
result -/
theorem deepen_rel (more : Nat → Bool) {R : List Nat → Nat → List Nat → Nat → Prop}
    (hstop : ∀ dz k, more (sumNat dz) = false → R dz k dz k)
    (hstep : ∀ dz dz1 k dz' k', more (sumNat dz) = true → deepenStep dz = some dz1 →
      R dz1 (k + 1) dz' k' → R dz k dz' k')
    (fuel : Nat) (dz dz' : List Nat) (k k' : Nat) (h : deepen more fuel dz k = .ok (dz', k')) :
    R dz k dz' k' := by
  fun_induction deepen more fuel dz k with
  | case1 => cases h
  | case2 => cases h
  | case3 dz k hm fuel dz1 hs ih => exact hstep _ _ _ _ _ hm hs (ih h)
  | case4 fuel dz k hm => cases h; exact hstop _ _ (by simpa using hm)

/-- the last conjunct says that the loop does not overshoot: if any step was taken, the condition
still held 10 cm higher up. -/
theorem deepen_reaches (more : Nat → Bool) (fuel : Nat) (dz dz' : List Nat) (k k' : Nat)
    (h : deepen more fuel dz k = .ok (dz', k')) :
    more (sumNat dz') = false ∧ dz'.length = dz.length ∧ k ≤ k' ∧
      sumNat dz' = sumNat dz + 10 * (k' - k) ∧ (k < k' → more (sumNat dz' - 10) = true) := by
  apply deepen_rel more ?_ ?_ fuel dz dz' k k' h
  · exact fun dz k hm => ⟨hm, rfl, Nat.le_refl k, by simp, fun hk => absurd hk (Nat.lt_irrefl k)⟩
  intro dz dz1 k dz' k' hm hs ⟨h1, h2, h3, h4, h5⟩
  obtain ⟨s1, s2⟩ := deepenStep_sum dz dz1 hs
  refine ⟨h1, by omega, by omega, by omega, fun _ => ?_⟩
  by_cases hk : k + 1 < k'
  · exact h5 hk
  · -- the last step: 10 cm above the final depth is the depth before it
    have : sumNat dz' - 10 = sumNat dz := by omega
    rw [this]; exact hm

theorem deepen_pos (more : Nat → Bool) (fuel : Nat) (dz dz' : List Nat) (k k' : Nat)
    (h : deepen more fuel dz k = .ok (dz', k')) (hp : ∀ d ∈ dz, 0 < d) : ∀ d ∈ dz', 0 < d := by
  refine deepen_rel more (R := fun dz _ dz' _ => (∀ d ∈ dz, 0 < d) → ∀ d ∈ dz', 0 < d)
    (fun _ _ _ hp => hp) (fun dz dz1 _ _ _ _ hs ih hp => ih ?_) fuel dz dz' k k' h hp
  obtain ⟨pre, d, post, rfl, rfl⟩ := deepenStep_bump dz dz1 hs
  intro x hx
  simp only [List.mem_append, List.mem_cons] at hx hp
  rcases hx with hx | rfl | hx
  · exact hp x (Or.inl hx)
  · omega
  · exact hp x (Or.inr (Or.inr hx))

/-- `hT` holds of `zSoil < Zmax + 0.1` for every finite `Zmax`; `hf` says that the fuel covers the
distance.  The model then returns neither `E:fuel` nor `E:index`. -/
theorem deepen_terminates (more : Nat → Bool) (T : Nat) (hT : ∀ c, T ≤ c → more c = false)
    (fuel : Nat) (dz : List Nat) (k : Nat) (hne : dz ≠ [])
    (hf : T ≤ sumNat dz + 10 * fuel) :
    ∃ dz' k', deepen more fuel dz k = .ok (dz', k') := by
  fun_induction deepen more fuel dz k with
  | case1 dz k hm => rw [hT _ (by omega)] at hm; cases hm
  | case2 dz k hm fuel hs =>
    obtain ⟨dz1, h1⟩ := deepenStep_isSome dz hne
    rw [h1] at hs
    cases hs
  | case3 dz k hm fuel dz1 hs ih =>
    obtain ⟨s1, s2⟩ := deepenStep_sum dz dz1 hs
    exact ih (fun hnil => hne (List.length_eq_zero_iff.1 (by rw [← s2, hnil]; rfl))) (by omega)
  | case4 fuel dz k hm => exact ⟨dz, k, rfl⟩

section
variable {α : Type} [Field α] [LinearOrder α] [IsStrictOrderedRing α]

/-- over an ordered field, with `Zmax` a whole number of centimetres, the loop condition
`zSoil < Zmax + 0.1` is the comparison `zSoil[cm] < Zmax[cm] + 10`.  (In binary floating point
this fails for `Zmax = 1.3` and `1.8`: `1.3 + 0.1 > 1.4`.) -/
theorem moreOf_exact (zmaxCm c : Nat) :
    moreOf (cmToM zmaxCm : α) c = true ↔ c < zmaxCm + 10 := by
  unfold moreOf cmToM
  simp only [decide_eq_true_eq]
  have e : ((zmaxCm : α) / 100 + 0.1) = ((zmaxCm + 10 : Nat) : α) / 100 := by
    push_cast
    norm_num
    ring
  rw [e]
  rw [div_lt_div_iff_of_pos_right (by norm_num : (0 : α) < 100)]
  exact Nat.cast_lt

/-- non-vacuity: the default profile (12 × 10 cm) under a crop rooting to 2.3 m is deepened in 12
steps to 2.4 m. -/
example : deepen (fun c => decide (c < 230 + 10)) 28 (List.replicate 12 10) 0 =
    .ok ([10, 10, 10, 10, 10, 10, 30, 30, 30, 30, 30, 30], 12) := by rfl
/-- the `else:` branch: 4 × 30 cm under the same crop — no compartment is below 25 cm, so the bottom
one grows, to 150 cm. -/
example : deepen (fun c => decide (c < 230 + 10)) 28 [30, 30, 30, 30] 0 =
    .ok ([30, 30, 30, 150], 12) := by rfl

end

/-! ## Layer assignment -/

/-- layer numbers climbing from `j` to `k` in steps of 0 or +1 (`j` itself may be repeated only
when `j ≥ 1`).  `Stair 0 k L`: `L` starts at 1, is non-decreasing, has no gaps and ends at `k`. -/
inductive Stair : Nat → Nat → List Nat → Prop
  | nil (j : Nat) : Stair j j []
  | same {j k : Nat} {L : List Nat} : 1 ≤ j → Stair j k L → Stair j k (j :: L)
  | next {j k : Nat} {L : List Nat} : Stair (j + 1) k L → Stair j k ((j + 1) :: L)

theorem Stair.le {j k : Nat} {L : List Nat} (h : Stair j k L) : j ≤ k := by
  induction h with
  | nil => exact Nat.le_refl _
  | same _ _ ih => exact ih
  | next _ ih => omega

theorem Stair.mem {j k : Nat} {L : List Nat} (h : Stair j k L) : ∀ x ∈ L, j ≤ x ∧ x ≤ k ∧ 1 ≤ x := by
  induction h with
  | nil => simp
  | same h1 h2 ih => exact List.forall_mem_cons.2 ⟨⟨Nat.le_refl _, h2.le, h1⟩, ih⟩
  | next h2 ih =>
    refine List.forall_mem_cons.2 ⟨⟨by omega, h2.le, by omega⟩, fun x hx => ?_⟩
    have := ih x hx
    omega

theorem Stair.head {k : Nat} {x : Nat} {L : List Nat} (h : Stair 0 k (x :: L)) : x = 1 := by
  cases h with
  | same h1 _ => omega
  | next _ => rfl

theorem Stair.chain {j k : Nat} {L : List Nat} (h : Stair j k L) :
    List.IsChain (fun a b => b = a ∨ b = a + 1) (j :: L) := by
  induction h with
  | nil => simp
  | same h1 h2 ih => exact List.IsChain.cons_cons (Or.inl rfl) ih
  | next h2 ih => exact List.IsChain.cons_cons (Or.inr rfl) ih

theorem Stair.getLast {j k : Nat} {L : List Nat} (h : Stair j k L) : (j :: L).getLast (by simp) = k := by
  induction h with
  | nil => simp
  | same h1 h2 ih => simpa using ih
  | next h2 ih => simpa using ih

theorem dedup_cons (y : Nat) (ys : List Nat) :
    dedup (y :: ys) = if y ∈ dedup ys then dedup ys else y :: dedup ys := by
  simp [dedup]

theorem mem_dedup (x : Nat) (L : List Nat) : x ∈ dedup L ↔ x ∈ L := by
  induction L generalizing x with
  | nil => simp [dedup]
  | cons y ys ih =>
    rw [dedup_cons]
    by_cases hc : y ∈ dedup ys
    · rw [if_pos hc, ih, List.mem_cons]
      exact ⟨Or.inr, fun h => h.elim (fun e => e ▸ (ih y).1 hc) id⟩
    · rw [if_neg hc, List.mem_cons, List.mem_cons, ih]

theorem Stair.dedup_length {j k : Nat} {L : List Nat} (h : Stair j k L) :
    (dedup (j :: L)).length = k - j + 1 := by
  induction h with
  | nil => simp [dedup]
  | @same j k L h1 h2 ih =>
    -- `j` occurs again below: the upper copy is dropped
    rw [dedup_cons, if_pos ((mem_dedup j _).2 List.mem_cons_self), ih]
  | @next j k L h2 ih =>
    have hle := h2.le
    have hnot : j ∉ dedup ((j + 1) :: L) := fun hm => by
      rcases List.mem_cons.1 ((mem_dedup j _).1 hm) with e | hm
      · omega
      · have := (h2.mem j hm).1; omega
    rw [dedup_cons, if_neg hnot, List.length_cons, ih]
    omega

def nums (col : List Asg) : List Nat := col.filterMap (fun a => a.map Prod.fst)

/-- invariant of the `Layer` column while layers are being added: an assigned prefix whose layer
numbers climb from `j` to `k` in steps of 0 or +1 (as in `Stair`), each number written by one
`add_layer` call (`c` is the call that wrote `j`), followed by unassigned (`NaN`) rows only. -/
inductive Good : Nat → Nat → Nat → List Asg → Prop
  | nones (j c n : Nat) : Good j c j (List.replicate n none)
  | same {j c k : Nat} {rest : List Asg} : 1 ≤ j → Good j c k rest → Good j c k (some (j, c) :: rest)
  | next {j c c' k : Nat} {rest : List Asg} :
      Good (j + 1) c' k rest → Good j c k (some (j + 1, c') :: rest)

theorem Good.stair {j c k : Nat} {col : List Asg} (h : Good j c k col) : Stair j k (nums col) := by
  induction h with
  | nones j c n => simpa [nums] using Stair.nil j
  | same h1 _ ih => simpa [nums] using Stair.same h1 ih
  | next _ ih => simpa [nums] using Stair.next ih

def AsgConsistent (col : List Asg) : Prop :=
  ∀ l a b, some (l, a) ∈ col → some (l, b) ∈ col → a = b

theorem asgConsistent_cons {j c : Nat} {rest : List Asg} (h1 : ∀ a, some (j, a) ∈ rest → a = c)
    (h2 : AsgConsistent rest) : AsgConsistent (some (j, c) :: rest) := by
  intro l a b ha hb
  rcases List.mem_cons.1 ha with e | ha <;> rcases List.mem_cons.1 hb with e' | hb
  · cases e
    cases e'
    rfl
  · cases e; exact (h1 b hb).symm
  · cases e'; exact h1 a ha
  · exact h2 l a b ha hb

theorem Good.calls {j c k : Nat} {col : List Asg} (h : Good j c k col) :
    (∀ l a, some (l, a) ∈ col → j ≤ l ∧ (l = j → a = c)) ∧ AsgConsistent col := by
  induction h with
  | nones j c n =>
    refine ⟨fun l a hm => ?_, fun l a b hm _ => ?_⟩ <;> cases (List.mem_replicate.1 hm).2
  | @same j c k rest h1 _ ih =>
    refine ⟨fun l a hm => ?_, asgConsistent_cons (fun a ha => (ih.1 j a ha).2 rfl) ih.2⟩
    rcases List.mem_cons.1 hm with e | hm
    · cases e; exact ⟨Nat.le_refl j, fun _ => rfl⟩
    · exact ih.1 l a hm
  | @next j c c' k rest _ ih =>
    refine ⟨fun l a hm => ?_, asgConsistent_cons (fun a ha => (ih.1 (j + 1) a ha).2 rfl) ih.2⟩
    rcases List.mem_cons.1 hm with e | hm
    · cases e; exact ⟨by omega, fun h => by omega⟩
    · have := (ih.1 l a hm).1
      exact ⟨by omega, fun h => by omega⟩

theorem Good.numAssigned {c k : Nat} {col : List Asg} (h : Good 0 c k col) : numAssigned col = k := by
  have hs := h.stair
  have h0 : 0 ∉ dedup (nums col) := fun h0 => by
    have := (hs.mem 0 ((mem_dedup 0 _).1 h0)).2.2
    omega
  have := hs.dedup_length
  rw [dedup_cons, if_neg h0, List.length_cons] at this
  exact Nat.succ_injective this

theorem Good.zero_zero {c : Nat} {col : List Asg} (h : Good 0 c 0 col) :
    col = List.replicate col.length none := by
  cases h with
  | nones j c n => simp
  | same h1 _ => omega
  | next h2 => have := h2.stair.le; omega

theorem Good.lastOf_isSome {j c k : Nat} {col : List Asg} (h : Good j c k col) (hjk : j < k)
    (ss : List Nat) (hl : col.length = ss.length) : ∃ r, lastOf k col ss = some r := by
  induction h generalizing ss with
  | nones j c n => omega
  | same h1 h2 ih =>
    cases ss with
    | nil => simp at hl
    | cons s ss =>
      obtain ⟨r, hr⟩ := ih hjk ss (by simpa using hl)
      exact ⟨r, by simp only [lastOf, hr]⟩
  | @next j c c' k rest h2 ih =>
    cases ss with
    | nil => simp at hl
    | cons s ss =>
      cases hr : lastOf k rest ss with
      | some r => exact ⟨r, by simp only [lastOf, hr]⟩
      | none =>
        by_cases hk : j + 1 = k
        · exact ⟨s, by simp only [lastOf, hr, hk, if_true]⟩
        · obtain ⟨r, hr'⟩ := ih (by have := h2.stair.le; omega) ss (by simpa using hl)
          rw [hr] at hr'; cases hr'

def Mono : List Nat → Prop
  | [] => True
  | [_] => True
  | a :: b :: rest => a ≤ b ∧ Mono (b :: rest)

theorem Mono.tail {a : Nat} {l : List Nat} (h : Mono (a :: l)) : Mono l := by
  cases l with
  | nil => trivial
  | cons b rest => exact h.2

theorem Mono.head_le {a : Nat} {l : List Nat} (h : Mono (a :: l)) : ∀ x ∈ l, a ≤ x := by
  induction l generalizing a with
  | nil => simp
  | cons b rest ih =>
    exact List.forall_mem_cons.2 ⟨h.1, fun x hx => Nat.le_trans h.1 (ih h.2 x hx)⟩

theorem prefixSums_mono (acc : Nat) (dz : List Nat) : Mono (prefixSums acc dz) := by
  induction dz generalizing acc with
  | nil => trivial
  | cons d ds ih =>
    cases ds with
    | nil => trivial
    | cons e es => exact ⟨by omega, ih (acc + d)⟩

def Anti (p : Nat → Bool) : Prop := ∀ s s', s ≤ s' → p s' = true → p s = true

theorem good_block (j : Nat) (c a b : Nat) (hj : 1 ≤ j) :
    Good j c j (List.replicate a (some (j, c)) ++ List.replicate b none) := by
  induction a with
  | zero => simpa using Good.nones j c b
  | succ a ih => simpa [List.replicate_succ] using Good.same hj ih

/-- filling unassigned rows with an antitone test over non-decreasing bottoms captures a prefix
(nothing when the test fails on every row): the rows of the prefix get the next layer number. -/
theorem zip_nones (p : Nat → Bool) (hp : Anti p) (j c call : Nat) (f : Nat → Asg → Asg)
    (hf : ∀ s, f s none = if p s then some (j + 1, call) else none) (ss : List Nat) (hs : Mono ss)
    (n : Nat) (hl : ss.length = n) :
    Good j c j (zipAsg f ss (List.replicate n none)) ∨
      Good j c (j + 1) (zipAsg f ss (List.replicate n none)) := by
  have key : ∃ a b, ((∀ s ∈ ss, p s = false) → a = 0) ∧
      zipAsg f ss (List.replicate n none) =
        List.replicate a (some (j + 1, call)) ++ List.replicate b none := by
    induction ss generalizing n with
    | nil => subst hl; exact ⟨0, 0, fun _ => rfl, rfl⟩
    | cons s ss ih =>
      cases n with
      | zero => simp at hl
      | succ n =>
        obtain ⟨a, b, h0, h⟩ := ih hs.tail n (by simpa using hl)
        by_cases hps : p s = true
        · refine ⟨a + 1, b, fun hall => ?_, ?_⟩
          · rw [hall s List.mem_cons_self] at hps; cases hps
          · rw [List.replicate_succ, zipAsg, hf, if_pos hps, h]; rfl
        · -- the test fails here, hence (antitone, bottoms non-decreasing) on every later row
          have ha : a = 0 := h0 fun s' hs' => by
            by_contra hc
            exact hps (hp s s' (hs.head_le s' hs') (by simpa using hc))
          subst ha
          refine ⟨0, b + 1, fun _ => rfl, ?_⟩
          rw [List.replicate_succ, zipAsg, hf, if_neg hps, h]; rfl
  obtain ⟨a, b, _, h⟩ := key
  rw [h]
  cases a with
  | zero => left; simpa using Good.nones j c b
  | succ a =>
    right
    simpa [List.replicate_succ] using Good.next (c := c) (good_block (j + 1) call a b (by omega))

theorem zipAsg_length (f : Nat → Asg → Asg) (ss : List Nat) (col : List Asg)
    (hl : col.length = ss.length) : (zipAsg f ss col).length = ss.length := by
  induction ss generalizing col with
  | nil => cases col <;> simp_all [zipAsg]
  | cons s ss ih =>
    cases col with
    | nil => simp at hl
    | cons a as => simp [zipAsg, ih as (by simpa using hl)]

theorem zip_good (p : Nat → Bool) (hp : Anti p) (k call : Nat) :
    ∀ (j c : Nat) (col : List Asg) (ss : List Nat), Mono ss → col.length = ss.length →
      Good j c k col →
      Good j c k (zipAsg (fun s a => if p s && a.isNone then some (k + 1, call) else a) ss col) ∨
      Good j c (k + 1) (zipAsg (fun s a => if p s && a.isNone then some (k + 1, call) else a) ss col) := by
  intro j c col ss hs hl hg
  induction hg generalizing ss with
  | nones j c n =>
    exact zip_nones p hp j c call _ (fun s => by simp) ss hs n (by simpa using hl.symm)
  | @same j c k rest h1 h2 ih =>
    cases ss with
    | nil => simp at hl
    | cons s ss =>
      simp only [zipAsg, Option.isNone_some, Bool.and_false, Bool.false_eq_true, if_false]
      exact (ih ss hs.tail (by simpa using hl)).imp (Good.same h1) (Good.same h1)
  | @next j c c' k rest h2 ih =>
    cases ss with
    | nil => simp at hl
    | cons s ss =>
      simp only [zipAsg, Option.isNone_some, Bool.and_false, Bool.false_eq_true, if_false]
      exact (ih ss hs.tail (by simpa using hl)).imp Good.next Good.next

theorem addLayer_good {τ : Type} (ge1 : τ → Nat → Bool) (ge2 : τ → Nat → Nat → Bool)
    (h1 : ∀ t, Anti (ge1 t)) (h2 : ∀ t l, Anti (ge2 t l))
    (ss : List Nat) (hs : Mono ss) (col : List Asg) (hl : col.length = ss.length) (k call : Nat)
    (t : τ) (hg : Good 0 0 k col) :
    ∃ col', addLayer ge1 ge2 ss col call t = .ok col' ∧ col'.length = ss.length ∧
      (Good 0 0 k col' ∨ Good 0 0 (k + 1) col') := by
  unfold addLayer
  simp only [hg.numAssigned]
  by_cases hk : k = 0
  · subst hk
    simp only [Nat.zero_add, if_true]
    refine ⟨_, rfl, zipAsg_length _ ss col hl, ?_⟩
    rw [hg.zero_zero]
    exact zip_nones (ge1 t) (h1 t) 0 0 call _ (fun s => rfl) ss hs _ (by simp [hl])
  · have hk' : ¬ (k + 1 = 1) := by omega
    simp only [hk', if_false, Nat.add_sub_cancel]
    obtain ⟨r, hr⟩ := hg.lastOf_isSome (by omega) ss hl
    simp only [hr]
    exact ⟨_, rfl, zipAsg_length _ ss col hl, zip_good (ge2 t r) (h2 t r) k call 0 0 col ss hs hl hg⟩

theorem addLayers_good {τ : Type} (ge1 : τ → Nat → Bool) (ge2 : τ → Nat → Nat → Bool)
    (h1 : ∀ t, Anti (ge1 t)) (h2 : ∀ t l, Anti (ge2 t l))
    (ss : List Nat) (hs : Mono ss) (ts : List τ) :
    ∀ (col : List Asg) (k call : Nat), col.length = ss.length → Good 0 0 k col →
      ∃ col' k', addLayers ge1 ge2 ss col call ts = .ok col' ∧ col'.length = ss.length ∧
        Good 0 0 k' col' := by
  induction ts with
  | nil => intro col k call hl hg; exact ⟨col, k, rfl, hl, hg⟩
  | cons t ts ih =>
    intro col k call hl hg
    obtain ⟨col1, e1, l1, g1⟩ := addLayer_good ge1 ge2 h1 h2 ss hs col hl k call t hg
    simp only [addLayers, e1]
    rcases g1 with g | g
    · exact ih col1 k (call + 1) l1 g
    · exact ih col1 (k + 1) (call + 1) l1 g

theorem ffill_good {j c k : Nat} {col : List Asg} (hg : Good j c k col) (hj : 1 ≤ j) :
    ∃ r, allSome (ffillFrom (some (j, c)) col) = .ok r ∧ r.length = col.length ∧
      Good j c k (r.map some) := by
  induction hg with
  | nones j c n =>
    refine ⟨List.replicate n (j, c), ?_, by simp, by simpa using good_block j c n 0 hj⟩
    induction n with
    | zero => rfl
    | succ n ih => simp only [List.replicate_succ, ffillFrom, allSome, ih]
  | @same j c k rest h1 h2 ih =>
    obtain ⟨r, e1, e2, e3⟩ := ih hj
    exact ⟨(j, c) :: r, by simp only [ffillFrom, allSome, e1], by simp [e2], Good.same h1 e3⟩
  | @next j _ c k rest h2 ih =>
    obtain ⟨r, e1, e2, e3⟩ := ih (by omega)
    exact ⟨(j + 1, c) :: r, by simp only [ffillFrom, allSome, e1], by simp [e2], Good.next e3⟩

theorem nums_map_some (r : List (Nat × Nat)) : nums (r.map some) = r.map Prod.fst := by
  simp [nums, List.filterMap_map]

/-- `h1`, `h2` hold of the exact comparison and of the float comparison `t + last ≥ fl(s/100)`;
the build fails with `E:nanlayer` when the top row was left unassigned. -/
theorem assignLayersG_good {τ : Type} (ge1 : τ → Nat → Bool) (ge2 : τ → Nat → Nat → Bool)
    (h1 : ∀ t, Anti (ge1 t)) (h2 : ∀ t l, Anti (ge2 t l))
    (ss : List Nat) (hs : Mono ss) (ts : List τ) (r : List (Nat × Nat))
    (h : assignLayersG ge1 ge2 ss ts = .ok r) :
    r.length = ss.length ∧ ∃ k, Stair 0 k (r.map Prod.fst) ∧
      ∀ l c c', (l, c) ∈ r → (l, c') ∈ r → c = c' := by
  suffices hg : r.length = ss.length ∧ ∃ k, Good 0 0 k (r.map some) by
    obtain ⟨hl, k, g⟩ := hg
    exact ⟨hl, k, nums_map_some r ▸ g.stair, fun l c c' m1 m2 =>
      g.calls.2 l c c' (List.mem_map_of_mem m1) (List.mem_map_of_mem m2)⟩
  unfold assignLayersG at h
  obtain ⟨col, k, e, l, g⟩ := addLayers_good ge1 ge2 h1 h2 ss hs ts (ss.map (fun _ => none)) 0 0
    (by simp) (by rw [List.map_const']; exact Good.nones 0 0 _)
  rw [e] at h
  cases g with
  | nones j c n =>
    cases n with
    | zero => cases h; exact ⟨l, 0, Good.nones 0 0 0⟩
    | succ n => cases h
  | same h1 _ => omega
  | @next j _ c k rest h2 =>
    obtain ⟨r', e1, e2, e3⟩ := ffill_good h2 (by omega)
    simp only [ffillFrom, allSome, e1] at h
    cases h
    exact ⟨by simpa [e2] using l, k, Good.next e3⟩

theorem natGe1_anti (t : Nat) : Anti (natGe1 t) := by
  intro s s' hss h
  simp only [natGe1, decide_eq_true_eq] at *
  omega
theorem natGe2_anti (t l : Nat) : Anti (natGe2 t l) := by
  intro s s' hss h
  simp only [natGe2, decide_eq_true_eq] at *
  omega

theorem buildGeometry_mono (dz : List Nat) : Mono ((buildGeometry dz).map (·.dzsum)) := by
  rw [buildGeometry, buildGeoFrom_dzsum]; exact prefixSums_mono 0 dz

/-- non-vacuity: the `ac_TunisLocal` soil (layers of 30 cm and 170 cm on its 12 compartments). -/
example : assignLayers ((buildGeometry [10,10,10,10,10,10,15,15,15,15,15,20]).map (·.dzsum)) [30, 170]
    = .ok [1,1,1,2,2,2,2,2,2,2,2,2] := by rfl
/-- a layer that captures no compartment does not consume a number (second call, 5 cm). -/
example : assignLayers ((buildGeometry [10,10,10,10]).map (·.dzsum)) [20, 5, 100]
    = .ok [1,1,2,2] := by rfl
/-- nothing assigned at the top: `astype(int)` raises. -/
example : assignLayers ((buildGeometry [10,10]).map (·.dzsum)) [5] = .error "E:nanlayer" := by rfl

/-! ## The rows of a built profile -/

section
variable {α : Type} [Field α] [LinearOrder α] [IsStrictOrderedRing α]

/-- compartment `c` carries layer number `lk.1` and exactly the hydraulic values of the
`add_layer` call number `lk.2`. -/
def CompOf {τ : Type} (F : Fn α) (specs : List (LayerSpec α τ)) (c : Comp α) (lk : Nat × Nat) : Prop :=
  c.layer = lk.1 ∧ ∃ sp, nthSpec specs lk.2 = some sp ∧ c.thWP = sp.wp ∧ c.thFC = sp.fc ∧
    c.thS = sp.s ∧ c.ksat = sp.ksat ∧ c.pen = sp.pen ∧ c.thDry = sp.wp / 2 ∧ c.tau = tauOf F sp.ksat

def HydMatch {τ : Type} (F : Fn α) (specs : List (LayerSpec α τ)) :
    List (Comp α) → List (Nat × Nat) → Prop
  | [], _ => True
  | c :: cs, lk :: ls => CompOf F specs c lk ∧ HydMatch F specs cs ls
  | _ :: _, [] => False

/-- the profile rows carry `dz`, `dzsum` of the geometry, in metres (row by row; the rows may be
fewer than the geometry entries) -/
def GeoMatch : List (Comp α) → List GComp → Prop
  | [], _ => True
  | c :: cs, g :: gs => c.dz = cmToM g.dz ∧ c.dzsum = cmToM g.dzsum ∧ GeoMatch cs gs
  | _ :: _, [] => False

theorem cmToM_add (a b : Nat) : (cmToM (a + b) : α) = cmToM a + cmToM b := by
  unfold cmToM
  push_cast
  ring

theorem cmToM_pos {a : Nat} (h : 0 < a) : (0 : α) < cmToM a := by
  unfold cmToM
  exact div_pos (by exact_mod_cast h) (by norm_num)

theorem cmToM_nonneg (a : Nat) : (0 : α) ≤ cmToM a := by
  unfold cmToM
  exact div_nonneg (Nat.cast_nonneg a) (by norm_num)

theorem nthSpec_mem {τ : Type} : ∀ (specs : List (LayerSpec α τ)) (k : Nat) (sp : LayerSpec α τ),
    nthSpec specs k = some sp → sp ∈ specs
  | [], _, _, h => by simp [nthSpec] at h
  | x :: _, 0, sp, h => by
    simp only [nthSpec, Option.some.injEq] at h
    subst h
    exact List.mem_cons_self
  | _ :: xs, n + 1, sp, h => by
    simp only [nthSpec] at h
    exact List.mem_cons_of_mem _ (nthSpec_mem xs n sp h)

theorem hydMatch_mem {τ : Type} (F : Fn α) (specs : List (LayerSpec α τ))
    (cs : List (Comp α)) (lay : List (Nat × Nat)) (h : HydMatch F specs cs lay) :
      ∀ c ∈ cs, ∃ lk ∈ lay, CompOf F specs c lk := by
  fun_induction HydMatch F specs cs lay with
  | case1 => intro c hc; cases hc
  | case2 c0 cs lk ls ih =>
    intro c hc
    rcases List.mem_cons.1 hc with rfl | hc
    · exact ⟨lk, by simp, h.1⟩
    · obtain ⟨lk', hl, hco⟩ := ih h.2 c hc
      exact ⟨lk', List.mem_cons_of_mem _ hl, hco⟩
  | case3 => exact h.elim

theorem mkComps_spec {τ : Type} (F : Fn α) (specs : List (LayerSpec α τ))
    (geo : List GComp) (lay : List (Nat × Nat)) (cs : List (Comp α))
    (h : mkComps F specs geo lay = .ok cs) :
      HydMatch F specs cs lay ∧ GeoMatch cs geo ∧ ∀ c ∈ cs, c.aCR = 0 ∧ c.bCR = 0 := by
  fun_induction mkComps F specs geo lay generalizing cs with
  | case1 => cases h
  | case2 => cases h
  | case3 g gs l k ls sp hs r hr m ih =>
    cases h
    obtain ⟨i1, i2, i3⟩ := ih r hr
    exact ⟨⟨⟨rfl, sp, hs, rfl, rfl, rfl, rfl, rfl, rfl, rfl⟩, i1⟩, ⟨rfl, rfl, i2⟩,
      List.forall_mem_cons.2 ⟨⟨rfl, rfl⟩, i3⟩⟩
  | case4 => cases h; exact ⟨trivial, trivial, by simp⟩

theorem addCR_spec {τ : Type} (F : Fn α) (specs : List (LayerSpec α τ)) (all : List (Comp α))
    (cs cs' : List (Comp α)) (lay : List (Nat × Nat)) (geo : List GComp)
    (h : addCR F all cs = some cs') :
    (HydMatch F specs cs lay → HydMatch F specs cs' lay) ∧ (GeoMatch cs geo → GeoMatch cs' geo) := by
  fun_induction addCR F all cs generalizing cs' lay geo with
  | case1 => cases h; exact ⟨fun _ => trivial, fun _ => trivial⟩
  | case2 => cases h
  | case3 => cases h
  | case4 c cs a b _ r hr ih =>
    cases h
    constructor
    · intro hm
      cases lay with
      | nil => exact hm.elim
      | cons lk ls => exact ⟨hm.1, (ih r ls geo hr).1 hm.2⟩
    · intro hm
      cases geo with
      | nil => exact hm.elim
      | cons g gs => exact ⟨hm.1, hm.2.1, (ih r lay gs hr).2 hm.2.2⟩

theorem soilProfile_inv {τ : Type} {F : Fn α} {ge1 : τ → Nat → Bool} {ge2 : τ → Nat → Nat → Bool}
    {more : Nat → Bool} {fuel : Nat} {dz : List Nat} {specs : List (LayerSpec α τ)}
    {wt adjRew calcCN : Bool} {rew zSurf cn zTopArg : α} {o : SoilOut α}
    (h : soilProfile F ge1 ge2 more fuel dz specs wt adjRew calcCN rew zSurf cn zTopArg = .ok o) :
    ∃ d0 ds lay dz' k comps0 c0 rest cn', dz = d0 :: ds ∧
      assignLayersG ge1 ge2 ((buildGeometry dz).map (·.dzsum)) (specs.map (·.thick)) = .ok lay ∧
      deepen more fuel dz 0 = .ok (dz', k) ∧
      mkComps F specs (refreshFrom 0 (buildGeometry dz) dz') lay = .ok comps0 ∧
      (if wt then addCR F comps0 comps0 else some comps0) = some (c0 :: rest) ∧
      cnOf calcCN cn c0.ksat = some cn' ∧
      o = { geo := refreshFrom 0 (buildGeometry dz) dz',
            geoM := (refreshFrom 0 (buildGeometry dz) dz').map toMetres, comps := c0 :: rest,
            call := lay.map Prod.snd, zSoil := sumNat dz', steps := k,
            rew := rewOf F adjRew rew c0.thFC c0.thDry zSurf, cn := cn',
            zTopS := pmax zTopArg (cmToM d0) } := by
  unfold soilProfile at h
  cases dz with
  | nil => cases h
  | cons d0 ds =>
    simp only [] at h
    split at h
    · cases h
    rename_i lay hl
    split at h
    · cases h
    rename_i dz' k hd
    split at h
    · cases h
    rename_i comps0 hm
    split at h
    · cases h
    rename_i comps hc
    split at h
    · cases h
    rename_i c0 rest
    split at h
    · cases h
    rename_i cn' hn
    exact ⟨d0, ds, lay, dz', k, comps0, c0, rest, cn', rfl, hl, hd, hm, hc, hn,
      (Except.ok.inj h).symm⟩

/-- what `soilProfile` guarantees of its result `o`, in terms of the assignment `lay` made on the
initial geometry: the deepening loop (`more`, the crop's rooting depth) only changes `dz`/`dzsum`;
layer numbers and hydraulic values are those assigned on the initial geometry; `zBot`/`z_top` stay
those of `create_df`. -/
structure Built {τ : Type} (F : Fn α) (specs : List (LayerSpec α τ)) (more : Nat → Bool)
    (dz : List Nat) (wt : Bool) (lay : List (Nat × Nat)) (o : SoilOut α) : Prop where
  call  : o.call = lay.map Prod.snd
  hyd   : HydMatch F specs o.comps lay
  rows  : GeoMatch o.comps o.geo
  ne    : o.comps ≠ []
  noCR  : wt = false → ∀ c ∈ o.comps, c.aCR = 0 ∧ c.bCR = 0
  stop  : more o.zSoil = false
  len   : o.geo.length = dz.length
  sums  : o.geo.map (·.dzsum) = prefixSums 0 (o.geo.map (·.dz))
  zSoil : o.zSoil = sumNat (o.geo.map (·.dz))
  steps : o.zSoil = sumNat dz + 10 * o.steps
  stale : o.geo.map (fun g => (g.zBot, g.zTop)) = (buildGeometry dz).map (fun g => (g.zBot, g.zTop))
  pos   : (∀ d ∈ dz, 0 < d) → ∀ g ∈ o.geo, 0 < g.dz

theorem soilProfile_built {τ : Type} {F : Fn α} {ge1 : τ → Nat → Bool} {ge2 : τ → Nat → Nat → Bool}
    {more : Nat → Bool} {fuel : Nat} {dz : List Nat} {specs : List (LayerSpec α τ)}
    {wt adjRew calcCN : Bool} {rew zSurf cn zTopArg : α} {o : SoilOut α}
    (h : soilProfile F ge1 ge2 more fuel dz specs wt adjRew calcCN rew zSurf cn zTopArg = .ok o) :
    ∃ lay, assignLayersG ge1 ge2 ((buildGeometry dz).map (·.dzsum)) (specs.map (·.thick)) = .ok lay ∧
      Built F specs more dz wt lay o := by
  obtain ⟨d0, ds, lay, dz', k, comps0, c0, rest, cn', _, hl, hd, hm, hc, _, rfl⟩ := soilProfile_inv h
  obtain ⟨r1, r2, _, r4, _⟩ := deepen_reaches more _ _ dz' 0 k hd
  obtain ⟨s1, s2⟩ := refreshFrom_dzsum 0 (buildGeometry dz) dz'
    (by rw [r2]; exact buildGeoFrom_length 0 _)
  obtain ⟨m1, m2, m3⟩ := mkComps_spec F specs _ lay comps0 hm
  -- the capillary-rise parameters are the only thing written after `mkComps`
  have hrows : HydMatch F specs (c0 :: rest) lay ∧
      GeoMatch (c0 :: rest) (refreshFrom 0 (buildGeometry dz) dz') ∧
      (wt = false → ∀ c ∈ c0 :: rest, c.aCR = 0 ∧ c.bCR = 0) := by
    cases wt with
    | false => cases hc; exact ⟨m1, m2, fun _ => m3⟩
    | true =>
      obtain ⟨a1, a2⟩ := addCR_spec F specs comps0 comps0 _ lay _ hc
      exact ⟨a1 m1, a2 m2, fun hw => by cases hw⟩
  exact ⟨lay, hl,
    { call := rfl, hyd := hrows.1, rows := hrows.2.1, ne := List.cons_ne_nil _ _, noCR := hrows.2.2
      stop := r1
      len := by rw [← r2, ← congrArg List.length s2, List.length_map]
      sums := by rw [s1, s2]
      zSoil := by rw [s2]
      steps := by rw [r4]; simp
      stale := refreshFrom_stale 0 _ dz' (by rw [r2]; exact buildGeoFrom_length 0 _)
      pos := fun hp g hg => deepen_pos more _ _ dz' 0 k hd hp _ (s2 ▸ List.mem_map_of_mem hg) }⟩

theorem tauOf_bounds (F : Fn α) (ksat : α) : 0 ≤ tauOf F ksat ∧ tauOf F ksat ≤ 1 :=
  clamp01_bounds _

theorem soilProfile_noWT_cr_zero {τ : Type} (F : Fn α) (ge1 : τ → Nat → Bool)
    (ge2 : τ → Nat → Nat → Bool) (more : Nat → Bool) (fuel : Nat) (dz : List Nat)
    (specs : List (LayerSpec α τ)) (adjRew calcCN : Bool) (rew zSurf cn zTopArg : α) (o : SoilOut α)
    (h : soilProfile F ge1 ge2 more fuel dz specs false adjRew calcCN rew zSurf cn zTopArg = .ok o) :
    ∀ c ∈ o.comps, c.aCR = 0 ∧ c.bCR = 0 := by
  obtain ⟨_, _, b⟩ := soilProfile_built h
  exact b.noCR rfl

end

/-! ## The built-in soils -/

/-- one layer of a built-in soil, values as rationals (`tau` is the value the implementation
computes: `round(0.0866·Ksat^0.35, 2)` clipped to [0,1] — `Ksat^0.35` is not algebraic). -/
structure BLayer where
  soil  : String
  layer : Nat
  dry   : ℚ
  wp    : ℚ
  fc    : ℚ
  s     : ℚ
  ksat  : ℚ
  tau   : ℚ

/-- the layers of the 15 built-in soils of `soil.py` (checked against the implementation by
`harness/tests/corr_soil_build.py`). -/
def builtinLayers : List BLayer := [
  ⟨"Clay", 1, 39/200, 39/100, 27/50, 11/20, 35, 3/10⟩,
  ⟨"ClayLoam", 1, 23/200, 23/100, 39/100, 1/2, 125, 47/100⟩,
  ⟨"Default", 1, 1/20, 1/10, 3/10, 1/2, 500, 19/25⟩,
  ⟨"Loam", 1, 3/40, 3/20, 31/100, 23/50, 500, 19/25⟩,
  ⟨"LoamySand", 1, 1/25, 2/25, 4/25, 19/50, 2200, 1⟩,
  ⟨"Sand", 1, 3/100, 3/50, 13/100, 9/25, 3000, 1⟩,
  ⟨"SandyClay", 1, 27/200, 27/100, 39/100, 1/2, 35, 3/10⟩,
  ⟨"SandyClayLoam", 1, 1/10, 1/5, 8/25, 47/100, 225, 29/50⟩,
  ⟨"SandyLoam", 1, 1/20, 1/10, 11/50, 41/100, 1200, 1⟩,
  ⟨"Silt", 1, 9/200, 9/100, 33/100, 43/100, 500, 19/25⟩,
  ⟨"SiltClayLoam", 1, 23/200, 23/100, 11/25, 13/25, 150, 1/2⟩,
  ⟨"SiltLoam", 1, 13/200, 13/100, 33/100, 23/50, 575, 4/5⟩,
  ⟨"SiltClay", 1, 4/25, 8/25, 1/2, 27/50, 100, 43/100⟩,
  ⟨"Paddy", 1, 4/25, 8/25, 1/2, 27/50, 15, 11/50⟩,
  ⟨"Paddy", 2, 39/200, 39/100, 27/50, 11/20, 2, 11/100⟩,
  ⟨"ac_TunisLocal", 1, 3/25, 6/25, 2/5, 1/2, 155, 51/100⟩,
  ⟨"ac_TunisLocal", 2, 11/200, 11/100, 33/100, 23/50, 500, 19/25⟩
]

def LayerOK (l : BLayer) : Prop :=
  0 < l.dry ∧ l.dry < l.wp ∧ l.wp < l.fc ∧ l.fc ≤ l.s ∧ l.s < 1 ∧ 0 ≤ l.tau ∧ l.tau ≤ 1 ∧
    0 < l.ksat ∧ l.dry = l.wp / 2

instance (l : BLayer) : Decidable (LayerOK l) := by unfold LayerOK; infer_instance

theorem hydraulic_order : ∀ l ∈ builtinLayers, LayerOK l := by
  decide +kernel

end Aqua
