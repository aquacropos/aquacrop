import AquaVerif.Proofs.RunLiftSum
import AquaVerif.Properties.C07
/-
Property C07 for the full run model: every run of `runModel` refines the clock model
(`full_model_refines_clock`), so the theorems of `Properties/C07.lean` hold of its records.
-/

namespace Aqua.C07
open Aqua.Clock Aqua.Calendar

variable {c : Cfg} {ev : Ev} {s : St}

/-! ### real runs refine the clock model -/

/-- **Run level.** Every run of the full model (`Model/Run.lean`: the actual day function
`fullDay` producing the maturity / death flags) is a run of the clock state machine for the
oracle induced by that day function — so every theorem of `Properties/C07.lean` (and of C09, and
the summary part of C06) holds for the full model, not only for the abstract clock.  Premises: a
well-formed clock (`WF`), the initial season flags cleared (`InitOK`). -/
theorem full_model_refines_clock {α : Type} [Field α] [LinearOrder α] [IsStrictOrderedRing α]
    {F : Fn α} {T : TrigFn α} {cfg : RunCfg α} {s : RunState α}
    (hw : WF cfg.clock) (hi : InitOK cfg) (hr : RunReach F T cfg s) :
    ∃ ev : Ev, Reach cfg.clock ev s.clockOf ∧ ∀ d ∈ s.daysRev, ev d.D.tsc = d.events :=
  run_refines_clock hw hi hr

/-- **Run level.** On every run of the full model a recorded growing-season day lies in a season,
on or after its planting date and strictly before its latest harvest date; and after a season's
summary row has been written no later recorded day of that season is a growing-season day
(`growing_season = False`, `dap = 0`, no irrigation, transpiration, canopy, biomass or yield).
Premises: a well-formed clock (`WF`), the initial season flags cleared (`InitOK`). -/
theorem full_model_no_growing_day_from_harvest_date {α : Type} [Field α] [LinearOrder α]
    [IsStrictOrderedRing α] {F : Fn α} {T : TrigFn α} {cfg : RunCfg α} {s : RunState α}
    (hw : WF cfg.clock) (hi : InitOK cfg) (hr : RunReach F T cfg s) :
    (∀ d ∈ s.daysRev, d.D.gs = true →
      0 ≤ d.D.season ∧ cfg.clock.pl d.D.season.toNat ≤ d.D.tsc ∧
        (d.D.tsc : Int) + 1 ≤ cfg.clock.hv d.D.season.toNat) ∧
    (∀ x ∈ s.summaryTable, ∀ d ∈ s.daysRev, d.D.season = x.season → x.tsc < d.D.tsc →
      FallowDay d) := by
  refine ⟨fun d hd hg => ?_, run_no_growing_day_after_harvest hw hi hr⟩
  obtain ⟨ev, hre, _⟩ := run_refines_clock hw hi hr
  exact gs_meaning hw hre (DayRec.clockRow d) (clockOf_rows_mem.mpr ⟨d, hd, rfl⟩) hg

end Aqua.C07
