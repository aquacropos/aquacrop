import AquaVerif.Proofs.CatalogueCrop
import AquaVerif.Proofs.CatalogueDerived
import AquaVerif.Proofs.CatalogueSoil

/-
Assembly and corollaries: the closed run-level theorems of `Proofs/RunClosed*.lean` apply to every *catalogue configuration*.

`CatCfg cfg` says of a `cfg : RunCfg ℝ`, and nothing else:
(i)   every season's crop and the fallow filler crop are records `c.cropParams K` of a crop `c` of
      the generated table `cropFullTable` other than SugarCane (`LeafyOK`), the initial profile
      and water content are what `soilProfile` / `initWC` return for layers satisfying `SpecOK`
      (in particular the layers of `builtinLayersGen`: `specOK_of_builtin`) (`SoilBuilt`);
(ii)  the initialisation outputs: `DerivedRunOK K` for every crop, and the scalar part of the
      state `_initialize` leaves is the one of `InitialCondition.__init__` /
      `read_model_initial_conditions` (`InitScalars`);
(iii) the clock is well-formed with seasons of at most `ageMax = 358` days, and the irrigation /
      field-management / soil-evaporation / CO2 parameters lie in the stated ranges.

`cfgOK_of_catalogue`, `cfgTrOK_of_catalogue`, `cfgRwOK_of_catalogue`, `cfgEsOK_of_catalogue`,
`weatherOK_of_catalogue` (the harvest-index threshold ordering of `WeatherOK` follows from the
catalogue for `ET0 > 0`), and the corollaries `catalogue_run_inv`, `catalogue_run_closes`,
`catalogue_run_flux`, `catalogue_run_crop_envelope` (+ `catalogue_run_no_table`: all four without
a water table, with no hypothesis about computed values at all).
-/

set_option linter.unusedSectionVars false
namespace Aqua
open Aqua.Generated Aqua.Response Aqua.HarvestIndexReal Aqua.Clock

/-! ## 1. what a catalogue configuration is -/

/-- a crop record built from a catalogue crop other than SugarCane and derived values satisfying
`DerivedRunOK` -/
def CatCrop (p : CropParams ℝ) : Prop :=
  ∃ c ∈ cropFullTable, CropFull.LeafyOK c ∧ ∃ K : CropDerived ℝ, DerivedRunOK K ∧ p = c.cropParams K

/-- the initial profile and the initial water content are what the profile builder and `initWC`
(`Layer` method) return: positive compartment thicknesses, layers satisfying `SpecOK`, every layer
named by a data point satisfying `PointSpecOK`; exact comparisons on whole centimetres -/
def SoilBuilt (wt : Bool) (cells : List (Cell ℝ)) (thini : List ℝ) : Prop :=
  ∃ (more : Nat → Bool) (fuel : Nat) (dz : List Nat) (specs : List (LayerSpec ℝ Nat))
    (adjRew calcCN : Bool) (rew zSurf cn zTopArg : ℝ) (so : SoilOut ℝ) (zgw zSoil : ℝ) (ty : WcType)
    (pts : List (WcPoint ℝ)) (o : InitOut ℝ),
    (∀ d ∈ dz, 0 < d) ∧ (∀ sp ∈ specs, SpecOK sp) ∧
    soilProfile realFn natGe1 natGe2 more fuel dz specs wt adjRew calcCN rew zSurf cn zTopArg
      = .ok so ∧
    initWC realFn so.comps wt zgw zSoil ty .layer pts = .ok o ∧
    (∀ c ∈ so.comps, ∃ p ∈ pts, p.lay = c.layer) ∧
    (∀ wp fc s : Nat → ℝ, LayerFn so.comps wp fc s → ∀ p ∈ pts, PointSpecOK so.comps wp fc s ty p) ∧
    cells = initCells so.comps o.th o.fcAdjInit ∧ thini = o.th

/-- the layers are layers of the generated table of built-in soils (any thickness) -/
def TableSpecs (specs : List (LayerSpec ℝ Nat)) : Prop :=
  ∀ sp ∈ specs, ∃ l ∈ builtinLayersGen, ∃ thickCm : Nat, sp = l.toSpec thickCm

theorem TableSpecs.specOK {specs : List (LayerSpec ℝ Nat)} (h : TableSpecs specs) :
    ∀ sp ∈ specs, SpecOK sp := by
  intro sp hsp
  obtain ⟨l, hl, t, rfl⟩ := h sp hsp
  exact specOK_of_builtin hl t

/-- **the scalar part of the state `_initialize` leaves** (`InitialCondition.__init__`, then
`read_model_initial_conditions`: `cc0_adj = CC0` or `0`, `HIfinal = HI0`, the surface storage) -/
structure InitScalars (cfg : RunCfg ℝ) : Prop where
  dap : cfg.init.dap = 0
  mature : cfg.init.cropMature = false
  dead : cfg.init.cropDead = false
  flag : cfg.init.harvestFlag = false
  cc : cfg.init.cc = 0
  ccNS : cfg.init.ccNS = 0
  ccAdj : cfg.init.ccAdj = 0
  ccAdjNS : cfg.init.ccAdjNS = 0
  ccxAct : cfg.init.ccxAct = 0
  ccxActNS : cfg.init.ccxActNS = 0
  ccxW : cfg.init.ccxW = 0
  cc0Adj : cfg.init.cc0Adj = 0 ∨
    cfg.init.cc0Adj = (cropOf cfg cfg.clock.season0).cx.cc.cc0
  trRatio : cfg.init.trRatio = 1
  rCor : cfg.init.rCor = 1
  fPre : cfg.init.fPre = 1
  fPost : cfg.init.fPost = 1
  fpostUpp : cfg.init.fpostUpp = 1
  fpostDwn : cfg.init.fpostDwn = 1
  sCor1 : cfg.init.sCor1 = 0
  sCor2 : cfg.init.sCor2 = 0
  hi : cfg.init.hi = 0
  hiAdj : cfg.init.hiAdj = 0
  hiFinal : 0 ≤ cfg.init.hiFinal
  biomass : cfg.init.biomass = 0
  biomassNS : cfg.init.biomassNS = 0
  ageDays : cfg.init.ageDays = 0
  delayedCds : cfg.init.delayedCds = 0
  pond : 0 ≤ cfg.init.pond

/-- **the parameter ranges** of irrigation, field management, soil evaporation and CO2 (all hold
for the program defaults of the repository: `Proofs/CatalogueDefaults.lean`) -/
structure CfgRanges (cfg : RunCfg ℝ) : Prop where
  smt : cfg.irr.irr.method = 4 → 0 ≤ cfg.irr.netIrrSMT ∧ cfg.irr.netIrrSMT ≤ 100
  smtF : cfg.fallowIrr.irr.method = 4 →
    0 ≤ cfg.fallowIrr.netIrrSMT ∧ cfg.fallowIrr.netIrrSMT ≤ 100
  bundWater : 0 ≤ cfg.bundWater
  co2Ref : cfg.W0.co2Ref < 550
  /-- the CO2 factor of the crop coefficient stays non-negative:
  `(cur − ref)/(550 − ref) ≤ 20` (for `ref = 369.41`: `cur ≤ 3981.21` ppm) -/
  co2Cur : ∀ season : Int, cfg.co2Cur season ≤ cfg.W0.co2Ref + 20 * (550 - cfg.W0.co2Ref)
  kex : 0 ≤ cfg.W0.soil.kex
  fwcc0 : 0 ≤ cfg.W0.soil.fwcc
  fwcc1 : cfg.W0.soil.fwcc ≤ 100
  mulch : cfg.fm.mulches = true → cfg.fm.fMulch * (cfg.fm.mulchPct / 100) ≤ 1
  mulchF : cfg.fallowFm.mulches = true → cfg.fallowFm.fMulch * (cfg.fallowFm.mulchPct / 100) ≤ 1
  wet : cfg.irr.irr.method ≠ 4 → 0 ≤ cfg.irr.wetSurf
  wetF : cfg.fallowIrr.irr.method ≠ 4 → 0 ≤ cfg.fallowIrr.wetSurf

structure CatCfg (cfg : RunCfg ℝ) : Prop where
  -- (i) membership in the generated tables
  crops : ∀ k, CatCrop (cfg.seasonCrop k)
  fallow : CatCrop cfg.fallowCrop
  soil : SoilBuilt (decide (cfg.W0.waterTable = 1)) cfg.init.cells cfg.thini
  -- (ii) the initialisation outputs (beside `DerivedRunOK` inside `CatCrop`)
  init : InitScalars cfg
  -- (iii) clock and parameter ranges
  clock : WF cfg.clock
  /-- a season lasts at most `ageMax = 358` days -/
  seasonLen : ∀ k : Nat, cfg.clock.hv k - (cfg.clock.pl k : Int) + 1 ≤ 358
  ranges : CfgRanges cfg

/-! ## 2. the crops of a catalogue configuration -/

section crops
variable {cfg : RunCfg ℝ}

theorem CatCrop.cropOK {p : CropParams ℝ} (h : CatCrop p) : CropOK realFn realTrig p := by
  obtain ⟨c, hc, hl, K, hK, rfl⟩ := h
  exact cropOK_of_catalogue (catalogue_ok c hc) (catalogue_runOK c hc) hl hK.ok

theorem CatCrop.trCropOK {p : CropParams ℝ} (h : CatCrop p) :
    TrCropOK realFn p ((ageMax : ℚ) : ℝ) := by
  obtain ⟨c, hc, hl, K, hK, rfl⟩ := h
  exact trCropOK_of_catalogue (catalogue_ok c hc) (catalogue_runOK c hc)

theorem CatCrop.devEnd {p : CropParams ℝ} (h : CatCrop p) :
    p.cx.cc.canopyDevEnd ≤ p.cx.cc.senescence := by
  obtain ⟨c, hc, hl, K, hK, rfl⟩ := h
  exact hK.devEnd_le_senescence

theorem CatCrop.maxCanopyCD {p : CropParams ℝ} (h : CatCrop p) : 0 ≤ p.cw.tr.maxCanopyCD := by
  obtain ⟨c, hc, hl, K, hK, rfl⟩ := h
  exact hK.maxCanopyCD_nonneg

theorem CatCrop.hiOrd {p : CropParams ℝ} (h : CatCrop p) {et0 : ℝ} (het : 0 ≤ et0) (tes : ℝ)
    (i : Fin 4) :
    wsUp realFn p.cx.hik.pUp p.cx.hik.etAdj p.cx.hik.beta tes et0 true i ≤
      wsLo realFn p.cx.hik.pLo p.cx.hik.etAdj et0 i := by
  obtain ⟨c, hc, hl, K, hK, rfl⟩ := h
  exact hiPre_ord_real (catalogue_ok c hc) het tes i

theorem CatCfg.cropOf_cases (h : CatCfg cfg) (season : Int) :
    (CatCrop (cropOf cfg season)) ∨
      (∃ p, CatCrop p ∧ cropOf cfg season = fallowAdjust p) := by
  unfold cropOf
  split_ifs
  · exact Or.inl (h.crops _)
  · exact Or.inr ⟨_, h.fallow, rfl⟩

theorem CatCfg.cropOK (h : CatCfg cfg) (season : Int) :
    CropOK realFn realTrig (cropOf cfg season) := by
  rcases h.cropOf_cases season with hc | ⟨p, hp, e⟩
  · exact hc.cropOK
  · obtain ⟨c, hc, hl, K, hK, rfl⟩ := hp
    rw [e]
    exact cropOK_fallow_of_catalogue (catalogue_ok c hc) (catalogue_runOK c hc) hl hK.ok

theorem CatCfg.trCropOK (h : CatCfg cfg) (season : Int) :
    TrCropOK realFn (cropOf cfg season) ((ageMax : ℚ) : ℝ) := by
  rcases h.cropOf_cases season with hc | ⟨p, hp, e⟩
  · exact hc.trCropOK
  · rw [e]; exact trCropOK_fallowAdjust hp.trCropOK

theorem CatCfg.devEnd (h : CatCfg cfg) (season : Int) :
    (cropOf cfg season).cx.cc.canopyDevEnd ≤ (cropOf cfg season).cx.cc.senescence := by
  rcases h.cropOf_cases season with hc | ⟨p, hp, e⟩
  · exact hc.devEnd
  · rw [e]; exact hp.devEnd

theorem CatCfg.hiOrd (h : CatCfg cfg) (season : Int) {et0 : ℝ} (het : 0 ≤ et0) (tes : ℝ)
    (i : Fin 4) :
    wsUp realFn (cropOf cfg season).cx.hik.pUp (cropOf cfg season).cx.hik.etAdj
        (cropOf cfg season).cx.hik.beta tes et0 true i ≤
      wsLo realFn (cropOf cfg season).cx.hik.pLo (cropOf cfg season).cx.hik.etAdj et0 i := by
  rcases h.cropOf_cases season with hc | ⟨p, hp, e⟩
  · exact hc.hiOrd het tes i
  · rw [e]; exact hp.hiOrd het tes i

end crops

/-- Barley and PaddyRice are excluded for `CanopyDevEnd > Senescence` (`DevEndOK`), SugarCane as
leafy with `dHI0 < 0` (`LeafyOK`) -/
theorem catCrop_of_CD {c : CropFull} (hc : c ∈ cropFullTable) (hct : c.calendarType = 1)
    (hn : c.name ∉ ["Barley", "PaddyRice", "SugarCane"]) {cur : ℝ} (hcur : 0 ≤ cur) (fe : ℝ)
    (np : Bool) :
    ∃ (o : CalCDOut ℝ) (g t d f : ℝ),
      calendarInitCD realFn (c.calCDIn fe) = .ok o ∧
      hiBlock realFn higcFuel c.cropType c.yldFormCD.num (c.hi0 : ℝ) (c.hiIni : ℝ) = .ok (g, t, d) ∧
      fco2Init realFn cur 369.41 (c.bsted : ℝ) (c.bface : ℝ) (c.fsink : ℝ) (c.wp : ℝ) = some f ∧
      CatCrop (c.cropParams (c.derivedCD o g t d f np)) := by
  simp only [List.mem_cons, List.not_mem_nil, or_false, not_or] at hn
  obtain ⟨n1, n2, n3⟩ := hn
  have hde : CropFull.DevEndOK c := catalogue_CD_devEndOK c hc hct (by
    simp only [List.mem_cons, List.not_mem_nil, or_false, not_or]; exact ⟨n1, n2⟩)
  have hl : CropFull.LeafyOK c := (catalogue_exceptions c hc).1.mpr (by
    simp only [List.mem_cons, List.not_mem_nil, or_false]; exact n3)
  obtain ⟨o, g, t, d, f, ho, hb, hf, hK⟩ := exists_derivedRunOK_CD_real hc hde hct hcur fe np
  exact ⟨o, g, t, d, f, ho, hb, hf, c, hc, hl, _, hK, rfl⟩

/-! ## 3. the soil of a catalogue configuration -/

theorem SoilBuilt.ok {wt : Bool} {cells : List (Cell ℝ)} {thini : List ℝ}
    (h : SoilBuilt wt cells thini) : SoilInitOK cells thini := by
  obtain ⟨more, fuel, dz, specs, adjRew, calcCN, rew, zSurf, cn, zTopArg, so, zgw, zSoil, ty, pts, o,
    hdz, hsp, hs, hi, hnamed, hpts, rfl, rfl⟩ := h
  obtain ⟨lay, hlay, b⟩ := soilProfile_built hs
  have hC := b.compsOK natGe1_anti natGe2_anti hlay hdz hsp
  obtain ⟨hth, hfc⟩ := initWC_layer_bounds wt zgw zSoil ty pts o hC
    (fun _ => ⟨fun _ => rfl, powSqLaw_real⟩) hnamed hpts hi
  exact initCells_ok hC hth hfc

/-! ## 4. the initial state -/

theorem initScalars_cropInv {cfg : RunCfg ℝ} (hI : InitScalars cfg) (P : DayParams ℝ)
    (hP : P.cx = (cropOf cfg cfg.clock.season0).cx)
    (hc : ResetCropOK (cropOf cfg cfg.clock.season0)) : CropInv realFn P cfg.init := by
  obtain ⟨W, fm, z, cx⟩ := P
  simp only at hP
  subst hP
  refine ⟨⟨?_, ?_, ?_, ?_, ?_, ?_, ?_, ?_, ?_⟩, ⟨?_, ?_, ?_⟩, ⟨?_, ?_, ?_, ?_, ?_, ?_, ?_, ?_, ?_, ?_⟩,
    ⟨?_, ?_⟩⟩
  · rw [hI.cc]
  · rw [hI.cc, hI.ccNS]
  · rw [hI.ccNS]; exact hc.ccx
  · rcases hI.cc0Adj with e | e <;> rw [e]
    exact hc.cc0
  · rcases hI.cc0Adj with e | e <;> rw [e]
    exact hc.cc0
  · rw [hI.ccxAct]; exact hc.ccx
  · rw [hI.ccxActNS]; exact hc.ccx
  · rw [hI.ccAdj]; exact zero_le_one
  · rw [hI.ccAdjNS]; exact zero_le_one
  · rw [hI.trRatio]; exact zero_le_one
  · rw [hI.trRatio]
  · intro h; exact absurd hI.dap h
  · rw [hI.fPre]; exact zero_le_one
  · rw [hI.fPost]; exact zero_le_one
  · rw [hI.sCor1]
  · rw [hI.sCor2]
  · rw [hI.fpostUpp]; exact zero_le_one
  · rw [hI.fpostDwn]; exact zero_le_one
  · rw [hI.hi]; exact hc.hi0
  · rw [hI.hiAdj, hI.hi, mul_zero]
  · exact hI.hiFinal
  · intro q _ hq
    rw [hI.hi]
    exact hiref_nonneg realFn _ q true hc.hi0 hc.hiIni (le_trans hI.hiFinal hq)
  · rw [hI.biomass]
  · rw [hI.biomass, hI.biomassNS]

/-! ## 5. assembly -/

section assembly
variable {cfg : RunCfg ℝ}

theorem cfgOK_of_catalogue (h : CatCfg cfg) : CfgOK realFn realTrig cfg := by
  have hS := h.soil.ok
  exact
    { fn := ⟨expOrdLaws_real, powLaws_real, powNonneg_real, powSqLaw_real, sinLaw_real⟩
      gw := fun _ => ⟨⟨fun x => by
        show |x - x| ≤ 1 / 20000
        rw [sub_self, abs_zero]; norm_num⟩, ⟨fun x h => h⟩⟩
      cells0 := hS.cells0
      geom := hS.geom
      aer0 := hS.aer0
      pen := hS.pen
      layers := fun _ => hS.layers
      pond0 := h.init.pond
      thini := hS.thini
      smt := h.ranges.smt
      smtF := h.ranges.smtF
      bundWater := h.ranges.bundWater
      crop := h.cropOK
      season0 := by
        rw [h.clock.2.2.2.2.2]
        split_ifs <;> decide
      init := initScalars_cropInv h.init _ rfl (h.cropOK _).reset
      rCor0 := by rw [h.init.rCor]; exact zero_le_one }

theorem weatherOK_of_catalogue (h : CatCfg cfg) (het : ∀ t, 0 < (cfg.weather t).et0) :
    WeatherOK realFn cfg :=
  { et0 := het
    hiOrd := fun t season tes i => h.hiOrd season (het t).le tes i }

theorem cfgTrOK_of_catalogue (h : CatCfg cfg) : CfgTrOK realFn cfg ((ageMax : ℚ) : ℝ) := by
  have hI := h.init
  exact
    { wf := h.clock
      initOK := ⟨hI.dap, hI.mature, hI.dead, hI.flag⟩
      crop := h.trCropOK
      age := fun k dap hd => by
        have h1 := h.seasonLen k
        have h2 : (dap : Int) ≤ 358 := le_trans hd h1
        have h3 : ((natNum dap : ℝ)) ≤ 358 := by
          rw [natNum_eq_cast]; exact_mod_cast h2
        have h4 := (h.crops k).maxCanopyCD
        rw [ageMax_cast (α := ℝ)]
        linarith
      co2 := fun season hlt => by
        have h1 := h.ranges.co2Cur season
        have hW : 0 < 550 - cfg.W0.co2Ref := by linarith [h.ranges.co2Ref]
        have : (cfg.co2Cur season - cfg.W0.co2Ref) / (550 - cfg.W0.co2Ref) ≤ 20 := by
          rw [div_le_iff₀ hW]; linarith
        linarith
      A0 := by rw [ageMax_cast (α := ℝ)]; norm_num
      ageDays0 := by rw [hI.ageDays, ageMax_cast (α := ℝ)]; norm_num
      delayed0 := by rw [hI.delayedCds]
      ccxW0 := by rw [hI.ccxW]
      ccxW1 := by rw [hI.ccxW]; exact (h.cropOK _).ccx0 }

theorem cfgRwOK_of_catalogue (h : CatCfg cfg) : CfgRwOK realFn cfg :=
  { devEnd := h.devEnd
    init := Or.inl (by rw [h.init.cc]) }

theorem cfgEsOK_of_catalogue (h : CatCfg cfg) : CfgEsOK cfg :=
  ⟨h.ranges.kex, h.ranges.fwcc0, h.ranges.fwcc1, h.ranges.mulch, h.ranges.mulchF, h.ranges.wet, h.ranges.wetF⟩

end assembly

/-! ## 6. the corollaries -/

section corollaries
variable {cfg : RunCfg ℝ} {s : RunState ℝ}

/-- **C03 along every run of a catalogue configuration**: in every reachable state the
compartments are those of the initial profile, each within its limits with consistent adjusted
field capacity, the ponding depth non-negative; every simulated day started from and ended in such
a state.  Hypotheses: the configuration is a catalogue configuration; with a water table,
capillary rise did not overshoot saturation on the simulated days (`ResidualW`). -/
theorem catalogue_run_inv (h : CatCfg cfg) (hr : RunReach realFn realTrig cfg s)
    (hR : ∀ d ∈ s.daysRev, ResidualW d) :
    WaterInv cfg s ∧ ∀ d ∈ s.daysRev, DayPre realFn d.P.W d.st.cells d.st.water ∧
      (∀ y ∈ d.r.state.cells, y.Inv) ∧ 0 ≤ d.r.state.pond :=
  run_inv_closed (cfgOK_of_catalogue h) hr hR

/-- **C01 along every run of a catalogue configuration**: the daily soil-water balance closes on
every simulated day -/
theorem catalogue_run_closes (h : CatCfg cfg) (hr : RunReach realFn realTrig cfg s)
    (hR : ∀ d ∈ s.daysRev, ResidualW d) :
    ∀ d ∈ s.daysRev,
      storage d.r.state.cells + d.r.state.pond =
        storage d.st.cells + d.st.pond + d.r.flux.infl + d.r.water.preIrr + d.r.water.irrNet
          + d.r.water.crAdded + d.r.flux.gwIn - d.r.flux.deepPerc - d.r.flux.es - d.r.flux.tr :=
  run_closes_closed (cfgOK_of_catalogue h) hr hR

/-- **C04 and the bund part of C03 along every run of a catalogue configuration** with positive
reference evapotranspiration: `0 ≤ Es ≤ EsPot`, `0 ≤ Tr ≤ TrPot`, deep percolation, capillary
rise, groundwater inflow and irrigation non-negative, ponding between 0 and the bund height -/
theorem catalogue_run_flux (h : CatCfg cfg) (het : ∀ t, 0 < (cfg.weather t).et0)
    (hr : RunReach realFn realTrig cfg s) (hR : ∀ d ∈ s.daysRev, ResidualW d) :
    ∀ d ∈ s.daysRev,
      (0 ≤ d.r.flux.esPot ∧ 0 ≤ d.r.flux.es ∧ d.r.flux.es ≤ d.r.flux.esPot) ∧
      (0 ≤ d.r.flux.trPot ∧ 0 ≤ d.r.flux.tr ∧ d.r.flux.tr ≤ d.r.flux.trPot) ∧
      (0 ≤ d.r.flux.deepPerc ∧ 0 ≤ d.r.flux.cr ∧ 0 ≤ d.r.flux.gwIn ∧ 0 ≤ d.r.water.irr ∧
        (d.P.W.irr.method ≠ 4 → 0 ≤ d.r.flux.irrDay)) ∧
      (0 ≤ d.r.state.pond ∧
        (d.P.fm.bunds = false ∨ d.P.fm.zBund ≤ 0.001 → d.r.state.pond = 0) ∧
        (d.P.fm.bunds = true → d.st.pond ≤ d.P.fm.zBund → d.r.state.pond ≤ d.P.fm.zBund)) :=
  run_flux_closed (cfgOK_of_catalogue h) (cfgTrOK_of_catalogue h) (cfgRwOK_of_catalogue h)
    (cfgEsOK_of_catalogue h) (weatherOK_of_catalogue h het) hr hR

/-- **C05 along every run of a catalogue configuration**: the crop envelope (`CropEnv`: canopy
cover within `[0, CCx]`, rooting depth within `[Zmin, Zmax]`, harvest index below the reference
index and `HI0`, non-negative biomass) in every reachable state and at both ends of every
simulated day, `ccx_act ≤ CCx`, `0 ≤ TrPot`; within a season harvest index and biomass never
decrease and `0 ≤ Tr ≤ TrPot` -/
theorem catalogue_run_crop_envelope (h : CatCfg cfg) (het : ∀ t, 0 < (cfg.weather t).et0)
    (hr : RunReach realFn realTrig cfg s) (hR : ∀ d ∈ s.daysRev, ResidualW d) :
    (-1 ≤ s.season ∧ CropEnv realFn (paramsOf cfg s.season false) s.day ∧
        RunInvT cfg ((ageMax : ℚ) : ℝ) s ∧ RunInvJ realFn cfg s) ∧
      ∀ d ∈ s.daysRev, DayCropFacts realFn d :=
  run_crop_closed (cfgOK_of_catalogue h) (cfgTrOK_of_catalogue h) (cfgRwOK_of_catalogue h)
    (weatherOK_of_catalogue h het) hr hR

/-- **all four, without a water table: no hypothesis about computed values at all** -/
theorem catalogue_run_no_table (h : CatCfg cfg) (het : ∀ t, 0 < (cfg.weather t).et0)
    (hwt : cfg.W0.waterTable ≠ 1) (hr : RunReach realFn realTrig cfg s) :
    (WaterInv cfg s ∧ CropEnv realFn (paramsOf cfg s.season false) s.day) ∧
    ∀ d ∈ s.daysRev,
      ((∀ y ∈ d.r.state.cells, y.Inv) ∧ 0 ≤ d.r.state.pond) ∧
      storage d.r.state.cells + d.r.state.pond =
        storage d.st.cells + d.st.pond + d.r.flux.infl + d.r.water.preIrr + d.r.water.irrNet
          + d.r.water.crAdded + d.r.flux.gwIn - d.r.flux.deepPerc - d.r.flux.es - d.r.flux.tr ∧
      (0 ≤ d.r.flux.esPot ∧ 0 ≤ d.r.flux.es ∧ d.r.flux.es ≤ d.r.flux.esPot) ∧
      (0 ≤ d.r.flux.trPot ∧ 0 ≤ d.r.flux.tr ∧ d.r.flux.tr ≤ d.r.flux.trPot) ∧
      (0 ≤ d.r.flux.deepPerc ∧ 0 ≤ d.r.flux.cr ∧ 0 ≤ d.r.flux.gwIn ∧ 0 ≤ d.r.water.irr) ∧
      CropEnv realFn d.P d.st ∧ CropEnv realFn d.P d.r.state ∧ d.r.state.ccxAct ≤ d.P.cx.cc.ccx := by
  have hR := run_residualW_of_no_table hwt hr
  obtain ⟨hw, hdays⟩ := catalogue_run_inv h hr hR
  have hcl := catalogue_run_closes h hr hR
  have hfl := catalogue_run_flux h het hr hR
  obtain ⟨⟨_, henv, _⟩, hcr⟩ := catalogue_run_crop_envelope h het hr hR
  refine ⟨⟨hw, henv⟩, fun d hd => ?_⟩
  obtain ⟨_, a2, a3⟩ := hdays d hd
  obtain ⟨b1, b2, ⟨b3, b4, b5, b6, _⟩, _⟩ := hfl d hd
  have hc := hcr d hd
  exact ⟨⟨a2, a3⟩, hcl d hd, b1, b2, ⟨b3, b4, b5, b6⟩, hc.env, hc.envOut, hc.ccx⟩

end corollaries

end Aqua

section AxiomAudit
open Aqua
#print axioms catCrop_of_CD
#print axioms cfgOK_of_catalogue
#print axioms weatherOK_of_catalogue
#print axioms cfgTrOK_of_catalogue
#print axioms cfgRwOK_of_catalogue
#print axioms cfgEsOK_of_catalogue
#print axioms catalogue_run_inv
#print axioms catalogue_run_closes
#print axioms catalogue_run_flux
#print axioms catalogue_run_crop_envelope
#print axioms catalogue_run_no_table
end AxiomAudit
