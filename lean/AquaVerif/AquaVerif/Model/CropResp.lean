/-
Record of the crop parameters the *response functions* (property C17) read, as exact rationals,
and the decidable predicate `ResponseOK` collecting the premises of the C17 theorems.

This file is the interface for the table translator: `AquaVerif/Generated/CropTable.lean`
(generated from `aquacrop/entities/crops/crop_params.py` + the defaults of `entities/crop.py`)
is expected to define `cropTable : List CropResp`, and the obligation
`∀ c ∈ cropTable, ResponseOK c` is then closed by `decide +kernel`.

Values are the ones in force when the response functions are called:
`cgc`/`cdc` are the coefficients of the calendar mode the crop runs in (`CGC_CD`/`CDC_CD` for
calendar-day crops, `CGC`/`CDC` for GDD crops), `cc0 = PlantPop · SeedSize · 1e-8`.

Core Lean only (`Rat` is in core).
-/

namespace Aqua

/-- response-function parameters of one crop -/
structure CropResp where
  name : String
  /-- `p_up1..4` (expansion, stomata, senescence, pollination) -/
  pUp : Fin 4 → Rat
  /-- `p_lo1..4` -/
  pLo : Fin 4 → Rat
  /-- `fshape_w1..4` (the fourth is unused by `water_stress`) -/
  fshapeW : Fin 4 → Rat
  /-- `Tbase`, `Tupp` -/
  tbase : Rat
  tupp : Rat
  /-- `CC0`, `CCx`, `CGC`, `CDC` -/
  cc0 : Rat
  ccx : Rat
  cgc : Rat
  cdc : Rat
  /-- `beta` (early-senescence reduction of `p_up3`, %) -/
  beta : Rat
  /-- `fshape_b` (shape factor of the pollination temperature stress curves) -/
  fshapeB : Rat
  /-- `bsted`, `bface`, `fsink` (CO2 adjustment of the water productivity) -/
  bsted : Rat
  bface : Rat
  fsink : Rat

/-- a four-entry table `i ↦ a,b,c,d` -/
def vec4 (a b c d : Rat) : Fin 4 → Rat := fun i =>
  match i with
  | 0 => a
  | 1 => b
  | 2 => c
  | 3 => d

/-- the repository's reference CO2 concentration `CO2.ref_concentration` -/
def co2RefDefault : Rat := 369.41

/-- the premises of the C17 theorems on the raw parameters of a crop:
thresholds ordered `p_up i ≤ p_lo i ≤ 1`; the three exponential shape factors non-zero;
`Tbase ≤ Tupp`; `0 < CC0`, `0 < CCx ≤ 1`, `0 < CGC`, `0 ≤ CDC`; `0 ≤ beta ≤ 100`;
`0 ≤ fshape_b`; the CO2 premise (`CO2Params` of `Proofs/ResponseMono.lean`) at the reference
concentration 369.41 ppm: `0 ≤ bsted ≤ g` and `ref·g + 550·(g − bsted) < 1` for the
FACE-weighted coefficient `g = bsted·fsink + bface·(1 − fsink)`. -/
def ResponseOK (c : CropResp) : Prop :=
  (∀ i : Fin 4, c.pUp i ≤ c.pLo i) ∧ (∀ i : Fin 4, c.pLo i ≤ 1) ∧
  (∀ i : Fin 4, i.val < 3 → c.fshapeW i ≠ 0) ∧
  c.tbase ≤ c.tupp ∧
  0 < c.cc0 ∧ 0 < c.ccx ∧ c.ccx ≤ 1 ∧ 0 < c.cgc ∧ 0 ≤ c.cdc ∧
  0 ≤ c.beta ∧ c.beta ≤ 100 ∧
  0 ≤ c.fshapeB ∧
  (0 < co2RefDefault ∧ co2RefDefault < 550 ∧ 0 ≤ c.bsted ∧
    c.bsted ≤ c.bsted * c.fsink + c.bface * (1 - c.fsink) ∧
    co2RefDefault * (c.bsted * c.fsink + c.bface * (1 - c.fsink)) +
      550 * (c.bsted * c.fsink + c.bface * (1 - c.fsink) - c.bsted) < 1)

instance (c : CropResp) : Decidable (ResponseOK c) := by unfold ResponseOK; infer_instance

/-! Three catalogue entries (numbers from `crop_params.py`; `beta`, `fshape_b`, `bsted`, `bface`
are the defaults of `entities/crop.py`; calendar-day crops, so `cgc = CGC_CD`, `cdc = CDC_CD`). -/

def wheatResp : CropResp :=
  { name := "Wheat", pUp := vec4 0.2 0.65 0.7 0.85, pLo := vec4 0.65 1 1 1,
    fshapeW := vec4 5 2.5 2.5 1, tbase := 0, tupp := 26,
    cc0 := 4500000 * 1.5 / 100000000, ccx := 0.96, cgc := 0.04901, cdc := 0.07179,
    beta := 12, fshapeB := 13.8135, bsted := 0.000138, bface := 0.001165, fsink := 0.5 }

def maizeResp : CropResp :=
  { name := "Maize", pUp := vec4 0.14 0.69 0.69 0.8, pLo := vec4 0.72 1 1 1,
    fshapeW := vec4 2.9 6 2.7 1, tbase := 8, tupp := 30,
    cc0 := 75000 * 6.5 / 100000000, ccx := 0.96, cgc := 0.16312, cdc := 0.11691,
    beta := 12, fshapeB := 13.8135, bsted := 0.000138, bface := 0.001165, fsink := 0.5 }

def cottonResp : CropResp :=
  { name := "Cotton", pUp := vec4 0.2 0.75 0.75 0.85, pLo := vec4 0.7 1 1 1,
    fshapeW := vec4 3 2.5 2.5 1, tbase := 12, tupp := 35,
    cc0 := 120000 * 6 / 100000000, ccx := 0.98, cgc := 0.07611, cdc := 0.02917,
    beta := 12, fshapeB := 13.8135, bsted := 0.000138, bface := 0.001165, fsink := 0.5 }

end Aqua
