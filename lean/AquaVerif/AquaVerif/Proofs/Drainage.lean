import AquaVerif.Model.Drainage
import AquaVerif.Proofs.Sweep
/-
Lemmas about the model of `drainage` (`Model/Drainage.lean`) at an arbitrary linearly ordered
field: water balance and frame, signs and bounds under `DrainPre`, and `FluxOut ≤ Ksat` for every
compartment afterwards (`drainage_flux_le_ksat`).  `fillCell` and the `pushUpAbove_*` lemmas also serve
`Proofs/Infiltration.lean`, whose storing step and backing-up loop are the same computations.
-/

set_option linter.unusedSectionVars false
namespace Aqua
variable {α : Type} [Field α] [LinearOrder α] [IsStrictOrderedRing α]

/-! ## 1. One compartment: the arms of `drainStep` and its water balance
(no law of `exp`/`log` is used) -/

theorem water_add_div {dz : α} (hdz : dz ≠ 0) (th e : α) :
    1000 * (th + e / (1000 * dz)) * dz = 1000 * th * dz + e := by
  field_simp

theorem capK_water (k thn ds ex dz : α) (br : Nat) :
    1000 * (capK k thn ds ex br).th * dz + (capK k thn ds ex br).ds + (capK k thn ds ex br).ex
      = 1000 * thn * dz + ds + ex := by
  exact ite_ind (fun s : DrainStep α => 1000 * s.th * dz + s.ds + s.ex = 1000 * thn * dz + ds + ex)
    (fun _ => by ring) fun _ => rfl

theorem drainFromNew_water (F : Fn α) (c : Comp α) (thn fcAdj : α) (br : Nat) :
    1000 * (drainFromNew F c thn fcAdj br).th * c.dz + (drainFromNew F c thn fcAdj br).ds
      + (drainFromNew F c thn fcAdj br).ex = 1000 * thn * c.dz := by
  unfold drainFromNew; simp only []; rw [capK_water]; ring

theorem thXOf_ge (F : Fn α) (c : Comp α) (fcAdj d : α) (h : fcAdj ≤ c.thS) :
    fcAdj ≤ thXOf F c fcAdj d := by
  unfold thXOf
  extract_lets a t
  by_cases h1 : d ≤ 0
  · rw [if_pos h1]
  rw [if_neg h1]
  by_cases h2 : 0 < c.tau
  · rw [if_pos h2]
    by_cases h3 : t < fcAdj
    · rw [if_pos h3]
    · rw [if_neg h3]; exact not_lt.mp h3
  · rw [if_neg h2]
    exact h.trans (le_add_of_nonneg_right (by norm_num))

/-- The arms of `drainStep` that exist in a linear order, in terms of `thn`, the water content the
cell would have with all of `ds` stored in it.  Arms 30/50 and 40/60 of the model differ only in the
ghost branch id; arms 80/90 are reached only when a comparison fails both ways (NaN), which a linear
order excludes, so they do not appear. -/
theorem drainStep_cases (F : Fn α) (x : Cell α) (ds thn : α)
    (hthn : thn = x.th + ds / (1000 * x.c.dz)) :
    (∃ d, d = dthdtOf F x.c x.th x.fcAdj ∧
      drainStep F x ds = capK x.c.ksat (x.th - d) (ds + d * x.c.dz * 1000) 0 10) ∨
    (∃ thX d, d = dthdtOf F x.c thX x.fcAdj ∧ (x.fcAdj ≤ x.c.thS → x.fcAdj ≤ thX) ∧
      thX ≤ x.c.thS ∧ thX < thn ∧
      drainStep F x ds =
        capK x.c.ksat (thX - d) ((thn - thX) * 1000 * x.c.dz + d * 1000 * x.c.dz) 0 20) ∨
    (∃ br, x.fcAdj < thn ∧ thn ≤ x.c.thS ∧ drainStep F x ds = drainFromNew F x.c thn x.fcAdj br) ∨
    (∃ br, thn ≤ x.fcAdj ∧ drainStep F x ds = ⟨thn, 0, 0, br⟩) ∨
    (∃ d m, d = dthdtOf F x.c thn x.fcAdj ∧
      m = min (d * 1000 * (x.c.dzsum - x.c.dz)) ((thn - x.c.thS) * 1000 * x.c.dz) ∧ x.c.thS < thn ∧
      drainStep F x ds = capK x.c.ksat (x.c.thS - d) (d * 1000 * x.c.dz + m)
        ((thn - x.c.thS) * 1000 * x.c.dz - m) 70) := by
  subst hthn
  generalize hs : drainStep F x ds = s
  unfold drainStep at hs
  extract_lets c prethick dthdt draincomp drainmax dthdt2 thX thn at hs
  by_cases h1 : ds ≤ drainmax
  · rw [if_pos h1] at hs
    exact Or.inl ⟨_, rfl, hs.symm⟩
  rw [if_neg h1] at hs
  by_cases h2 : thX ≤ c.thS
  · rw [if_pos h2] at hs
    by_cases h3 : thX < thn
    · rw [if_pos h3] at hs
      exact Or.inr (Or.inl ⟨_, _, rfl, thXOf_ge F x.c x.fcAdj _, h2, h3, hs.symm⟩)
    rw [if_neg h3] at hs
    by_cases h4 : x.fcAdj < thn
    · rw [if_pos h4] at hs
      exact Or.inr (Or.inr (Or.inl ⟨30, h4, (not_lt.mp h3).trans h2, hs.symm⟩))
    · rw [if_neg h4] at hs
      exact Or.inr (Or.inr (Or.inr (Or.inl ⟨40, not_lt.mp h4, hs.symm⟩)))
  rw [if_neg h2, if_pos (not_le.mp h2)] at hs
  by_cases h6 : thn ≤ c.thS
  · rw [if_pos h6] at hs
    by_cases h7 : x.fcAdj < thn
    · rw [if_pos h7] at hs
      exact Or.inr (Or.inr (Or.inl ⟨50, h7, h6, hs.symm⟩))
    · rw [if_neg h7] at hs
      exact Or.inr (Or.inr (Or.inr (Or.inl ⟨60, not_lt.mp h7, hs.symm⟩)))
  rw [if_neg h6, if_pos (not_le.mp h6)] at hs
  exact Or.inr (Or.inr (Or.inr (Or.inr ⟨_, pmin _ _, rfl, pmin_eq _ _, not_le.mp h6, hs.symm⟩)))

theorem drainStep_balance (F : Fn α) (x : Cell α) (ds : α) (hdz : x.c.dz ≠ 0) :
    1000 * (drainStep F x ds).th * x.c.dz + (drainStep F x ds).ds + (drainStep F x ds).ex
      = 1000 * x.th * x.c.dz + ds := by
  have hw := water_add_div hdz x.th ds
  rcases drainStep_cases F x ds _ rfl with ⟨d, -, e⟩ | ⟨thX, d, -, -, -, -, e⟩ | ⟨br, -, -, e⟩ |
    ⟨br, -, e⟩ | ⟨d, m, -, -, -, e⟩
  · rw [e, capK_water]; ring
  · rw [e, capK_water]; linear_combination hw
  · rw [e, drainFromNew_water]; exact hw
  · rw [e]; linear_combination hw
  · rw [e, capK_water]; linear_combination hw

/-! ## 2. The push-up loops -/

/-- Filling a cell of water content `th` and thickness `dz` with `e` mm up to the water content
`cap`: the new water content and the part of `e` that does not fit.  One cell of the push-up loops
(`cap = th_s`); the storing step of `infiltration` (`cap = theta0`). -/
def fillCell (cap th dz e : α) : α × α :=
  if cap < th + e / (1000 * dz) then (cap, (th + e / (1000 * dz) - cap) * 1000 * dz)
  else (th + e / (1000 * dz), 0)

theorem fillCell_water (cap th e : α) {dz : α} (hdz : dz ≠ 0) :
    1000 * (fillCell cap th dz e).1 * dz + (fillCell cap th dz e).2 = 1000 * th * dz + e := by
  have hw := water_add_div hdz th e
  exact ite_ind (fun p : α × α => 1000 * p.1 * dz + p.2 = 1000 * th * dz + e)
    (fun _ => by linear_combination hw) fun _ => by linear_combination hw

theorem fillCell_le_cap (cap th dz e : α) : (fillCell cap th dz e).1 ≤ cap :=
  ite_ind (fun p : α × α => p.1 ≤ cap) (fun _ => le_refl _) not_lt.mp

theorem fillCell_ge {cap th dz e : α} (hdz : 0 < dz) (he : 0 ≤ e) (h : th ≤ cap) :
    th ≤ (fillCell cap th dz e).1 :=
  ite_ind (fun p : α × α => th ≤ p.1) (fun _ => h) fun _ =>
    le_add_of_nonneg_right (div_nonneg he (mul_pos (by norm_num) hdz).le)

theorem fillCell_rest_nonneg (cap th e : α) {dz : α} (hdz : 0 < dz) :
    0 ≤ (fillCell cap th dz e).2 :=
  ite_ind (fun p : α × α => 0 ≤ p.2)
    (fun h => mul_nonneg (mul_nonneg (sub_pos.2 h).le (by norm_num)) hdz.le) fun _ => le_refl _

theorem fillCell_rest (cap th dz e : α) :
    (fillCell cap th dz e).2 = 0 ∨ (fillCell cap th dz e).1 = cap :=
  ite_ind (fun p : α × α => p.2 = 0 ∨ p.1 = cap) (fun _ => Or.inr rfl) fun _ => Or.inl rfl

theorem fillCell_rest_le {cap th dz e : α} (hdz : 0 < dz) (he : 0 ≤ e) (h : th ≤ cap) :
    (fillCell cap th dz e).2 ≤ e := by
  have hw := fillCell_water cap th e hdz.ne'
  have := mul_nonneg (mul_nonneg (by norm_num : (0:α) ≤ 1000) (sub_nonneg.2 (fillCell_ge hdz he h)))
    hdz.le
  linarith only [hw, this]

theorem pushUpAbove_of_not_pos (xs : List (Cell α)) (e : α) (h : ¬ 0 < e) :
    pushUpAbove xs e = (xs, e) := by
  cases xs with
  | nil => rfl
  | cons x xs => rw [pushUpAbove, if_neg h]

theorem pushUpAbove_cons (x : Cell α) (xs : List (Cell α)) (e : α) (h : 0 < e) :
    pushUpAbove (x :: xs) e =
      ({ x with th := (fillCell x.c.thS x.th x.c.dz e).1, flux := x.flux - e } ::
          (pushUpAbove xs (fillCell x.c.thS x.th x.c.dz e).2).1,
        (pushUpAbove xs (fillCell x.c.thS x.th x.c.dz e).2).2) := by
  rw [pushUpAbove, if_pos h]
  unfold fillCell
  extract_lets fl th1
  by_cases h2 : x.c.thS < th1
  · rw [if_pos h2, if_pos h2]
  · rw [if_neg h2, if_neg h2, pushUpAbove_of_not_pos xs 0 (lt_irrefl 0)]

/-- the head of `pushUpDrain` is the current compartment, whose `FluxOut` is not reduced: the same
as `pushUpAbove` on a head whose flux was raised beforehand by what `pushUpAbove` will take off. -/
theorem pushUpDrain_cons (x : Cell α) (xs : List (Cell α)) (e : α) :
    pushUpDrain (x :: xs) e =
      pushUpAbove ({ x with flux := if 0 < e then x.flux + e else x.flux } :: xs) e := by
  by_cases h : 0 < e
  · simp only [pushUpDrain, pushUpAbove, h, if_true, add_sub_cancel_right]
  · simp only [pushUpDrain, pushUpAbove, h, if_false]

/-! ### `pushUpAbove` as a `Sweep`: balance, sign, frame, what is kept per cell -/

/-- one cell of the push-up loops, with `e` mm of excess arriving from below and `e'` going on
upwards -/
def PushUp (x : Cell α) (e : α) (y : Cell α) (e' : α) : Prop :=
  (¬ 0 < e ∧ y = x ∧ e' = e) ∨
  (0 < e ∧ y = { x with th := (fillCell x.c.thS x.th x.c.dz e).1, flux := x.flux - e } ∧
    e' = (fillCell x.c.thS x.th x.c.dz e).2)

theorem pushUpAbove_sweep (xs : List (Cell α)) (e : α) :
    Sweep PushUp xs e (pushUpAbove xs e).1 (pushUpAbove xs e).2 := by
  induction xs generalizing e with
  | nil => exact Sweep.nil e
  | cons x xs ih =>
    by_cases h : 0 < e
    · rw [pushUpAbove_cons x xs e h]
      exact Sweep.cons (Or.inr ⟨h, rfl, rfl⟩) (ih _)
    · rw [pushUpAbove_of_not_pos _ _ h]
      exact Sweep.refl e (fun _ => Or.inl ⟨h, rfl, rfl⟩) _

theorem PushUp.facts {x y : Cell α} {e e' : α} (h : PushUp x e y e') :
    y.par = x.par ∧ (x.c.dz ≠ 0 → y.water + e' = x.water + e) ∧ (0 < x.c.dz → 0 ≤ e → 0 ≤ e') ∧
    (x.Inv → y.Inv) ∧ (x.flux ≤ x.c.ksat → y.flux ≤ y.c.ksat) := by
  rcases h with ⟨-, rfl, rfl⟩ | ⟨he, rfl, rfl⟩
  · exact ⟨rfl, fun _ => rfl, fun _ h => h, id, id⟩
  · exact ⟨rfl, fun hdz => fillCell_water x.c.thS x.th e hdz,
      fun hdz _ => fillCell_rest_nonneg _ _ e hdz,
      fun hx => ⟨hx.wf, hx.th_lo.trans (fillCell_ge hx.wf.dz_pos he.le hx.th_hi),
        fillCell_le_cap _ _ _ _, hx.fc_lo, hx.fc_hi⟩,
      fun hx => (sub_le_self _ he.le).trans hx⟩

theorem pushUpAbove_balance (xs : List (Cell α)) (e : α) (hdz : ∀ x ∈ xs, x.c.dz ≠ 0) :
    storage (pushUpAbove xs e).1 + (pushUpAbove xs e).2 = storage xs + e :=
  (pushUpAbove_sweep xs e).sum (fun x => x.c.dz ≠ 0) Cell.water id storage storage_cons
    (fun _ _ _ _ h => h.facts.2.1) hdz

theorem pushUpAbove_rest_nonneg (xs : List (Cell α)) (e : α) (hdz : ∀ x ∈ xs, 0 < x.c.dz)
    (he : 0 ≤ e) : 0 ≤ (pushUpAbove xs e).2 :=
  ((pushUpAbove_sweep xs e).inv (fun x => 0 < x.c.dz) (fun e => 0 ≤ e) (fun _ _ => True)
    (fun _ _ => True) (fun _ _ _ _ h hdz he => ⟨trivial, h.facts.2.2.1 hdz he, trivial⟩)
    (fun _ => trivial) (fun _ _ _ _ _ => trivial) hdz he).2.1

theorem pushUpAbove_par (xs : List (Cell α)) (e : α) :
    (pushUpAbove xs e).1.map Cell.par = xs.map Cell.par :=
  map_eq_of_forall₂
    ((pushUpAbove_sweep xs e).forall₂ (fun x y => y.par = x.par) fun _ _ _ _ h => h.facts.1)
    Cell.par fun _ _ h => h

theorem pushUpAbove_inv (xs : List (Cell α)) (e : α) (h : ∀ x ∈ xs, x.Inv) :
    ∀ y ∈ (pushUpAbove xs e).1, y.Inv :=
  forall_of_forall₂ ((pushUpAbove_sweep xs e).forall₂ (fun x y => x.Inv → y.Inv)
    fun _ _ _ _ h => h.facts.2.2.2.1) (fun _ _ h => h) h

theorem pushUpAbove_flux (xs : List (Cell α)) (e : α) (h : ∀ x ∈ xs, x.flux ≤ x.c.ksat) :
    ∀ y ∈ (pushUpAbove xs e).1, y.flux ≤ y.c.ksat :=
  forall_of_forall₂ ((pushUpAbove_sweep xs e).forall₂ (fun x y => x.flux ≤ x.c.ksat → y.flux ≤ y.c.ksat)
    fun _ _ _ _ h => h.facts.2.2.2.2) (fun _ _ h => h) h

/-! ## 3. Water balance and frame of the whole profile -/

/-- one round of the main loop, with the redistribution written as `pushUpAbove`; the flux `fl`
put into the head beforehand plays no role in what follows -/
theorem drainLoop_cons (F : Fn α) (vis : List (Cell α)) (x : Cell α) (xs : List (Cell α))
    (ds lost : α) (brs : List Nat) :
    ∃ fl, drainLoop F vis (x :: xs) ds lost brs =
      drainLoop F
        (pushUpAbove ({ x with th := (drainStep F x ds).th, flux := fl } :: vis)
          (drainStep F x ds).ex).1
        xs (drainStep F x ds).ds
        (lost + (pushUpAbove ({ x with th := (drainStep F x ds).th, flux := fl } :: vis)
          (drainStep F x ds).ex).2)
        ((drainStep F x ds).br :: brs) :=
  ⟨_, by rw [drainLoop]; simp only [pushUpDrain_cons]; rfl⟩

theorem drainLoop_balance (F : Fn α) (vis xs : List (Cell α)) (ds lost : α) (brs : List Nat)
    (hv : ∀ x ∈ vis, x.c.dz ≠ 0) (hx : ∀ x ∈ xs, x.c.dz ≠ 0) :
    storage (drainLoop F vis xs ds lost brs).cells + (drainLoop F vis xs ds lost brs).deepPerc
      + (drainLoop F vis xs ds lost brs).lost = storage vis + storage xs + ds + lost := by
  induction xs generalizing vis ds lost brs with
  | nil => simp [drainLoop, storage_reverse]
  | cons x xs ih =>
    rw [List.forall_mem_cons] at hx
    obtain ⟨fl, e⟩ := drainLoop_cons F vis x xs ds lost brs
    have hv' : ∀ y ∈ ({ x with th := (drainStep F x ds).th, flux := fl } :: vis), y.c.dz ≠ 0 :=
      List.forall_mem_cons.2 ⟨hx.1, hv⟩
    rw [e, ih _ _ _ _
      (forall_of_map_eq Cell.par (pushUpAbove_par _ _) (fun p => p.1.dz ≠ 0) hv') hx.2]
    have hb := pushUpAbove_balance _ (drainStep F x ds).ex hv'
    simp only [storage_cons, Cell.water] at hb ⊢
    linear_combination hb + drainStep_balance F x ds hx.1

theorem drainage_balance (F : Fn α) (cells : List (Cell α)) (hdz : ∀ x ∈ cells, x.c.dz ≠ 0) :
    storage (drainage F cells).cells + (drainage F cells).deepPerc + (drainage F cells).lost
      = storage cells := by
  unfold drainage
  rw [drainLoop_balance F [] cells 0 0 [] (by simp) hdz]
  simp

theorem drainLoop_par (F : Fn α) (vis xs : List (Cell α)) (ds lost : α) (brs : List Nat) :
    (drainLoop F vis xs ds lost brs).cells.map Cell.par = (vis.reverse ++ xs).map Cell.par := by
  induction xs generalizing vis ds lost brs with
  | nil => simp [drainLoop]
  | cons x xs ih =>
    obtain ⟨fl, e⟩ := drainLoop_cons F vis x xs ds lost brs
    rw [e, ih, List.map_append, List.map_append, List.map_reverse, pushUpAbove_par]
    simp [Cell.par]

theorem drainage_frame {β : Type} (F : Fn α) (cells : List (Cell α)) (k : Cell α → β)
    (hth : NoTh k) (hfl : NoFlux k) :
    (drainage F cells).cells.map k = cells.map k := by
  apply map_eq_of_par hth hfl
  unfold drainage
  rw [drainLoop_par]; simp

/-! ## 4. Drainage ability `dthdtOf` -/

/-- The only law of `exp` the lemmas below use: `exp x ≥ 1` for `x ≥ 0`. -/
structure ExpLaws (F : Fn α) : Prop where
  one_le : ∀ x : α, 0 ≤ x → 1 ≤ F.exp x

theorem ExpLaws.of_mono (F : Fn α) (h0 : F.exp 0 = 1)
    (hm : ∀ x y : α, x ≤ y → F.exp x ≤ F.exp y) : ExpLaws F :=
  ⟨fun x hx => h0 ▸ hm 0 x hx⟩

/-- drainage ability before the cap that keeps the water content at or above `fcAdj` -/
def drainRate (F : Fn α) (c : Comp α) (th : α) : α :=
  if c.thS ≤ th then c.tau * (c.thS - c.thFC)
  else c.tau * (c.thS - c.thFC) * ((F.exp (th - c.thFC) - 1) / (F.exp (c.thS - c.thFC) - 1))

/-- the two caps `if th - d < fcAdj then th - fcAdj else d` of the code are a minimum -/
theorem dthdtOf_eq (F : Fn α) (c : Comp α) (th fcAdj : α) :
    dthdtOf F c th fcAdj = if th ≤ fcAdj then 0 else min (th - fcAdj) (drainRate F c th) := by
  have key : ∀ d : α, (if th - d < fcAdj then th - fcAdj else d) = min (th - fcAdj) d := fun d =>
    ite_ind (fun r : α => r = min (th - fcAdj) d)
      (fun h => (min_eq_left (sub_lt_comm.1 h).le).symm)
      fun h => (min_eq_right (le_sub_comm.1 (not_lt.mp h))).symm
  unfold dthdtOf drainRate
  simp only [key, apply_ite (min (th - fcAdj))]

theorem drainRate_nonneg (F : Fn α) (E : ExpLaws F) (c : Comp α) (hc : c.WF) (th : α)
    (h : c.thFC ≤ th) : 0 ≤ drainRate F c th := by
  have hs : 0 ≤ c.thS - c.thFC := sub_nonneg.2 hc.fc_s
  exact ite_ind (fun r : α => 0 ≤ r) (fun _ => mul_nonneg hc.tau_nn hs) fun _ =>
    mul_nonneg (mul_nonneg hc.tau_nn hs)
      (div_nonneg (sub_nonneg.2 (E.one_le _ (sub_nonneg.2 h))) (sub_nonneg.2 (E.one_le _ hs)))

theorem dthdtOf_nonneg (F : Fn α) (E : ExpLaws F) (c : Comp α) (hc : c.WF) (th fcAdj : α)
    (hfc : c.thFC ≤ fcAdj) : 0 ≤ dthdtOf F c th fcAdj := by
  rw [dthdtOf_eq]
  exact ite_ind (fun r : α => 0 ≤ r) (fun _ => le_refl _) fun h =>
    le_min (sub_pos.2 (not_le.mp h)).le (drainRate_nonneg F E c hc th (hfc.trans (not_le.mp h).le))

/-- no premise on the compartment is needed: this is what the two caps in the code enforce -/
theorem dthdtOf_sub_lo (F : Fn α) (c : Comp α) (th fcAdj lo : α) (h1 : lo ≤ fcAdj)
    (h2 : lo ≤ th) : lo ≤ th - dthdtOf F c th fcAdj := by
  rw [dthdtOf_eq]
  exact ite_ind (fun r : α => lo ≤ th - r) (fun _ => (sub_zero th).symm ▸ h2) fun _ =>
    h1.trans (le_sub_comm.1 (min_le_left _ _))

theorem dthdtOf_le_sat (F : Fn α) (c : Comp α) (hc : c.WF) (th fcAdj : α) (h : c.thS ≤ th) :
    dthdtOf F c th fcAdj ≤ c.tau * (c.thS - c.thFC) := by
  rw [dthdtOf_eq]
  exact ite_ind (fun r : α => r ≤ c.tau * (c.thS - c.thFC))
    (fun _ => mul_nonneg hc.tau_nn (sub_nonneg.2 hc.fc_s))
    fun _ => (min_le_right _ _).trans (by rw [drainRate, if_pos h])

example : (0:ℚ) ≤ dthdtOf (α := ℚ) ⟨fun x => 1 + x, id, id, fun x _ => x, id, id, id, id, id⟩
    ⟨1/10, 1/5, 3/20, 1/2, 3/10, 1/10, 1/20, 1/2, 500, 100, 0, 0, 1⟩ (2/5) (3/10) := by
  apply dthdtOf_nonneg
  · exact ⟨fun x hx => by simpa using hx⟩
  · constructor <;> norm_num
  · norm_num

/-! ## 5. One compartment: signs and bounds -/

/-- Premises per compartment for the sign/bound lemmas.
`inv` is the physical-limits invariant.  `dzsum_nn` (a fact about the soil profile geometry that
`Comp.WF` does not contain) is needed for `0 ≤ drainsum` in the over-saturation arm, where the
code adds `dthdt*1000*(dzsum-dz)`.  `fc_lt_s` is *not used by the proofs*; it is there because
for `th_s = th_fc` (and `tau > 0`) the Python evaluates `0/0`: in a field that is `0`, in
`float64` it is NaN, after which the real code sets `thnew[ii] = 0` -- so the
field model only speaks for the code when `th_fc < th_s`. -/
structure DrainPre (x : Cell α) : Prop where
  inv      : x.Inv
  dzsum_nn : 0 ≤ x.c.dzsum
  fc_lt_s  : x.c.thFC < x.c.thS

structure StepOK (x : Cell α) (s : DrainStep α) : Prop where
  ds_nn : 0 ≤ s.ds
  ex_nn : 0 ≤ s.ex
  th_lo : x.c.thDry ≤ s.th
  th_hi : s.th ≤ x.c.thS

theorem Cell.Inv.dry_le_fc {x : Cell α} (h : x.Inv) : x.c.thDry ≤ x.c.thFC :=
  le_trans h.wf.dry_wp h.wf.wp_fc.le

theorem capK_ok (x : Cell α) (k thn ds ex : α) (br : Nat) (hk : 0 ≤ k) (hds : 0 ≤ ds)
    (hex : 0 ≤ ex) (lo : x.c.thDry ≤ thn) (hi : thn ≤ x.c.thS) :
    StepOK x (capK k thn ds ex br) :=
  ite_ind (StepOK x)
    (fun h => ⟨hk, (add_sub_assoc ex ds k).symm ▸ add_nonneg hex (sub_pos.2 h).le, lo, hi⟩)
    fun _ => ⟨hds, hex, lo, hi⟩

theorem drainFromNew_ok (F : Fn α) (E : ExpLaws F) (x : Cell α) (hx : x.Inv) (thn : α)
    (br : Nat) (h1 : x.fcAdj ≤ thn) (h2 : thn ≤ x.c.thS) :
    StepOK x (drainFromNew F x.c thn x.fcAdj br) := by
  have hD := dthdtOf_nonneg F E x.c hx.wf thn x.fcAdj hx.fc_lo
  exact capK_ok x _ _ _ _ _ hx.wf.ksat_nn
    (mul_nonneg (mul_nonneg hD (by norm_num)) hx.wf.dz_pos.le) (le_refl _)
    (dthdtOf_sub_lo F x.c thn x.fcAdj _ (hx.dry_le_fc.trans hx.fc_lo)
      ((hx.dry_le_fc.trans hx.fc_lo).trans h1))
    ((sub_le_self _ hD).trans h2)

theorem drainStep_ok (F : Fn α) (E : ExpLaws F) (x : Cell α) (hp : DrainPre x) (ds : α)
    (hds : 0 ≤ ds) : StepOK x (drainStep F x ds) := by
  have hx := hp.inv
  have hdz := hx.wf.dz_pos
  have hk := hx.wf.ksat_nn
  have hdry : x.c.thDry ≤ x.fcAdj := le_trans hx.dry_le_fc hx.fc_lo
  have hD0 : ∀ t, 0 ≤ dthdtOf F x.c t x.fcAdj :=
    fun t => dthdtOf_nonneg F E x.c hx.wf t x.fcAdj hx.fc_lo
  have hD2 : ∀ t, x.c.thDry ≤ t → x.c.thDry ≤ t - dthdtOf F x.c t x.fcAdj :=
    fun t => dthdtOf_sub_lo F x.c t x.fcAdj _ hdry
  have h1000 : (0:α) ≤ 1000 := by norm_num
  obtain ⟨thn, hthn⟩ : ∃ t, t = x.th + ds / (1000 * x.c.dz) := ⟨_, rfl⟩
  have hthn' : x.th ≤ thn :=
    hthn ▸ le_add_of_nonneg_right (div_nonneg hds (mul_pos (by norm_num) hdz).le)
  rcases drainStep_cases F x ds thn hthn with ⟨d, hd, e⟩ | ⟨thX, d, hd, hXge, hX, hlt, e⟩ |
    ⟨br, hfc, hle, e⟩ | ⟨br, hfc, e⟩ | ⟨d, m, hd, hm, hgt, e⟩
  · -- 10: no storage needed
    have hd0 : 0 ≤ d := hd ▸ hD0 _
    rw [e]
    exact capK_ok x _ _ _ _ _ hk (add_nonneg hds (mul_nonneg (mul_nonneg hd0 hdz.le) h1000))
      (le_refl _) (hd ▸ hD2 _ hx.th_lo) ((sub_le_self _ hd0).trans hx.th_hi)
  · -- 20: stored water rises above thX
    have hd0 : 0 ≤ d := hd ▸ hD0 _
    rw [e]
    exact capK_ok x _ _ _ _ _ hk
      (add_nonneg (mul_nonneg (mul_nonneg (sub_nonneg.2 hlt.le) h1000) hdz.le)
        (mul_nonneg (mul_nonneg hd0 h1000) hdz.le))
      (le_refl _) (hd ▸ hD2 _ (hdry.trans (hXge hx.fc_hi))) ((sub_le_self _ hd0).trans hX)
  · -- 30, 50
    rw [e]; exact drainFromNew_ok F E x hx _ _ hfc.le hle
  · -- 40, 60
    rw [e]; exact ⟨le_refl _, le_refl _, hx.th_lo.trans hthn', hfc.trans hx.fc_hi⟩
  · -- 70: over-saturated; `d ≤ th_s − th_fc` because `tau ≤ 1`
    have hd0 : 0 ≤ d := hd ▸ hD0 _
    have hd1 : d ≤ x.c.thS - x.c.thFC :=
      (hd ▸ dthdtOf_le_sat F x.c hx.wf thn x.fcAdj hgt.le).trans
        (mul_le_of_le_one_left (sub_nonneg.2 hx.wf.fc_s) hx.wf.tau_le)
    have hex0 : 0 ≤ (thn - x.c.thS) * 1000 * x.c.dz :=
      mul_nonneg (mul_nonneg (sub_pos.2 hgt).le h1000) hdz.le
    have h1 : 0 ≤ d * 1000 * x.c.dzsum := mul_nonneg (mul_nonneg hd0 h1000) hp.dzsum_nn
    have h2 : 0 ≤ d * 1000 * x.c.dz := mul_nonneg (mul_nonneg hd0 h1000) hdz.le
    have hm0 : -(d * 1000 * x.c.dz) ≤ m :=
      hm ▸ le_min (by linarith only [h1]) (by linarith only [h2, hex0])
    have hm1 : m ≤ (thn - x.c.thS) * 1000 * x.c.dz := hm ▸ min_le_right _ _
    rw [e]
    exact capK_ok x _ _ _ _ _ hk (by linarith only [hm0]) (sub_nonneg.2 hm1)
      (by linarith only [hd1, hx.dry_le_fc]) (sub_le_self _ hd0)

/-! ## 6. The push-up loop against the pore volume of the cells -/

/-- pore volume of the cells in mm, `Σ 1000·th_sᵢ·dzᵢ` -/
def capac : List (Cell α) → α
  | [] => 0
  | x :: xs => 1000 * x.c.thS * x.c.dz + capac xs

theorem Cell.water_le (x : Cell α) (hdz : 0 ≤ x.c.dz) (h : x.th ≤ x.c.thS) :
    x.water ≤ 1000 * x.c.thS * x.c.dz :=
  mul_le_mul_of_nonneg_right (mul_le_mul_of_nonneg_left h (by norm_num)) hdz

theorem storage_le_capac (xs : List (Cell α)) (h : ∀ x ∈ xs, 0 < x.c.dz ∧ x.th ≤ x.c.thS) :
    storage xs ≤ capac xs := by
  induction xs with
  | nil => exact le_refl _
  | cons x xs ih =>
    rw [List.forall_mem_cons] at h
    exact add_le_add (x.water_le h.1.1.le h.1.2) (ih h.2)

theorem pushUpAbove_capac (xs : List (Cell α)) (e : α) :
    capac (pushUpAbove xs e).1 = capac xs := by
  have := (pushUpAbove_sweep xs e).sum (fun _ => True) (fun x => 1000 * x.c.thS * x.c.dz)
    (fun _ => 0) capac (fun _ _ => rfl)
    (fun x _ y _ h _ => by rw [show y.c = x.c from congrArg Prod.fst h.facts.1]) (fun _ _ => trivial)
  simpa using this

theorem pushUpAbove_rest_le (xs : List (Cell α)) (e : α) (hdz : ∀ x ∈ xs, x.c.dz ≠ 0) :
    (pushUpAbove xs e).2 ≤ max 0 (storage xs + e - capac xs) := by
  induction xs generalizing e with
  | nil => exact le_max_of_le_right (by simp [pushUpAbove, capac])
  | cons x xs ih =>
    rw [List.forall_mem_cons] at hdz
    by_cases h : 0 < e
    · rw [pushUpAbove_cons x xs e h]
      rcases fillCell_rest x.c.thS x.th x.c.dz e with h0 | hs
      · rw [h0, pushUpAbove_of_not_pos xs 0 (lt_irrefl 0)]; exact le_max_left _ _
      · have hw := fillCell_water x.c.thS x.th e hdz.1
        rw [hs] at hw
        refine (ih _ hdz.2).trans (le_of_eq ?_)
        simp only [storage_cons, Cell.water, capac]
        congr 1
        linear_combination hw
    · rw [pushUpAbove_of_not_pos _ _ h]
      exact le_max_of_le_left (not_lt.mp h)

theorem pushUpAbove_rest_le_self (xs : List (Cell α)) (e : α)
    (h : ∀ x ∈ xs, 0 < x.c.dz ∧ x.th ≤ x.c.thS) (he : 0 ≤ e) : (pushUpAbove xs e).2 ≤ e :=
  (pushUpAbove_rest_le xs e fun x hx => (h x hx).1.ne').trans
    (max_le he (by linarith only [storage_le_capac xs h]))

theorem pushUpAbove_lost_zero (xs : List (Cell α)) (e : α) (hdz : ∀ x ∈ xs, 0 < x.c.dz)
    (he : 0 ≤ e) (hcap : storage xs + e ≤ capac xs) : (pushUpAbove xs e).2 = 0 :=
  le_antisymm
    ((pushUpAbove_rest_le xs e fun x hx => (hdz x hx).ne').trans
      (max_le (le_refl _) (by linarith only [hcap])))
    (pushUpAbove_rest_nonneg xs e hdz he)

/-! ## 7. The whole profile: signs and bounds -/

/-- the loop invariant: visited cells within limits, cumulative drainage non-negative and not
more than the free pore volume of the visited cells (so it can always be pushed back). -/
theorem drainLoop_ok (F : Fn α) (E : ExpLaws F) (vis xs : List (Cell α)) (ds lost : α)
    (brs : List Nat) (hv : ∀ x ∈ vis, x.Inv) (hx : ∀ x ∈ xs, DrainPre x) (hds : 0 ≤ ds)
    (hcap : storage vis + ds ≤ capac vis) :
    0 ≤ (drainLoop F vis xs ds lost brs).deepPerc
    ∧ (∀ y ∈ (drainLoop F vis xs ds lost brs).cells, y.Inv)
    ∧ (drainLoop F vis xs ds lost brs).lost = lost := by
  induction xs generalizing vis ds lost brs with
  | nil =>
    refine ⟨hds, ?_, rfl⟩
    intro y hy
    simp only [drainLoop, List.mem_reverse] at hy
    exact hv y hy
  | cons x xs ih =>
    rw [List.forall_mem_cons] at hx
    have hxi := hx.1.inv
    have hdz := hxi.wf.dz_pos
    have hok := drainStep_ok F E x hx.1 ds hds
    have hbal := drainStep_balance F x ds hdz.ne'
    obtain ⟨fl, e⟩ := drainLoop_cons F vis x xs ds lost brs
    rw [e]
    generalize drainStep F x ds = s at hok hbal ⊢
    generalize hvis1 : ({ x with th := s.th, flux := fl } :: vis : List (Cell α)) = vis1
    have hv1 : ∀ y ∈ vis1, y.Inv := by
      rw [← hvis1, List.forall_mem_cons]
      exact ⟨⟨hxi.wf, hok.th_lo, hok.th_hi, hxi.fc_lo, hxi.fc_hi⟩, hv⟩
    have hdz1 : ∀ y ∈ vis1, 0 < y.c.dz := fun y hy => (hv1 y hy).wf.dz_pos
    have hfit : storage vis1 + s.ex + s.ds ≤ capac vis1 := by
      have := x.water_le hdz.le hxi.th_hi
      simp only [← hvis1, storage_cons, Cell.water, capac] at this ⊢
      linarith
    have hl := pushUpAbove_lost_zero vis1 s.ex hdz1 hok.ex_nn (by linarith only [hfit, hok.ds_nn])
    have hb := pushUpAbove_balance vis1 s.ex (fun y hy => (hdz1 y hy).ne')
    obtain ⟨a, b, c⟩ := ih (pushUpAbove vis1 s.ex).1 s.ds (lost + (pushUpAbove vis1 s.ex).2)
      (s.br :: brs) (pushUpAbove_inv vis1 s.ex hv1) hx.2 hok.ds_nn
      (by rw [pushUpAbove_capac]; linarith only [hfit, hb, hl])
    exact ⟨a, b, by rw [c, hl, add_zero]⟩

theorem drainage_deepPerc_nonneg (F : Fn α) (E : ExpLaws F) (cells : List (Cell α))
    (h : ∀ x ∈ cells, DrainPre x) : 0 ≤ (drainage F cells).deepPerc :=
  (drainLoop_ok F E [] cells 0 0 [] (by simp) h (le_refl _) (by simp [capac])).1

theorem drainage_inv (F : Fn α) (E : ExpLaws F) (cells : List (Cell α))
    (h : ∀ x ∈ cells, DrainPre x) : ∀ y ∈ (drainage F cells).cells, y.Inv :=
  (drainLoop_ok F E [] cells 0 0 [] (by simp) h (le_refl _) (by simp [capac])).2.1

theorem drainage_lost_zero (F : Fn α) (E : ExpLaws F) (cells : List (Cell α))
    (h : ∀ x ∈ cells, DrainPre x) : (drainage F cells).lost = 0 :=
  (drainLoop_ok F E [] cells 0 0 [] (by simp) h (le_refl _) (by simp [capac])).2.2

theorem drainage_balance_inv (F : Fn α) (E : ExpLaws F) (cells : List (Cell α))
    (h : ∀ x ∈ cells, DrainPre x) :
    storage (drainage F cells).cells + (drainage F cells).deepPerc = storage cells := by
  have hb := drainage_balance F cells (fun x hx => (h x hx).inv.wf.dz_pos.ne')
  rw [drainage_lost_zero F E cells h, add_zero] at hb
  exact hb

/-! ## 8. `FluxOut ≤ Ksat` after drainage: one compartment, the push-up, the loop -/

/-- branch by branch along `drainStep`; its last two branches (ids 80, 90) stand for NaN
comparisons and are unreachable in a linear order -/
theorem drainStep_ds_le (F : Fn α) (x : Cell α) (ds : α) (hk : 0 ≤ x.c.ksat) :
    (drainStep F x ds).ds ≤ x.c.ksat := by
  have cap (thn ds ex : α) (br : Nat) : (capK x.c.ksat thn ds ex br).ds ≤ x.c.ksat :=
    ite_ind (fun s : DrainStep α => s.ds ≤ x.c.ksat) (fun _ => le_refl _) not_lt.mp
  have br {c : Prop} [Decidable c] {a b : DrainStep α} :=
    ite_ind (c := c) (a := a) (b := b) fun s => s.ds ≤ x.c.ksat
  unfold drainStep drainFromNew
  dsimp only
  refine br (fun _ => cap _ _ _ _) fun _ => br (fun _ => ?_) fun hX => ?_
  · exact br (fun _ => cap _ _ _ _) fun _ => br (fun _ => cap _ _ _ _) fun _ => hk
  · refine br (fun _ => br (fun _ => ?_) fun hn => ?_) fun hX' => absurd (lt_of_not_ge hX) hX'
    · exact br (fun _ => cap _ _ _ _) fun _ => hk
    · exact br (fun _ => cap _ _ _ _) fun hn' => absurd (lt_of_not_ge hn) hn'

theorem pushUpDrain_flux (xs : List (Cell α)) (e : α) (h : ∀ x ∈ xs, x.flux ≤ x.c.ksat) :
    ∀ y ∈ (pushUpDrain xs e).1, y.flux ≤ y.c.ksat := by
  cases xs with
  | nil => simp [pushUpDrain]
  | cons x xs =>
    obtain ⟨hx, hxs⟩ := List.forall_mem_cons.1 h
    have br {c : Prop} [Decidable c] {a b : List (Cell α) × α} :=
      ite_ind (c := c) (a := a) (b := b) fun r => ∀ y ∈ r.1, y.flux ≤ y.c.ksat
    unfold pushUpDrain
    exact br (fun _ => br (fun _ => List.forall_mem_cons.2 ⟨hx, pushUpAbove_flux _ _ hxs⟩)
      fun _ => List.forall_mem_cons.2 ⟨hx, hxs⟩) fun _ => h

theorem drainLoop_flux (F : Fn α) (vis xs : List (Cell α)) (ds lost : α) (brs : List Nat)
    (hv : ∀ x ∈ vis, x.flux ≤ x.c.ksat) (hx : ∀ x ∈ xs, 0 ≤ x.c.ksat) :
    ∀ y ∈ (drainLoop F vis xs ds lost brs).cells, y.flux ≤ y.c.ksat := by
  induction xs generalizing vis ds lost brs with
  | nil =>
    intro y hy
    simp only [drainLoop, List.mem_reverse] at hy
    exact hv y hy
  | cons x xs ih =>
    obtain ⟨hk, hxs⟩ := List.forall_mem_cons.1 hx
    rw [drainLoop]
    apply ih _ _ _ _ ?_ hxs
    exact pushUpDrain_flux _ _ (List.forall_mem_cons.2 ⟨drainStep_ds_le F x ds hk, hv⟩)

/-- `FluxOut ≤ Ksat` after drainage is the entry condition of the infiltration bounds
(`infiltration_surface_le`, `infiltration_deepPerc_nonneg`) -/
theorem drainage_flux_le_ksat (F : Fn α) (cells : List (Cell α)) (hk : ∀ x ∈ cells, 0 ≤ x.c.ksat) :
    ∀ y ∈ (drainage F cells).cells, y.flux ≤ y.c.ksat :=
  drainLoop_flux F [] cells 0 0 [] (by simp) hk

/-! ## 9. Non-vacuity: a concrete two-compartment profile over `ℚ` satisfies the premises
(`exp x := 1 + x` satisfies `ExpLaws`). -/

section Example
def exF : Fn ℚ :=
  ⟨fun x => 1 + x, fun x => x - 1, id, fun x y => if y = 2 then x * x else x, id, id, id, id, id⟩
def exC1 : Comp ℚ := ⟨1/10, 1/10, 1/20, 1/2, 3/10, 1/10, 1/20, 1/2, 500, 100, 0, 0, 1⟩
def exC2 : Comp ℚ := ⟨1/10, 1/5, 3/20, 1/2, 3/10, 1/10, 1/20, 1/2, 500, 100, 0, 0, 1⟩
def exCells : List (Cell ℚ) := [⟨exC1, 1/2, 3/10, 0, 0⟩, ⟨exC2, 2/5, 3/10, 0, 0⟩]

theorem exF_laws : ExpLaws exF := ⟨fun x hx => by simp only [exF]; linarith⟩

theorem exCells_pre : ∀ x ∈ exCells, DrainPre x := by
  intro x hx
  simp only [exCells, List.mem_cons, List.not_mem_nil, or_false] at hx
  rcases hx with rfl | rfl <;>
    refine ⟨⟨⟨?_, ?_, ?_, ?_, ?_, ?_, ?_, ?_⟩, ?_, ?_, ?_, ?_⟩, ?_, ?_⟩ <;> decide +kernel

example : storage (drainage exF exCells).cells + (drainage exF exCells).deepPerc
    = storage exCells := drainage_balance_inv exF exF_laws exCells exCells_pre
end Example

end Aqua
