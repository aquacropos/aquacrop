import AquaVerif.Model.Yield
import AquaVerif.Proofs.Basic
/-
Lemmas about `biomass_accumulation` (daily identities of property C06), at an arbitrary linearly
ordered field.
-/

set_option linter.unusedSectionVars false
namespace Aqua
variable {α : Type} [Field α] [LinearOrder α] [IsStrictOrderedRing α]

/-- the premise under which `fswitch ∈ [0,1]`: a determinant crop has its lag-phase percentage in
`[0,100]`, any other crop has reached the start of yield formation (`HIt ≥ 0`) -/
def BioSwitchOK (crop : BioCrop α) (dap delayedCDs pctLag : α) : Prop :=
  (crop.determinant = 1 → 0 ≤ pctLag ∧ pctLag ≤ 100) ∧
  (crop.determinant ≠ 1 → 0 ≤ bioHIt crop dap delayedCDs)

theorem bioFswitch_range (crop : BioCrop α) (dap delayedCDs pctLag : α)
    (h : BioSwitchOK crop dap delayedCDs pctLag) :
    0 ≤ bioFswitch crop (bioHIt crop dap delayedCDs) pctLag ∧
      bioFswitch crop (bioHIt crop dap delayedCDs) pctLag ≤ 1 := by
  unfold bioFswitch
  by_cases hd : crop.determinant = 1
  · obtain ⟨h0, h1⟩ := h.1 hd
    simp only [hd, if_true]
    exact ⟨div_nonneg h0 (by norm_num), by rw [div_le_one (by norm_num)]; exact h1⟩
  · have h0 := h.2 hd
    simp only [hd, if_false]
    split_ifs with hlt
    · have hpos : 0 < crop.yldFormCD / 3 := lt_of_le_of_lt h0 hlt
      exact ⟨div_nonneg h0 hpos.le, by rw [div_le_one hpos]; exact hlt.le⟩
    · exact ⟨zero_le_one, le_refl _⟩

theorem interp_range {y f : α} (y1 : y ≤ 1) (f0 : 0 ≤ f) (f1 : f ≤ 1) :
    y ≤ 1 - (1 - y) * f ∧ 1 - (1 - y) * f ≤ 1 :=
  ⟨le_sub_comm.mpr (mul_le_of_le_one_right (sub_nonneg.mpr y1) f1),
    sub_le_self 1 (mul_nonneg (sub_nonneg.mpr y1) f0)⟩

/-- `BioSwitchOK` is needed only once the reference harvest index is positive (before,
`WPadj = WP·fCO2`) -/
theorem bioWPadj_bounds (crop : BioCrop α) (dap delayedCDs hiRef pctLag : α)
    (hy1 : crop.wpy ≤ 100) (hw : 0 ≤ crop.wp * crop.fco2)
    (h : 0 < hiRef → BioSwitchOK crop dap delayedCDs pctLag) :
    crop.wp * crop.fco2 * (crop.wpy / 100) ≤ bioWPadj crop dap delayedCDs hiRef pctLag ∧
      bioWPadj crop dap delayedCDs hiRef pctLag ≤ crop.wp * crop.fco2 := by
  have y1 : crop.wpy / 100 ≤ 1 := by rw [div_le_one (by norm_num)]; exact hy1
  unfold bioWPadj bioWPadj0
  split_ifs with hc
  · obtain ⟨f0, f1⟩ := bioFswitch_range crop dap delayedCDs pctLag (h hc.2)
    obtain ⟨k1, k2⟩ := interp_range y1 f0 f1
    rw [mul_right_comm crop.wp _ crop.fco2]
    exact ⟨mul_le_mul_of_nonneg_left k1 hw, mul_le_of_le_one_right hw k2⟩
  · exact ⟨mul_le_of_le_one_right hw y1, le_refl _⟩

theorem bioWPadj_nonneg (crop : BioCrop α) (dap dcd hiRef pctLag : α)
    (hy0 : 0 ≤ crop.wpy) (hy1 : crop.wpy ≤ 100) (hw : 0 ≤ crop.wp * crop.fco2)
    (hsw : 0 < hiRef → BioSwitchOK crop dap dcd pctLag) :
    0 ≤ bioWPadj crop dap dcd hiRef pctLag :=
  (mul_nonneg hw (div_nonneg hy0 (by norm_num))).trans
    (bioWPadj_bounds crop dap dcd hiRef pctLag hy1 hw hsw).1

/-- in the growing season the biomass grows by `WPadj · Tr/ET0` (the `NaN → 0` replacement never
fires in an ordered field), the no-stress biomass by `WPadj · TrPot/ET0` -/
theorem biomass_step (crop : BioCrop α) (dap delayedCDs hiRef pctLag b bNS tr trPot et0 : α) :
    biomassAccumulation crop dap delayedCDs hiRef pctLag b bNS tr trPot et0 true =
      (b + bioWPadj crop dap delayedCDs hiRef pctLag * (tr / et0),
       bNS + bioWPadj crop dap delayedCDs hiRef pctLag * (trPot / et0)) := by
  simp [biomassAccumulation]

end Aqua
