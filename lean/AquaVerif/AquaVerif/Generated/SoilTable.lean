import AquaVerif.Proofs.SoilBuild
/-
GENERATED by harness/translate/tables.py from /repo/aquacrop/entities/soil.py — do not edit.
The layers of the built-in soils as the implementation builds them now, and the obligation that
each satisfies `LayerOK` (air-dry < wilting point < field capacity ≤ saturation < 1,
drainage coefficient in [0,1], positive conductivity, th_dry = th_wp/2).
-/

namespace Aqua.Generated

def builtinLayersGen : List BLayer := [
  ⟨"Clay", 1, 39/200, 39/100, 27/50, 11/20, 35, 3/10⟩,
  ⟨"ClayLoam", 1, 23/200, 23/100, 39/100, 1/2, 125, 47/100⟩,
  ⟨"Default", 1, 1/20, 1/10, 3/10, 1/2, 500, 19/25⟩,
  ⟨"Loam", 1, 3/40, 3/20, 31/100, 23/50, 500, 19/25⟩,
  ⟨"LoamySand", 1, 1/25, 2/25, 4/25, 19/50, 2200, 1⟩,
  ⟨"Sand", 1, 3/100, 3/50, 13/100, 9/25, 3000, 1⟩,
  ⟨"SandyClay", 1, 27/200, 27/100, 39/100, 1/2, 35, 3/10⟩,
  ⟨"SandyClayLoam", 1, 1/10, 1/5, 8/25, 47/100, 225, 29/50⟩,
  ⟨"SandyLoam", 1, 1/20, 1/10, 11/50, 41/100, 1200, 1⟩,
  ⟨"Silt", 1, 9/200, 9/100, 33/100, 43/100, 500, 19/25⟩,
  ⟨"SiltClayLoam", 1, 23/200, 23/100, 11/25, 13/25, 150, 1/2⟩,
  ⟨"SiltLoam", 1, 13/200, 13/100, 33/100, 23/50, 575, 4/5⟩,
  ⟨"SiltClay", 1, 4/25, 8/25, 1/2, 27/50, 100, 43/100⟩,
  ⟨"Paddy", 1, 4/25, 8/25, 1/2, 27/50, 15, 11/50⟩,
  ⟨"Paddy", 2, 39/200, 39/100, 27/50, 11/20, 2, 11/100⟩,
  ⟨"ac_TunisLocal", 1, 3/25, 6/25, 2/5, 1/2, 155, 51/100⟩,
  ⟨"ac_TunisLocal", 2, 11/200, 11/100, 33/100, 23/50, 500, 19/25⟩
]

theorem builtinLayersGen_ok : ∀ l ∈ builtinLayersGen, LayerOK l := by
  decide +kernel

theorem builtinLayersGen_count : builtinLayersGen.length = 17 := rfl

end Aqua.Generated
