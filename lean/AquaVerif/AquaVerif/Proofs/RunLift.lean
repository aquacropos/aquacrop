import AquaVerif.Properties.C19
import AquaVerif.Proofs.RunClosedEs

/-
The day theorems of C02 (surface partition) on every simulated day of every run of `runModel`, and
the reported groundwater depth of C19 (`run_gw_depth`), with premises on the configuration and the
weather only (plus the capillary-rise residual `ResidualW` where the day theorem needs the water
invariant).

A recorded day's inputs are read off the configuration through `DayCfg cfg d` / `run_dayCfg`
(`Proofs/Run.lean`), as in `Proofs/RunLiftIrr.lean` (C13) and `Proofs/RunLiftSum.lean` (C06).

C02 has the premises `CnOK` (range of the effective curve number), `CfgSurfOK`, `RainOK`; the bund
invariant `run_pondInv` bounds the ponded water by the bunds of the field management the NEXT day
will use, under `BundOK`, and gives `run_negative_infiltration`.
-/

set_option linter.unusedSectionVars false
namespace Aqua
open Aqua.Clock
variable {α : Type} [Field α] [LinearOrder α] [IsStrictOrderedRing α]

/-! ## C02 — rain and irrigation are fully partitioned at the surface, on every day of a run -/

/-- the curve number the SCS split starts from: `CN · (1 + curve_number_adj_pct/100)` (percentage
0 unless `curve_number_adj`) -/
def cn0Of (soil : SoilW α) (fm : FieldMngt α) : α :=
  soil.cn * (1 + (if fm.cnAdj then fm.cnAdjPct else 0) / 100)

/-- The range of the effective curve number — a premise on `F`, the soil and one field
management record only.  Without the antecedent-moisture adjustment the effective curve number is
`cn0Of` itself; with it, it is `round(CNbot + (CNtop − CNbot)·wrel)` for a relative wetness
`wrel` the code clamps to `[0, 1]` — whatever the profile holds. -/
structure CnOK (F : Fn α) (soil : SoilW α) (fm : FieldMngt α) : Prop where
  plain : soil.adjCN = false → 0 < cn0Of soil fm ∧ cn0Of soil fm ≤ 100
  adj : soil.adjCN = true → ∀ wt, 0 ≤ wt → wt ≤ 1 →
    0 < F.round0 ((cnBounds F (cn0Of soil fm)).1 +
        ((cnBounds F (cn0Of soil fm)).2 - (cnBounds F (cn0Of soil fm)).1) * wt) ∧
    F.round0 ((cnBounds F (cn0Of soil fm)).1 +
        ((cnBounds F (cn0Of soil fm)).2 - (cnBounds F (cn0Of soil fm)).1) * wt) ≤ 100

/-- Premises on the configuration for C02: the curve-number range for both field-management
records, and the law of the `term ** 2` in the SCS runoff (`x ** 2 = x · x`: with it runoff and
infiltration are both non-negative, so the `max(Infl, 0)` of `infiltration` is the identity) -/
structure CfgSurfOK (F : Fn α) (cfg : RunCfg α) : Prop where
  cn : CnOK F cfg.W0.soil cfg.fm
  cnF : CnOK F cfg.W0.soil cfg.fallowFm
  sq : PowSqLaw F

structure RainOK (cfg : RunCfg α) : Prop where
  rain : ∀ t, 0 ≤ (cfg.weather t).rain

section c02day
variable {F : Fn α} {T : TrigFn α} {P : DayParams α} {st : DayState' α} {D : DayIn' α}
  {r : DayResult α}

theorem fullDay_cn_range (h : fullDay F T P st D = .ok r) (hcn : CnOK F P.W.soil P.fm) :
    ScsRuns P.fm → 0 < r.water.cn ∧ r.water.cn ≤ 100 := by
  intro hb
  obtain ⟨X, hs, rfl⟩ := fullDay_ok' h
  rcases rainPartition_cases hs.water.hr with ⟨hn, _⟩ | ⟨_, _, _, _, he⟩
  · exact absurd hb hn
  · exact effCN_range he hcn.plain hcn.adj

end c02day

section c02
variable {F : Fn α} {T : TrigFn α} {cfg : RunCfg α} {s s' : RunState α} {A : α}

theorem CfgSurfOK.day (hS : CfgSurfOK F cfg) {d : DayRec α} (hc : DayCfg cfg d) :
    CnOK F d.P.W.soil d.P.fm := by
  rw [hc.P]
  exact fmOf_ind (Q := CnOK F cfg.W0.soil) hS.cn hS.cnF d.D.gs

theorem run_partition (hS : CfgSurfOK F cfg) (hW : RainOK cfg) (hr : RunReach F T cfg s) :
    ∀ d ∈ s.daysRev,
      d.r.flux.infl + d.r.flux.runoff =
        (cfg.weather d.D.tsc).rain + irrApplied d.P.W d.D.water d.r.water := by
  intro d hd
  have hc := run_dayCfg hr d hd
  have hday := run_days hr d hd
  have w := fullDay_waterOf hday
  rw [← hc.rain, w.infl, w.runoff]
  exact C02.day_partition hS.sq w.day (by show 0 ≤ d.D.rain; rw [hc.rain]; exact hW.rain _)
    (fullDay_cn_range hday (hS.day hc))

theorem run_runoff_bounds (hC : CfgOK F T cfg) (hS : CfgSurfOK F cfg) (hW : RainOK cfg)
    (hr : RunReach F T cfg s) (hR : ∀ d ∈ s.daysRev, ResidualW d) :
    ∀ d ∈ s.daysRev,
      0 ≤ d.r.flux.runoff ∧
      d.r.flux.runoff ≤
        (cfg.weather d.D.tsc).rain + irrApplied d.P.W d.D.water d.r.water + d.st.pond := by
  obtain ⟨_, _, _, hF⟩ := run_dayFacts hC hr hR
  intro d hd
  have hc := run_dayCfg hr d hd
  have w := fullDay_waterOf (hF d hd).day
  rw [← hc.rain, w.runoff]
  exact C02.day_runoff_bounds w.day (hF d hd).pre
    (by show 0 ≤ d.D.rain; rw [hc.rain]; exact hW.rain _)
    (fullDay_cn_range (hF d hd).day (hS.day hc))

theorem run_runoff_le_supply (hC : CfgOK F T cfg) (hS : CfgSurfOK F cfg) (hW : RainOK cfg)
    (he : ∀ season, 0 ≤ (irrSetOf cfg season).irr.appEff ∧ (irrSetOf cfg season).irr.appEff ≤ 100)
    (hr : RunReach F T cfg s) (hR : ∀ d ∈ s.daysRev, ResidualW d) :
    ∀ d ∈ s.daysRev,
      d.r.flux.runoff ≤ (cfg.weather d.D.tsc).rain + d.r.water.irr + d.st.pond := by
  intro d hd
  have hirr : 0 ≤ d.r.water.irr := (C04.day_irr_nonneg (fullDay_water (run_days hr d hd))).1
  have hle : irrApplied d.P.W d.D.water d.r.water ≤ d.r.water.irr := by
    show (if d.D.gs then d.r.water.irr * (d.P.W.irr.appEff / 100) else 0) ≤ _
    cases d.D.gs with
    | true =>
      rw [if_pos rfl, (run_dayCfg hr d hd).irr]
      exact mul_le_of_le_one_right hirr
        ((div_le_one (by norm_num)).mpr (he d.D.season).2)
    | false => exact hirr
  exact le_trans (run_runoff_bounds hC hS hW hr hR d hd).2
    (add_le_add (add_le_add (le_refl _) hle) (le_refl _))

/-! ### the bund invariant, and negative infiltration -/

/-- bunds higher than 0.001 mm (`z_bund` is kept in mm): the only ones the code honours -/
def EffBunds (fm : FieldMngt α) : Prop := fm.bunds = true ∧ 0.001 < fm.zBund

/-- Premises on the configuration for the bund invariant: when `FieldMngt` and
`FallowFieldMngt` both have (effective) bunds the heights agree, and the initial ponding is not
above any of them.  (With different heights water ponded behind the higher bund meets the lower
one on the first day of the other management and overtops it: the day then reports a negative
infiltration *with* bunds.) -/
structure BundOK (cfg : RunCfg α) : Prop where
  same : EffBunds cfg.fm → EffBunds cfg.fallowFm → cfg.fm.zBund = cfg.fallowFm.zBund
  init : ∀ gs, EffBunds (fmOf cfg gs) → cfg.init.pond ≤ (fmOf cfg gs).zBund

/-- the ponded water is not above the bunds of whichever field management the next day uses -/
def PondInv (cfg : RunCfg α) (s : RunState α) : Prop :=
  ∀ gs, EffBunds (fmOf cfg gs) → s.day.pond ≤ (fmOf cfg gs).zBund

theorem BundOK.zBund_eq (hB : BundOK cfg) (g g' : Bool) (h : EffBunds (fmOf cfg g))
    (h' : EffBunds (fmOf cfg g')) : (fmOf cfg g).zBund = (fmOf cfg g').zBund := by
  cases g <;> cases g'
  · rfl
  · exact (hB.same h' h).symm
  · exact hB.same h h'
  · rfl

theorem zBund_nonneg_of_eff {fm : FieldMngt α} (h : EffBunds fm) : 0 ≤ fm.zBund :=
  (lt_trans (by norm_num) h.2).le

theorem resetPond_le (hB : BundOK cfg) (g : Bool) (h : EffBunds (fmOf cfg g)) :
    resetPond cfg ≤ (fmOf cfg g).zBund := by
  unfold resetPond resetPondOf
  by_cases he : cfg.fm.bunds = true ∧ 0.001 < cfg.fm.zBund
  · rw [if_pos he, pmin_eq]
    have e : (fmOf cfg true).zBund = (fmOf cfg g).zBund := hB.zBund_eq true g he h
    have e' : cfg.fm.zBund = (fmOf cfg g).zBund := e
    rw [← e']
    exact min_le_right _ _
  · rw [if_neg he]
    exact zBund_nonneg_of_eff h

theorem run_negative_infiltration_of_pond_le (hC : CfgOK F T cfg) (hr : RunReach F T cfg s)
    (hR : ∀ d ∈ s.daysRev, ResidualW d) :
    ∀ d ∈ s.daysRev,
      (d.P.fm.bunds = true → 0.001 < d.P.fm.zBund → d.st.pond ≤ d.P.fm.zBund) →
      d.r.flux.infl < 0 →
      (d.P.fm.bunds = false ∨ d.P.fm.zBund ≤ 0.001) ∧ 0 < d.st.pond ∧
        -d.r.flux.infl ≤ d.st.pond := by
  obtain ⟨_, _, _, hF⟩ := run_dayFacts hC hr hR
  intro d hd hpz hneg
  have w := fullDay_waterOf (hF d hd).day
  rw [w.infl] at hneg ⊢
  exact C02.day_negative_infiltration_only_on_bund_removal w.day (hF d hd).pre hpz hneg

/-- The invariant speaks of the bunds of BOTH field-management records, so that it survives the
switch between `FieldMngt` and `FallowFieldMngt` and the season-start reset; hence every recorded
day started with the ponded water not above its own bunds. -/
theorem run_pondInv (hC : CfgOK F T cfg) (hT : CfgTrOK F cfg A) (hJ0 : CfgRwOK F cfg)
    (hE : CfgEsOK cfg) (hW : WeatherOK F cfg) (hB : BundOK cfg) (hr : RunReach F T cfg s)
    (hR : ∀ d ∈ s.daysRev, ResidualW d) :
    PondInv cfg s ∧ ∀ d ∈ s.daysRev, EffBunds d.P.fm → d.st.pond ≤ d.P.fm.zBund := by
  -- the bund part of `run_flux_closed` for every recorded day is the premise of the induction
  refine run_ind_season
    (I := fun _ st => ∀ g, EffBunds (fmOf cfg g) → st.pond ≤ (fmOf cfg g).zBund)
    (H := fun d => (d.P.fm.bunds = false ∨ d.P.fm.zBund ≤ 0.001 → d.r.state.pond = 0) ∧
      (d.P.fm.bunds = true → d.st.pond ≤ d.P.fm.zBund → d.r.state.pond ≤ d.P.fm.zBund))
    (R := fun d => EffBunds d.P.fm → d.st.pond ≤ d.P.fm.zBund) hB.init
    (fun {s s' d} _ _ hs ihs hd => ?_) (fun _ st h g hg => ?_) hr
    (fun d hd => (run_flux_closed hC hT hJ0 hE hW hr hR d hd).2.2.2.2)
  · obtain ⟨pz, ple⟩ := hd
    have hfm : d.P.fm = fmOf cfg d.D.gs := by rw [hs.P]; rfl
    have hstart : EffBunds d.P.fm → d.st.pond ≤ d.P.fm.zBund := by rw [hfm]; exact ihs _
    -- the ponded water at the end of the day, against the bunds of either management
    refine ⟨fun g hg => ?_, hstart⟩
    by_cases heff : EffBunds d.P.fm
    · rw [← hB.zBund_eq _ g (hfm ▸ heff) hg, ← hfm]
      exact ple heff.1 (hstart heff)
    · have hno : d.P.fm.bunds = false ∨ d.P.fm.zBund ≤ 0.001 := by
        by_cases hb : d.P.fm.bunds = true
        · exact Or.inr (not_lt.mp (fun hz => heff ⟨hb, hz⟩))
        · exact Or.inl (Bool.not_eq_true _ ▸ hb)
      rw [pz hno]
      exact zBund_nonneg_of_eff hg
  · -- `reset_initial_conditions` keeps the ponded water when the off-season is simulated
    show (if cfg.clock.offSeason then st.pond else resetPond cfg) ≤ _
    cases cfg.clock.offSeason with
    | true => exact h g hg
    | false => exact resetPond_le hB g hg

theorem run_negative_infiltration (hC : CfgOK F T cfg) (hT : CfgTrOK F cfg A)
    (hJ0 : CfgRwOK F cfg) (hE : CfgEsOK cfg) (hW : WeatherOK F cfg) (hB : BundOK cfg)
    (hr : RunReach F T cfg s) (hR : ∀ d ∈ s.daysRev, ResidualW d) :
    ∀ d ∈ s.daysRev, d.r.flux.infl < 0 →
      (d.P.fm.bunds = false ∨ d.P.fm.zBund ≤ 0.001) ∧ 0 < d.st.pond ∧
        -d.r.flux.infl ≤ d.st.pond := by
  intro d hd
  exact run_negative_infiltration_of_pond_le hC hr hR d hd
    (fun hb hz => (run_pondInv hC hT hJ0 hE hW hB hr hR).2 d hd ⟨hb, hz⟩)

end c02

/-! ## C19 — the reported groundwater depth, on every day of a run -/

section c19
variable {F : Fn α} {T : TrigFn α} {cfg : RunCfg α} {s s' : RunState α}

theorem run_gw_depth (hr : RunReach F T cfg s) :
    ∀ d ∈ s.daysRev,
      (cfg.W0.waterTable = 1 →
        d.r.flux.zGW = cfg.zgw d.D.tsc ∧ d.r.state.zGW = cfg.zgw d.D.tsc ∧
        0 ≤ cfg.zgw d.D.tsc ∧
        (d.r.water.wtInSoil = true ↔ ∃ x ∈ d.st.cells, cfg.zgw d.D.tsc ≤ x.c.zMid)) ∧
      (cfg.W0.waterTable ≠ 1 → d.r.flux.zGW = 0 ∧ d.r.state.zGW = 0) := by
  intro d hd
  have hc := run_dayCfg hr d hd
  have hday := run_days hr d hd
  have hw := fullDay_water hday
  have e5 : d.r.flux.zGW = d.r.water.zGW := (fullDay_waterOf hday).zGW
  have e6 : d.r.state.zGW = d.r.water.zGW := by
    obtain ⟨X, hs, e⟩ := fullDay_ok' hday
    rw [e]; rfl
  constructor
  · intro hwt
    have hz : d.D.water.zGW = cfg.zgw d.D.tsc := by
      show d.D.zGW = _
      rw [hc.zGW, if_pos hwt]
    obtain ⟨a, b, c⟩ := C19.day_table hw (by rw [hc.waterTable]; exact hwt)
    rw [hz] at a b c
    exact ⟨by rw [e5, a], by rw [e6, a], b, c⟩
  · intro hwt
    have hz : d.D.water.zGW = 0 := by
      show d.D.zGW = _
      rw [hc.zGW, if_neg hwt]
    obtain ⟨Tr, hs, e⟩ := waterDay_ok hw
    have hg := hs.hg
    rw [checkGroundwaterTable_no_table F _ _ _ (by rw [hc.waterTable]; exact hwt)] at hg
    have : d.r.water.zGW = 0 := by
      rw [e]
      show Tr.g.zGW = 0
      rw [← Option.some.inj hg]
      exact hz
    exact ⟨by rw [e5, this], by rw [e6, this]⟩

end c19

end Aqua

#print axioms Aqua.run_partition
#print axioms Aqua.run_runoff_bounds
#print axioms Aqua.run_runoff_le_supply
#print axioms Aqua.run_pondInv
#print axioms Aqua.run_negative_infiltration
#print axioms Aqua.run_negative_infiltration_of_pond_le
#print axioms Aqua.run_gw_depth
