import AquaVerif.Proofs.ResponseMono
import AquaVerif.Proofs.PowSq
import Mathlib.Analysis.SpecialFunctions.Log.Basic
import Mathlib.Analysis.SpecialFunctions.Pow.Real
import Mathlib.Analysis.Complex.ExponentialBounds
/-
Non-vacuity of the law structures of `Proofs/Response.lean`: the real exponential and logarithm
satisfy `ExpOrdLaws`, `ExpAddLaw`, `LogExpLaws`.  In addition, for the real `log10` the ET0 adjustment of
the water-stress thresholds is monotone on `[0,1]` for `et0 ≥ 0`, which turns the ordering
premise `∀ i, wsUp … i ≤ wsLo … i` that several crop-side statements carry into a premise on raw
parameters.

(`Mathlib.Analysis.Complex.ExponentialBounds` is imported only for `exp 1 < 3`, i.e.
`2 < log 10`.)
-/

namespace Aqua.Response
open Real Aqua

/-- the real-number instance of the non-algebraic functions.  `round*` are the identity;
`pow` is the real power `Real.rpow`, which is
`exp (y · log x)` for `x > 0` (`realFn_pow_of_pos`), `0 ** y = 0` for `y ≠ 0`, and `x ** 2 = x · x`
for every `x` (`powSqLaw_real`; defined as `exp (y · log x)` it would give `0 ** 2 = 1`). -/
noncomputable def realFn : Fn ℝ where
  exp := Real.exp
  log := Real.log
  log10 := fun x => Real.log x / Real.log 10
  pow := fun x y => Real.rpow x y
  round0 := fun x => x
  round2 := fun x => x
  round3 := fun x => x
  round4 := fun x => x
  pyRound2 := fun x => x

theorem expOrdLaws_real : ExpOrdLaws realFn :=
  ⟨Real.exp_pos, Real.exp_zero, fun _ _ h => Real.exp_lt_exp.mpr h⟩

theorem expAddLaw_real : ExpAddLaw realFn := ⟨Real.exp_add⟩

theorem realFn_pow_of_pos {x : ℝ} (hx : 0 < x) (y : ℝ) :
    realFn.pow x y = Real.exp (y * Real.log x) := by
  show x ^ y = _
  rw [Real.rpow_def_of_pos hx, mul_comm]

theorem realFn_pow_pos {x : ℝ} (hx : 0 < x) (y : ℝ) : 0 < realFn.pow x y :=
  Real.rpow_pos_of_pos hx y

theorem realFn_pow_nonneg {x : ℝ} (hx : 0 ≤ x) (y : ℝ) : 0 ≤ realFn.pow x y :=
  Real.rpow_nonneg hx y

theorem powSqLaw_real : PowSqLaw realFn :=
  ⟨fun x => by show x ^ (2 : ℝ) = x * x; rw [Real.rpow_two, sq]⟩

theorem logExpLaws_real : LogExpLaws realFn :=
  ⟨fun _ hx => Real.exp_log hx, Real.log_exp⟩

/-! ### the main lemmas instantiated at the reals (no law hypotheses left) -/

theorem ksShape_range_real {d f : ℝ} (hf : f ≠ 0) (hd0 : 0 ≤ d) (hd1 : d ≤ 1) :
    0 ≤ ksShape realFn d f ∧ ksShape realFn d f ≤ 1 :=
  ksShape_range expOrdLaws_real hf hd0 hd1

theorem requiredTime_inverts_growth_real {cco ccx cgc : ℝ} (cdc dt ccx0 : ℝ) (hcco : 0 < cco)
    (hccx : 0 < ccx) (hccx1 : ccx ≤ 1) (hcgc : cgc ≠ 0) :
    ccRequiredTime realFn (ccDevelopment realFn cco ccx cgc cdc dt .growth ccx0) cco ccx cgc cdc
      .cgc = dt :=
  requiredTime_inverts_growth expOrdLaws_real expAddLaw_real logExpLaws_real cdc dt ccx0 hcco hccx
    hccx1 hcgc

theorem fco2Init_mono_real {c c' ref bsted bface fsink : ℝ} (wp : ℝ)
    (hp : CO2Params ref bsted bface fsink) (hc : 0 ≤ c) (h : c ≤ c') :
    ∃ v v', fco2Init realFn c ref bsted bface fsink wp = some v ∧
      fco2Init realFn c' ref bsted bface fsink wp = some v' ∧ v ≤ v' :=
  fco2Init_mono expOrdLaws_real wp hp hc h

/-! ### ET0 adjustment of the water-stress thresholds over the reals -/

theorem two_lt_log_ten : (2 : ℝ) < Real.log 10 := by
  rw [Real.lt_log_iff_exp_lt (by norm_num)]
  have h3 := Real.exp_one_lt_three
  have h0 := Real.exp_pos 1
  have : Real.exp 2 = Real.exp 1 * Real.exp 1 := by
    rw [← Real.exp_add]; norm_num
  rw [this]
  nlinarith

theorem etAdjust_mono_real {p q et0 : ℝ} (hpq : p ≤ q) (hq : q ≤ 1) (het0 : 0 ≤ et0) :
    etAdjust realFn p et0 ≤ etAdjust realFn q et0 := by
  have hl := two_lt_log_ten
  have hb : (1 : ℝ) ≤ 10 - 9 * q := by linarith
  have ha : 10 - 9 * q ≤ 10 - 9 * p := by linarith
  have hbpos : (0 : ℝ) < 10 - 9 * q := by linarith
  have hapos : (0 : ℝ) < 10 - 9 * p := by linarith
  apply etAdjust_mono_of realFn (c := 1 / 2) hpq
  · show Real.log (10 - 9 * q) / Real.log 10 ≤ Real.log (10 - 9 * p) / Real.log 10
    exact div_le_div_of_nonneg_right (Real.log_le_log hbpos ha) (by linarith)
  · show Real.log (10 - 9 * p) / Real.log 10 - Real.log (10 - 9 * q) / Real.log 10 ≤
      1 / 2 * (9 * (q - p))
    rw [← sub_div, ← Real.log_div hapos.ne' hbpos.ne']
    have h1 : Real.log ((10 - 9 * p) / (10 - 9 * q)) ≤ (10 - 9 * p) / (10 - 9 * q) - 1 :=
      Real.log_le_sub_one_of_pos (div_pos hapos hbpos)
    have h2 : (10 - 9 * p) / (10 - 9 * q) - 1 = 9 * (q - p) / (10 - 9 * q) := by
      field_simp; ring
    have h3 : 9 * (q - p) / (10 - 9 * q) ≤ 9 * (q - p) := by
      apply div_le_self _ hb; linarith
    have h4 : 0 ≤ Real.log ((10 - 9 * p) / (10 - 9 * q)) :=
      Real.log_nonneg (by rw [le_div_iff₀ hbpos]; linarith)
    have h5 : 0 ≤ 9 * (q - p) * (Real.log 10 - 2) :=
      mul_nonneg (by linarith) (by linarith)
    rw [div_le_iff₀ (by linarith)]
    linarith
  · linarith

theorem wsOrdered_real (pUp pLo : Fin 4 → ℝ) (etAdj : Bool) (betaPct tEarlySen et0 : ℝ)
    (betaFlag : Bool) (h : ∀ i, pUp i ≤ pLo i) (h1 : ∀ i, pLo i ≤ 1) (het0 : 0 ≤ et0)
    (hb0 : 0 ≤ betaPct) (hb1 : betaPct ≤ 100) :
    ∀ i, wsUp realFn pUp etAdj betaPct tEarlySen et0 betaFlag i ≤ wsLo realFn pLo etAdj et0 i := by
  intro i
  -- thresholds after the (optional) ET0 adjustment stay ordered
  have hadj : ∀ j : Fin 4,
      (if etAdj ∧ j.val < 3 then etAdjust realFn (pUp j) et0 else pUp j) ≤
      (if etAdj ∧ j.val < 3 then etAdjust realFn (pLo j) et0 else pLo j) := by
    intro j
    split_ifs
    · exact etAdjust_mono_real (h j) (h1 j) het0
    · exact h j
  unfold wsUp wsLo
  simp only []
  by_cases hi : i.val = 2
  · have hi' : i = 2 := Fin.ext hi
    subst hi'
    rw [if_pos (by rfl)]
    by_cases hbf : betaFlag ∧ 0 < tEarlySen
    · rw [if_pos hbf]
      set u := (if etAdj ∧ (2 : Fin 4).val < 3 then etAdjust realFn (pUp 2) et0 else pUp 2)
      have hu := hadj 2
      have hfac0 : 0 ≤ 1 - betaPct / 100 := by
        rw [sub_nonneg, div_le_one (by norm_num)]; exact hb1
      have hfac1 : 1 - betaPct / 100 ≤ 1 := by
        have : 0 ≤ betaPct / 100 := div_nonneg hb0 (by norm_num)
        linarith
      by_cases hun : 0 ≤ u
      · apply clip01_mono
        have : u * (1 - betaPct / 100) ≤ u * 1 := mul_le_mul_of_nonneg_left hfac1 hun
        linarith
      · rw [not_le] at hun
        have hneg : u * (1 - betaPct / 100) ≤ 0 :=
          mul_nonpos_of_nonpos_of_nonneg hun.le hfac0
        have : clip01 (u * (1 - betaPct / 100)) ≤ clip01 0 := clip01_mono hneg
        have h0 : clip01 (0 : ℝ) = 0 := clip01_of_mem (le_refl _) zero_le_one
        rw [h0] at this
        exact le_trans this (clip01_range _).1
    · rw [if_neg hbf]
      exact clip01_mono (hadj 2)
  · rw [if_neg hi]
    exact clip01_mono (hadj i)

/-! ### non-vacuity: concrete catalogue values satisfy the premises -/

/-- MaizeGDD (`CC0 = 75000·6.5·1e-8`, `CCx = 0.96`, `CGC = 0.012494`): the inverse property holds
for every `dt`. -/
example (dt : ℝ) :
    ccRequiredTime realFn (ccDevelopment realFn 0.004875 0.96 0.012494 0.01 dt .growth 0.96)
      0.004875 0.96 0.012494 0.01 .cgc = dt :=
  requiredTime_inverts_growth_real _ _ _ (by norm_num) (by norm_num) (by norm_num) (by norm_num)

/-- GDD: wheat thresholds `Tbase = 0 ≤ Tupp = 26`, method 3. -/
example (tmax tmin g : ℝ) (h : growingDegreeDay 3 (26 : ℝ) 0 tmax tmin = some g) :
    0 ≤ g ∧ g ≤ 26 - 0 := gdd_range (by norm_num) h

/-- heat stress with the catalogue's `Tmax_up = 40`, `Tmax_lo = 45`: a step at 45 °C. -/
example (tmax : ℝ) : polHeat realFn 40 45 13.8135 tmax = if tmax ≤ 45 then 1 else 0 :=
  polH_step_of_up_le_lo realFn 13.8135 tmax (by norm_num)

end Aqua.Response

section AxiomAudit
open Aqua Aqua.Response
#print axioms expOrdLaws_real
#print axioms expAddLaw_real
#print axioms powSqLaw_real
#print axioms logExpLaws_real
#print axioms drel_range
#print axioms drel_mono
#print axioms clip01_range
#print axioms clip01_mono
#print axioms ksShape_range
#print axioms ksShape_antitone
#print axioms waterStress_mem
#print axioms waterStress_antitone
#print axioms etAdjust_mono_of
#print axioms gdd_range
#print axioms gdd_mono
#print axioms polH_range
#print axioms polC_range
#print axioms polH_step_of_up_le_lo
#print axioms ccGrowth_range
#print axioms ccGrowth_mono_in_dt
#print axioms ccDecline_antitone
#print axioms ccDecline_le_ccx
#print axioms ccDevelopment_range01
#print axioms ccDevelopment_decline_range
#print axioms requiredTime_inverts_growth
#print axioms requiredTime_cdc_of_decline
#print axioms fco2Reset_eq_none_iff
#print axioms fco2Init_eq_fco2Reset
#print axioms fco2Reset_some_imp
#print axioms fco2Sel_mono
#print axioms fco2Init_mono
#print axioms etAdjust_mono_real
#print axioms wsOrdered_real
end AxiomAudit
