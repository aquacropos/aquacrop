import AquaVerif.Model.CanopyCover
import AquaVerif.Proofs.Response
import AquaVerif.Proofs.PowSq
/-
Lemmas about `canopy_cover` (property C05): off-season zeros; for each block of the function its
leaves as a case table (`_cases`) and the fields it writes (`_shape`, `_eq`), up to the whole call
(`ccSeason_shape`, `canopyCover_ccPrev`); the cap of the micro-advection adjustment, `CC ≤ CC_NS`,
and the range of the actual / potential canopy cover.
-/

set_option linter.unusedSectionVars false
namespace Aqua
variable {α : Type} [Field α] [LinearOrder α] [IsStrictOrderedRing α]

/-! ## shape of the result -/

theorem canopyCover_season {F : Fn α} {crop : CcCrop α} {cells : List (Cell α)} {zTop : α}
    {st out : CcState α} {gdd et0 : α}
    (h : canopyCover F crop cells zTop st gdd et0 true = .ok out) :
    ∃ dr taw dt t, ccTime crop st gdd = some (dt, t) ∧ out = ccSeason F crop st dr taw et0 dt t := by
  unfold canopyCover at h
  simp only [if_true] at h
  split at h
  · cases h
  · rename_i rz _
    split at h
    · cases h
    · rename_i dt t ht
      injection h with h
      exact ⟨_, _, dt, t, ht, h.symm⟩

theorem canopyCover_offseason {F : Fn α} {crop : CcCrop α} {cells : List (Cell α)} {zTop : α}
    {st : CcState α} {gdd et0 : α} :
    canopyCover F crop cells zTop st gdd et0 false = .ok (ccOffSeason { st with ccPrev := st.cc }) := by
  unfold canopyCover; simp

/-! ## outside a growing season the canopy is zero -/

theorem cc_offseason {F : Fn α} {crop : CcCrop α} {cells : List (Cell α)} {zTop : α}
    {st out : CcState α} {gdd et0 : α} {gs : Bool} (hgs : gs = false)
    (h : canopyCover F crop cells zTop st gdd et0 gs = .ok out) :
    out.cc = 0 ∧ out.ccNS = 0 ∧ out.ccAdj = 0 ∧ out.ccAdjNS = 0 ∧
      out.ccxW = 0 ∧ out.ccxAct = 0 ∧ out.ccxWNS = 0 ∧ out.ccxActNS = 0 ∧ out.ccPrev = st.cc := by
  subst hgs
  rw [canopyCover_offseason] at h
  injection h with h
  subst h
  exact ⟨rfl, rfl, rfl, rfl, rfl, rfl, rfl, rfl, rfl⟩

theorem canopyCover_offseason_ok (F : Fn α) (crop : CcCrop α) (cells : List (Cell α)) (zTop : α)
    (st : CcState α) (gdd et0 : α) :
    ∃ out, canopyCover F crop cells zTop st gdd et0 false = .ok out :=
  ⟨_, canopyCover_offseason⟩

/-! ## which fields each block writes

`<block>_cases`: the leaves of the block, each under the tests that select it, for an arbitrary
predicate on the result.  `<block>_shape` (read off the case table where the block has one): the
result is the input state with the fields the block assigns replaced (by whatever the block puts
there), so every other field can be read off by `rw [<block>_shape]`; for the one-field blocks
`ccRaiseAct`, `ccRaiseW` and for `ccFixup` the equation (`_eq`) names the value too.  After a
block's shape stands what else later files read of the block: the late-season branch of `ccActualB`
(`ccActualB_late`, `ccActualB_ccxAct_late`) and where `ccx_w` comes from (`ccSenescence_ccxW`,
`ccSeason_ccxW`). -/

theorem ccDie_shape (s0 s : CcState α) :
    ccDie s0 s = { s with cc := (ccDie s0 s).cc, cropDead := (ccDie s0 s).cropDead } := by
  unfold ccDie
  split <;> rfl

theorem ccRaiseAct_eq (s0 s : CcState α) :
    ccRaiseAct s0 s = { s with ccxAct := if s0.ccxAct < s.cc then s.cc else s.ccxAct } := by
  unfold ccRaiseAct
  split <;> rfl

theorem ccRaiseW_eq (s0 s : CcState α) :
    ccRaiseW s0 s = { s with ccxW := if s0.ccxW < s.cc then s.cc else s.ccxW } := by
  unfold ccRaiseW
  split <;> rfl

theorem ccPotential_cases {P : CcState α → Prop} (F : Fn α) (crop : CcCrop α) (s0 s : CcState α)
    (dt t : α)
    (outside : ccOutside F crop t → P { s with ccNS := 0 })
    (tiny : t < crop.canopyDevEnd → s0.ccNS ≤ crop.cc0 →
      P { s with ccNS := crop.cc0 * F.exp (crop.cgc * dt),
                 ccxActNS := crop.cc0 * F.exp (crop.cgc * dt) })
    (growth : t < crop.canopyDevEnd → ¬ s0.ccNS ≤ crop.cc0 →
      P { s with ccNS := ccDevelopment F crop.cc0 (0.98 * crop.ccx) crop.cgc crop.cdc
                           (t - crop.emergence) .growth crop.ccx,
                 ccxActNS := ccDevelopment F crop.cc0 (0.98 * crop.ccx) crop.cgc crop.cdc
                               (t - crop.emergence) .growth crop.ccx })
    (mid : crop.canopyDevEnd < t → t < crop.senescence →
      P { s with ccxWNS := s.ccxActNS, ccNS := s0.ccNS, ccxActNS := s0.ccNS })
    (decline : crop.canopyDevEnd < t → ¬ t < crop.senescence →
      P { s with ccxWNS := s.ccxActNS,
                 ccNS := ccDevelopment F crop.cc0 s.ccxActNS crop.cgc crop.cdc
                           (t - crop.senescence) .decline s.ccxActNS })
    (devEnd : P s) : P (ccPotential F crop s0 s dt t) := by
  unfold ccPotential
  by_cases o : ccOutside F crop t
  · rw [if_pos o]
    exact outside o
  · rw [if_neg o]
    by_cases d1 : t < crop.canopyDevEnd
    · rw [if_pos d1]
      dsimp only
      by_cases g : s0.ccNS ≤ crop.cc0
      · rw [if_pos g]
        exact tiny d1 g
      · rw [if_neg g]
        exact growth d1 g
    · rw [if_neg d1]
      by_cases d2 : crop.canopyDevEnd < t
      · rw [if_pos d2]
        dsimp only
        by_cases m : t < crop.senescence
        · rw [if_pos m]
          exact mid d2 m
        · rw [if_neg m]
          exact decline d2 m
      · rw [if_neg d2]
        exact devEnd

theorem ccPotential_shape (F : Fn α) (crop : CcCrop α) (s0 s : CcState α) (dt t : α) :
    ccPotential F crop s0 s dt t =
      { s with ccNS := (ccPotential F crop s0 s dt t).ccNS,
               ccxActNS := (ccPotential F crop s0 s dt t).ccxActNS,
               ccxWNS := (ccPotential F crop s0 s dt t).ccxWNS } :=
  ccPotential_cases
    (P := fun r => r = { s with ccNS := r.ccNS, ccxActNS := r.ccxActNS, ccxWNS := r.ccxWNS })
    F crop s0 s dt t (fun _ => rfl) (fun _ _ => rfl) (fun _ _ => rfl) (fun _ _ => rfl)
    (fun _ _ => rfl) rfl

/-- the five things the water-stress adjusted growth block can do (its six leaves; the required
time in the adjusted-growth leaf is left arbitrary) -/
theorem ccGrowing_cases {P : CcState α → Prop} (F : Fn α) (crop : CcCrop α) (s0 s : CcState α)
    (kswExp dt t : α)
    (keep : P { s with cc := s0.cc })
    (full : P
      { s with cc := ccDevelopment F crop.cc0 crop.ccx crop.cgc crop.cdc (t - crop.emergence)
                       .growth crop.ccx })
    (adj : ∀ tReq, P
      { s with cc := ccDevelopment F s.cc0Adj
                       (adjustCCx F s0.cc s.cc0Adj crop.ccx (crop.cgc * kswExp) crop.cdc dt t
                         crop.canopyDevEnd crop.ccx)
                       (crop.cgc * kswExp) crop.cdc (tReq + dt) .growth crop.ccx })
    (noGrowth : P
      { s with cc := s0.cc, cc0Adj := if s.cc0Adj < s0.cc then crop.cc0 else s0.cc })
    (atMax : P
      { s with cc := ccDevelopment F crop.cc0 crop.ccx crop.cgc crop.cdc (t - crop.emergence)
                       .growth crop.ccx,
               cc0Adj := crop.cc0 }) :
    P (ccGrowing F crop s0 s kswExp dt t).1 := by
  let Q : CcState α × Nat → Prop := fun r => P r.1
  show Q _
  unfold ccGrowing
  extract_lets cgcAdj ccxAdj tReq
  by_cases c1 : s0.cc < 0.9799 * crop.ccx
  · rw [if_pos c1]
    by_cases c2 : 0 < cgcAdj
    · rw [if_pos c2]
      by_cases c3 : ccxAdj < 0
      · rw [if_pos c3]
        exact keep
      · rw [if_neg c3]
        by_cases c4 : pabs (s0.cc - (0.9799 * crop.ccx)) < 0.001
        · rw [if_pos c4]
          exact full
        · rw [if_neg c4]
          by_cases c5 : 0 < tReq
          · rw [if_pos c5]
            exact adj tReq
          · rw [if_neg c5]
            exact keep
    · rw [if_neg c2]
      exact noGrowth
  · rw [if_neg c1]
    exact atMax

theorem ccGrowing_shape (F : Fn α) (crop : CcCrop α) (s0 s : CcState α) (kswExp dt t : α) :
    (ccGrowing F crop s0 s kswExp dt t).1 =
      { s with cc := (ccGrowing F crop s0 s kswExp dt t).1.cc,
               cc0Adj := (ccGrowing F crop s0 s kswExp dt t).1.cc0Adj } :=
  ccGrowing_cases (P := fun r => r = { s with cc := r.cc, cc0Adj := r.cc0Adj }) F crop s0 s kswExp
    dt t rfl rfl (fun _ => rfl) rfl rfl

theorem ccLate_ccPrev (F : Fn α) (crop : CcCrop α) (s : CcState α) (t : α) :
    (ccLate F crop s t).ccPrev = s.ccPrev := rfl

theorem ccLate_ccxW (F : Fn α) (crop : CcCrop α) (s : CcState α) (t : α) :
    (ccLate F crop s t).ccxW = s.ccxW := rfl

theorem ccActualB_cases {P : CcState α → Prop} (F : Fn α) (crop : CcCrop α) (s0 s : CcState α)
    (kswExp dt t : α)
    (outside : ccOutside F crop t → P { s with cc := 0, cc0Adj := crop.cc0 })
    (small : ¬ ccOutside F crop t → t < crop.canopyDevEnd →
      P (ccRaiseAct s0 (ccSmall F crop s0 s dt t).1))
    (growing : ¬ ccOutside F crop t → t < crop.canopyDevEnd →
      P (ccRaiseAct s0 (ccGrowing F crop s0 s kswExp dt t).1))
    (mid : crop.canopyDevEnd < t → t < crop.senescence →
      P (ccDie s0 (ccRaiseAct s0 { s with cc := s0.cc })))
    (late : crop.canopyDevEnd < t → ¬ t < crop.senescence → P (ccDie s0 (ccLate F crop s t)))
    (devEnd : P s) : P (ccActualB F crop s0 s kswExp dt t).1 := by
  unfold ccActualB
  by_cases o : ccOutside F crop t
  · rw [if_pos o]
    exact outside o
  · rw [if_neg o]
    by_cases d1 : t < crop.canopyDevEnd
    · rw [if_pos d1]
      dsimp only
      by_cases g : s0.cc ≤ s.cc0Adj ∨ (s0.protectedSeed = true ∧ s0.cc ≤ 1.25 * s.cc0Adj)
      · rw [if_pos g]
        exact small o d1
      · rw [if_neg g]
        exact growing o d1
    · rw [if_neg d1]
      by_cases d2 : crop.canopyDevEnd < t
      · rw [if_pos d2]
        dsimp only
        by_cases m : t < crop.senescence
        · rw [if_pos m]
          exact mid d2 m
        · rw [if_neg m]
          exact late d2 m
      · rw [if_neg d2]
        exact devEnd

theorem ccActualB_shape (F : Fn α) (crop : CcCrop α) (s0 s : CcState α) (kswExp dt t : α) :
    (ccActualB F crop s0 s kswExp dt t).1 =
      { s with cc := (ccActualB F crop s0 s kswExp dt t).1.cc,
               cc0Adj := (ccActualB F crop s0 s kswExp dt t).1.cc0Adj,
               ccxAct := (ccActualB F crop s0 s kswExp dt t).1.ccxAct,
               protectedSeed := (ccActualB F crop s0 s kswExp dt t).1.protectedSeed,
               cropDead := (ccActualB F crop s0 s kswExp dt t).1.cropDead } := by
  refine ccActualB_cases
    (P := fun r => r = { s with cc := r.cc, cc0Adj := r.cc0Adj, ccxAct := r.ccxAct,
                                protectedSeed := r.protectedSeed, cropDead := r.cropDead })
    F crop s0 s kswExp dt t ?_ ?_ ?_ ?_ ?_ rfl
  · intro _; rfl
  · intro _ _
    rw [ccRaiseAct_eq]
    unfold ccSmall
    split <;> rfl
  · intro _ _; rw [ccRaiseAct_eq, ccGrowing_shape]
  · intro _ _; rw [ccDie_shape, ccRaiseAct_eq]
  · intro _ _; rw [ccDie_shape]; rfl

section
variable {F : Fn α} {crop : CcCrop α}

theorem ccActualB_late (hdev : crop.canopyDevEnd ≤ crop.senescence) {t : α}
    (hsen : crop.senescence < t) (ho : ¬ ccOutside F crop t) (s0 s : CcState α) (k dt : α) :
    (ccActualB F crop s0 s k dt t).1 = ccDie s0 (ccLate F crop s t) := by
  unfold ccActualB
  rw [if_neg ho, if_neg (not_lt.mpr (hdev.trans hsen.le)), if_pos (lt_of_le_of_lt hdev hsen)]
  dsimp only
  rw [if_neg (not_lt.mpr hsen.le)]

theorem ccActualB_ccxAct_late {t : α} (hdev : crop.canopyDevEnd ≤ crop.senescence)
    (hsen : crop.senescence < t) (s0 s : CcState α) (k dt : α) :
    (ccActualB F crop s0 s k dt t).1.ccxAct = s.ccxAct := by
  by_cases ho : ccOutside F crop t
  · unfold ccActualB
    rw [if_pos ho]
  · rw [ccActualB_late hdev hsen ho, ccDie_shape]
    rfl

end

theorem ccEarlySen_shape (F : Fn α) (crop : CcCrop α) (s0 s : CcState α) (sen2 dt t : α) :
    ccEarlySen F crop s0 s sen2 dt t =
      { s with cc := (ccEarlySen F crop s0 s sen2 dt t).cc,
               cc0Adj := (ccEarlySen F crop s0 s sen2 dt t).cc0Adj,
               ccxAct := (ccEarlySen F crop s0 s sen2 dt t).ccxAct,
               cropDead := (ccEarlySen F crop s0 s sen2 dt t).cropDead } := by
  -- `ccEarlySen … = ccDie s0 x` with `x` one of three states; `ccDie_shape` in each case
  let P : CcState α → Prop := fun x =>
    ccDie s0 x = { s with cc := (ccDie s0 x).cc, cc0Adj := (ccDie s0 x).cc0Adj,
                          ccxAct := (ccDie s0 x).ccxAct, cropDead := (ccDie s0 x).cropDead }
  have hP : ∀ x, x = { s with cc := x.cc, cc0Adj := x.cc0Adj, ccxAct := x.ccxAct } → P x := by
    intro x hx
    dsimp only [P]
    rw [ccDie_shape, hx]
  show P _
  apply hP
  by_cases c1 : t < crop.senescence
  · rw [if_pos c1]
  · rw [if_neg c1]
    by_cases c2 : ccSenValue F s0.cc s.ccxEarlySen (ccSenCdc F crop sen2) dt < s.cc
    · rw [if_pos c2]
    · rw [if_neg c2]

theorem ccSenStress_eq (F : Fn α) (crop : CcCrop α) (s0 s : CcState α) (sen2 : α → α) (dt t : α) :
    ccSenStress F crop s0 s sen2 dt t =
      ccEarlySen F crop s0
        { s with prematSenes := true,
                 ccxEarlySen :=
                   if s0.tEarlySen ≤ 0 ∧ 0 ≤ s0.tEarlySen then s0.cc else s.ccxEarlySen,
                 tEarlySen := s0.tEarlySen + dt }
        (sen2 (s0.tEarlySen + dt)) dt t := by
  unfold ccSenStress
  split <;> rfl

theorem ccSenStress_shape (F : Fn α) (crop : CcCrop α) (s0 s : CcState α) (sen2 : α → α)
    (dt t : α) :
    ccSenStress F crop s0 s sen2 dt t =
      { s with cc := (ccSenStress F crop s0 s sen2 dt t).cc,
               cc0Adj := (ccSenStress F crop s0 s sen2 dt t).cc0Adj,
               ccxAct := (ccSenStress F crop s0 s sen2 dt t).ccxAct,
               ccxEarlySen := (ccSenStress F crop s0 s sen2 dt t).ccxEarlySen,
               tEarlySen := s0.tEarlySen + dt,
               prematSenes := true,
               cropDead := (ccSenStress F crop s0 s sen2 dt t).cropDead } := by
  rw [ccSenStress_eq, ccEarlySen_shape]

theorem ccSenNoStress_shape (F : Fn α) (crop : CcCrop α) (s0 s : CcState α) (dt t : α) :
    ccSenNoStress F crop s0 s dt t =
      { s with cc := (ccSenNoStress F crop s0 s dt t).cc,
               ccxAct := (ccSenNoStress F crop s0 s dt t).ccxAct,
               tEarlySen := 0,
               prematSenes := false,
               cropDead := (ccSenNoStress F crop s0 s dt t).cropDead } := by
  unfold ccSenNoStress ccRewater
  dsimp only
  split
  · rw [ccDie_shape]
  · rfl

theorem ccSenescence_cases {P : CcState α → Prop} (F : Fn α) (crop : CcCrop α) (s0 s : CcState α)
    (kswSen : α) (sen2 : α → α) (dt t : α)
    (stress : kswSen < 1 ∧ s0.protectedSeed = false →
      P (ccRaiseW s0 (ccSenStress F crop s0 s sen2 dt t)))
    (noStress : ¬ (kswSen < 1 ∧ s0.protectedSeed = false) →
      P (ccRaiseW s0 (ccSenNoStress F crop s0 s dt t)))
    (skip : P s) : P (ccSenescence F crop s0 s kswSen sen2 dt t) := by
  unfold ccSenescence
  by_cases e1 : crop.emergence ≤ t
  · rw [if_pos e1]
    by_cases e2 : t < crop.senescence ∨ 0 < s0.tEarlySen
    · rw [if_pos e2]
      by_cases e3 : kswSen < 1 ∧ s0.protectedSeed = false
      · rw [if_pos e3]
        exact stress e3
      · rw [if_neg e3]
        exact noStress e3
    · rw [if_neg e2]
      exact skip
  · rw [if_neg e1]
    exact skip

theorem ccSenescence_shape (F : Fn α) (crop : CcCrop α) (s0 s : CcState α) (kswSen : α)
    (sen2 : α → α) (dt t : α) :
    ccSenescence F crop s0 s kswSen sen2 dt t =
      { s with cc := (ccSenescence F crop s0 s kswSen sen2 dt t).cc,
               cc0Adj := (ccSenescence F crop s0 s kswSen sen2 dt t).cc0Adj,
               ccxAct := (ccSenescence F crop s0 s kswSen sen2 dt t).ccxAct,
               ccxW := (ccSenescence F crop s0 s kswSen sen2 dt t).ccxW,
               ccxEarlySen := (ccSenescence F crop s0 s kswSen sen2 dt t).ccxEarlySen,
               tEarlySen := (ccSenescence F crop s0 s kswSen sen2 dt t).tEarlySen,
               prematSenes := (ccSenescence F crop s0 s kswSen sen2 dt t).prematSenes,
               cropDead := (ccSenescence F crop s0 s kswSen sen2 dt t).cropDead } := by
  refine ccSenescence_cases
    (P := fun r => r = { s with cc := r.cc, cc0Adj := r.cc0Adj, ccxAct := r.ccxAct, ccxW := r.ccxW,
                                ccxEarlySen := r.ccxEarlySen, tEarlySen := r.tEarlySen,
                                prematSenes := r.prematSenes, cropDead := r.cropDead })
    F crop s0 s kswSen sen2 dt t ?_ ?_ rfl
  · intro _; rw [ccRaiseW_eq, ccSenStress_shape]
  · intro _; rw [ccRaiseW_eq, ccSenNoStress_shape]

/-- only the senescence block writes `ccx_w` (through `ccRaiseW`): it is left alone or raised to
the cover -/
theorem ccSenescence_ccxW (F : Fn α) (crop : CcCrop α) (s0 s : CcState α) (k : α) (sen2 : α → α)
    (dt t : α) :
    (ccSenescence F crop s0 s k sen2 dt t).ccxW = s.ccxW ∨
      (ccSenescence F crop s0 s k sen2 dt t).ccxW = (ccSenescence F crop s0 s k sen2 dt t).cc := by
  have hW : ∀ x : CcState α, x.ccxW = s.ccxW →
      (ccRaiseW s0 x).ccxW = s.ccxW ∨ (ccRaiseW s0 x).ccxW = (ccRaiseW s0 x).cc := by
    intro x hx
    rw [ccRaiseW_eq]
    exact ite_ind (fun w => w = s.ccxW ∨ w = x.cc) (fun _ => Or.inr rfl) fun _ => Or.inl hx
  refine ccSenescence_cases (P := fun r => r.ccxW = s.ccxW ∨ r.ccxW = r.cc) F crop s0 s k sen2 dt t
    (fun _ => hW _ ?_) (fun _ => hW _ ?_) (Or.inl rfl)
  · rw [ccSenStress_shape]
  · rw [ccSenNoStress_shape]

theorem ccFixup_eq (crop : CcCrop α) (s : CcState α) (t : α) :
    ccFixup crop s t =
      { s with ccNS := max s.ccNS s.cc,
               ccxActNS := if s.ccNS < s.cc ∧ t < crop.canopyDevEnd then s.cc else s.ccxActNS } := by
  unfold ccFixup
  by_cases h1 : s.ccNS < s.cc
  · rw [if_pos h1, max_eq_right h1.le]
    by_cases h2 : t < crop.canopyDevEnd
    · rw [if_pos h2, if_pos ⟨h1, h2⟩]
    · rw [if_neg h2, if_neg fun h => h2 h.2]
  · rw [if_neg h1, max_eq_left (not_lt.mp h1), if_neg fun h => h1 h.1]

/-- the state handed to the final fix-up (after potential, actual, senescence) -/
def ccBeforeFixup (F : Fn α) (crop : CcCrop α) (s0 : CcState α) (dr taw et0 dt t : α) : CcState α :=
  let ws (tes : α) (betaFlag : Bool) : Ksw α :=
    waterStress F crop.pUp crop.pLo crop.fshW crop.etAdj crop.beta tes dr taw et0 betaFlag
  let ksw := ws s0.tEarlySen true
  ccSenescence F crop s0
    (ccActual F crop s0 (ccPotential F crop s0 { s0 with ccPrev := s0.cc } dt t) ksw.exp dt t)
    ksw.sen (fun tes => (ws tes false).sen) dt t

theorem ccBeforeFixup_shape (F : Fn α) (crop : CcCrop α) (s0 : CcState α) (dr taw et0 dt t : α) :
    ccBeforeFixup F crop s0 dr taw et0 dt t =
      { s0 with ccPrev := s0.cc,
                ccNS := (ccBeforeFixup F crop s0 dr taw et0 dt t).ccNS,
                ccxActNS := (ccBeforeFixup F crop s0 dr taw et0 dt t).ccxActNS,
                ccxWNS := (ccBeforeFixup F crop s0 dr taw et0 dt t).ccxWNS,
                cc := (ccBeforeFixup F crop s0 dr taw et0 dt t).cc,
                cc0Adj := (ccBeforeFixup F crop s0 dr taw et0 dt t).cc0Adj,
                ccxAct := (ccBeforeFixup F crop s0 dr taw et0 dt t).ccxAct,
                protectedSeed := (ccBeforeFixup F crop s0 dr taw et0 dt t).protectedSeed,
                cropDead := (ccBeforeFixup F crop s0 dr taw et0 dt t).cropDead,
                ccxW := (ccBeforeFixup F crop s0 dr taw et0 dt t).ccxW,
                ccxEarlySen := (ccBeforeFixup F crop s0 dr taw et0 dt t).ccxEarlySen,
                tEarlySen := (ccBeforeFixup F crop s0 dr taw et0 dt t).tEarlySen,
                prematSenes := (ccBeforeFixup F crop s0 dr taw et0 dt t).prematSenes } := by
  -- name the three intermediate states, so that each shape equation is about variables
  generalize hb : ccBeforeFixup F crop s0 dr taw et0 dt t = b
  unfold ccBeforeFixup ccActual at hb
  dsimp only at hb
  have h1 := ccPotential_shape F crop s0 { s0 with ccPrev := s0.cc } dt t
  generalize ccPotential F crop s0 { s0 with ccPrev := s0.cc } dt t = p at h1 hb
  have h2 := ccActualB_shape F crop s0 p
    (waterStress F crop.pUp crop.pLo crop.fshW crop.etAdj crop.beta s0.tEarlySen dr taw et0 true).exp
    dt t
  generalize (ccActualB F crop s0 p _ dt t).1 = a at h2 hb
  have h3 := ccSenescence_shape F crop s0 a
    (waterStress F crop.pUp crop.pLo crop.fshW crop.etAdj crop.beta s0.tEarlySen dr taw et0 true).sen
    (fun tes => (waterStress F crop.pUp crop.pLo crop.fshW crop.etAdj crop.beta tes dr taw et0
      false).sen) dt t
  rw [hb] at h3
  rw [h3, h2, h1]

theorem ccSeason_eq (F : Fn α) (crop : CcCrop α) (s0 : CcState α) (dr taw et0 dt t : α) :
    ccSeason F crop s0 dr taw et0 dt t =
      { ccMicroAdv F (ccFixup crop (ccBeforeFixup F crop s0 dr taw et0 dt t) t) with
        br := (ccSeason F crop s0 dr taw et0 dt t).br } := rfl

theorem ccSeason_shape (F : Fn α) (crop : CcCrop α) (s0 : CcState α) (dr taw et0 dt t : α) :
    ccSeason F crop s0 dr taw et0 dt t =
      { ccBeforeFixup F crop s0 dr taw et0 dt t with
        ccNS := (ccSeason F crop s0 dr taw et0 dt t).ccNS,
        ccxActNS := (ccSeason F crop s0 dr taw et0 dt t).ccxActNS,
        ccAdj := (ccSeason F crop s0 dr taw et0 dt t).ccAdj,
        ccAdjNS := (ccSeason F crop s0 dr taw et0 dt t).ccAdjNS,
        br := (ccSeason F crop s0 dr taw et0 dt t).br } := by
  rw [ccSeason_eq, ccFixup_eq]
  rfl

theorem canopyCover_ccPrev {F : Fn α} {crop : CcCrop α} {cells : List (Cell α)} {zTop : α}
    {st out : CcState α} {gdd et0 : α} {gs : Bool}
    (h : canopyCover F crop cells zTop st gdd et0 gs = .ok out) : out.ccPrev = st.cc := by
  cases gs with
  | false => exact (cc_offseason rfl h).2.2.2.2.2.2.2.2
  | true =>
    obtain ⟨dr, taw, dt, t, _, rfl⟩ := canopyCover_season h
    rw [ccSeason_shape, ccBeforeFixup_shape]

theorem ccSeason_ccxW (F : Fn α) (crop : CcCrop α) (s0 : CcState α) (dr taw et0 dt t : α) :
    (ccSeason F crop s0 dr taw et0 dt t).ccxW = s0.ccxW ∨
      (ccSeason F crop s0 dr taw et0 dt t).ccxW = (ccSeason F crop s0 dr taw et0 dt t).cc := by
  rw [ccSeason_shape]
  show (ccBeforeFixup F crop s0 dr taw et0 dt t).ccxW = s0.ccxW ∨
    (ccBeforeFixup F crop s0 dr taw et0 dt t).ccxW = (ccBeforeFixup F crop s0 dr taw et0 dt t).cc
  unfold ccBeforeFixup ccActual
  dsimp only
  rcases ccSenescence_ccxW F crop s0 _ _ _ dt t with e | e
  · left
    rw [e, ccActualB_shape, ccPotential_shape]
  · right
    exact e

/-! ## the micro-advection adjustment -/

theorem microAdv_eq_min (F : Fn α) (c : α) : microAdv F c = min 1 (microAdvPoly F c) :=
  ite_lt_eq_min 1 _

theorem microAdv_le_one (F : Fn α) (c : α) : microAdv F c ≤ 1 := by
  rw [microAdv_eq_min]
  exact min_le_left _ _

/-- the only fact about `x ** 3` that the sign of the adjusted cover needs -/
structure PowCubeNonneg (F : Fn α) : Prop where
  pow3_nonneg : ∀ x : α, 0 ≤ x → 0 ≤ F.pow x 3

theorem microAdv_nonneg {F : Fn α} (hS : PowSqLaw F) (hP : PowCubeNonneg F) {c : α} (h0 : 0 ≤ c)
    (h1 : c ≤ 1) : 0 ≤ microAdv F c := by
  rw [microAdv_eq_min, microAdvPoly, hS.pow_two]
  -- `1.72c − c² = c(1 − c) + 0.72c`
  have hp := hP.pow3_nonneg c h0
  have := mul_nonneg h0 (sub_nonneg.mpr h1)
  exact le_min zero_le_one (by linarith)

theorem microAdv_eq_of_cube {F : Fn α} (hS : PowSqLaw F) (hc : ∀ x : α, F.pow x 3 = x * x * x)
    (c : α) : microAdv F c = min 1 (1.72 * c - c * c + 0.3 * (c * c * c)) := by
  rw [microAdv_eq_min, microAdvPoly, hc, hS.pow_two]

theorem ccadj_le_one {F : Fn α} {crop : CcCrop α} {cells : List (Cell α)} {zTop : α}
    {st out : CcState α} {gdd et0 : α} {gs : Bool}
    (h : canopyCover F crop cells zTop st gdd et0 gs = .ok out) :
    out.ccAdj ≤ 1 ∧ out.ccAdjNS ≤ 1 := by
  cases gs
  · obtain ⟨_, _, h3, h4, _⟩ := cc_offseason rfl h
    rw [h3, h4]; exact ⟨zero_le_one, zero_le_one⟩
  · obtain ⟨dr, taw, dt, t, _, rfl⟩ := canopyCover_season h
    rw [ccSeason_eq]
    exact ⟨microAdv_le_one _ _, microAdv_le_one _ _⟩

theorem ccadj_nonneg {F : Fn α} (hS : PowSqLaw F) (hP : PowCubeNonneg F) {crop : CcCrop α} {cells : List (Cell α)}
    {zTop : α} {st out : CcState α} {gdd et0 : α} {gs : Bool}
    (h : canopyCover F crop cells zTop st gdd et0 gs = .ok out) :
    (0 ≤ out.cc → out.cc ≤ 1 → 0 ≤ out.ccAdj) ∧ (0 ≤ out.ccNS → out.ccNS ≤ 1 → 0 ≤ out.ccAdjNS) := by
  cases gs
  · obtain ⟨_, _, h3, h4, _⟩ := cc_offseason rfl h
    rw [h3, h4]; exact ⟨fun _ _ => le_refl _, fun _ _ => le_refl _⟩
  · obtain ⟨dr, taw, dt, t, _, rfl⟩ := canopyCover_season h
    rw [ccSeason_eq]
    exact ⟨fun a b => microAdv_nonneg hS hP a b, fun a b => microAdv_nonneg hS hP a b⟩

/-! ## the actual canopy never exceeds the potential one -/

theorem ccSeason_cc (F : Fn α) (crop : CcCrop α) (s0 : CcState α) (dr taw et0 dt t : α) :
    (ccSeason F crop s0 dr taw et0 dt t).cc = (ccBeforeFixup F crop s0 dr taw et0 dt t).cc := by
  rw [ccSeason_shape]

theorem ccSeason_ccNS (F : Fn α) (crop : CcCrop α) (s0 : CcState α) (dr taw et0 dt t : α) :
    (ccSeason F crop s0 dr taw et0 dt t).ccNS =
      max (ccBeforeFixup F crop s0 dr taw et0 dt t).ccNS (ccBeforeFixup F crop s0 dr taw et0 dt t).cc := by
  rw [ccSeason_eq, ccFixup_eq]
  rfl

/-- in season `canopy_cover ≤ canopy_cover_ns` on return — unconditionally (no premise on the
crop or the previous state): it is enforced by the final fix-up. -/
theorem cc_le_ns {F : Fn α} {crop : CcCrop α} {cells : List (Cell α)} {zTop : α}
    {st out : CcState α} {gdd et0 : α}
    (h : canopyCover F crop cells zTop st gdd et0 true = .ok out) :
    out.cc ≤ out.ccNS := by
  obtain ⟨dr, taw, dt, t, _, rfl⟩ := canopyCover_season h
  rw [ccSeason_cc, ccSeason_ccNS]
  exact le_max_right _ _

theorem cc_le_ns_always {F : Fn α} {crop : CcCrop α} {cells : List (Cell α)} {zTop : α}
    {st out : CcState α} {gdd et0 : α} {gs : Bool}
    (h : canopyCover F crop cells zTop st gdd et0 gs = .ok out) :
    out.cc ≤ out.ccNS := by
  cases gs
  · obtain ⟨h1, h2, _⟩ := cc_offseason rfl h
    rw [h1, h2]
  · exact cc_le_ns h

/-! ## range of the canopy covers

Every value assigned to `canopy_cover` / `canopy_cover_ns` is one of
* `0`, a copy of the previous value, a `min` with the previous value;
* `cc_development(…, "Growth", …)` — never above its `CCx` argument (the explicit cap), never
  below 0 (the final clipping): no law about `exp` is needed;
* `cc_development(…, "Decline", …)` for a non-negative elapsed time — within `[0, CCx argument]`
  (`exp` monotone);
* the *unclipped* first-day growth `CC0adj · exp(CGC · dtCC)` — bounded by `CCx` only under the
  explicit premise `CC0 · exp(CGC · dtCC) ≤ CCx` (`CcParams.step`);
* the rewatering re-parameterisation `update_CCx_CDC` — its `CCXadj` may exceed `CCx`, but the new
  cover is at most the previous one (`rewater_le`).
-/

theorem ccGrowth_le_ccx (F : Fn α) (cco ccx cgc dt : α) : ccGrowth F cco ccx cgc dt ≤ ccx := by
  show (if ccx < _ then ccx else _) ≤ ccx
  rw [ite_lt_eq_min]
  exact min_le_left _ _

theorem growth_range (F : Fn α) (cco cgc cdc dt ccx0 : α) {ccx B : α} (h0 : 0 ≤ ccx) (hB : ccx ≤ B) :
    0 ≤ ccDevelopment F cco ccx cgc cdc dt .growth ccx0 ∧
      ccDevelopment F cco ccx cgc cdc dt .growth ccx0 ≤ B :=
  ⟨(ccDevelopment_range01 F cco ccx cgc cdc dt .growth ccx0).1,
   le_trans (clipCC_le (ccGrowth_le_ccx F cco ccx cgc dt) h0) hB⟩

theorem decline_range {F : Fn α} (hF : ExpOrdLaws F) (cco cgc : α) {x cdc' dt' B : α}
    (hcdc : ¬ x < 0.001 → 0 ≤ cdc') (hdt : 0 ≤ dt') (hx : x ≤ B) (hB : 0 ≤ B) :
    0 ≤ ccDevelopment F cco x cgc cdc' dt' .decline x ∧
      ccDevelopment F cco x cgc cdc' dt' .decline x ≤ B := by
  refine ⟨(ccDevelopment_range01 F cco x cgc cdc' dt' .decline x).1, ?_⟩
  by_cases h : x < 0.001
  · show clipCC (ccDecline F x cdc' dt' x) ≤ B
    rw [ccDecline_of_lt _ _ _ h]
    exact clipCC_le hB hB
  · have hx0 : (0:α) ≤ x := le_trans (by norm_num) (not_lt.mp h)
    exact le_trans
      (ccDevelopment_decline_range hF cco cgc (hcdc h) (add_229_pos hx0) hx0 hdt).2 hx

theorem adjustCCx_range (F : Fn α) (ccPrev cco cgc cdc dt tSum devEnd : α) {ccx : α} (h0 : 0 ≤ ccx) :
    0 ≤ adjustCCx F ccPrev cco ccx cgc cdc dt tSum devEnd ccx ∧
      adjustCCx F ccPrev cco ccx cgc cdc dt tSum devEnd ccx ≤ ccx := by
  unfold adjustCCx
  dsimp only
  split_ifs with h
  · exact growth_range F _ _ _ _ _ h0 (le_refl _)
  · exact ⟨le_refl _, h0⟩

/-- `CDCadj = CDC·(X + 2.29)/(CCx + 2.29)` (the late-season block and `update_CCx_CDC` both use it)
gives the decline from `X` the rate of the decline from `CCx` -/
theorem declK_adj {cdc X c : α} (hX : 0 ≤ X) (hc : 0 ≤ c) :
    declK (cdc * ((X + 2.29) / (c + 2.29))) X = declK cdc c := by
  have h1 := (add_229_pos hX).ne'
  have h2 := (add_229_pos hc).ne'
  unfold declK
  field_simp

theorem declineAdj_eq (F : Fn α) (cco cgc cdc : α) {c : α} (hc : 0 ≤ c) (X τ : α) :
    ccDevelopment F cco X cgc (cdc * ((X + 2.29) / (c + 2.29))) τ .decline X =
      clipCC (if X < 0.001 then 0 else X * declD F (declK cdc c) τ) := by
  show clipCC (ccDecline F X _ τ X) = _
  by_cases h : X < 0.001
  · rw [ccDecline_of_lt _ _ _ h, if_pos h]
  · rw [ccDecline_of_ge _ _ _ h, if_neg h, declK_adj (le_trans (by norm_num) (not_lt.mp h)) hc]

theorem updateCCxCDC_eq (F : Fn α) (p cdc c τ : α) :
    updateCCxCDC F p cdc c τ =
      (p / declD F (declK cdc c) τ,
        cdc * ((p / declD F (declK cdc c) τ + 2.29) / (c + 2.29))) := rfl

theorem declineAdj_range {F : Fn α} (hF : ExpOrdLaws F) (cco cgc : α) {cdc c X τ B : α}
    (hcdc : 0 ≤ cdc) (hc : 0 ≤ c) (hτ : 0 ≤ τ) (hX : X ≤ B) (hB : 0 ≤ B) :
    0 ≤ ccDevelopment F cco X cgc (cdc * ((X + 2.29) / (c + 2.29))) τ .decline X ∧
      ccDevelopment F cco X cgc (cdc * ((X + 2.29) / (c + 2.29))) τ .decline X ≤ B := by
  rw [declineAdj_eq F cco cgc cdc hc]
  refine ⟨(clamp01_bounds _).1, clipCC_le ?_ hB⟩
  split_ifs with h
  · exact hB
  · exact (mul_le_of_le_one_right (le_trans (by norm_num) (not_lt.mp h))
      (declD_le_one hF (declK_nonneg hcdc (add_229_pos hc)) hτ)).trans hX

theorem rewater_le {F : Fn α} (hF : ExpOrdLaws F) (cco cgc : α) {p cdc ccx dt t sen : α}
    (hp : 0 ≤ p) (hcdc : 0 ≤ cdc) (hccx : 0 ≤ ccx) (hdt : 0 ≤ dt) :
    ccDevelopment F cco (updateCCxCDC F p cdc ccx (t - dt - sen)).1 cgc
      (updateCCxCDC F p cdc ccx (t - dt - sen)).2 (t - sen) .decline
      (updateCCxCDC F p cdc ccx (t - dt - sen)).1 ≤ p := by
  rw [updateCCxCDC_eq, declineAdj_eq F cco cgc cdc hccx]
  apply clipCC_le _ hp
  split_ifs with h
  · exact hp
  · -- `X = p/D(t − dt) > 0` makes `D(t − dt) > 0`; `D` is antitone, so `X·D(t) ≤ X·D(t − dt) = p`
    have hX : 0 < p / declD F (declK cdc ccx) (t - dt - sen) :=
      lt_of_lt_of_le (by norm_num) (not_lt.mp h)
    have hD : 0 < declD F (declK cdc ccx) (t - dt - sen) := by
      by_contra hc
      exact absurd (div_nonpos_of_nonneg_of_nonpos hp (not_lt.mp hc)) (not_le.mpr hX)
    calc _ ≤ p / declD F (declK cdc ccx) (t - dt - sen) * declD F (declK cdc ccx) (t - dt - sen) :=
          mul_le_mul_of_nonneg_left (declD_anti hF (declK_nonneg hcdc (add_229_pos hccx))
            (sub_le_sub_right (sub_le_self t hdt) sen)) hX.le
      _ = p := div_mul_cancel₀ p hD.ne'

/-- premises on the crop parameters and the day's time step `dtCC` (`1`, or the day's `gdd`) -/
structure CcParams (F : Fn α) (crop : CcCrop α) (dt : α) : Prop where
  cc0_nonneg : 0 ≤ crop.cc0
  cdc_nonneg : 0 ≤ crop.cdc
  dt_nonneg : 0 ≤ dt
  /-- one day of unrestricted exponential growth from `CC0` stays below `CCx` (this value is
  assigned to the canopy cover *without* any clipping) -/
  step : crop.cc0 * F.exp (crop.cgc * dt) ≤ crop.ccx

theorem CcParams.ccx_nonneg {F : Fn α} (hF : ExpOrdLaws F) {crop : CcCrop α} {dt : α}
    (hp : CcParams F crop dt) : 0 ≤ crop.ccx :=
  le_trans (mul_nonneg hp.cc0_nonneg (hF.exp_pos _).le) hp.step

theorem ccDie_range (s0 s : CcState α) {B : α} (h0 : 0 ≤ s.cc) (hB : s.cc ≤ B) :
    0 ≤ (ccDie s0 s).cc ∧ (ccDie s0 s).cc ≤ B := by
  unfold ccDie
  split_ifs
  · exact ⟨le_refl _, le_trans h0 hB⟩
  · exact ⟨h0, hB⟩

theorem ccDie_cc_le (s0 s : CcState α) (h0 : 0 ≤ s.cc) : (ccDie s0 s).cc ≤ s.cc :=
  (ccDie_range s0 s h0 (le_refl _)).2

/-- range invariant of the fields the "actual canopy" blocks read and write; `B` bounds the cover
and the season maximum `ccx_act` (`B = CCx` when the previous `ccx_act` is in range) -/
structure CcRng (crop : CcCrop α) (B : α) (s : CcState α) : Prop where
  cc0 : 0 ≤ s.cc
  ccB : s.cc ≤ B
  adj0 : 0 ≤ s.cc0Adj
  adj1 : s.cc0Adj ≤ crop.cc0
  actB : s.ccxAct ≤ B

theorem ccDie_rng {crop : CcCrop α} {B : α} (s0 : CcState α) {s : CcState α} (h : CcRng crop B s) :
    CcRng crop B (ccDie s0 s) := by
  obtain ⟨a, b⟩ := ccDie_range s0 s h.cc0 h.ccB
  rw [ccDie_shape]
  exact ⟨a, b, h.adj0, h.adj1, h.actB⟩

theorem ccRaiseAct_rng {crop : CcCrop α} {B : α} (s0 : CcState α) {s : CcState α}
    (h : CcRng crop B s) : CcRng crop B (ccRaiseAct s0 s) := by
  rw [ccRaiseAct_eq]
  exact ⟨h.cc0, h.ccB, h.adj0, h.adj1, ite_ind (· ≤ B) (fun _ => h.ccB) fun _ => h.actB⟩

/-- the "actual canopy" block keeps `CcRng`: growth-mode values lie in `[0, CCx]` by the explicit
cap, the unclipped first-day growth by `CcParams.step`, the late-season decline starts from
`ccx_act ≤ B` -/
theorem ccActual_rng {F : Fn α} (hF : ExpOrdLaws F) {crop : CcCrop α} {dt : α}
    (hp : CcParams F crop dt) (s0 : CcState α) (kswExp t : α) {B : α} {s : CcState α}
    (hB : crop.ccx ≤ B) (h0 : 0 ≤ s0.cc) (h1 : s0.cc ≤ crop.ccx) (h : CcRng crop B s) :
    CcRng crop B (ccActual F crop s0 s kswExp dt t) := by
  have hccx := hp.ccx_nonneg hF
  have hB0 : 0 ≤ B := le_trans hccx hB
  have hc0 := hp.cc0_nonneg
  have hg := growth_range F crop.cc0 crop.cgc crop.cdc (t - crop.emergence) crop.ccx hccx hB
  have keep : CcRng crop B { s with cc := s0.cc } := ⟨h0, h1.trans hB, h.adj0, h.adj1, h.actB⟩
  refine ccActualB_cases (P := CcRng crop B) F crop s0 s kswExp dt t
    (fun _ => ⟨le_refl _, hB0, hc0, le_refl _, h.actB⟩)
    (fun _ _ => ccRaiseAct_rng s0 ?small) (fun _ _ => ccRaiseAct_rng s0 ?growing)
    (fun _ _ => ccDie_rng s0 (ccRaiseAct_rng s0 keep)) (fun _ m => ccDie_rng s0 ?late) h
  case small =>
    unfold ccSmall
    by_cases c1 : s0.protectedSeed = true
    · rw [if_pos c1]
      exact ⟨hg.1, hg.2, h.adj0, h.adj1, h.actB⟩
    · rw [if_neg c1]
      have a : 0 ≤ s.cc0Adj * F.exp (crop.cgc * dt) := mul_nonneg h.adj0 (hF.exp_pos _).le
      have b : s.cc0Adj * F.exp (crop.cgc * dt) ≤ crop.ccx :=
        le_trans (mul_le_mul_of_nonneg_right h.adj1 (hF.exp_pos _).le) hp.step
      exact ⟨a, le_trans b hB, h.adj0, h.adj1, h.actB⟩
  case growing =>
    refine ccGrowing_cases (P := CcRng crop B) F crop s0 s kswExp dt t keep
      ⟨hg.1, hg.2, h.adj0, h.adj1, h.actB⟩ (fun tReq => ?_) ?_ ⟨hg.1, hg.2, hc0, le_refl _, h.actB⟩
    · obtain ⟨x0, x1⟩ := adjustCCx_range F s0.cc s.cc0Adj (crop.cgc * kswExp) crop.cdc dt t
        crop.canopyDevEnd hccx
      obtain ⟨a, b⟩ := growth_range F s.cc0Adj (crop.cgc * kswExp) crop.cdc (tReq + dt) crop.ccx x0
        (x1.trans hB)
      exact ⟨a, b, h.adj0, h.adj1, h.actB⟩
    · by_cases c : s.cc0Adj < s0.cc
      · rw [if_pos c]
        exact ⟨h0, h1.trans hB, hc0, le_refl _, h.actB⟩
      · rw [if_neg c]
        exact ⟨h0, h1.trans hB, h0, (not_lt.mp c).trans h.adj1, h.actB⟩
  case late =>
    obtain ⟨a, b⟩ := declineAdj_range hF s.cc0Adj crop.cgc hp.cdc_nonneg hccx
      (sub_nonneg.mpr (not_lt.mp m)) h.actB hB0
    exact ⟨a, b, h.adj0, h.adj1, h.actB⟩

/-! ### the early-senescence block -/

/-- `CcRng` without the bound on `ccx_act` (which the rewatering branch does not keep) -/
structure CcRngW (crop : CcCrop α) (B : α) (s : CcState α) : Prop where
  cc0 : 0 ≤ s.cc
  ccB : s.cc ≤ B
  adj0 : 0 ≤ s.cc0Adj
  adj1 : s.cc0Adj ≤ crop.cc0

theorem ccSenValue_nonneg (F : Fn α) (p x cdcAdj dt : α) : 0 ≤ ccSenValue F p x cdcAdj dt := by
  unfold ccSenValue
  by_cases h : x < 0.001
  · rw [if_pos h]
  · rw [if_neg h]
    dsimp only
    split_ifs with h2
    · exact le_refl _
    · exact not_lt.mp h2

/-- what early senescence does to `(cc, cc0_adj, ccx_act)`: before `Senescence` cover and `ccx_act`
are set from a value `c ≤ min (previous cover) CCx` and `cc0_adj := min c CC0`; after it the cover
is only lowered.  No law about `exp`, `log`, `pow` is needed: `CCsen` is clamped at 0. -/
theorem ccEarlySen_act_cases {P : α → α → α → Prop} (F : Fn α) (crop : CcCrop α)
    (s0 s : CcState α) (sen2 dt t : α) (hx0 : 0 ≤ crop.ccx) (h00 : 0 ≤ s0.cc) (h0 : 0 ≤ s.cc)
    (lower : ∀ d, 0 ≤ d → d ≤ s.cc → P d s.cc0Adj s.ccxAct)
    (early : t < crop.senescence → ∀ c d, 0 ≤ d → d ≤ c → c ≤ s0.cc → c ≤ crop.ccx →
      P d (min c crop.cc0) c) :
    P (ccEarlySen F crop s0 s sen2 dt t).cc (ccEarlySen F crop s0 s sen2 dt t).cc0Adj
      (ccEarlySen F crop s0 s sen2 dt t).ccxAct := by
  unfold ccEarlySen
  dsimp only
  have hv := ccSenValue_nonneg F s0.cc s.ccxEarlySen (ccSenCdc F crop sen2) dt
  generalize ccSenValue F s0.cc s.ccxEarlySen (ccSenCdc F crop sen2) dt = v at hv
  simp only [ite_lt_eq_min]
  -- in each case the death test lowers the cover once more and leaves the other two fields
  by_cases c1 : t < crop.senescence
  · rw [if_pos c1, ccDie_shape]
    obtain ⟨a, b⟩ := ccDie_range s0
      { s with cc := min s0.cc (min crop.ccx v), ccxAct := min s0.cc (min crop.ccx v),
               cc0Adj := min (min s0.cc (min crop.ccx v)) crop.cc0 }
      (le_min h00 (le_min hx0 hv)) (le_refl _)
    exact early c1 _ _ a b (min_le_left _ _) ((min_le_right _ _).trans (min_le_left _ _))
  · rw [if_neg c1]
    by_cases c2 : v < s.cc
    · rw [if_pos c2, ccDie_shape]
      obtain ⟨a, b⟩ := ccDie_range s0 { s with cc := v } hv (le_refl _)
      exact lower _ a (b.trans c2.le)
    · rw [if_neg c2, ccDie_shape]
      obtain ⟨a, b⟩ := ccDie_range s0 s h0 (le_refl _)
      exact lower _ a b

/-- what the senescence block does to `(cc, cc0_adj, ccx_act)`: nothing; or it lowers the cover
(early senescence after `Senescence`, death); or, before `Senescence`, it sets cover and `ccx_act`
from a value `c ≤ min (previous cover) CCx` and `cc0_adj := min c CC0`; or it rewaters:
`ccx_act := CCXadj` of `update_CCx_CDC` (`u`), cover at most the decline from it. -/
theorem ccSenescence_act_cases {P : α → α → α → Prop} (F : Fn α) (crop : CcCrop α)
    (s0 s : CcState α) (kswSen : α) (sen2 : α → α) (dt t : α) (hx0 : 0 ≤ crop.ccx)
    (h00 : 0 ≤ s0.cc) (h0 : 0 ≤ s.cc) (keep : P s.cc s.cc0Adj s.ccxAct)
    (lower : ∀ d, 0 ≤ d → d ≤ s.cc → P d s.cc0Adj s.ccxAct)
    (early : t < crop.senescence → ∀ c d, 0 ≤ d → d ≤ c → c ≤ s0.cc → c ≤ crop.ccx →
      P d (min c crop.cc0) c)
    (rewater : crop.senescence < t → 0 < s0.tEarlySen →
      ∀ u, u = updateCCxCDC F s0.cc crop.cdc crop.ccx (t - dt - crop.senescence) → ∀ d, 0 ≤ d →
      d ≤ ccDevelopment F s.cc0Adj u.1 crop.cgc u.2 (t - crop.senescence) .decline u.1 →
      P d s.cc0Adj u.1) :
    P (ccSenescence F crop s0 s kswSen sen2 dt t).cc
      (ccSenescence F crop s0 s kswSen sen2 dt t).cc0Adj
      (ccSenescence F crop s0 s kswSen sen2 dt t).ccxAct := by
  refine ccSenescence_cases (P := fun r => P r.cc r.cc0Adj r.ccxAct) F crop s0 s kswSen sen2 dt t
    (fun _ => ?_) (fun _ => ?_) keep
  · -- water stress: `ccEarlySen` on a state with the same three fields
    rw [ccRaiseW_eq]
    show P (ccSenStress F crop s0 s sen2 dt t).cc (ccSenStress F crop s0 s sen2 dt t).cc0Adj
      (ccSenStress F crop s0 s sen2 dt t).ccxAct
    rw [ccSenStress_eq]
    exact ccEarlySen_act_cases F crop s0 _ _ dt t hx0 h00 h0 lower early
  · rw [ccRaiseW_eq]
    show P (ccSenNoStress F crop s0 s dt t).cc (ccSenNoStress F crop s0 s dt t).cc0Adj
      (ccSenNoStress F crop s0 s dt t).ccxAct
    unfold ccSenNoStress
    dsimp only
    by_cases c : crop.senescence < t ∧ 0 < s0.tEarlySen
    · rw [if_pos c]
      show P (ccRewater F crop s0 { s with prematSenes := false } dt t).cc
        (ccRewater F crop s0 { s with prematSenes := false } dt t).cc0Adj
        (ccRewater F crop s0 { s with prematSenes := false } dt t).ccxAct
      unfold ccRewater
      dsimp only
      rw [ccDie_shape]
      exact rewater c.1 c.2 _ rfl _ (ccDie_range s0 _ (clamp01_bounds _).1 (le_refl _)).1
        (ccDie_range s0 _ (clamp01_bounds _).1 (le_refl _)).2
    · rw [if_neg c]
      exact keep

/-- the whole senescence block: cover and `cc0_adj` stay in range; `ccx_act` stays below `B` on
every path provided the `CCXadj` a rewatering (`Senescence < tCCadj` and a running early
senescence) assigns is — which is **not** bounded by `CCx` in general -/
theorem ccSenescence_rng {F : Fn α} (hF : ExpOrdLaws F) {crop : CcCrop α} {dt : α}
    (hp : CcParams F crop dt) (s0 : CcState α) (kswSen : α) (sen2 : α → α) (t : α) {B : α}
    {s : CcState α} (hB : crop.ccx ≤ B) (h0 : 0 ≤ s0.cc) (h1 : s0.cc ≤ crop.ccx)
    (h : CcRng crop B s) :
    CcRngW crop B (ccSenescence F crop s0 s kswSen sen2 dt t) ∧
      ((crop.senescence < t → 0 < s0.tEarlySen →
          (updateCCxCDC F s0.cc crop.cdc crop.ccx (t - dt - crop.senescence)).1 ≤ B) →
        (ccSenescence F crop s0 s kswSen sen2 dt t).ccxAct ≤ B) := by
  have key := ccSenescence_act_cases
    (P := fun c a x => (0 ≤ c ∧ c ≤ B ∧ 0 ≤ a ∧ a ≤ crop.cc0) ∧
      ((crop.senescence < t → 0 < s0.tEarlySen →
          (updateCCxCDC F s0.cc crop.cdc crop.ccx (t - dt - crop.senescence)).1 ≤ B) → x ≤ B))
    F crop s0 s kswSen sen2 dt t (hp.ccx_nonneg hF) h0 h.cc0
    ⟨⟨h.cc0, h.ccB, h.adj0, h.adj1⟩, fun _ => h.actB⟩
    (fun d d0 d1 => ⟨⟨d0, d1.trans h.ccB, h.adj0, h.adj1⟩, fun _ => h.actB⟩)
    (fun _ c d d0 dc c0 cx =>
      ⟨⟨d0, dc.trans (cx.trans hB), le_min (d0.trans dc) hp.cc0_nonneg, min_le_right _ _⟩,
        fun _ => cx.trans hB⟩)
    (fun a b u hu d d0 d1 => by
      subst hu
      -- the rewatered cover is at most the previous one
      exact ⟨⟨d0, d1.trans ((rewater_le hF s.cc0Adj crop.cgc h0 hp.cdc_nonneg (hp.ccx_nonneg hF)
        hp.dt_nonneg).trans (h1.trans hB)), h.adj0, h.adj1⟩, fun hr => hr a b⟩)
  exact ⟨⟨key.1.1, key.1.2.1, key.1.2.2.1, key.1.2.2.2⟩, key.2⟩

/-! ### the potential (no-stress) canopy block -/

structure NsRng (crop : CcCrop α) (s : CcState α) : Prop where
  ns0 : 0 ≤ s.ccNS
  ns1 : s.ccNS ≤ crop.ccx
  actNS : s.ccxActNS ≤ crop.ccx

theorem ccPotential_rng (F : Fn α) {crop : CcCrop α} (s0 : CcState α) (dt t : α) {B : α}
    {s : CcState α} (h : CcRng crop B s) : CcRng crop B (ccPotential F crop s0 s dt t) := by
  rw [ccPotential_shape]
  exact ⟨h.cc0, h.ccB, h.adj0, h.adj1, h.actB⟩

theorem ccPotential_ns {F : Fn α} (hF : ExpOrdLaws F) {crop : CcCrop α} {dt : α}
    (hp : CcParams F crop dt) (s0 : CcState α) (t : α) {s : CcState α}
    (h0 : 0 ≤ s0.ccNS) (h1 : s0.ccNS ≤ crop.ccx) (h : NsRng crop s) :
    NsRng crop (ccPotential F crop s0 s dt t) := by
  have hccx := hp.ccx_nonneg hF
  refine ccPotential_cases (P := NsRng crop) F crop s0 s dt t (fun _ => ⟨le_refl _, hccx, h.actNS⟩)
    (fun _ _ => ⟨mul_nonneg hp.cc0_nonneg (hF.exp_pos _).le, hp.step, hp.step⟩) (fun _ _ => ?_)
    (fun _ _ => ⟨h0, h1, h1⟩) (fun _ m => ?_) h
  · obtain ⟨a, b⟩ := growth_range F crop.cc0 crop.cgc crop.cdc (t - crop.emergence) crop.ccx
      (ccx := 0.98 * crop.ccx) (B := crop.ccx) (mul_nonneg (by norm_num) hccx)
      (mul_le_of_le_one_left hccx (by norm_num))
    exact ⟨a, b, b⟩
  · obtain ⟨a, b⟩ := decline_range hF crop.cc0 crop.cgc (x := s.ccxActNS) (cdc' := crop.cdc)
      (fun _ => hp.cdc_nonneg) (sub_nonneg.mpr (not_lt.mp m)) h.actNS hccx
    exact ⟨a, b, h.actNS⟩

/-! ### the in-season body -/

structure CcPre (crop : CcCrop α) (s : CcState α) : Prop where
  cc0 : 0 ≤ s.cc
  cc1 : s.cc ≤ crop.ccx
  adj0 : 0 ≤ s.cc0Adj
  adj1 : s.cc0Adj ≤ crop.cc0

theorem ccBeforeFixup_rng {F : Fn α} (hF : ExpOrdLaws F) {crop : CcCrop α} {dt : α}
    (hp : CcParams F crop dt) {s0 : CcState α} (dr taw et0 t : α) {B : α}
    (hB : crop.ccx ≤ B) (hx : s0.ccxAct ≤ B) (h : CcPre crop s0) :
    CcRngW crop B (ccBeforeFixup F crop s0 dr taw et0 dt t) ∧
      ((crop.senescence < t → 0 < s0.tEarlySen →
          (updateCCxCDC F s0.cc crop.cdc crop.ccx (t - dt - crop.senescence)).1 ≤ B) →
        (ccBeforeFixup F crop s0 dr taw et0 dt t).ccxAct ≤ B) := by
  unfold ccBeforeFixup
  dsimp only
  have r0 : CcRng crop B { s0 with ccPrev := s0.cc } :=
    ⟨h.cc0, le_trans h.cc1 hB, h.adj0, h.adj1, hx⟩
  have r1 := ccPotential_rng F s0 dt t r0
  have r2 := ccActual_rng hF hp s0
    (waterStress F crop.pUp crop.pLo crop.fshW crop.etAdj crop.beta s0.tEarlySen dr taw et0 true).exp
    t hB h.cc0 h.cc1 r1
  exact ccSenescence_rng hF hp s0 _ _ t hB h.cc0 h.cc1 r2

theorem ccSeason_cc_range {F : Fn α} (hF : ExpOrdLaws F) {crop : CcCrop α} {dt : α}
    (hp : CcParams F crop dt) {s0 : CcState α} (dr taw et0 t : α) (h : CcPre crop s0)
    (hx : s0.ccxAct ≤ crop.ccx) :
    CcPre crop (ccSeason F crop s0 dr taw et0 dt t) ∧
      (¬ (crop.senescence < t ∧ 0 < s0.tEarlySen) →
        (ccSeason F crop s0 dr taw et0 dt t).ccxAct ≤ crop.ccx) := by
  obtain ⟨r, rx⟩ := ccBeforeFixup_rng hF hp dr taw et0 t (le_refl crop.ccx) hx h
  rw [ccSeason_shape]
  exact ⟨⟨r.cc0, r.ccB, r.adj0, r.adj1⟩, fun hn => rx fun a b => absurd ⟨a, b⟩ hn⟩

/-! ### `canopy_cover` -/

/-- the crop/time-step premises for whichever time pair the crop's calendar type selects -/
def CcParamsFor (F : Fn α) (crop : CcCrop α) (st : CcState α) (gdd : α) : Prop :=
  ∀ dt t, ccTime crop st gdd = some (dt, t) → CcParams F crop dt

theorem ccParamsFor_of {F : Fn α} {crop : CcCrop α} (st : CcState α) {gdd : α}
    (h1 : crop.calendarType = 1 → CcParams F crop 1)
    (h2 : crop.calendarType = 2 → CcParams F crop gdd) : CcParamsFor F crop st gdd := by
  intro dt t ht
  unfold ccTime at ht
  split_ifs at ht with c1 c2
  · obtain ⟨rfl, _⟩ := Prod.mk.inj (Option.some.inj ht)
    exact h1 c1
  · obtain ⟨rfl, _⟩ := Prod.mk.inj (Option.some.inj ht)
    exact h2 c2

theorem cc_range {F : Fn α} (hF : ExpOrdLaws F) {crop : CcCrop α} {cells : List (Cell α)}
    {zTop : α} {st out : CcState α} {gdd et0 : α} (hp : CcParamsFor F crop st gdd)
    (hpre : CcPre crop st) (hx : st.ccxAct ≤ crop.ccx)
    (h : canopyCover F crop cells zTop st gdd et0 true = .ok out) :
    0 ≤ out.cc ∧ out.cc ≤ crop.ccx ∧ 0 ≤ out.cc0Adj ∧ out.cc0Adj ≤ crop.cc0 := by
  obtain ⟨dr, taw, dt, t, ht, rfl⟩ := canopyCover_season h
  obtain ⟨r, _⟩ := ccSeason_cc_range hF (hp dt t ht) dr taw et0 t hpre hx
  exact ⟨r.cc0, r.cc1, r.adj0, r.adj1⟩

theorem cc_le_max {F : Fn α} (hF : ExpOrdLaws F) {crop : CcCrop α} {cells : List (Cell α)}
    {zTop : α} {st out : CcState α} {gdd et0 : α} (hp : CcParamsFor F crop st gdd)
    (hpre : CcPre crop st)
    (h : canopyCover F crop cells zTop st gdd et0 true = .ok out) :
    0 ≤ out.cc ∧ out.cc ≤ max crop.ccx st.ccxAct := by
  obtain ⟨dr, taw, dt, t, ht, rfl⟩ := canopyCover_season h
  obtain ⟨r, _⟩ := ccBeforeFixup_rng hF (hp dt t ht) dr taw et0 t
    (le_max_left crop.ccx st.ccxAct) (le_max_right _ _) hpre
  rw [ccSeason_cc]
  exact ⟨r.cc0, r.ccB⟩

theorem ccxact_le_of_no_rewatering {F : Fn α} (hF : ExpOrdLaws F) {crop : CcCrop α}
    {cells : List (Cell α)} {zTop : α} {st out : CcState α} {gdd et0 : α}
    (hp : CcParamsFor F crop st gdd) (hpre : CcPre crop st) (hx : st.ccxAct ≤ crop.ccx)
    (hno : ∀ dt t, ccTime crop st gdd = some (dt, t) → ¬ (crop.senescence < t ∧ 0 < st.tEarlySen))
    (h : canopyCover F crop cells zTop st gdd et0 true = .ok out) :
    out.ccxAct ≤ crop.ccx := by
  obtain ⟨dr, taw, dt, t, ht, rfl⟩ := canopyCover_season h
  exact (ccSeason_cc_range hF (hp dt t ht) dr taw et0 t hpre hx).2 (hno dt t ht)

/-- the premises of `cc_range` are needed here too: the final fix-up copies the actual cover into
`canopy_cover_ns` -/
theorem ccns_range {F : Fn α} (hF : ExpOrdLaws F) {crop : CcCrop α} {cells : List (Cell α)}
    {zTop : α} {st out : CcState α} {gdd et0 : α} (hp : CcParamsFor F crop st gdd)
    (hpre : CcPre crop st) (hx : st.ccxAct ≤ crop.ccx) (hns : NsRng crop st)
    (h : canopyCover F crop cells zTop st gdd et0 true = .ok out) :
    0 ≤ out.ccNS ∧ out.ccNS ≤ crop.ccx ∧ out.ccxActNS ≤ crop.ccx := by
  obtain ⟨dr, taw, dt, t, ht, rfl⟩ := canopyCover_season h
  obtain ⟨r, _⟩ := ccBeforeFixup_rng hF (hp dt t ht) dr taw et0 t (le_refl crop.ccx) hx hpre
  have n : NsRng crop (ccBeforeFixup F crop st dr taw et0 dt t) := by
    have r1 := ccPotential_ns hF (hp dt t ht) st t hns.ns0 hns.ns1
      (s := { st with ccPrev := st.cc }) ⟨hns.ns0, hns.ns1, hns.actNS⟩
    unfold ccBeforeFixup ccActual
    dsimp only
    rw [ccSenescence_shape, ccActualB_shape]
    exact ⟨r1.ns0, r1.ns1, r1.actNS⟩
  refine ⟨?_, ?_, ?_⟩
  · rw [ccSeason_ccNS]
    exact le_trans n.ns0 (le_max_left _ _)
  · rw [ccSeason_ccNS]
    exact max_le n.ns1 r.ccB
  · rw [ccSeason_eq, ccFixup_eq]
    show (if _ then _ else _) ≤ _
    split_ifs
    · exact r.ccB
    · exact n.actNS

end Aqua
