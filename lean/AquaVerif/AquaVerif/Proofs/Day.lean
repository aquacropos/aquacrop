import AquaVerif.Properties.C06
import AquaVerif.Properties.C05
import AquaVerif.Model.Day
import AquaVerif.Properties.C01
import AquaVerif.Properties.C03
import AquaVerif.Properties.C04
import AquaVerif.Proofs.Germination
import AquaVerif.Proofs.GrowthStage

/-
Lemmas about `fullDay` (`Model/Day.lean`), at an arbitrary linearly ordered field:

A. a successful day and the equations of its process calls (`FullSteps`, `fullDayTrace_iff`,
   `fullDay_ok`, `fullDay_of_steps`), and the bridge **`fullDay_water`**: a successful `fullDay` is a
   successful `waterDay` for the `CropDay` it computed — so every theorem about `waterDay`
   (quantified over all `CropDay`) applies to `r.water`; `fullDay_waterOf` adds how the state and the
   `water_flux` row repeat the `waterDay` outputs, and is what the run-level files use;
B. `fullDay_comps`, `fullDay_drainPre` and four water statements spelled on the rows
   (`fullDay_closes_with_lost`, `fullDay_cr_slack`, `fullDay_wr_nonneg`, `fullDay_runoff_nonneg`);
C. the rows: time counters (`fullDay_counters`), the C06 daily identities (`fullDay_yields`,
   `fullDay_biomass_bounds`, `fullDay_irrTot`), the summary row and the flags
   (`fullDay_summary`, `fullDay_flags`), off-season zeros (`fullDay_offseason_zero`);
D. the crop-side envelope of C05 along one day: `CcInv`, `RootInv`, `HiInv`, `BioInv`, together
   `CropInv` (spelled out by `CropInv.envelope`), each preserved by a successful day
   (`fullDay_ccInv`, `fullDay_rootInv`, `fullDay_hiInv`, `fullDay_bioInv`, `fullDay_cropInv`);
   the monotonicity the day adds (`fullDay_crop_progress`, `fullDay_gdd`).  `Rewatering` names the
   one path of `canopy_cover` whose `ccx_act` the envelope does not bound.  The premises of the
   canopy and root lemmas for the day's calls are derived once, from the step equations
   (`FullSteps.ccPre`, `FullSteps.cc_feedback`, `RootPre.rdHyp`, `FullSteps.rdHyp`, `RootInv.zInit`,
   `RootInv.rdInv_start`), and so is how far the crop clock moves (`FullSteps.time_step`);
and a concrete non-trivial day over `ℚ` (`FullDayExample`).
-/

set_option linter.unusedSectionVars false
namespace Aqua
variable {α : Type} [Field α] [LinearOrder α] [IsStrictOrderedRing α]

/-! ## A. inversion of a successful full day -/

theorem hiErr_ok {β : Type} {x : Except String β} {b : β} (h : hiErr x = .ok b) : x = .ok b := by
  cases x with
  | error e => cases h
  | ok a => cases h; rfl

structure FullSteps (F : Fn α) (T : TrigFn α) (P : DayParams α) (st : DayState' α) (D : DayIn' α)
    (X : FullTrace α) : Prop where
  htc : dayCounters P.cx st D = .ok X.tc
  hrd : rootDevelopment F P.cx.rd X.g.cells (natNum X.tc.dap) st.zRoot st.delayedCds X.tc.gddCum
          st.delayedGdds st.trRatio st.cc st.ccNS st.germination st.rCor st.tPot X.g.zGW X.tc.gdd
          D.gs P.W.waterTable = .ok X.rd
  hge : germination F st.germ P.zGerm X.c.cells P.cx.germThr P.cx.sown X.tc.gdd D.gs = .ok X.ge
  hgst : growthStage P.W.crop.calendarType (natNum X.tc.dap) X.ge.s.delayedCds X.tc.gddCum
          X.ge.s.delayedGdds P.cx.canopy10 P.cx.maxCanopy P.W.crop.senescence D.gs st.growthStage
          = some X.gst
  hcc : canopyCover F P.cx.cc X.c.cells P.W.soil.zTop (ccStateOf st X.tc X.rd X.ge) X.tc.gdd D.et0
          D.gs = .ok X.cc
  hhr : X.hr = hiRefCurrentDay F P.cx.hi (hiRefInOf st X.tc X.ge X.cc X.t) D.gs
  hbio : X.bio = biomassAccumulation P.cx.bio (natNum X.tc.dap) X.ge.s.delayedCds X.hr.hiRef
          X.hr.pctLagPhase st.biomass st.biomassNS X.t.trAct X.t.trPotNS D.et0 D.gs
  hhi : harvestIndex F T X.w.1 P.W.soil.zTop P.cx.hi P.cx.hik
          (hiStateOf st X.tc X.rd X.ge X.cc X.t X.hr X.bio) D.et0 D.tmax D.tmin D.gs = .ok X.hi
  hy : X.y = yieldStep X.bio.2 X.bio.1 X.hi.hi X.hi.hiAdj P.cx.yldWC D.gs
  water : DaySteps F P.W P.fm (X.cropDay P st) st.cells st.water D.water X.water

@[simp] theorem FullTrace.water_g (X : FullTrace α) : X.water.g = X.g := rfl
@[simp] theorem FullTrace.water_p (X : FullTrace α) : X.water.p = X.p := rfl
@[simp] theorem FullTrace.water_d (X : FullTrace α) : X.water.d = X.d := rfl
@[simp] theorem FullTrace.water_r (X : FullTrace α) : X.water.r = X.r := rfl
@[simp] theorem FullTrace.water_i (X : FullTrace α) : X.water.i = X.i := rfl
@[simp] theorem FullTrace.water_f (X : FullTrace α) : X.water.f = X.f := rfl
@[simp] theorem FullTrace.water_c (X : FullTrace α) : X.water.c = X.c := rfl
@[simp] theorem FullTrace.water_e (X : FullTrace α) : X.water.e = X.e := rfl
@[simp] theorem FullTrace.water_t (X : FullTrace α) : X.water.t = X.t := rfl
@[simp] theorem FullTrace.water_w (X : FullTrace α) : X.water.w = X.w := rfl
@[simp] theorem FullTrace.water_rz (X : FullTrace α) : X.water.rz = X.rz := rfl

/-- the `simp` lemmas `FullTrace.water_*` put the water equations, which `FullSteps` states of
`X.water`, back into the terms of `X` -/
theorem fullDayTrace_iff {F : Fn α} {T : TrigFn α} {P : DayParams α} {st : DayState' α}
    {D : DayIn' α} {X : FullTrace α} :
    fullDayTrace F T P st D = .ok X ↔ FullSteps F T P st D X := by
  constructor
  · intro h
    unfold fullDayTrace at h
    simp only [bind_ok_iff] at h
    obtain ⟨tc, htc, g, hg, rd, hrd, p, hp, r, hr, i, hi, f, hf, c, hc, ge, hge, gst, hgst, cc,
      hcc, e, he, t, ht, w, hw, hix, hhi, rz, hrz, h⟩ := h
    cases h
    exact
      { htc := htc, hrd := hrd, hge := hge, hgst := optErr_ok hgst, hcc := hcc, hhr := rfl,
        hbio := rfl, hhi := hiErr_ok hhi, hy := rfl,
        water := ⟨optErr_ok hg, optErr_ok hp, rfl, optErr_ok hr, mapErr_ok hi, hf, mapErr_ok hc,
          he, ht, optErr_ok hw, optErr_ok hrz⟩ }
  · rintro ⟨htc, hrd, hge, hgst, hcc, hhr, hbio, hhi, hy, hg, hp, hd, hr, hi, hf, hc, he, ht, hw,
      hrz⟩
    simp only [FullTrace.water_g, FullTrace.water_p, FullTrace.water_d, FullTrace.water_r,
      FullTrace.water_i, FullTrace.water_f, FullTrace.water_c, FullTrace.water_e,
      FullTrace.water_t, FullTrace.water_w, FullTrace.water_rz, FullTrace.cropDay, cropDayOf,
      DayIn'.water] at hg hp hd hr hi hf hc he ht hw hrz
    unfold fullDayTrace
    simp only [DayIn'.water, cropDayOf, optErr, mapErr, hiErr, bind, Except.bind, htc, hg, hrd, hp,
      ← hd, hr, hi, hf, hc, hge, hgst, hcc, he, ht, hw, ← hhr, ← hbio, hhi, ← hy, hrz]
    rfl

structure WaterOf (F : Fn α) (P : DayParams α) (st : DayState' α) (D : DayIn' α)
    (r : DayResult α) : Prop where
  day : waterDay F P.W P.fm r.crop st.cells st.water D.water = .ok r.water
  cells : r.state.cells = r.water.cells
  pond : r.state.pond = r.water.pond
  th : r.storage.th = r.water.cells.map (·.th)
  wr : r.flux.wr = r.water.wr
  zGW : r.flux.zGW = r.water.zGW
  fpond : r.flux.pond = r.water.pond
  irrDay : r.flux.irrDay = r.water.irrDay
  infl : r.flux.infl = r.water.infl
  runoff : r.flux.runoff = r.water.runoff
  deepPerc : r.flux.deepPerc = r.water.deepPerc
  cr : r.flux.cr = r.water.cr
  gwIn : r.flux.gwIn = r.water.gwIn
  es : r.flux.es = r.water.es
  esPot : r.flux.esPot = r.water.esPot
  tr : r.flux.tr = r.water.tr
  trPot : r.flux.trPot = r.water.trPot

section full
variable {F : Fn α} {T : TrigFn α} {P : DayParams α} {st : DayState' α} {D : DayIn' α}
  {r : DayResult α}

theorem fullDay_ok (h : fullDay F T P st D = .ok r) :
    FullSteps F T P st D r.trace ∧ r = dayResultOf P st D r.trace := by
  unfold fullDay at h
  split at h
  · cases h
  · rename_i X hX
    cases h
    exact ⟨fullDayTrace_iff.1 hX, rfl⟩

theorem fullDay_ok' (h : fullDay F T P st D = .ok r) :
    ∃ X, FullSteps F T P st D X ∧ r = dayResultOf P st D X :=
  ⟨r.trace, (fullDay_ok h).1, (fullDay_ok h).2⟩

theorem fullDay_of_steps {X : FullTrace α} (hs : FullSteps F T P st D X) :
    fullDay F T P st D = .ok (dayResultOf P st D X) := by
  unfold fullDay
  rw [fullDayTrace_iff.2 hs]

theorem fullDay_water (h : fullDay F T P st D = .ok r) :
    waterDay F P.W P.fm r.crop st.cells st.water D.water = .ok r.water := by
  obtain ⟨hs, e⟩ := fullDay_ok h
  rw [e]
  exact waterDay_of_steps hs.water

/-- `irrReport` and `dayOutOf` spell the same case distinction -/
theorem fullDay_irrDay (h : fullDay F T P st D = .ok r) : r.flux.irrDay = r.water.irrDay := by
  obtain ⟨X, hs, rfl⟩ := fullDay_ok' h
  simp only [dayResultOf, irrReportOf, irrReport, dayOutOf, DayIn'.water, FullTrace.water]
  by_cases hg : D.gs = true
  · by_cases hm : P.W.irr.method = 4 <;> simp [hg, hm]
  · simp [hg]

theorem fullDay_waterOf (h : fullDay F T P st D = .ok r) : WaterOf F P st D r := by
  have hw := fullDay_water h
  have hi := fullDay_irrDay h
  obtain ⟨X, hs, rfl⟩ := fullDay_ok' h
  exact ⟨hw, rfl, rfl, rfl, rfl, rfl, rfl, hi, rfl, rfl, rfl, rfl, rfl, rfl, rfl, rfl, rfl⟩

/-! ## B. the water side of the full day

Everything `Properties/C01–C04, C19` say of `waterDay` holds of `r.water` by `fullDay_waterOf`; the
run-level files apply the theorems about `waterDay` that way. -/

theorem fullDay_closes_with_lost (h : fullDay F T P st D = .ok r)
    (hdz : ∀ x ∈ st.cells, 0 < x.c.dz) :
    storage r.state.cells + r.state.pond =
      storage st.cells + st.pond + r.flux.infl + r.water.preIrr + r.water.irrNet
        + r.water.crAdded + r.flux.gwIn - r.flux.deepPerc - r.flux.es - r.flux.tr
        - r.water.drainLost - r.water.inflLost := by
  have w := fullDay_waterOf h
  rw [w.cells, w.pond, w.infl, w.gwIn, w.deepPerc, w.es, w.tr]
  have hb := C01.day_closes_with_lost w.day hdz
  exact hb

theorem fullDay_cr_slack (h : fullDay F T P st D = .ok r) (hP : DayPre F P.W st.cells st.water)
    (hL : P.W.waterTable = 1 → GwExpLaws F ∧ GwRoundLaws F ∧ GwRoundSign F) :
    ∀ y ∈ r.water.crCells, y.c.WF ∧ y.c.thDry ≤ y.th ∧ y.th ≤ y.c.thS + 1 / 20000 ∧
      y.c.thFC ≤ y.fcAdj ∧ y.fcAdj ≤ y.c.thS :=
  C03.day_after_capillary_rise_with_slack (fullDay_water h) hP hL

theorem fullDay_wr_nonneg (h : fullDay F T P st D = .ok r) : 0 ≤ r.flux.wr := by
  have w := fullDay_waterOf h
  rw [w.wr]
  exact C03.day_wr_nonneg w.day

theorem fullDay_comps (h : fullDay F T P st D = .ok r) :
    r.state.cells.map (·.c) = st.cells.map (·.c) := by
  obtain ⟨X, hs, rfl⟩ := fullDay_ok' h
  exact (day_comps hs.water).w

theorem fullDay_drainPre (h : fullDay F T P st D = .ok r) (hpre : ∀ x ∈ st.cells, DrainPre x)
    (hinv : ∀ y ∈ r.state.cells, y.Inv) : ∀ y ∈ r.state.cells, DrainPre y := by
  have hc := fullDay_comps h
  have := forall_of_map_eq (·.c) hc (fun c => 0 ≤ c.dzsum ∧ c.thFC < c.thS)
    (fun x hx => ⟨(hpre x hx).dzsum_nn, (hpre x hx).fc_lt_s⟩)
  exact fun y hy => ⟨hinv y hy, (this y hy).1, (this y hy).2⟩

theorem fullDay_runoff_nonneg (h : fullDay F T P st D = .ok r)
    (hP : DayPre F P.W st.cells st.water) (hrain : 0 ≤ D.rain)
    (hcn : ScsRuns P.fm → 0 < r.water.cn ∧ r.water.cn ≤ 100) : 0 ≤ r.flux.runoff := by
  have w := fullDay_waterOf h
  rw [w.runoff]
  exact (C02.day_runoff_bounds w.day hP hrain hcn).1

end full

/-! ## C. the emitted rows: counters, yields (C06), summary and flags, off-season zeros (C04/C05) -/

theorem dayCounters_ok {cx : CropX α} {st : DayState' α} {D : DayIn' α} {tc : DayCounters α}
    (h : dayCounters cx st D = .ok tc) :
    (D.gs = true → tc.dap = st.dap + 1 ∧
      growingDegreeDay cx.gddMethod cx.tupp cx.tbase D.tmax D.tmin = some tc.gdd ∧
      tc.gddCum = st.gddCum + tc.gdd) ∧
    (D.gs = false → tc.dap = 0 ∧ tc.gdd = 0.3 ∧ tc.gddCum = 0) := by
  unfold dayCounters at h
  refine ⟨fun hg => ?_, fun hg => ?_⟩
  · rw [if_pos hg] at h
    cases hgd : growingDegreeDay cx.gddMethod cx.tupp cx.tbase D.tmax D.tmin with
    | none => rw [hgd] at h; cases h
    | some g => rw [hgd] at h; cases h; exact ⟨rfl, rfl, rfl⟩
  · rw [if_neg (fun h' => Bool.false_ne_true (hg.symm.trans h'))] at h
    cases h
    exact ⟨rfl, rfl, rfl⟩

section rows
variable {F : Fn α} {T : TrigFn α} {P : DayParams α} {st : DayState' α} {D : DayIn' α}
  {r : DayResult α}

theorem fullDay_counters (h : fullDay F T P st D = .ok r) :
    r.storage.dap = r.growth.dap ∧ r.flux.dap = r.growth.dap ∧ r.state.dap = r.growth.dap ∧
    r.state.gddCum = r.growth.gddCum ∧
    (D.gs = true → r.growth.dap = st.dap + 1 ∧
      growingDegreeDay P.cx.gddMethod P.cx.tupp P.cx.tbase D.tmax D.tmin = some r.growth.gdd ∧
      r.growth.gddCum = st.gddCum + r.growth.gdd) ∧
    (D.gs = false → r.growth.dap = 0 ∧ r.growth.gdd = 0.3 ∧ r.growth.gddCum = 0) := by
  obtain ⟨X, hs, rfl⟩ := fullDay_ok' h
  exact ⟨rfl, rfl, rfl, rfl, dayCounters_ok hs.htc⟩

theorem fullDay_yields (h : fullDay F T P st D = .ok r) :
    r.growth.yieldPot = (r.growth.biomassNS / 100) * r.growth.hi ∧
    (D.gs = true →
      r.growth.dryYield = (r.growth.biomass / 100) * r.growth.hiAdj ∧
      r.growth.freshYield = r.growth.dryYield / (P.cx.yldWC / 100) ∧
      r.growth.biomass = st.biomass +
        bioWPadj P.cx.bio (natNum r.growth.dap) r.state.delayedCds r.state.hiRef
          r.state.pctLagPhase * (r.flux.tr / D.et0) ∧
      r.growth.biomassNS = st.biomassNS +
        bioWPadj P.cx.bio (natNum r.growth.dap) r.state.delayedCds r.state.hiRef
          r.state.pctLagPhase * (r.water.trPotNS / D.et0)) ∧
    (r.state.yieldPot = r.growth.yieldPot ∧ r.state.dryYield = r.growth.dryYield ∧
      r.state.freshYield = r.growth.freshYield ∧ r.state.biomass = r.growth.biomass ∧
      r.state.biomassNS = r.growth.biomassNS ∧ r.state.hi = r.growth.hi ∧
      r.state.hiAdj = r.growth.hiAdj ∧ r.state.cc = r.growth.cc ∧ r.state.ccNS = r.growth.ccNS ∧
      r.state.zRoot = r.growth.zRoot) := by
  obtain ⟨X, hs, rfl⟩ := fullDay_ok' h
  have hy := hs.hy
  have hb := hs.hbio
  refine ⟨?_, fun hg => ?_, ⟨rfl, rfl, rfl, rfl, rfl, rfl, rfl, rfl, rfl, rfl⟩⟩
  · show X.y.yieldPot = _
    rw [hy]; exact C06.pot_yield_eq _ _ _ _ _ _
  · rw [hg] at hy hb
    rw [biomass_step] at hb
    refine ⟨?_, ?_, ?_, ?_⟩
    · show X.y.dryYield = _
      rw [hy]; exact C06.dry_yield_eq _ _ _ _ _
    · show X.y.freshYield = X.y.dryYield / _
      rw [hy]; exact C06.fresh_yield_eq _ _ _ _ _
    · show X.bio.1 = _
      rw [hb]; rfl
    · show X.bio.2 = _
      rw [hb]; rfl

theorem fullDay_biomass_bounds (h : fullDay F T P st D = .ok r) (hg : D.gs = true)
    (hy0 : 0 ≤ P.cx.bio.wpy) (hy1 : P.cx.bio.wpy ≤ 100) (hw : 0 ≤ P.cx.bio.wp * P.cx.bio.fco2)
    (hsw : BioSwitchOK P.cx.bio (natNum r.growth.dap) r.state.delayedCds r.state.pctLagPhase)
    (htr : 0 ≤ r.flux.tr) (het : 0 < D.et0) :
    st.biomass + P.cx.bio.wp * P.cx.bio.fco2 * (P.cx.bio.wpy / 100) * (r.flux.tr / D.et0)
        ≤ r.growth.biomass ∧
      r.growth.biomass ≤ st.biomass + P.cx.bio.wp * P.cx.bio.fco2 * (r.flux.tr / D.et0) := by
  obtain ⟨X, hs, rfl⟩ := fullDay_ok' h
  have hb := hs.hbio
  rw [hg] at hb
  have := C06.biomass_step_bounds P.cx.bio (natNum X.tc.dap) X.ge.s.delayedCds X.hr.hiRef
    X.hr.pctLagPhase st.biomass st.biomassNS X.t.trAct X.t.trPotNS D.et0 hy0 hy1 hw hsw htr het
  rw [← hb] at this
  exact this

theorem fullDay_summary (h : fullDay F T P st D = .ok r) :
    (r.summary.isSome = (r.endc && !st.harvestFlag)) ∧
    r.state.harvestFlag = (st.harvestFlag || r.endc) ∧
    r.endc = (decide (0 ≤ D.season) && (r.state.cropMature || r.state.cropDead || D.lastDay)) ∧
    (∀ s, r.summary = some s → s.season = D.season ∧ s.tsc = D.tsc ∧
      s.dryYield = r.growth.dryYield ∧ s.freshYield = r.growth.freshYield ∧
      s.yieldPot = r.growth.yieldPot ∧ s.irrTot = r.irrTot) := by
  obtain ⟨X, hs, rfl⟩ := fullDay_ok' h
  refine ⟨?_, rfl, rfl, ?_⟩
  · simp only [dayResultOf]
    split_ifs with hc
    · simp [hc]
    · simp only [Option.isSome_none]
      exact (Bool.eq_false_iff.mpr hc).symm
  · intro s hsome
    simp only [dayResultOf] at hsome
    split_ifs at hsome with hc
    rw [← Option.some.inj hsome]
    exact ⟨rfl, rfl, rfl, rfl, rfl, rfl⟩

theorem fullDay_labels (h : fullDay F T P st D = .ok r) :
    r.flux.season = D.season ∧ r.flux.tsc = D.tsc ∧ r.growth.season = D.season ∧
      r.growth.tsc = D.tsc ∧ r.storage.tsc = D.tsc ∧
      ∀ x, r.summary = some x → x.season = D.season ∧ x.tsc = D.tsc := by
  have hsum := (fullDay_summary h).2.2.2
  obtain ⟨_, e⟩ := fullDay_ok h
  rw [e]
  exact ⟨rfl, rfl, rfl, rfl, rfl, fun x hx => ⟨(hsum x (e ▸ hx)).1, (hsum x (e ▸ hx)).2.1⟩⟩

theorem fullDay_flags (h : fullDay F T P st D = .ok r) :
    r.state.cropMature = (st.cropMature || (D.gs && matureTest P r.trace.tc)) ∧
    (D.gs = false → r.state.cropDead = st.cropDead) := by
  obtain ⟨X, hs, rfl⟩ := fullDay_ok' h
  refine ⟨rfl, fun hg => ?_⟩
  have hcc := hs.hcc
  rw [hg, canopyCover_offseason] at hcc
  show X.cc.cropDead = _
  rw [← Except.ok.inj hcc]
  rfl

/-- `IrrTot` of the summary row is a running sum: yesterday's seasonal counter (`irr_cum`, or
`irr_net_cum` in net-irrigation mode) plus the irrigation column of today's row -/
theorem fullDay_irrTot (h : fullDay F T P st D = .ok r) :
    (D.gs = true → P.W.irr.method ≠ 4 →
      r.irrTot = r.state.irrCum ∧ r.irrTot = st.irrCum + r.flux.irrDay) ∧
    (D.gs = true → P.W.irr.method = 4 →
      r.irrTot = r.state.irrNetCum ∧ r.irrTot = st.irrNetCum + r.flux.irrDay) ∧
    (D.gs = false → r.irrTot = 0 ∧ r.flux.irrDay = 0) := by
  obtain ⟨X, hs, rfl⟩ := fullDay_ok' h
  refine ⟨fun hg hm => ?_, fun hg hm => ?_, fun hg => ?_⟩
  · have hi := hs.water.hi
    rw [show D.water.gs = true from hg] at hi
    have e : X.i.irrCum = st.irrCum + X.i.irr := irr_cum_step hi
    simp only [dayResultOf, stateAfter, irrReportOf, irrReport, hg, hm, if_true, if_false]
    exact ⟨trivial, e⟩
  · have ht := hs.water.ht
    rw [show D.water.gs = true from hg, show P.W.irr.method = 4 from hm] at ht
    have e : X.t.st.irrNetCum = st.irrNetCum + X.t.irrNet := C06.net_irrigation_counter_step ht
    simp only [dayResultOf, stateAfter, irrReportOf, irrReport, hg, hm, if_true]
    refine ⟨trivial, ?_⟩
    show X.t.st.irrNetCum + X.p.2 = st.irrNetCum + (X.t.irrNet + X.p.2)
    rw [e, add_assoc]
  · simp only [dayResultOf, irrReportOf, irrReport, hg, Bool.false_eq_true, if_false]
    exact ⟨trivial, trivial⟩

theorem fullDay_offseason_zero (h : fullDay F T P st D = .ok r) (hg : D.gs = false) :
    (r.flux.tr = 0 ∧ r.flux.trPot = 0 ∧ r.flux.irrDay = 0 ∧ r.flux.dap = 0) ∧
    (r.growth.dap = 0 ∧ r.growth.gdd = 0.3 ∧ r.growth.gddCum = 0 ∧ r.growth.zRoot = 0 ∧
      r.growth.cc = 0 ∧ r.growth.ccNS = 0 ∧ r.growth.biomass = 0 ∧ r.growth.biomassNS = 0 ∧
      r.growth.hi = 0 ∧ r.growth.hiAdj = 0 ∧ r.growth.dryYield = 0 ∧ r.growth.freshYield = 0 ∧
      r.growth.yieldPot = 0) ∧
    (r.state.germination = false ∧ r.state.delayedCds = 0 ∧ r.state.delayedGdds = 0 ∧
      r.state.growthStage = 0 ∧ r.state.hiRef = 0 ∧ r.state.ccAdj = 0 ∧ r.state.ccxAct = 0 ∧
      r.state.ccxW = 0 ∧ r.state.irrNetCum = r.water.preIrr ∧ r.state.rCor = st.rCor) := by
  obtain ⟨c1, c2, _, _, _, c6⟩ := fullDay_counters h
  obtain ⟨d0, d1, d2⟩ := c6 hg
  obtain ⟨w1, w2, w3, _, _, w6⟩ :=
    C04.day_offseason_zero (fullDay_water h) (show D.water.gs = false from hg)
  have e1 := fullDay_irrDay h
  obtain ⟨X, hs, rfl⟩ := fullDay_ok' h
  have hrd := hs.hrd
  have hge := hs.hge
  have hgst := hs.hgst
  have hcc := hs.hcc
  have hhr := hs.hhr
  have hb := hs.hbio
  have hhi := hs.hhi
  have hy := hs.hy
  have ht := hs.water.ht
  rw [hg] at hrd hge hgst hcc hhr hb hhi hy
  rw [show D.water.gs = false from hg] at ht
  obtain ⟨z0, z1⟩ := C05.roots_zero_offseason hrd
  obtain ⟨ge, hge', g1, _, g3, g4⟩ := germination_offseason F st.germ P.zGerm X.c.cells P.cx.germThr
    P.cx.sown X.tc.gdd
  obtain rfl : ge = X.ge := Except.ok.inj (hge'.symm.trans hge)
  rw [growthStage_offseason] at hgst
  obtain ⟨k1, k2, k3, k4, m1, m2, _⟩ := cc_offseason rfl hcc
  rw [hiref_offseason] at hhr
  rw [C05.biomass_zero_offseason] at hb
  rw [hi_offseason] at hhi
  have t6 := congrArg TrOut.st (Except.ok.inj (transpiration_offseason.symm.trans ht)).symm
  have hcc' : X.t.st.cc = 0 := (congrArg TrState.cc t6).trans k1
  have hhi' := Except.ok.inj hhi
  have hb1 : X.bio.1 = 0 := by rw [hb]
  have hb2 : X.bio.2 = 0 := by rw [hb]
  have hh1 : X.hi.hi = 0 := by rw [← hhi']
  have hh2 : X.hi.hiAdj = 0 := by rw [← hhi']
  obtain ⟨y1, y2⟩ := C06.yields_zero_offseason X.bio.2 X.bio.1 X.hi.hi X.hi.hiAdj P.cx.yldWC
  have y3 := C06.pot_yield_eq X.bio.2 X.bio.1 X.hi.hi X.hi.hiAdj P.cx.yldWC false
  rw [← hy] at y1 y2 y3
  refine ⟨⟨?_, ?_, ?_, ?_⟩, ⟨d0, d1, d2, z0, hcc', k2, hb1, hb2, hh1, hh2, y1, y2, ?_⟩,
    ⟨?_, ?_, ?_, ?_, ?_, k3, m2, m1, ?_, z1⟩⟩
  · exact w1
  · exact w2
  · rw [e1]; exact w3
  · rw [c2]; exact d0
  · show X.y.yieldPot = 0
    rw [y3, hb2, hh1]; simp
  · exact g1
  · exact g3
  · exact g4
  · exact (Option.some.inj hgst).symm
  · show X.hr.hiRef = 0
    rw [hhr]
  · show (irrReportOf P D X).2.2 = X.p.2
    simp only [irrReportOf, irrReport, hg, Bool.false_eq_true, if_false]
    have : X.t.st.irrNetCum = 0 := congrArg TrState.irrNetCum t6
    rw [this, zero_add]

end rows


/-! ## D. the crop-side envelope (C05) along one day

`CropInv F P st` — canopy (`CcInv`), roots (`RootInv`), harvest index (`HiInv`), biomass
(`BioInv`) — is preserved by every successful `fullDay` (`fullDay_cropInv`), under premises on the
parameters (`CcCropPre`, `RootPre`, `HiPre`, the water-productivity premises) and the explicit
hypotheses about the day that no one-day lemma establishes (listed at `fullDay_cropInv`). -/

/-! ### the canopy -/

structure CcInv (crop : CcCrop α) (st : DayState' α) : Prop where
  cc0 : 0 ≤ st.cc
  cc_ns : st.cc ≤ st.ccNS
  ns_le : st.ccNS ≤ crop.ccx
  adj0 : 0 ≤ st.cc0Adj
  adj1 : st.cc0Adj ≤ crop.cc0
  act : st.ccxAct ≤ crop.ccx
  actNS : st.ccxActNS ≤ crop.ccx
  ccAdj : st.ccAdj ≤ 1
  ccAdjNS : st.ccAdjNS ≤ 1

structure CcCropPre (F : Fn α) (P : DayParams α) : Prop where
  exp : ExpOrdLaws F
  ccx0 : 0 ≤ P.cx.cc.ccx
  temp : P.cx.tbase ≤ P.cx.tupp
  /-- `CcParams` (`0 ≤ CC0`, `0 ≤ CDC`, `CC0·exp(CGC·dt) ≤ CCx`) for the time steps that occur:
  one day, or a day's growing degree days -/
  step : ∀ dt, (P.cx.cc.calendarType = 1 → dt = 1) →
    (P.cx.cc.calendarType = 2 → 0 ≤ dt ∧ dt ≤ P.cx.tupp - P.cx.tbase) → CcParams F P.cx.cc dt

/-- the late-season rewatering branch of `canopy_cover` runs on this day (the one path that
assigns `ccx_act := CCXadj` of `update_CCx_CDC` without a bound) -/
def Rewatering (P : DayParams α) (st : DayState' α) (D : DayIn' α) (X : FullTrace α) : Prop :=
  D.gs = true ∧ ∃ dt t, ccTime P.cx.cc (ccStateOf st X.tc X.rd X.ge) X.tc.gdd = some (dt, t) ∧
    P.cx.cc.senescence < t ∧ 0 < st.tEarlySen

section
variable {F : Fn α} {T : TrigFn α} {P : DayParams α} {st : DayState' α} {D : DayIn' α}
  {r : DayResult α} {X : FullTrace α}

theorem FullSteps.cc_feedback (hs : FullSteps F T P st D X) :
    X.t.st.cc = X.cc.cc ∨ (X.t.st.cc = st.cc ∧ 0.005 < X.cc.cc - st.cc) := by
  have tcc : X.t.st.cc = X.cc.cc ∨ (X.t.st.cc = X.cc.ccPrev ∧ 0.005 < X.cc.cc - X.cc.ccPrev) :=
    (transp_cc_trRatio hs.water.ht).1
  rwa [canopyCover_ccPrev hs.hcc] at tcc

theorem FullSteps.ccPre (hs : FullSteps F T P st D X) (hg : D.gs = true) (hc : CcCropPre F P)
    (hi : CcInv P.cx.cc st) :
    CcParamsFor F P.cx.cc (ccStateOf st X.tc X.rd X.ge) X.tc.gdd ∧
      CcPre P.cx.cc (ccStateOf st X.tc X.rd X.ge) ∧
      (ccStateOf st X.tc X.rd X.ge).ccxAct ≤ P.cx.cc.ccx := by
  obtain ⟨g0, g1⟩ := gdd_range hc.temp ((dayCounters_ok hs.htc).1 hg).2.1
  exact ⟨ccParamsFor_of _
      (fun h1 => hc.step 1 (fun _ => rfl) (fun h2 => by rw [h1] at h2; cases h2))
      (fun h2 => hc.step _ (fun h1 => by rw [h2] at h1; cases h1) (fun _ => ⟨g0, g1⟩)),
    ⟨hi.cc0, le_trans hi.cc_ns hi.ns_le, hi.adj0, hi.adj1⟩, hi.act⟩

theorem fullDay_ccInv (h : fullDay F T P st D = .ok r) (hc : CcCropPre F P)
    (hi : CcInv P.cx.cc st)
    (hrw : Rewatering P st D r.trace → r.state.ccxAct ≤ P.cx.cc.ccx) :
    CcInv P.cx.cc r.state := by
  obtain ⟨X, hs, rfl⟩ := fullDay_ok' h
  have hcc := hs.hcc
  have tcc := hs.cc_feedback
  cases hg : D.gs with
  | false =>
    rw [hg] at hcc
    obtain ⟨k1, k2, k3, k4, m1, m2, m3, m4, _⟩ := cc_offseason rfl hcc
    have hadj : X.cc.cc0Adj = st.cc0Adj := by
      rw [canopyCover_offseason] at hcc
      rw [← Except.ok.inj hcc]; rfl
    have hcc0 : X.t.st.cc = 0 := by
      rcases tcc with e | ⟨e, hlt⟩
      · rw [e, k1]
      · -- the feedback needs growth by more than 0.005, but off season the cover is reset to 0
        rw [k1, zero_sub] at hlt
        exact absurd (neg_nonpos.2 hi.cc0) (not_le.2 (lt_trans (by norm_num) hlt))
    -- everything is reset to 0 except `cc0Adj`, which is left alone
    exact ⟨hcc0.ge, (hcc0.trans k2.symm).le, k2.le.trans hc.ccx0, hi.adj0.trans hadj.ge,
      hadj.le.trans hi.adj1, m2.le.trans hc.ccx0, m4.le.trans hc.ccx0, k3.le.trans zero_le_one,
      k4.le.trans zero_le_one⟩
  | true =>
    rw [hg] at hcc
    obtain ⟨hp, hpre, hx⟩ := hs.ccPre hg hc hi
    have hns : NsRng P.cx.cc (ccStateOf st X.tc X.rd X.ge) :=
      ⟨le_trans hi.cc0 hi.cc_ns, hi.ns_le, hi.actNS⟩
    obtain ⟨r0, r1, r2, r3⟩ := cc_range hc.exp hp hpre hx hcc
    obtain ⟨n0, n1, n2⟩ := ccns_range hc.exp hp hpre hx hns hcc
    have hle := cc_le_ns hcc
    obtain ⟨a1, a2⟩ := ccadj_le_one hcc
    have hact : X.cc.ccxAct ≤ P.cx.cc.ccx := by
      by_cases hR : Rewatering P st D X
      · exact hrw hR
      · apply ccxact_le_of_no_rewatering hc.exp hp hpre hx _ hcc
        intro dt t htt hbad
        exact hR ⟨hg, dt, t, htt, hbad.1, hbad.2⟩
    refine ⟨?_, ?_, n1, r2, r3, hact, n2, a1, a2⟩
    · show 0 ≤ X.t.st.cc
      rcases tcc with e | ⟨e, _⟩
      · rw [e]; exact r0
      · rw [e]; exact hi.cc0
    · show X.t.st.cc ≤ X.cc.ccNS
      rcases tcc with e | ⟨e, hlt⟩
      · rw [e]; exact hle
      · -- fed back: yesterday's cover is below today's, which is below the potential one
        rw [e]
        exact le_trans (sub_nonneg.1 (le_trans (by norm_num) hlt.le)) hle

end

/-! ### the roots; how far the crop clock moves -/

/-- the root part of the crop envelope; `dap ≠ 0` stands for "in season", and `RdInv` (not deeper
than the layer-limited potential depth) is stated at the adjusted time of the day -/
structure RootInv (F : Fn α) (P : DayParams α) (st : DayState' α) : Prop where
  tr0 : 0 ≤ st.trRatio
  tr1 : st.trRatio ≤ 1
  season : st.dap ≠ 0 →
    P.cx.rd.zmin ≤ st.zRoot ∧ st.zRoot ≤ P.cx.rd.zmax ∧
    (st.germination = false → st.zRoot = P.cx.rd.zmin) ∧
    (st.germination = true → RdInv F P.cx.rd (layersOf st.cells) st.zRoot
      (rdTAdj P.cx.rd (natNum st.dap) st.delayedCds st.gddCum st.delayedGdds))

structure RootPre (F : Fn α) (P : DayParams α) (cells : List (Cell α)) : Prop where
  pow : PowLaws F
  exp : ExpOrdLaws F
  crop : P.cx.rd.WF
  temp : P.cx.tbase ≤ P.cx.tupp
  pUp1 : P.cx.rd.pUp1 < 1
  fw1 : P.cx.rd.fshapeW1 ≠ 0
  skip : SkipOK F P.cx.rd.zmin
  cells : ∀ x ∈ cells, 0 < x.c.dz ∧ 0 ≤ x.c.pen ∧ x.c.pen ≤ 100 ∧ x.c.thWP < x.c.thFC

theorem zInitOf_succ (C : RdCrop α) (n : Nat) (z : α) :
    zInitOf C (natNum (n + 1)) z = if n = 0 then C.zmin else z := by
  unfold zInitOf
  by_cases h0 : n = 0
  · rw [if_pos ((natNum_succ_eq_one_iff n).mpr h0), if_pos h0]
  · rw [if_neg (fun hh => h0 ((natNum_succ_eq_one_iff n).mp hh)), if_neg h0]

/-- `a` advances by `g`, the delay `d` by at most `g`: the adjusted time `a − d` does not go back and
advances by at most `g` -/
theorem adj_time_step {a g d d' : α} (h1 : d ≤ d') (h2 : d' ≤ d + g) :
    a + g - d' - g ≤ a - d ∧ a - d ≤ a + g - d' := by
  constructor <;> linarith

section
variable {F : Fn α} {T : TrigFn α} {P : DayParams α} {st : DayState' α} {D : DayIn' α}
  {r : DayResult α} {X : FullTrace α}

theorem FullSteps.time_step (hs : FullSteps F T P st D X) (hg : D.gs = true)
    (ht : P.cx.tbase ≤ P.cx.tupp) :
    (natNum X.tc.dap - X.ge.s.delayedCds - 1 ≤ natNum st.dap - st.delayedCds ∧
      natNum st.dap - st.delayedCds ≤ natNum X.tc.dap - X.ge.s.delayedCds) ∧
    (X.tc.gddCum - X.ge.s.delayedGdds - X.tc.gdd ≤ st.gddCum - st.delayedGdds ∧
      st.gddCum - st.delayedGdds ≤ X.tc.gddCum - X.ge.s.delayedGdds) := by
  obtain ⟨d1, hgd, d3⟩ := (dayCounters_ok hs.htc).1 hg
  have hge := hs.hge
  rw [hg] at hge
  obtain ⟨⟨a1, a2⟩, hb, _⟩ := germination_delay_step hge
  obtain ⟨b1, b2⟩ := hb (gdd_range ht hgd).1
  rw [d1, d3, natNum_succ]
  exact ⟨adj_time_step a1 a2, adj_time_step b1 b2⟩

theorem RootInv.zInit (hi : RootInv F P st) :
    P.cx.rd.zmin ≤ zInitOf P.cx.rd (natNum (st.dap + 1)) st.zRoot ∧
    (st.dap = 0 ∨ st.germination = false →
      zInitOf P.cx.rd (natNum (st.dap + 1)) st.zRoot = P.cx.rd.zmin) := by
  rw [zInitOf_succ]
  by_cases h0 : st.dap = 0
  · rw [if_pos h0]; exact ⟨le_refl _, fun _ => rfl⟩
  · rw [if_neg h0]
    exact ⟨(hi.season h0).1, fun hc => hc.elim (fun h => absurd h h0) (hi.season h0).2.2.1⟩

theorem RootPre.rdHyp {cells : List (Cell α)} {gdd : α} (hp : RootPre F P st.cells)
    (hi : RootInv F P st) (hc : cells.map (·.c) = st.cells.map (·.c)) (hg : 0 ≤ gdd) :
    RdHyp F P.cx.rd cells st.trRatio gdd ∧ LaysLe100 (layersOf cells) ∧
      layersOf cells = layersOf st.cells := by
  have hcg := forall_of_map_eq (·.c) hc
    (fun c => 0 < c.dz ∧ 0 ≤ c.pen ∧ c.pen ≤ 100 ∧ c.thWP < c.thFC) hp.cells
  have H : RdHyp F P.cx.rd cells st.trRatio gdd :=
    { pow := hp.pow, exp := hp.exp, crop := hp.crop,
      lays := laysNN_layersOf (fun x hx => ⟨(hcg x hx).1.le, (hcg x hx).2.1⟩),
      tr0 := hi.tr0, tr1 := hi.tr1, gdd0 := hg, pUp1 := hp.pUp1, fw1 := hp.fw1,
      cellsWF := fun x hx => (hcg x hx).2.2.2 }
  exact ⟨H, laysLe100_layersOf (fun x hx => (hcg x hx).2.2.1), layersOf_congr hc⟩

/-- `RootPre.rdHyp` for the `root_development` call of an in-season day, which sees the profile
after step 1 (`check_groundwater_table`) -/
theorem FullSteps.rdHyp (hs : FullSteps F T P st D X) (hg : D.gs = true)
    (hp : RootPre F P st.cells) (hi : RootInv F P st) :
    RdHyp F P.cx.rd X.g.cells st.trRatio X.tc.gdd ∧ LaysLe100 (layersOf X.g.cells) ∧
      layersOf X.g.cells = layersOf st.cells :=
  hp.rdHyp hi
    (map_eq_of_forall₂ (checkGroundwaterTable_frame F st.cells _ _ _ hs.water.hg) (·.c)
      (fun _ _ h => h.1))
    (gdd_range hp.temp ((dayCounters_ok hs.htc).1 hg).2.1).1

/-- the invariant the day's `root_development` call starts from: `Zmin` satisfies it trivially
(first day, or not germinated); otherwise it is yesterday's, the old adjusted time of today being
the adjusted time of yesterday -/
theorem RootInv.rdInv_start {cells : List (Cell α)} (hi : RootInv F P st)
    (hl : LaysNN (layersOf cells)) (hskip : SkipOK F P.cx.rd.zmin)
    (hlg : layersOf cells = layersOf st.cells) (gdd : α) :
    RdInv F P.cx.rd (layersOf cells) (zInitOf P.cx.rd (natNum (st.dap + 1)) st.zRoot)
      (rdTOld P.cx.rd (natNum (st.dap + 1)) st.delayedCds (st.gddCum + gdd) st.delayedGdds
        gdd) := by
  by_cases hc : st.dap = 0 ∨ st.germination = false
  · rw [hi.zInit.2 hc]
    exact rdInv_zmin hl hskip _
  · have h0 : st.dap ≠ 0 := fun hh => hc (Or.inl hh)
    have hgm : st.germination = true := by
      cases hgm : st.germination with
      | true => rfl
      | false => exact absurd (Or.inr hgm) hc
    rw [zInitOf_succ, if_neg h0, hlg, natNum_succ, rdTOld_next]
    exact (hi.season h0).2.2.2 hgm

theorem fullDay_rootInv (h : fullDay F T P st D = .ok r) (hp : RootPre F P st.cells)
    (hi : RootInv F P st) : RootInv F P r.state := by
  have hcomps := fullDay_comps h
  obtain ⟨X, hs, rfl⟩ := fullDay_ok' h
  obtain ⟨cs, co⟩ := dayCounters_ok hs.htc
  have hrd := hs.hrd
  have hge := hs.hge
  have htr : 0 ≤ X.t.st.trRatio ∧ X.t.st.trRatio ≤ 1 := by
    obtain ⟨_, t2, t3⟩ := transp_cc_trRatio hs.water.ht
    cases hg : D.gs with
    | false =>
      have e : X.t.st.trRatio = st.trRatio := t2 hg
      rw [e]; exact ⟨hi.tr0, hi.tr1⟩
    | true => exact t3 hg
  refine ⟨htr.1, htr.2, fun hdap => ?_⟩
  have hg : D.gs = true := by
    cases hg : D.gs with
    | true => rfl
    | false => exact absurd (co hg).1 hdap
  obtain ⟨d1, _, d3⟩ := cs hg
  obtain ⟨H, hl1, hlg⟩ := hs.rdHyp hg hp hi
  obtain ⟨hz, hzmin⟩ := hi.zInit
  rw [hg, d1, d3] at hrd
  rw [hg] at hge
  have hinv := hi.rdInv_start H.lays hp.skip hlg X.tc.gdd
  obtain ⟨hle, _, hinv'⟩ := C05.roots_le_zmax H hl1 hp.skip hrd hinv hz
  refine ⟨C05.roots_ge_zmin H hrd hz, hle, fun hgf => ?_, fun hgt => ?_⟩
  · -- not germinated after today: not germinated before, the roots stay at `Zmin`
    have hsg : st.germination = false := by
      cases hsg : st.germination with
      | false => rfl
      | true =>
        have := (germination_season_facts H.gdd0 hge).2.2.1 hsg
        rw [show X.ge.s.germination = false from hgf] at this
        cases this
    rw [hsg] at hrd
    show X.rd.zRoot = _
    rw [(zroot_no_germination hrd).2, hzmin (Or.inr hsg), rdGwCap_zmin]
  · -- germinated: the delay counters did not move today
    obtain ⟨e1, e2⟩ := (germination_delay_step hge).2.2 hgt
    show RdInv F P.cx.rd (layersOf (stateAfter P st D X).cells) X.rd.zRoot
      (rdTAdj P.cx.rd (natNum X.tc.dap) X.ge.s.delayedCds X.tc.gddCum X.ge.s.delayedGdds)
    have hlr : layersOf (stateAfter P st D X).cells = layersOf st.cells := layersOf_congr hcomps
    rw [hlr, ← hlg, e1, e2, d1, d3]
    exact hinv'

end

/-! ### the harvest index -/

structure HiInv (F : Fn α) (P : DayParams α) (st : DayState' α) : Prop where
  fPre : 0 ≤ st.fPre
  fPost : 0 ≤ st.fPost
  sCor1 : 0 ≤ st.sCor1
  sCor2 : 0 ≤ st.sCor2
  upp : 0 ≤ st.fpostUpp
  dwn : 0 ≤ st.fpostDwn
  hi_le : st.hi ≤ P.cx.hi.hi0
  adj_le : st.hiAdj ≤ (1 + P.cx.hi.dHI0 / 100) * st.hi
  fin0 : 0 ≤ st.hiFinal
  /-- the harvest index is below every later reference harvest index of the season -/
  fut : ∀ r' : HiRefIn α, natNum st.dap - st.delayedCds ≤ r'.dap - r'.delayedCDs →
    st.hiFinal ≤ r'.hiFinal → st.hi ≤ (hiRefCurrentDay F P.cx.hi r' true).hiRef

structure HiPre (F : Fn α) (T : TrigFn α) (P : DayParams α) (D : DayIn' α) : Prop where
  exp : ExpOrdLaws F
  sin : SinLaw T
  pow : PowNonneg F
  post : P.cx.hi.PostOK
  build : P.cx.hi.BuildUp
  temp : P.cx.tbase ≤ P.cx.tupp
  /-- the water-stress thresholds as used are ordered -/
  ord : ∀ tes i, wsUp F P.cx.hik.pUp P.cx.hik.etAdj P.cx.hik.beta tes D.et0 true i ≤
    wsLo F P.cx.hik.pLo P.cx.hik.etAdj D.et0 i
  fsh : ∀ i : Fin 4, i.val < 3 → P.cx.hik.fshapeW i ≠ 0
  cap : 0 ≤ 1 + P.cx.hi.dHI0 / 100
  leafy : P.cx.hi.cropType = 1 → 0 ≤ P.cx.hi.dHI0

section
variable {F : Fn α} {T : TrigFn α} {P : DayParams α} {st : DayState' α} {D : DayIn' α}
  {r : DayResult α}

theorem fullDay_hiInv (h : fullDay F T P st D = .ok r) (hp : HiPre F T P D)
    (hi : HiInv F P st) :
    HiInv F P r.state ∧ r.state.hi ≤ r.state.hiRef ∧ 0 ≤ r.state.hiRef ∧
      r.state.hiRef ≤ P.cx.hi.hi0 ∧
      r.state.hiAdj ≤ (1 + P.cx.hi.dHI0 / 100) * P.cx.hi.hi0 ∧
      (D.gs = true → st.hi ≤ r.state.hi) := by
  obtain ⟨X, hs, rfl⟩ := fullDay_ok' h
  have hhr := hs.hhr
  have hhi := hs.hhi
  have hb := hp.build
  have h0 : 0 ≤ P.cx.hi.hi0 := (lt_trans hb.ini_pos hb.ini_lt).le
  have hini : -0.004 ≤ P.cx.hi.hiIni := le_trans (by norm_num) hb.ini_pos.le
  set rin := hiRefInOf st X.tc X.ge X.cc X.t with hrin
  have hfin : rin.hiFinal = st.hiFinal := rfl
  have href : 0 ≤ X.hr.hiRef := by
    rw [hhr]; exact hiref_nonneg F _ rin D.gs h0 hini (by rw [hfin]; exact hi.fin0)
  have href' : X.hr.hiRef ≤ P.cx.hi.hi0 := by
    rw [hhr]; exact C05.reference_hi_le_hi0 F _ rin D.gs h0
  set s0 := hiStateOf st X.tc X.rd X.ge X.cc X.t X.hr X.bio with hs0
  have hsNN : s0.NN := ⟨hi.fPre, hi.fPost, hi.sCor1, hi.sCor2, hi.upp, hi.dwn⟩
  have hprev : s0.hi ≤ P.cx.hi.hi0 := hi.hi_le
  obtain ⟨oNN, o1, o2, o3⟩ := C05.adjusted_hi_within_allowed_increase hp.exp hp.sin hp.pow hp.post hhi
    (hp.ord _) hp.fsh h0 hp.cap hp.leafy href href' hsNN hprev hi.adj_le
  have hst := hi_stored hhi
  -- in season: time does not go back
  have htime : D.gs = true →
      natNum st.dap - st.delayedCds ≤ rin.dap - rin.delayedCDs :=
    fun hg => (hs.time_step hg hp.temp).1.2
  have hrefS : D.gs = true → X.hr.hiRef = (hiRefCurrentDay F P.cx.hi rin true).hiRef := by
    intro hg; rw [hhr, hg]
  have hold : D.gs = true → st.hi ≤ X.hr.hiRef := by
    intro hg
    rw [hrefS hg]
    exact hi.fut rin (htime hg) (le_of_eq hfin.symm)
  -- the stored index: off season 0; in season today's reference index or yesterday's index
  have hcase : (D.gs = false ∧ X.hi.hi = 0) ∨
      (D.gs = true ∧ (X.hi.hi = X.hr.hiRef ∨ X.hi.hi = st.hi)) := by
    rw [hst]
    cases D.gs with
    | false => exact Or.inl ⟨rfl, rfl⟩
    | true =>
      rw [if_pos rfl]
      exact Or.inr ⟨rfl, ite_ind (fun v => v = X.hr.hiRef ∨ v = st.hi) (fun _ => Or.inl rfl)
        fun _ => Or.inr rfl⟩
  have hle_ref : X.hi.hi ≤ X.hr.hiRef := by
    rcases hcase with ⟨_, e⟩ | ⟨hg, e | e⟩
    · rw [e]; exact href
    · rw [e]
    · rw [e]; exact hold hg
  have hmono : D.gs = true → st.hi ≤ X.hi.hi := by
    intro hg
    rcases hcase with ⟨hf, _⟩ | ⟨_, e | e⟩
    · rw [hg] at hf; cases hf
    · rw [e]; exact hold hg
    · rw [e]
  refine ⟨⟨oNN.fPre, oNN.fPost, oNN.sCor1, oNN.sCor2, oNN.upp, oNN.dwn, o1, o2,
    hi.fin0, ?_⟩, hle_ref, href, href', o3, hmono⟩
  intro q htq hfq
  have hfq' : st.hiFinal ≤ q.hiFinal := hfq
  have htq' : natNum X.tc.dap - X.ge.s.delayedCds ≤ q.dap - q.delayedCDs := htq
  show X.hi.hi ≤ _
  rcases hcase with ⟨_, e⟩ | ⟨hg, e | e⟩
  · rw [e]
    exact hiref_nonneg F _ q true h0 hini (le_trans hi.fin0 hfq')
  · rw [e, hrefS hg]
    exact C05.reference_hi_never_decreases hp.exp _ hb rin q htq' (by rw [hfin]; exact hfq')
      (by rw [hfin]; exact hi.fin0)
  · rw [e]
    exact hi.fut q (le_trans (htime hg) htq') hfq'

end

/-! ### biomass; the degree days -/

theorem bioGain_order {w tr trNS et0 : α} (hw : 0 ≤ w) (h0 : 0 ≤ tr) (h1 : tr ≤ trNS)
    (he : 0 < et0) : 0 ≤ w * (tr / et0) ∧ w * (tr / et0) ≤ w * (trNS / et0) :=
  ⟨mul_nonneg hw (div_nonneg h0 he.le),
   mul_le_mul_of_nonneg_left (div_le_div_of_nonneg_right h1 he.le) hw⟩

structure BioInv (st : DayState' α) : Prop where
  b0 : 0 ≤ st.biomass
  b_le : st.biomass ≤ st.biomassNS

section
variable {F : Fn α} {T : TrigFn α} {P : DayParams α} {st : DayState' α} {D : DayIn' α}
  {r : DayResult α}

theorem fullDay_bioInv (h : fullDay F T P st D = .ok r) (hi : BioInv st)
    (hy0 : 0 ≤ P.cx.bio.wpy) (hy1 : P.cx.bio.wpy ≤ 100) (hw : 0 ≤ P.cx.bio.wp * P.cx.bio.fco2)
    (hsw : D.gs = true → 0 < r.state.hiRef →
      BioSwitchOK P.cx.bio (natNum r.growth.dap) r.state.delayedCds r.state.pctLagPhase)
    (htr : D.gs = true → 0 ≤ r.flux.tr ∧ r.flux.tr ≤ r.water.trPotNS)
    (het : D.gs = true → 0 < D.et0) :
    BioInv r.state ∧
      (D.gs = true → st.biomass ≤ r.state.biomass ∧ st.biomassNS ≤ r.state.biomassNS) := by
  obtain ⟨_, hy, _⟩ := fullDay_yields h
  cases hg : D.gs with
  | false =>
    obtain ⟨_, ⟨_, _, _, _, _, _, b1, b2, _⟩, _⟩ := fullDay_offseason_zero h hg
    obtain ⟨_, _, _, e4, e5, _⟩ := (fullDay_yields h).2.2
    refine ⟨⟨by rw [e4, b1], by rw [e4, e5, b1, b2]⟩, fun hh => by cases hh⟩
  | true =>
    obtain ⟨_, _, e1, e2⟩ := hy hg
    obtain ⟨_, _, _, e4, e5, _⟩ := (fullDay_yields h).2.2
    obtain ⟨t0, t1⟩ := htr hg
    have he := het hg
    have hW := bioWPadj_nonneg P.cx.bio (natNum r.growth.dap) r.state.delayedCds r.state.hiRef
      r.state.pctLagPhase hy0 hy1 hw (hsw hg)
    obtain ⟨m1, m2⟩ := bioGain_order hW t0 t1 he
    refine ⟨⟨?_, ?_⟩, fun _ => ⟨?_, ?_⟩⟩
    · rw [e4, e1]; exact add_nonneg hi.b0 m1
    · rw [e4, e5, e1, e2]; exact add_le_add hi.b_le m2
    · rw [e4, e1]; exact le_add_of_nonneg_right m1
    · rw [e5, e2]; exact le_add_of_nonneg_right (le_trans m1 m2)

theorem fullDay_gdd (h : fullDay F T P st D = .ok r) (hg : D.gs = true)
    (ht : P.cx.tbase ≤ P.cx.tupp) :
    0 ≤ r.growth.gdd ∧ r.growth.gdd ≤ P.cx.tupp - P.cx.tbase ∧
      r.growth.gddCum = st.gddCum + r.growth.gdd ∧ st.gddCum ≤ r.growth.gddCum := by
  obtain ⟨_, _, _, _, c5, _⟩ := fullDay_counters h
  obtain ⟨_, hgd, d3⟩ := c5 hg
  obtain ⟨g0, g1⟩ := gdd_range ht hgd
  exact ⟨g0, g1, d3, by rw [d3]; exact le_add_of_nonneg_right g0⟩

end

/-! ### the four together -/

structure CropInv (F : Fn α) (P : DayParams α) (st : DayState' α) : Prop where
  cc : CcInv P.cx.cc st
  root : RootInv F P st
  hi : HiInv F P st
  bio : BioInv st

theorem CropInv.envelope {F : Fn α} {P : DayParams α} {st : DayState' α} (h : CropInv F P st) :
    (0 ≤ st.cc ∧ st.cc ≤ st.ccNS ∧ st.ccNS ≤ P.cx.cc.ccx ∧ 0 ≤ st.cc0Adj ∧
      st.cc0Adj ≤ P.cx.cc.cc0 ∧ st.ccxAct ≤ P.cx.cc.ccx ∧ st.ccAdj ≤ 1) ∧
    (st.dap ≠ 0 → P.cx.rd.zmin ≤ st.zRoot ∧ st.zRoot ≤ P.cx.rd.zmax) ∧
    (st.hi ≤ P.cx.hi.hi0 ∧ st.hiAdj ≤ (1 + P.cx.hi.dHI0 / 100) * st.hi) ∧
    (0 ≤ st.biomass ∧ st.biomass ≤ st.biomassNS) :=
  ⟨⟨h.cc.cc0, h.cc.cc_ns, h.cc.ns_le, h.cc.adj0, h.cc.adj1, h.cc.act, h.cc.ccAdj⟩,
   fun hd => ⟨(h.root.season hd).1, (h.root.season hd).2.1⟩,
   ⟨h.hi.hi_le, h.hi.adj_le⟩, ⟨h.bio.b0, h.bio.b_le⟩⟩

section
variable {F : Fn α} {T : TrigFn α} {P : DayParams α} {st : DayState' α} {D : DayIn' α}
  {r : DayResult α}

/-- One day preserves the crop envelope.  `hrw`, `hsw`, `htr`, `het` are hypotheses about the day
that the previous day's conclusion does not establish:
* `hrw` — every path of `canopy_cover` but the late-season *rewatering* branch keeps
  `ccx_act ≤ CCx`; of that branch it is assumed;
* `htr` — `0 ≤ Tr` follows from `C04.day_tr_bounds` under `DayTrPre`; `Tr ≤ TrPot_NS` is not proved
  anywhere. -/
theorem fullDay_cropInv (h : fullDay F T P st D = .ok r) (hi : CropInv F P st)
    (hcc : CcCropPre F P) (hrt : RootPre F P st.cells) (hhi : HiPre F T P D)
    (hy0 : 0 ≤ P.cx.bio.wpy) (hy1 : P.cx.bio.wpy ≤ 100) (hw : 0 ≤ P.cx.bio.wp * P.cx.bio.fco2)
    (hrw : Rewatering P st D r.trace → r.state.ccxAct ≤ P.cx.cc.ccx)
    (hsw : D.gs = true → 0 < r.state.hiRef →
      BioSwitchOK P.cx.bio (natNum r.growth.dap) r.state.delayedCds r.state.pctLagPhase)
    (htr : D.gs = true → 0 ≤ r.flux.tr ∧ r.flux.tr ≤ r.water.trPotNS)
    (het : D.gs = true → 0 < D.et0) :
    CropInv F P r.state :=
  ⟨fullDay_ccInv h hcc hi.cc hrw, fullDay_rootInv h hrt hi.root, (fullDay_hiInv h hhi hi.hi).1,
   (fullDay_bioInv h hi.bio hy0 hy1 hw hsw htr het).1⟩

theorem fullDay_crop_progress (h : fullDay F T P st D = .ok r) (hi : CropInv F P st)
    (hhi : HiPre F T P D)
    (hy0 : 0 ≤ P.cx.bio.wpy) (hy1 : P.cx.bio.wpy ≤ 100) (hw : 0 ≤ P.cx.bio.wp * P.cx.bio.fco2)
    (hsw : D.gs = true → 0 < r.state.hiRef →
      BioSwitchOK P.cx.bio (natNum r.growth.dap) r.state.delayedCds r.state.pctLagPhase)
    (htr : D.gs = true → 0 ≤ r.flux.tr ∧ r.flux.tr ≤ r.water.trPotNS)
    (het : D.gs = true → 0 < D.et0) :
    r.state.hi ≤ r.state.hiRef ∧ r.state.hiRef ≤ P.cx.hi.hi0 ∧
      r.state.hiAdj ≤ (1 + P.cx.hi.dHI0 / 100) * P.cx.hi.hi0 ∧
      (D.gs = true → st.hi ≤ r.state.hi ∧ st.biomass ≤ r.state.biomass ∧
        st.biomassNS ≤ r.state.biomassNS) := by
  obtain ⟨_, a, _, b, c, d⟩ := fullDay_hiInv h hhi hi.hi
  obtain ⟨_, e⟩ := fullDay_bioInv h hi.bio hy0 hy1 hw hsw htr het
  exact ⟨a, b, c, fun hg => ⟨d hg, (e hg).1, (e hg).2⟩⟩

end


/-! ## Non-vacuity: a concrete full day over `ℚ`

The water side is the day of `Proofs/WaterDay.lean` (`DayExample`: water table at 1 m, 20 mm of
rain, 10 mm of irrigation); the crop side is a calendar-day fruit/grain crop on day 30 after
planting (canopy 0.8, roots at 0.25 m still deepening).  The day succeeds, the roots deepen, all
fluxes are positive, and the premise `DayPre` of the day's balance (`C01.day_closes`) holds. -/

namespace FullDayExample
open DayExample

def Tq : TrigFn ℚ := { sin := fun _ => 0, pi := 3 }
def rdq : RdCrop ℚ :=
  { calendarType := 1, zmin := 0.2, zmax := 1, pctZmin := 70, emergence := 6, maxRooting := 60,
    fshapeR := 1.5, fshapeEx := -6, pUp1 := 0.5, fshapeW1 := 3, sxTop := 0.048, sxBot := 0.012 }
def ccq : CcCrop ℚ :=
  { calendarType := 1, emergence := 6, maturity := 120, canopyDevEnd := 50, senescence := 100,
    cc0 := 0.01, ccx := 0.9, cgc := 0.1, cdc := 0.05, zMin := 0.2, aer := 5, pUp := fun _ => 0.5,
    pLo := fun _ => 1, fshW := fun _ => 3, etAdj := true, beta := 12 }
def hiq : HiCrop ℚ :=
  { cropType := 3, hiStartCD := 60, hiEndCD := 110, yldFormCD := 50, floweringCD := 15,
    canopyDevEndCD := 65, hi0 := 0.5, hiIni := 0.01, hiGC := 0.1, tLinSwitch := 30,
    dHILinear := 0.005, dHIpre := 5, aHI := 10, bHI := 7, dHI0 := 15, exc := 50, ccMin := 0.05 }
def hikq : HiStressCrop ℚ :=
  { zMin := 0.2, aer := 5, pUp := fun _ => 0.5, pLo := fun _ => 1, etAdj := true, beta := 12,
    fshapeW := fun _ => 3, polHeatStress := 0, polColdStress := 0, tmaxUp := 40, tmaxLo := 45,
    tminUp := 10, tminLo := 5, fshapeB := 1 }
def bioq : BioCrop ℚ :=
  { cropType := 3, determinant := 1, hiStartCD := 60, yldFormCD := 50, wp := 17, wpy := 100, fco2 := 1 }
def cxq : CropX ℚ :=
  { zMinNp := false, gddMethod := 3, tupp := 30, tbase := 8, rd := rdq, germThr := 0.2, sown := true,
    canopy10 := 20, maxCanopy := 50, cc := ccq, hi := hiq, hik := hikq, bio := bioq, yldWC := 15 }
def Pq : DayParams ℚ := { W := Wq, fm := fmq, zGerm := 0.3, cx := cxq }
def stq : DayState' ℚ :=
  { cells := cellsq, pond := 0, daySubmerged := 0, irrCum := 0, ePot := 1, tPot := 3, wSurf := 1,
    evapZ := 0.15, stage2 := false, wStage2 := 0, ageDaysNS := 0, ageDays := 0, aerDays := 0,
    irrNetCum := 0, trRatio := 1, dap := 29, gddCum := 400, zRoot := 0.25, rCor := 1,
    growthStage := 2, germination := true, protectedSeed := false, delayedCds := 0,
    delayedGdds := 0, cc := 0.8, ccNS := 0.85, cc0Adj := 0.01, ccxAct := 0.8, ccxActNS := 0.85,
    ccxW := 0.8, ccxWNS := 0.85, ccxEarlySen := 0, ccPrev := 0.8, tEarlySen := 0, ccAdj := 0.9,
    ccAdjNS := 0.9, prematSenes := false, cropDead := false, hiRef := 0.05, hiFinal := 0.5,
    yieldForm := true, pctLagPhase := 30, biomass := 500, biomassNS := 600, preAdj := true,
    fPre := 1, fPol := 0.5, sCor1 := 0, sCor2 := 0, fpostUpp := 1, fpostDwn := 1, fPost := 1,
    hi := 0.04, hiAdj := 0.04, cropMature := false, harvestFlag := false, depletion := 0, taw := 0,
    zGW := 1, wtInSoil := false, yieldPot := 0, dryYield := 0, freshYield := 0 }
def Dq' : DayIn' ℚ :=
  { gs := true, tsc := 5, season := 0, rain := 20, et0 := 5, tmax := 25, tmin := 15, zGW := 1,
    sched := none, lastDay := false }


theorem runsB :
    okAnd (fullDay Fq Tq Pq stq Dq') (fun r =>
      decide (r.growth.dap = 30 ∧ r.growth.gdd = 12 ∧ stq.zRoot < r.growth.zRoot ∧
        0 < r.flux.tr ∧ 0 < r.flux.es ∧ 0 < r.flux.infl ∧ 0 < r.flux.cr ∧
        stq.biomass < r.growth.biomass ∧ r.summary.isNone)) = true := by decide +kernel

theorem runs : ∃ r, fullDay Fq Tq Pq stq Dq' = .ok r ∧ r.growth.dap = 30 ∧ r.growth.gdd = 12 ∧
    stq.zRoot < r.growth.zRoot ∧ 0 < r.flux.tr ∧ 0 < r.flux.es ∧ 0 < r.flux.infl ∧
    0 < r.flux.cr ∧ stq.biomass < r.growth.biomass ∧ r.summary.isNone :=
  okAnd_decide_iff.mp runsB

theorem dayPre' : DayPre Fq Pq.W stq.cells stq.water :=
  ⟨Fq_exp, Fq_sq, cells_pre, by norm_num [stq, DayState'.water], fun _ => by norm_num [Pq, Wq]⟩

example : ∃ r, fullDay Fq Tq Pq stq Dq' = .ok r ∧ 0 < r.flux.infl ∧ 0 < r.flux.cr ∧
    storage r.state.cells + r.state.pond =
      storage stq.cells + stq.pond + r.flux.infl + r.water.preIrr + r.water.irrNet
        + r.water.crAdded + r.flux.gwIn - r.flux.deepPerc - r.flux.es - r.flux.tr ∧
    r.growth.dryYield = (r.growth.biomass / 100) * r.growth.hiAdj := by
  obtain ⟨r, h, _, _, _, _, _, hinfl, hcr, _, _⟩ := runs
  have w := fullDay_waterOf h
  refine ⟨r, h, hinfl, hcr, ?_, ((fullDay_yields h).2.1 rfl).1⟩
  rw [w.cells, w.pond, w.infl, w.gwIn, w.deepPerc, w.es, w.tr]
  have hb := C01.day_closes w.day dayPre'
  exact hb

end FullDayExample

end Aqua

#print axioms Aqua.fullDayTrace_iff
#print axioms Aqua.fullDay_water
#print axioms Aqua.fullDay_yields
#print axioms Aqua.fullDay_summary
#print axioms Aqua.fullDay_irrTot
#print axioms Aqua.fullDay_offseason_zero
#print axioms Aqua.fullDay_cropInv
#print axioms Aqua.fullDay_crop_progress
#print axioms Aqua.fullDay_gdd
#print axioms Aqua.FullDayExample.runs
