import AquaVerif.Proofs.Basic
/-
Profiles as lists of cells: readers of a cell and the frame of a process (`NoTh`, `NoFlux`, `NoAer`,
`Cell.read_eq`, `forall_of_map_eq`, `exists_of_map_eq`), storage and `countBelow` along
cell-by-cell relations, the loop "raise every cell to its target" (`Raised`), and one pass over the
compartments with a running state, as a relation.

Loops of the water processes such as `pushUpAbove` and `crLoop` walk down a list of cells, replace
each cell and thread an accumulator.  `Sweep Step xs s ys s'` says: the pass
started on `xs` in state `s`, produced `ys` and ended in `s'`, and at every cell did what `Step`
allows.  A loop is described once (`…_sweep`); what holds of its result is read off a fact about a
single `Step` through `Sweep.inv` (state invariant, pointwise relation between the cells, ordering of
the states), `Sweep.forall₂` (the pointwise relation alone) or `Sweep.sum` (a conserved total).
-/

set_option linter.unusedSectionVars false
namespace Aqua
variable {α : Type} [Field α] [LinearOrder α] [IsStrictOrderedRing α]

/-! ### readers of a cell, and profiles that agree under one

The frame of a process is stated as `out.map k = cells.map k` for every reader `k : Cell α → β` that
does not look at the fields the process writes (`NoTh`, `NoFlux`, `NoAer`): `(·.c)`, `(·.fcAdj)` and
tuples of them satisfy all three by `fun _ _ => rfl`, `(·.aer)` and `Cell.par` the first two.  Such equations
compose by `Eq.trans` and carry facts from the incoming profile to the outgoing one by the lemmas below. -/

section readers
variable {β : Type}

def NoTh (k : Cell α → β) : Prop := ∀ x v, k { x with th := v } = k x
def NoFlux (k : Cell α → β) : Prop := ∀ x v, k { x with flux := v } = k x
def NoAer (k : Cell α → β) : Prop := ∀ x v, k { x with aer := v } = k x

theorem Cell.read_eq (k : Cell α → β) {x y : Cell α} (hc : y.c = x.c)
    (hth : y.th = x.th ∨ NoTh k)
    (hfc : y.fcAdj = x.fcAdj ∨ ∀ x v, k { x with fcAdj := v } = k x)
    (hfl : y.flux = x.flux ∨ NoFlux k) (ha : y.aer = x.aer ∨ NoAer k) : k y = k x := by
  obtain ⟨c, th, fc, fl, ae⟩ := x
  obtain ⟨c', th', fc', fl', ae'⟩ := y
  simp only at hc hth hfc hfl ha
  subst hc
  have e1 : k ⟨c', th', fc', fl', ae'⟩ = k ⟨c', th, fc', fl', ae'⟩ :=
    hth.elim (fun e => by rw [e]) fun h => (h ⟨c', th', fc', fl', ae'⟩ th).symm
  have e2 : k ⟨c', th, fc', fl', ae'⟩ = k ⟨c', th, fc, fl', ae'⟩ :=
    hfc.elim (fun e => by rw [e]) fun h => (h ⟨c', th, fc', fl', ae'⟩ fc).symm
  have e3 : k ⟨c', th, fc, fl', ae'⟩ = k ⟨c', th, fc, fl, ae'⟩ :=
    hfl.elim (fun e => by rw [e]) fun h => (h ⟨c', th, fc, fl', ae'⟩ fl).symm
  have e4 : k ⟨c', th, fc, fl, ae'⟩ = k ⟨c', th, fc, fl, ae⟩ :=
    ha.elim (fun e => by rw [e]) fun h => (h ⟨c', th, fc, fl, ae'⟩ ae).symm
  exact e1.trans (e2.trans (e3.trans e4))

/-- the part of a cell that `drainage` and `infiltration` must not touch: parameters, adjusted
field capacity, aeration counter -/
def Cell.par (x : Cell α) : Comp α × α × α := (x.c, x.fcAdj, x.aer)

theorem map_eq_of_par {k : Cell α → β} (hth : NoTh k) (hfl : NoFlux k) {xs ys : List (Cell α)}
    (h : ys.map Cell.par = xs.map Cell.par) : ys.map k = xs.map k :=
  map_eq_of_map_eq (fun _ _ e => Cell.read_eq k (congrArg (·.1) e) (.inr hth)
    (.inl (congrArg (·.2.1) e)) (.inr hfl) (.inl (congrArg (·.2.2) e))) h

theorem forall_of_map_eq {xs ys : List (Cell α)} (k : Cell α → β) (h : ys.map k = xs.map k)
    (P : β → Prop) (hx : ∀ x ∈ xs, P (k x)) : ∀ y ∈ ys, P (k y) := by
  intro y hy
  obtain ⟨x, hx', e⟩ := exists_mem_of_map_eq h y hy
  rw [← e]; exact hx x hx'

theorem exists_of_map_eq {xs ys : List (Cell α)} (k : Cell α → β) (h : ys.map k = xs.map k)
    (P : β → Prop) (hx : ∃ x ∈ xs, P (k x)) : ∃ y ∈ ys, P (k y) := by
  obtain ⟨x, hx', hp⟩ := hx
  obtain ⟨y, hy, e⟩ := exists_mem_of_map_eq h.symm x hx'
  exact ⟨y, hy, by rw [e]; exact hp⟩

end readers

inductive Sweep {σ : Type} (Step : Cell α → σ → Cell α → σ → Prop) :
    List (Cell α) → σ → List (Cell α) → σ → Prop
  | nil (s : σ) : Sweep Step [] s [] s
  | cons {x y : Cell α} {xs ys : List (Cell α)} {s s' s'' : σ} :
      Step x s y s' → Sweep Step xs s' ys s'' → Sweep Step (x :: xs) s (y :: ys) s''

namespace Sweep
variable {σ : Type} {Step : Cell α → σ → Cell α → σ → Prop} {xs ys : List (Cell α)} {s s' : σ}

/-- a pass that stops early leaves the remaining cells and the state alone -/
theorem refl (s : σ) (h : ∀ x, Step x s x s) (xs : List (Cell α)) : Sweep Step xs s xs s := by
  induction xs with
  | nil => exact nil s
  | cons x xs ih => exact cons (h x) ih

/-- The invariant principle.  `P` is what is known of every incoming cell, `I` an invariant of the
state; each step relates the old to the new cell by `R` and the old to the new state by the preorder
`Q`.  Then the lists are related cell by cell, the invariant holds at the end, and the first state is
`Q`-related to the last. -/
theorem inv (h : Sweep Step xs s ys s') (P : Cell α → Prop) (I : σ → Prop)
    (R : Cell α → Cell α → Prop) (Q : σ → σ → Prop)
    (hstep : ∀ x s y s', Step x s y s' → P x → I s → R x y ∧ I s' ∧ Q s s')
    (qrefl : ∀ s, Q s s) (qtrans : ∀ a b c, Q a b → Q b c → Q a c)
    (hP : ∀ x ∈ xs, P x) (hI : I s) : List.Forall₂ R xs ys ∧ I s' ∧ Q s s' := by
  induction h with
  | nil s => exact ⟨List.Forall₂.nil, hI, qrefl s⟩
  | cons hst _ ih =>
    rw [List.forall_mem_cons] at hP
    obtain ⟨r, i, q⟩ := hstep _ _ _ _ hst hP.1 hI
    obtain ⟨r', i', q'⟩ := ih hP.2 i
    exact ⟨List.Forall₂.cons r r', i', qtrans _ _ _ q q'⟩

theorem forall₂ (h : Sweep Step xs s ys s') (R : Cell α → Cell α → Prop)
    (hstep : ∀ x s y s', Step x s y s' → R x y) : List.Forall₂ R xs ys := by
  induction h with
  | nil s => exact List.Forall₂.nil
  | cons hst _ ih => exact List.Forall₂.cons (hstep _ _ _ _ hst) ih

/-- conservation of `tot cells + m state`; `tot` is any sum of a per-cell weight `w` (`storage` with
`w = Cell.water`, `capac` with the pore volume) -/
theorem sum (h : Sweep Step xs s ys s') (P : Cell α → Prop) (w : Cell α → α) (m : σ → α)
    (tot : List (Cell α) → α) (tot_cons : ∀ x xs, tot (x :: xs) = w x + tot xs)
    (hstep : ∀ x s y s', Step x s y s' → P x → w y + m s' = w x + m s)
    (hP : ∀ x ∈ xs, P x) : tot ys + m s' = tot xs + m s := by
  induction h with
  | nil s => rfl
  | cons hst _ ih =>
    rw [List.forall_mem_cons] at hP
    rw [tot_cons, tot_cons]
    linear_combination hstep _ _ _ _ hst hP.1 + ih hP.2

end Sweep

theorem storage_le_of_forall₂ {R : Cell α → Cell α → Prop} {xs ys : List (Cell α)}
    (h : List.Forall₂ R xs ys) (hR : ∀ x y, R x y → y.c = x.c ∧ x.th ≤ y.th)
    (hdz : ∀ x ∈ xs, 0 ≤ x.c.dz) : storage xs ≤ storage ys := by
  induction h with
  | nil => exact le_refl _
  | cons hxy _ ih =>
    rw [List.forall_mem_cons] at hdz
    obtain ⟨e, hle⟩ := hR _ _ hxy
    refine add_le_add ?_ (ih hdz.2)
    rw [Cell.water, Cell.water, e]
    exact mul_le_mul_of_nonneg_right (mul_le_mul_of_nonneg_left hle (by norm_num)) hdz.1

theorem storage_eq_of_forall₂ {R : Cell α → Cell α → Prop} {xs ys : List (Cell α)}
    (h : List.Forall₂ R xs ys) (hR : ∀ x y, R x y → y.c = x.c ∧ y.th = x.th) :
    storage ys = storage xs := by
  induction h with
  | nil => rfl
  | cons hxy _ ih =>
    obtain ⟨e1, e2⟩ := hR _ _ hxy
    simp only [storage_cons, Cell.water, e1, e2, ih]

/-! ### counting compartments above a depth -/

theorem countBelow_eq_countP (z : α) (cells : List (Cell α)) :
    countBelow z cells = (cells.map (·.c)).countP (fun c => decide (c.dzsum < z)) := by
  induction cells with
  | nil => rfl
  | cons x xs ih =>
    simp only [countBelow, ih, List.map_cons, List.countP_cons, decide_eq_true_eq]
    exact Nat.add_comm _ _

theorem countBelow_congr (z : α) {xs ys : List (Cell α)} (h : ys.map (·.c) = xs.map (·.c)) :
    countBelow z ys = countBelow z xs := by
  rw [countBelow_eq_countP, countBelow_eq_countP, h]

theorem countBelow_mono {z z' : α} (hz : z ≤ z') (cells : List (Cell α)) :
    countBelow z cells ≤ countBelow z' cells := by
  rw [countBelow_eq_countP, countBelow_eq_countP]
  exact List.countP_mono_left
    (fun c _ hc => decide_eq_true (lt_of_lt_of_le (of_decide_eq_true hc) hz))

/-! ### raising the water content to a target

`groundwater_inflow` (target `th_s`) and `pre_irrigation` (target `thCrit`) run the same loop: every
cell below its target is set to it, and the amount reported is what the storage gained. -/

def Cell.raiseTo (t : α) (x : Cell α) : Cell α := { x with th := max x.th t }

def Raised (t : Cell α → α) (x y : Cell α) : Prop :=
  y.c = x.c ∧ y.fcAdj = x.fcAdj ∧ y.flux = x.flux ∧ y.aer = x.aer ∧ x.th ≤ y.th ∧
    (y.th = x.th ∨ (x.th < t x ∧ y.th = t x))

theorem Raised.refl (t : Cell α → α) (x : Cell α) : Raised t x x :=
  ⟨rfl, rfl, rfl, rfl, le_refl _, Or.inl rfl⟩

theorem Cell.raiseTo_raised (t : Cell α → α) (x : Cell α) : Raised t x (x.raiseTo (t x)) :=
  ⟨rfl, rfl, rfl, rfl, le_max_left _ _,
    (le_or_gt (t x) x.th).imp max_eq_left fun h => ⟨h, max_eq_right h.le⟩⟩

theorem Raised.read_eq {β : Type} {t : Cell α → α} {x y : Cell α} (h : Raised t x y)
    (k : Cell α → β) (hth : NoTh k) : k y = k x :=
  Cell.read_eq k h.1 (.inr hth) (.inl h.2.1) (.inl h.2.2.1) (.inl h.2.2.2.1)

theorem Raised.inv {t : Cell α → α} {x y : Cell α} (h : Raised t x y) (ix : x.Inv)
    (ht : t x ≤ x.c.thS) : y.Inv := by
  obtain ⟨hc, hfc, -, -, hle, hth⟩ := h
  refine ⟨hc ▸ ix.wf, by rw [hc]; exact le_trans ix.th_lo hle, ?_,
    by rw [hc, hfc]; exact ix.fc_lo, by rw [hc, hfc]; exact ix.fc_hi⟩
  rcases hth with e | ⟨_, e⟩
  · rw [hc, e]; exact ix.th_hi
  · rw [hc, e]; exact ht

end Aqua
