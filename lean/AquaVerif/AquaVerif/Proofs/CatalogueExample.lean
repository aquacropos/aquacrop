import AquaVerif.Proofs.CatalogueCfg
import AquaVerif.Proofs.CatalogueDefaults

/-
**Non-vacuity**: a concrete catalogue configuration over `ℝ` — the crop
named "Wheat" of the generated table `cropFullTable`, the soil named "SandyLoam" of the generated
table `builtinLayersGen`, 12 compartments of 0.1 m, initial water content at field capacity
(`Prop`/`Layer` specification, layer 1 at `FC`), no water table, no irrigation, a single season of
198 days in a window of 250 days, constant weather with `ET0 = 5`.

Every hypothesis of the corollaries of `Proofs/CatalogueCfg.lean` is discharged: membership in the
two generated tables by `find?`, the builder and `initWC` by computation on the integer geometry
(`rfl`) and the totality lemmas of `Proofs/CatalogueSoil.lean`, `DerivedRunOK` for the values a
model initialised at Tunis derives for Wheat (`wheatDerived`), `InitScalars` by `rfl`, the clock by
`decide`, the ranges by `cfgRanges_of_defaults` (the configuration uses the generated program
defaults `runDefaults`).  Hence (`example_closed`) for **every** reachable state of
**every** run of that configuration the conclusions of the four corollaries hold with no
hypothesis left; the initial state is reachable.
-/

set_option linter.unusedSectionVars false
namespace Aqua
namespace CatalogueExample
open Aqua.Generated Aqua.Response Aqua.HarvestIndexReal Aqua.Clock

def tableCrop (n : String) : Option CropFull := cropFullTable.find? (fun c => c.name == n)

def tableLayer (n : String) : Option BLayer := builtinLayersGen.find? (fun l => l.soil == n)

theorem wheat_in_table : (tableCrop "Wheat").isSome = true := by decide +kernel
theorem sandyLoam_in_table : (tableLayer "SandyLoam").isSome = true := by decide +kernel

theorem tableCrop_mem {n : String} {c : CropFull} (h : tableCrop n = some c) :
    c ∈ cropFullTable ∧ c.name = n := by
  refine ⟨List.mem_of_find?_eq_some h, ?_⟩
  have := List.find?_some h
  simpa using this

noncomputable def soilW : SoilW ℝ :=
  { cn := 46, adjCN := true, zCN := 0.3, nComp := 12, nLayer := 1, fshapeCR := 16, zTop := 0.1,
    evapZMin := 0.15, evapZMax := 0.3, rew := 9, kex := (runDefaults.kex : ℝ),
    fwcc := (runDefaults.fwcc : ℝ), fWrelExp := 0.4, fevap := 4 }

noncomputable def irrNone : IrrParams ℝ :=
  { method := 0, smt := fun _ => 100, appEff := 100, maxIrr := 25, interval := 3, depth := 0,
    maxSeason := 10000 }

noncomputable def irrSet : IrrSet ℝ :=
  { irr := irrNone, netIrrSMT := (runDefaults.netIrrSMT : ℝ), wetSurf := (runDefaults.wetSurf : ℝ),
    sched := fun _ => none }

noncomputable def fmNone : FieldMngt ℝ :=
  { srInhb := false, bunds := false, zBund := 0, cnAdj := false, cnAdjPct := 0, mulches := false,
    fMulch := (runDefaults.fMulch : ℝ), mulchPct := (runDefaults.mulchPct : ℝ) }

/-- the state `_initialize` leaves for a run that starts on the planting date -/
noncomputable def initState (cells : List (Cell ℝ)) (zmin cc0 hi0 : ℝ) : DayState' ℝ :=
  { cells := cells, pond := 0, daySubmerged := 0, irrCum := 0, ePot := 0, tPot := 0, wSurf := 0,
    evapZ := 0, stage2 := false, wStage2 := 0, ageDaysNS := 0, ageDays := 0, aerDays := 0,
    irrNetCum := 0, trRatio := 1, dap := 0, gddCum := 0, zRoot := zmin, rCor := 1,
    growthStage := 0, germination := false, protectedSeed := false, delayedCds := 0,
    delayedGdds := 0, cc := 0, ccNS := 0, cc0Adj := cc0, ccxAct := 0, ccxActNS := 0,
    ccxW := 0, ccxWNS := 0, ccxEarlySen := 0, ccPrev := 0, tEarlySen := 0, ccAdj := 0,
    ccAdjNS := 0, prematSenes := false, cropDead := false, hiRef := 0, hiFinal := hi0,
    yieldForm := false, pctLagPhase := 0, biomass := 0, biomassNS := 0, preAdj := false,
    fPre := 1, fPol := 0, sCor1 := 0, sCor2 := 0, fpostUpp := 1, fpostDwn := 1, fPost := 1,
    hi := 0, hiAdj := 0, cropMature := false, harvestFlag := false, depletion := 0, taw := 0,
    zGW := -999, wtInSoil := false, yieldPot := 0, dryYield := 0, freshYield := 0 }

/-- the configuration: crop `c` (Wheat) in every season and as fallow filler crop, the given
initial cells and `thini` -/
noncomputable def cfgW (c : CropFull) (cells : List (Cell ℝ)) (thini : List ℝ) : RunCfg ℝ :=
  { clock := { n := 250, planting := [0], harvest := [197], offSeason := false, season0 := 0 },
    W0 := { waterTable := 0, soil := soilW, crop := c.cropW wheatDerived, irr := irrNone,
            netIrrSMT := 80, wetSurf := 100, evapTimeSteps := 20, simOffSeason := false,
            co2Cur := (runDefaults.co2Ref : ℝ), co2Ref := (runDefaults.co2Ref : ℝ) },
    zGerm := 0.3, irr := irrSet, fallowIrr := irrSet, fm := fmNone, fallowFm := fmNone,
    bundWater := (runDefaults.bundWater : ℝ), fallowCrop := c.cropParams wheatDerived,
    seasonCrop := fun _ => c.cropParams wheatDerived,
    co2Cur := fun _ => (runDefaults.co2Ref : ℝ),
    weather := fun _ => { tmin := 10, tmax := 20, rain := 0, et0 := 5 },
    zgw := fun _ => 0, thini := thini,
    init := initState cells (c.zmin : ℝ) (c.cc0 : ℝ) (c.hi0 : ℝ) }

/-! ### the soil: SandyLoam, 12 × 0.1 m, deepened for a rooting depth of 1.5 m, at field capacity -/

/-- the deepening loop condition for `Zmax = 1.5 m` (`zSoil < Zmax + 0.1`) on whole centimetres -/
def more150 : Nat → Bool := fun c => decide (c < 160)

/-- `InitialWaterContent(value=['FC'])`: layer 1 at field capacity -/
noncomputable def ptsFC : List (WcPoint ℝ) := [{ lay := 1, depth := 0, num := 0, prop := .fc }]

theorem layers12 :
    assignLayersG natGe1 natGe2 ((buildGeometry (List.replicate 12 10)).map (·.dzsum)) [120] =
      .ok (List.replicate 12 (1, 0)) := by rfl

theorem deepen12 :
    deepen more150 10 (List.replicate 12 10) 0 = .ok ([10, 10, 10, 10, 10, 10, 10, 10, 10, 10, 30, 30], 4) := by
  rfl

theorem soil_built_geo (l : BLayer) :
    ∃ so : SoilOut ℝ, ∃ o : InitOut ℝ,
      soilProfile realFn natGe1 natGe2 more150 10 (List.replicate 12 10) [l.toSpec 120] false false
        false 9 0.04 46 0.1 = .ok so ∧
      initWC realFn so.comps false 0 1.6 .prop .layer ptsFC = .ok o ∧
      so.comps.map (·.layer) = List.replicate 12 1 ∧
      GeoMatch so.comps (refreshFrom 0 (buildGeometry (List.replicate 12 10))
        [10, 10, 10, 10, 10, 10, 10, 10, 10, 10, 30, 30]) := by
  have hl : assignLayersG natGe1 natGe2 ((buildGeometry (10 :: List.replicate 11 10)).map (·.dzsum))
      (([l.toSpec 120] : List (LayerSpec ℝ Nat)).map (·.thick)) = .ok (List.replicate 12 (1, 0)) :=
    layers12
  obtain ⟨cs0, hm, hlay⟩ := mkComps_ok realFn ([l.toSpec 120] : List (LayerSpec ℝ Nat))
    (refreshFrom 0 (buildGeometry (10 :: List.replicate 11 10))
      [10, 10, 10, 10, 10, 10, 10, 10, 10, 10, 30, 30]) (List.replicate 12 (1, 0)) (by rfl)
    (fun lk hlk => by rw [(List.mem_replicate.mp hlk).2]; rfl)
  have hgm := (mkComps_spec realFn _ _ _ _ hm).2.1
  have hlay' : cs0.map (·.layer) = List.replicate 12 1 := by rw [hlay]; rfl
  have hne : cs0 ≠ [] := by
    intro h; rw [h] at hlay'; cases hlay'
  obtain ⟨so, hs, hcomps⟩ := soilProfile_ok_noWT realFn natGe1 natGe2 more150 10 10
    (List.replicate 11 10) [l.toSpec 120] false 9 0.04 46 0.1 _ _ _ cs0 hl deepen12 hm hne
  have hex : ∃ c ∈ so.comps, c.layer = 1 := by
    rw [hcomps]
    cases cs0 with
    | nil => exact absurd rfl hne
    | cons c0 rest =>
      refine ⟨c0, by simp, ?_⟩
      have := congrArg List.head? hlay'
      simpa using this
  obtain ⟨o, ho⟩ := initWC_layer_ok_noWT realFn so.comps 0 1.6 .prop ptsFC (fun p hp => by
    simp only [ptsFC, List.mem_cons, List.not_mem_nil, or_false] at hp
    subst hp
    exact hex)
  exact ⟨so, o, hs, ho, by rw [hcomps]; exact hlay', by rw [hcomps]; exact hgm⟩

theorem catCrop_wheat {c : CropFull} (hc : tableCrop "Wheat" = some c) :
    CatCrop (c.cropParams wheatDerived) := by
  obtain ⟨hm, hn⟩ := tableCrop_mem hc
  refine ⟨c, hm, ?_, wheatDerived, wheatDerived_ok, rfl⟩
  apply (catalogue_exceptions c hm).1.mpr
  rw [hn]; decide

section
variable {l : BLayer} {so : SoilOut ℝ} {o : InitOut ℝ}

theorem layer_named (hlay : so.comps.map (·.layer) = List.replicate 12 1) :
    ∀ c ∈ so.comps, ∃ p ∈ ptsFC, p.lay = c.layer := by
  intro c hc
  have : c.layer ∈ so.comps.map (·.layer) := List.mem_map_of_mem hc
  rw [hlay] at this
  exact ⟨⟨1, 0, 0, .fc⟩, by simp [ptsFC], (List.mem_replicate.mp this).2.symm⟩

theorem specOK_example (hl : tableLayer "SandyLoam" = some l) :
    ∀ sp ∈ ([l.toSpec 120] : List (LayerSpec ℝ Nat)), SpecOK sp := by
  intro sp hsp
  simp only [List.mem_cons, List.not_mem_nil, or_false] at hsp
  subst hsp
  exact specOK_of_builtin (List.mem_of_find?_eq_some hl) 120

theorem soilBuilt_example (hl : tableLayer "SandyLoam" = some l)
    (hs : soilProfile realFn natGe1 natGe2 more150 10 (List.replicate 12 10) [l.toSpec 120] false
      false false 9 0.04 46 0.1 = .ok so)
    (hi : initWC realFn so.comps false 0 1.6 .prop .layer ptsFC = .ok o)
    (hlay : so.comps.map (·.layer) = List.replicate 12 1) :
    SoilBuilt false (initCells so.comps o.th o.fcAdjInit) o.th := by
  refine ⟨more150, 10, List.replicate 12 10, [l.toSpec 120], false, false, 9, 0.04, 46, 0.1, so, 0,
    1.6, .prop, ptsFC, o, ?_, specOK_example hl, hs, hi, layer_named hlay, ?_, rfl, rfl⟩
  · intro d hd; rw [(List.mem_replicate.mp hd).2]; decide
  · intro wp fc s _ p hp
    simp only [ptsFC, List.mem_cons, List.not_mem_nil, or_false] at hp
    subst hp
    show PropVal.fc ≠ PropVal.other
    decide

theorem cells_comps (hl : tableLayer "SandyLoam" = some l)
    (hs : soilProfile realFn natGe1 natGe2 more150 10 (List.replicate 12 10) [l.toSpec 120] false
      false false 9 0.04 46 0.1 = .ok so)
    (hi : initWC realFn so.comps false 0 1.6 .prop .layer ptsFC = .ok o)
    (hlay : so.comps.map (·.layer) = List.replicate 12 1) :
    (initCells so.comps o.th o.fcAdjInit).map (·.c) = so.comps := by
  obtain ⟨lay, hlay', b⟩ := soilProfile_built hs
  obtain ⟨hth, hfc⟩ := initWC_layer_bounds (F := realFn) false 0 1.6 .prop ptsFC o
    (b.compsOK natGe1_anti natGe2_anti hlay' (fun d hd => by rw [(List.mem_replicate.mp hd).2]; decide)
      (specOK_example hl))
    (fun h => by cases h) (layer_named hlay)
    (fun _ _ _ _ p hp => by
      simp only [ptsFC, List.mem_cons, List.not_mem_nil, or_false] at hp
      subst hp
      show PropVal.fc ≠ PropVal.other
      decide) hi
  exact initCells_comps hth hfc

end

theorem catCfg_example {c : CropFull} {l : BLayer} (hc : tableCrop "Wheat" = some c)
    (hl : tableLayer "SandyLoam" = some l) {so : SoilOut ℝ} {o : InitOut ℝ}
    (hs : soilProfile realFn natGe1 natGe2 more150 10 (List.replicate 12 10) [l.toSpec 120] false
      false false 9 0.04 46 0.1 = .ok so)
    (hi : initWC realFn so.comps false 0 1.6 .prop .layer ptsFC = .ok o)
    (hlay : so.comps.map (·.layer) = List.replicate 12 1) :
    CatCfg (cfgW c (initCells so.comps o.th o.fcAdjInit) o.th) := by
  have hcrop := catCrop_wheat hc
  have hhi0 : (0 : ℝ) ≤ (c.hi0 : ℝ) := (resetCropOK_of_ok (K := wheatDerived)
    (catalogue_ok c (tableCrop_mem hc).1)).hi0
  exact
    { crops := fun _ => hcrop
      fallow := hcrop
      soil := by
        have : decide ((cfgW c (initCells so.comps o.th o.fcAdjInit) o.th).W0.waterTable = 1)
            = false := by
          show decide ((0 : Nat) = 1) = false
          decide
        rw [this]
        exact soilBuilt_example hl hs hi hlay
      init :=
        { dap := rfl, mature := rfl, dead := rfl, flag := rfl, cc := rfl, ccNS := rfl, ccAdj := rfl,
          ccAdjNS := rfl, ccxAct := rfl, ccxActNS := rfl, ccxW := rfl, cc0Adj := Or.inr rfl,
          trRatio := rfl, rCor := rfl, fPre := rfl, fPost := rfl, fpostUpp := rfl, fpostDwn := rfl,
          sCor1 := rfl, sCor2 := rfl, hi := rfl, hiAdj := rfl, hiFinal := hhi0, biomass := rfl,
          biomassNS := rfl, ageDays := rfl, delayedCds := rfl, pond := le_refl _ }
      clock := by
        show WF { n := 250, planting := [0], harvest := [197], offSeason := false, season0 := 0 }
        decide
      seasonLen := fun k => by
        cases k with
        | zero => simp [cfgW, Cfg.hv, Cfg.pl]
        | succ k => simp [cfgW, Cfg.hv, Cfg.pl]
      ranges := cfgRanges_of_defaults
        { kex := rfl, fwcc := rfl, fMulch := rfl, mulchPct := rfl, fMulchF := rfl, mulchPctF := rfl,
          wetSurf := rfl, wetSurfF := rfl, netIrrSMT := rfl, netIrrSMTF := rfl, bundWater := rfl,
          co2Ref := rfl
          co2Cur := fun _ => by
            show ((runDefaults.co2Ref : ℚ) : ℝ) ≤ ((runDefaults.co2DataMax : ℚ) : ℝ)
            have : runDefaults.co2Ref ≤ runDefaults.co2DataMax := by decide +kernel
            exact_mod_cast this } }

/-- **there is a catalogue configuration** (Wheat on SandyLoam at field capacity): its twelve
initial cells satisfy the profile premises, the initial state is reachable, and for **every**
reachable state of **every** run of it the conclusions of the corollaries hold — no hypothesis
about computed values is left (no water table) -/
theorem example_closed :
    ∃ cfg : RunCfg ℝ, CatCfg cfg ∧ cfg.init.cells.length = 12 ∧
      (∃ s0, RunReach realFn realTrig cfg s0) ∧
      ∀ s, RunReach realFn realTrig cfg s →
        (WaterInv cfg s ∧ CropEnv realFn (paramsOf cfg s.season false) s.day) ∧
        ∀ d ∈ s.daysRev,
          ((∀ y ∈ d.r.state.cells, y.Inv) ∧ 0 ≤ d.r.state.pond) ∧
          storage d.r.state.cells + d.r.state.pond =
            storage d.st.cells + d.st.pond + d.r.flux.infl + d.r.water.preIrr + d.r.water.irrNet
              + d.r.water.crAdded + d.r.flux.gwIn - d.r.flux.deepPerc - d.r.flux.es - d.r.flux.tr ∧
          (0 ≤ d.r.flux.esPot ∧ 0 ≤ d.r.flux.es ∧ d.r.flux.es ≤ d.r.flux.esPot) ∧
          (0 ≤ d.r.flux.trPot ∧ 0 ≤ d.r.flux.tr ∧ d.r.flux.tr ≤ d.r.flux.trPot) ∧
          (0 ≤ d.r.flux.deepPerc ∧ 0 ≤ d.r.flux.cr ∧ 0 ≤ d.r.flux.gwIn ∧ 0 ≤ d.r.water.irr) ∧
          CropEnv realFn d.P d.st ∧ CropEnv realFn d.P d.r.state ∧
          d.r.state.ccxAct ≤ d.P.cx.cc.ccx := by
  obtain ⟨c, hc⟩ := Option.isSome_iff_exists.mp wheat_in_table
  obtain ⟨l, hl⟩ := Option.isSome_iff_exists.mp sandyLoam_in_table
  obtain ⟨so, o, hs, hi, hlay, _⟩ := soil_built_geo l
  have hcat := catCfg_example hc hl hs hi hlay
  refine ⟨_, hcat, ?_, ?_, fun s hr => ?_⟩
  · show (initCells so.comps o.th o.fcAdjInit).length = 12
    have hlen := congrArg List.length (cells_comps hl hs hi hlay)
    have h12 := congrArg List.length hlay
    rw [List.length_map] at hlen h12
    rw [hlen, h12, List.length_replicate]
  · exact ⟨_, RunReach.init (by
      show runInit (cfgW c (initCells so.comps o.th o.fcAdjInit) o.th) = .ok _
      unfold runInit Clock.init
      simp [cfgW]
      rfl)⟩
  · exact catalogue_run_no_table hcat (fun _ => by show (0 : ℝ) < 5; norm_num)
      (by show (0 : Nat) ≠ 1; decide) hr

end CatalogueExample
end Aqua

section AxiomAudit
open Aqua.CatalogueExample
#print axioms wheat_in_table
#print axioms soil_built_geo
#print axioms catCfg_example
#print axioms example_closed
end AxiomAudit
