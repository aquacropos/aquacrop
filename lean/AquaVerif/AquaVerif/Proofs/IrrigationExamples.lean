import AquaVerif.Proofs.Irrigation
import AquaVerif.Proofs.GrowthStage
import AquaVerif.Proofs.RootZone
import Mathlib.Algebra.Order.Field.Rat
/-
Non-vacuity: concrete calls over `ℚ` (identity rounding) that satisfy the hypotheses of the lemmas of
`Proofs/Irrigation.lean`, for every irrigation method, evaluated by the kernel; then the schedule
re-indexing and `growthStage` on concrete inputs.
One 1 m compartment with θ = 0.2, FC = 0.3, WP = 0.1 (TAW = 200 mm, Dr = 100 mm),
ETpot = 2 mm → Depletion = 102 mm.
The `#print axioms` lines for `Irrigation.lean`, `RootZone.lean` and `GrowthStage.lean` are at the end.
-/

namespace Aqua.IrrEx
open Aqua

def idFn : Fn ℚ := ⟨id, id, id, fun x y => if y = 2 then x * x else x, id, id, id, id, id⟩
def c1 : Comp ℚ :=
  { dz := 1, dzsum := 1, zMid := 1/2, thS := 1/2, thFC := 3/10, thWP := 1/10,
    thDry := 1/20, tau := 1/2, ksat := 500, pen := 100, aCR := 0, bCR := 0, layer := 1 }
def cell1 : Cell ℚ := { c := c1, th := 2/10, fcAdj := 3/10, flux := 0, aer := 0 }
/-- a profile above field capacity (AbvFc branch) -/
def cellWet : Cell ℚ := { c := c1, th := 4/10, fcAdj := 3/10, flux := 0, aer := 0 }
def P (m : Nat) : IrrParams ℚ :=
  { method := m, smt := fun i => if i.val = 1 then 60 else 40, appEff := 80, maxIrr := 25,
    interval := 3, depth := 7, maxSeason := 100 }

/-- `(Depletion, TAW, IrrCum, Irr)` of a call, `none` on error -/
def res (r : Except IrrErr (IrrOut ℚ)) : Option (ℚ × ℚ × ℚ × ℚ) :=
  match r with
  | .ok o => some (o.depletion, o.taw, o.irrCum, o.irr)
  | .error _ => none

/-- the call used below: stage 2, `IrrCum`, DAP, schedule value free -/
def call (m : Nat) (cells : List (Cell ℚ)) (irrCum : ℚ) (dap : Nat) (sched : Option ℚ)
    (gs : Bool) : Except IrrErr (IrrOut ℚ) :=
  irrigation idFn (P m) cells 2 irrCum 1 1 1 dap sched (3/10) 5 1 gs 0 0

-- method 2, day 4 = 1 + 3: fires; gross = min 25 (102·1.2) = 25; cap 100 binds at IrrCum 90
theorem ex_interval_cap : res (call 2 [cell1] 90 4 none true) = some (102, 200, 100, 10) := by
  decide +kernel
-- method 2, day 5: nothing
theorem ex_interval_off : res (call 2 [cell1] 0 5 none true) = some (102, 200, 0, 0) := by
  decide +kernel
-- method 1, stage 2 → SMT[1] = 60: 102/200 > 1 − 0.6 → fires
theorem ex_smt_fire : res (call 1 [cell1] 0 4 none true) = some (102, 200, 25, 25) := by
  decide +kernel
-- method 1 on day 1: stage forced to 1 → SMT[0] = 40: 0.51 > 0.6 fails → nothing
theorem ex_smt_day1 : res (call 1 [cell1] 0 1 none true) = some (102, 200, 0, 0) := by
  decide +kernel
-- method 3: scheduled 30 mm limited to MaxIrr = 25; scheduled 0 → 0; missing day → error
theorem ex_sched : res (call 3 [cell1] 0 4 (some 30) true) = some (102, 200, 25, 25) := by
  decide +kernel
theorem ex_sched0 : res (call 3 [cell1] 0 4 (some 0) true) = some (102, 200, 0, 0) := by
  decide +kernel
theorem ex_sched_missing : res (call 3 [cell1] 0 4 none true) = none := by decide +kernel
theorem ex_sched_neg : res (call 3 [cell1] 0 4 (some (-1)) true) = none := by decide +kernel
-- method 5: constant 7 mm
theorem ex_const : res (call 5 [cell1] 10 4 none true) = some (102, 200, 17, 7) := by
  decide +kernel
-- methods 0 and 4: nothing; unknown method: error; off season: all zero
theorem ex_rainfed : res (call 0 [cell1] 10 4 none true) = some (102, 200, 10, 0) := by
  decide +kernel
theorem ex_net : res (call 4 [cell1] 10 4 none true) = some (102, 200, 10, 0) := by
  decide +kernel
theorem ex_unknown : res (call 6 [cell1] 10 4 none true) = none := by decide +kernel
theorem ex_off : res (call 2 [cell1] 10 4 none false) = some (0, 0, 0, 0) := by decide +kernel
-- wet profile: AbvFc = 100 mm → Depletion = −100 + 2 − 100 = −198, nothing applied
theorem ex_wet : res (call 2 [cellWet] 0 4 none true) = some (-198, 200, 0, 0) := by
  decide +kernel

-- schedule re-indexing: window of 5 days from day 10; day 9 and 20 are dropped; duplicates fail
theorem ex_reindex :
    scheduleReindex [((12 : Int), (25 : ℚ)), (9, 5), (10, 40), (20, 7)] 10 5
      = some [40, 0, 25, 0, 0] := by decide +kernel
theorem ex_reindex_dup :
    scheduleReindex [((12 : Int), (25 : ℚ)), (9, 5), (12, 40)] 10 5 = none := by decide +kernel

-- growth stage: thresholds 10 / 50 / 100 days
theorem ex_stage :
    (growthStage 1 (12 : ℚ) 0 0 0 10 50 100 true 0, growthStage 1 (10 : ℚ) 0 0 0 10 50 100 true 0,
     growthStage 2 (12 : ℚ) 0 300 100 10 50 100 true 0, growthStage 3 (12 : ℚ) 0 0 0 10 50 100 true 0,
     growthStage 1 (12 : ℚ) 0 0 0 10 50 100 false 3)
    = (some 2, some 1, some 4, none, some 0) := by decide +kernel

end Aqua.IrrEx

#print axioms Aqua.IrrEx.ex_interval_cap
#print axioms Aqua.irr_nonneg
#print axioms Aqua.irr_offseason
#print axioms Aqua.irr_rainfed
#print axioms Aqua.irr_net
#print axioms Aqua.irr_le_max
#print axioms Aqua.irr_cum_step
#print axioms Aqua.irr_season_cap
#print axioms Aqua.irr_zero_of_cum_above
#print axioms Aqua.irr_interval
#print axioms Aqua.irr_interval_nat
#print axioms Aqua.irr_interval_amount
#print axioms Aqua.irr_interval_amount'
#print axioms Aqua.irr_schedule_exact
#print axioms Aqua.irr_schedule_zero
#print axioms Aqua.irr_constant
#print axioms Aqua.irr_smt
#print axioms Aqua.nothing_off_schedule
#print axioms Aqua.scheduleReindex_isSome_iff
#print axioms Aqua.schedule_entry_cases
#print axioms Aqua.rootZoneWater_ranges
#print axioms Aqua.growthStage_inseason
#print axioms Aqua.stageOf_mono
#print axioms Aqua.stageOf_eq_iff
