import AquaVerif.Proofs.SoilTexture
import AquaVerif.Proofs.SoilTable
import AquaVerif.Proofs.InitWC
import AquaVerif.Proofs.GwSeries
/-
Property C18 — soil profile and initial water content built as specified.

What is modelled: `Soil.create_df` / `add_layer` / `fill_nan` and the profile-deepening loop of
`read_model_parameters` (`Model/SoilBuild.lean`: `buildGeometry`, `assignLayers(G)`, `deepen`,
`refreshFrom`, `soilProfile`), the initial water content of `read_model_initial_conditions`
(`Model/InitWC.lean`: `initWC`, `interp` = `np.interp`), and the water-table series of
`read_groundwater_table` that the initial field-capacity adjustment reads (`Model/GwSeries.lean`).
Geometry is in whole centimetres (`Nat`; every thickness is rounded to 2 decimals by the code);
hydraulic values and water contents live in an arbitrary linearly ordered field `α`.

What is quantified over: **every** list of compartment thicknesses, **every** list of layer
thicknesses / layer specifications, **every** rooting depth (loop condition `more`), every fuel;
**every** initial-water-content type (`Num`/`Pct`/`Prop`) and method (`Layer`/`Depth`) and every
list of data points; the table of the 15 built-in soils (17 layers) row by row.  Premises that the
code does not enforce are explicit (`hydraulic_order_of_spec`: the caller's `0 < wp < fc ≤ s`).

`mid_stale_after_deepen` is a **counter-statement**: the model-level witness of the recorded
defect that `zBot/z_top/zMid` are not recomputed after the profile has been deepened; the clause
"tops and mid-depths consistent" therefore holds *as built* (`mid_consistent_as_built`) but not
after deepening.  The pedotransfer inequalities of texture-based layers
(`add_layer_from_texture`) are in the section "Texture-based layers", with their counter-statements.

The lemmas are in `Proofs/SoilBuild.lean`, `Proofs/SoilTable.lean`, `Proofs/InitWC.lean`,
`Proofs/GwSeries.lean`, `Proofs/SoilTexture.lean`.
-/

set_option linter.unusedSectionVars false
namespace Aqua.C18
open Aqua

/-! ## Geometry -/

/-- Compartment bottoms are the running sum of the thicknesses (as built by `create_df`). -/
theorem dzsum_is_running_sum (dz : List Nat) (i : Nat) (h : i < (buildGeometry dz).length) :
    ((buildGeometry dz)[i]).dzsum = sumNat (dz.take (i + 1)) := dzsum_is_prefix_sum dz i h

/-- … and after `fill_nan` on a deepened profile they are again the running sum of the *current*
thicknesses. -/
theorem dzsum_is_running_sum_after_deepening (acc : Nat) (gs : List GComp) (dz : List Nat)
    (h : gs.length = dz.length) :
    (refreshFrom acc gs dz).map (·.dzsum) = prefixSums acc dz ∧
      (refreshFrom acc gs dz).map (·.dz) = dz := refreshFrom_dzsum acc gs dz h

/-- As built, tops, bottoms and mid-depths are consistent with the running sums:
`zBot = dzsum`, `z_top = dzsum − dz`, `2·zMid = 2·dzsum − dz`. -/
theorem mid_consistent_as_built (dz : List Nat) (g : GComp) (h : g ∈ buildGeometry dz) :
    g.zBot = g.dzsum ∧ g.zTop = g.dzsum - g.dz ∧ g.zMid2 = g.mid2 := by
  have := buildGeoFrom_mem 0 dz g h
  simp only [GComp.zMid2, GComp.mid2]
  omega

/-- The same in metres over any ordered field: `zMid = (z_top + zBot)/2 = dzsum − dz/2`. -/
theorem mid_consistent_as_built_metres {α : Type} [Field α] [LinearOrder α]
    [IsStrictOrderedRing α] (dz : List Nat) (g : GComp) (h : g ∈ buildGeometry dz) :
    (toMetres g : GeoM α).zBot = (toMetres g : GeoM α).dzsum ∧
    (toMetres g : GeoM α).zTop = (toMetres g : GeoM α).dzsum - (toMetres g : GeoM α).dz ∧
    (toMetres g : GeoM α).zMid = (toMetres g : GeoM α).dzsum - (toMetres g : GeoM α).dz / 2 := by
  obtain ⟨h1, h2, _⟩ := buildGeoFrom_mem 0 dz g h
  have hd : g.dzsum - g.zTop = g.dz := by omega
  simp only [toMetres, cmToM, h1, hd]
  refine ⟨trivial, trivial, ?_⟩
  ring

/-- COUNTER-STATEMENT (recorded defect): there is a profile and a rooting depth for which, after
deepening, a compartment's stored mid-depth and bottom differ from the ones its thickness and
running sum imply (2 × 10 cm, crop needing 30 cm: stored `zMid` 15 cm, real 20 cm). -/
theorem mid_stale_after_deepen :
    ∃ (dz dz' : List Nat) (k : Nat),
      deepen (fun c => decide (c < 30)) 8 dz 0 = .ok (dz', k) ∧
      ∃ g ∈ refreshFrom 0 (buildGeometry dz) dz', g.zMid2 ≠ g.mid2 ∧ g.zBot ≠ g.dzsum :=
  ⟨[10, 10], [10, 20], 1, by rfl, ⟨20, 30, 20, 10⟩, by decide, by decide, by decide⟩

/-- `fill_nan` never touches `zBot`/`z_top`: after deepening they are still those of the initial
geometry (the mechanism behind the counter-statement). -/
theorem tops_and_bottoms_not_recomputed (acc : Nat) (gs : List GComp) (dz : List Nat)
    (h : gs.length = dz.length) :
    (refreshFrom acc gs dz).map (fun g => (g.zBot, g.zTop)) = gs.map (fun g => (g.zBot, g.zTop)) :=
  refreshFrom_stale acc gs dz h

/-! ## Layers -/

/-- For any pair of depth comparisons antitone in the bottom (covers the floating-point comparison
the implementation actually performs) and non-decreasing compartment bottoms: whenever the layer
assignment succeeds every compartment has a layer and the layer numbers form a staircase
`1,…,1,2,…,2,…,k`. -/
theorem layers_contiguous_for_any_antitone_comparison {τ : Type} (ge1 : τ → Nat → Bool)
    (ge2 : τ → Nat → Nat → Bool) (h1 : ∀ t, Anti (ge1 t)) (h2 : ∀ t l, Anti (ge2 t l))
    (ss : List Nat) (hs : Mono ss) (ts : List τ) (r : List (Nat × Nat))
    (h : assignLayersG ge1 ge2 ss ts = .ok r) :
    r.length = ss.length ∧ ∃ k, Stair 0 k (r.map Prod.fst) := by
  obtain ⟨l, k, g, _⟩ := assignLayersG_good ge1 ge2 h1 h2 ss hs ts r h
  exact ⟨l, k, g⟩

/-- Layers are contiguous from the surface and cover all compartments: whenever the layer
assignment succeeds every compartment has a layer and the layer numbers form a staircase
`1,…,1,2,…,2,…,k`. -/
theorem layers_contiguous (dz thick : List Nat) (ls : List Nat)
    (h : assignLayers ((buildGeometry dz).map (·.dzsum)) thick = .ok ls) :
    ls.length = dz.length ∧ ∃ k, Stair 0 k ls := by
  unfold assignLayers at h
  split at h
  · cases h
  rename_i r hr
  cases h
  obtain ⟨a, k, b⟩ := layers_contiguous_for_any_antitone_comparison natGe1 natGe2 natGe1_anti
    natGe2_anti _ (buildGeometry_mono dz) thick r hr
  exact ⟨by simpa [buildGeometry, buildGeoFrom_length] using a, k, b⟩

/-- Elementwise reading: the first compartment is in layer 1 and going down the layer number
stays or rises by exactly one. -/
theorem layers_contiguous_elementwise (dz thick : List Nat) (ls : List Nat)
    (h : assignLayers ((buildGeometry dz).map (·.dzsum)) thick = .ok ls) :
    ls.length = dz.length ∧ (∀ x ∈ ls.head?, x = 1) ∧
      List.IsChain (fun a b => b = a ∨ b = a + 1) ls := by
  obtain ⟨h1, k, hk⟩ := layers_contiguous dz thick ls h
  refine ⟨h1, ?_, ?_⟩
  · intro x hx
    cases ls with
    | nil => simp at hx
    | cons y ys => simp at hx; subst hx; exact hk.head
  · have := hk.chain
    cases ls with
    | nil => simp
    | cons y ys => exact (List.isChain_cons_cons.mp this).2

/-! ## Hydraulic values -/

/-- The 17 layers of the 15 built-in soils: air-dry < wilting point < field capacity ≤ saturation
(< 1), drainage coefficient in [0,1], positive conductivity, `th_dry = th_wp/2`. -/
theorem hydraulic_order_builtin : ∀ l ∈ builtinLayers, LayerOK l := hydraulic_order

section field
variable {α : Type} [Field α] [LinearOrder α] [IsStrictOrderedRing α]

/-- A compartment inherits `0 < th_dry < th_wp < th_fc ≤ th_s` and `tau ∈ [0,1]` from the
`add_layer` call that captured it — PROVIDED the call's arguments satisfy `0 < wp < fc ≤ s`
(`add_layer` validates nothing: explicit premise). -/
theorem hydraulic_order_of_spec {τ : Type} (F : Fn α) (specs : List (LayerSpec α τ)) (c : Comp α)
    (lk : Nat × Nat) (h : CompOf F specs c lk)
    (hspec : ∀ k sp, nthSpec specs k = some sp → 0 < sp.wp ∧ sp.wp < sp.fc ∧ sp.fc ≤ sp.s) :
    0 < c.thDry ∧ c.thDry < c.thWP ∧ c.thWP < c.thFC ∧ c.thFC ≤ c.thS ∧ 0 ≤ c.tau ∧ c.tau ≤ 1 := by
  obtain ⟨_, sp, hsp, e1, e2, e3, _, _, e6, e7⟩ := h
  obtain ⟨p1, p2, p3⟩ := hspec lk.2 sp hsp
  have ht := tauOf_bounds F sp.ksat
  rw [e1, e2, e3, e6, e7]
  exact ⟨half_pos p1, half_lt_self p1, p2, p3, ht.1, ht.2⟩

/-- The drainage coefficient lies in [0,1] whatever `Ksat` and whatever `pow`/`round` do. -/
theorem tau_in_unit_interval (F : Fn α) (ksat : α) : 0 ≤ tauOf F ksat ∧ tauOf F ksat ≤ 1 :=
  tauOf_bounds F ksat

/-! ## Deepening -/

/-- When the profile is deepened every compartment keeps its layer and its layer's hydraulic
properties: in every profile the builder returns, layer numbers and hydraulic values are those
assigned on the *initial* geometry. -/
theorem deepen_keeps_layer_properties {τ : Type} (F : Fn α) (ge1 : τ → Nat → Bool)
    (ge2 : τ → Nat → Nat → Bool) (more : Nat → Bool) (fuel : Nat) (dz : List Nat)
    (specs : List (LayerSpec α τ)) (wt adjRew calcCN : Bool) (rew zSurf cn zTopArg : α)
    (o : SoilOut α)
    (h : soilProfile F ge1 ge2 more fuel dz specs wt adjRew calcCN rew zSurf cn zTopArg = .ok o) :
    ∃ lay, assignLayersG ge1 ge2 ((buildGeometry dz).map (·.dzsum)) (specs.map (·.thick)) = .ok lay ∧
      o.call = lay.map Prod.snd ∧ HydMatch F specs o.comps lay :=
  let ⟨lay, hl, b⟩ := soilProfile_built h
  ⟨lay, hl, b.call, b.hyd⟩

/-- When the deepening succeeds the profile ends at least 10 cm below the crop's maximum rooting
depth (`Zmax` a whole number of centimetres, exact comparison). -/
theorem deepen_reaches_below_zmax (zmaxCm fuel : Nat) (dz dz' : List Nat) (k k' : Nat)
    (h : deepen (moreOf (cmToM zmaxCm : α)) fuel dz k = .ok (dz', k')) :
    zmaxCm + 10 ≤ sumNat dz' := by
  have := (deepen_reaches _ fuel dz dz' k k' h).1
  rwa [← Bool.not_eq_true, moreOf_exact, Nat.not_lt] at this

/-- General form: on success the loop condition is false at the final depth, the number of
compartments is unchanged, the depth grew by exactly 10 cm per step and did not overshoot. -/
theorem deepen_result (more : Nat → Bool) (fuel : Nat) (dz dz' : List Nat) (k k' : Nat)
    (h : deepen more fuel dz k = .ok (dz', k')) :
    more (sumNat dz') = false ∧ dz'.length = dz.length ∧ k ≤ k' ∧
      sumNat dz' = sumNat dz + 10 * (k' - k) ∧ (k < k' → more (sumNat dz' - 10) = true) :=
  deepen_reaches more fuel dz dz' k k' h

/-- On a non-empty profile the deepening loop always ends (loop condition false from some depth
`T` on, fuel covering the distance) — for every list of thicknesses, incl. all ≥ 25 cm. -/
theorem deepen_terminates (more : Nat → Bool) (T : Nat) (hT : ∀ c, T ≤ c → more c = false)
    (fuel : Nat) (dz : List Nat) (k : Nat) (hne : dz ≠ []) (hf : T ≤ sumNat dz + 10 * fuel) :
    ∃ dz' k', deepen more fuel dz k = .ok (dz', k') :=
  Aqua.deepen_terminates more T hT fuel dz k hne hf

/-- In centimetres: it ends whenever `Zmax + 10 ≤ zSoil + 10·fuel`, at least 10 cm and (if it
had to deepen) less than 20 cm below `Zmax`. -/
theorem deepen_terminates_just_below_zmax (zmaxCm fuel : Nat) (dz : List Nat) (k : Nat)
    (hne : dz ≠ []) (hf : zmaxCm + 10 ≤ sumNat dz + 10 * fuel) :
    ∃ dz' k', deepen (moreOf (cmToM zmaxCm : α)) fuel dz k = .ok (dz', k') ∧
      zmaxCm + 10 ≤ sumNat dz' ∧ (k < k' → sumNat dz' < zmaxCm + 20) := by
  obtain ⟨dz', k', h⟩ := deepen_terminates (moreOf (cmToM zmaxCm : α)) (zmaxCm + 10)
    (fun c hc => by rwa [← Bool.not_eq_true, moreOf_exact, Nat.not_lt]) fuel dz k hne hf
  refine ⟨dz', k', h, deepen_reaches_below_zmax zmaxCm fuel dz dz' k k' h, ?_⟩
  intro hk
  have h5 := (deepen_reaches _ fuel dz dz' k k' h).2.2.2.2 hk
  have := (moreOf_exact (α := α) zmaxCm (sumNat dz' - 10)).mp h5
  omega

/-- Geometry of a successfully built profile: it ends where the loop condition is false, has as
many compartments as given, `dzsum` is the running sum of the final `dz`, the depth grew by 10 cm
per step — and `zBot`/`z_top` are still those of the initial geometry. -/
theorem built_profile_geometry {τ : Type} (F : Fn α) (ge1 : τ → Nat → Bool)
    (ge2 : τ → Nat → Nat → Bool) (more : Nat → Bool) (fuel : Nat) (dz : List Nat)
    (specs : List (LayerSpec α τ)) (wt adjRew calcCN : Bool) (rew zSurf cn zTopArg : α)
    (o : SoilOut α)
    (h : soilProfile F ge1 ge2 more fuel dz specs wt adjRew calcCN rew zSurf cn zTopArg = .ok o) :
    more o.zSoil = false ∧ o.geo.length = dz.length ∧
      o.geo.map (·.dzsum) = prefixSums 0 (o.geo.map (·.dz)) ∧
      o.zSoil = sumNat (o.geo.map (·.dz)) ∧ o.zSoil = sumNat dz + 10 * o.steps ∧
      o.geo.map (fun g => (g.zBot, g.zTop)) = (buildGeometry dz).map (fun g => (g.zBot, g.zTop)) :=
  let ⟨_, _, b⟩ := soilProfile_built h
  ⟨b.stop, b.len, b.sums, b.zSoil, b.steps, b.stale⟩

/-! ## Initial water content -/

/-- `Layer` method, no water table: every compartment receives the value of its layer's data
point (the last one naming the layer; 0 when none does). -/
theorem iwc_layer_value (F : Fn α) (cs : List (Comp α)) (zgw zSoil : α) (ty : WcType)
    (pts : List (WcPoint α)) (vals : List α) (o : InitOut α)
    (hv : pointValues ty .layer cs pts = .ok vals)
    (h : initWC F cs false zgw zSoil ty .layer pts = .ok o) :
    o.th = cs.map (fun c => layerValue c.layer ((pts.map (·.lay)).zip vals) 0) ∧
      o.wtInSoil = false ∧ o.fcAdjInit = cs.map (·.thFC) :=
  iwc_layer F cs zgw zSoil ty pts vals o hv h

/-- `Prop` type: a layer named by the data point starts at the requested property (wilting
point, field capacity or saturation of that layer). -/
theorem iwc_layer_property (F : Fn α) (cs : List (Comp α)) (zgw zSoil : α) (p : WcPoint α)
    (wp fc s : α) (o : InitOut α) (hex : ∃ c ∈ cs, c.layer = p.lay)
    (hconst : ∀ c ∈ cs, c.layer = p.lay → c.thWP = wp ∧ c.thFC = fc ∧ c.thS = s)
    (h : initWC F cs false zgw zSoil .prop .layer [p] = .ok o) :
    o.th = cs.map (fun c => if c.layer = p.lay then
      (match p.prop with | .sat => s | .fc => fc | .wp => wp | .other => 0) else 0) := by
  have hr := hydRow_const p.lay cs wp fc s hex hconst
  have hv : pointValues .prop .layer cs [p] = .ok [match p.prop with
      | .sat => s | .fc => fc | .wp => wp | .other => 0] := by
    simp only [pointValues, pointValue_layer_prop cs p wp fc s hr]
    rfl
  rw [(iwc_layer F cs zgw zSoil .prop [p] _ o hv h).1]
  simp only [List.map_cons, List.map_nil, List.zip_cons_cons, List.zip_nil_right, layerValue_single]

/-- `Pct` type: the layer starts at `th_wp + pct/100·(th_fc − th_wp)`. -/
theorem iwc_layer_percentage (F : Fn α) (cs : List (Comp α)) (zgw zSoil : α) (p : WcPoint α)
    (wp fc s : α) (o : InitOut α) (hex : ∃ c ∈ cs, c.layer = p.lay)
    (hconst : ∀ c ∈ cs, c.layer = p.lay → c.thWP = wp ∧ c.thFC = fc ∧ c.thS = s)
    (h : initWC F cs false zgw zSoil .pct .layer [p] = .ok o) :
    o.th = cs.map (fun c => if c.layer = p.lay then wp + p.num / 100 * (fc - wp) else 0) := by
  have hr := hydRow_const p.lay cs wp fc s hex hconst
  have hv : pointValues .pct .layer cs [p] = .ok [wp + p.num / 100 * (fc - wp)] := by
    simp only [pointValues, pointValue_layer_pct cs p wp fc s hr]
  rw [(iwc_layer F cs zgw zSoil .pct [p] _ o hv h).1]
  simp only [List.map_cons, List.map_nil, List.zip_cons_cons, List.zip_nil_right, layerValue_single]

/-- `Num` type: the value of a data point is the given number (either method). -/
theorem iwc_numeric_value (me : WcMethod) (cs : List (Comp α)) (p : WcPoint α) :
    pointValue .num me cs p = .ok p.num := rfl

/-- `Depth` method, no water table: the water content of every compartment is `np.interp` of the
(padded) data points at the compartment mid-depth computed from `dzsum`. -/
theorem iwc_depth_is_interpolation (F : Fn α) (cs : List (Comp α)) (zgw zSoil : α) (ty : WcType)
    (pts : List (WcPoint α)) (o : InitOut α)
    (h : initWC F cs false zgw zSoil ty .depth pts = .ok o) :
    ∃ vals padded, pointValues ty .depth cs pts = .ok vals ∧
      padPoints zSoil ((pts.map (·.depth)).zip vals) = some padded ∧
      o.th.map some = (compMid cs).map (fun x => interp x padded) :=
  iwc_depth_is_interp F cs zgw zSoil ty pts o h

/-- For a single data point strictly inside the profile the padding holds its value up to the
surface and down to the bottom. -/
theorem iwc_depth_padding_single_point (zSoil d v : α) (hd : 0 < d) (hz : d < zSoil) :
    padPoints zSoil [(d, v)] = some [(0, v), (d, v), (zSoil, v)] := by
  simp [padPoints, hd, lastD, hz]

/-- `interp`: left of the first data point the first value is returned. -/
theorem interp_left_of_first (x : α) (p : α × α) (ps : List (α × α)) (h : x < p.1) :
    interp x (p :: ps) = some p.2 := by
  simp [interp, h]

/-- `interp`: between two consecutive data points the result is the straight line through them
(exactly the left value at the left point). -/
theorem interp_linear_between (x : α) (pre post : List (α × α)) (a b : α × α)
    (hpre : ∀ p ∈ pre, p.1 ≤ x) (ha : a.1 ≤ x) (hb : x < b.1) :
    interp x (pre ++ a :: b :: post) =
      some (if x ≤ a.1 then a.2 else (b.2 - a.2) / (b.1 - a.1) * (x - a.1) + a.2) := by
  rw [interp_split x pre _ a hpre ha]
  simp only [interpGo, not_le.mpr hb, if_false, ha, true_and]

/-- `interp`: at a data point with a next point strictly to its right the data value is returned. -/
theorem interp_exact_at_points (pre post : List (α × α)) (a b : α × α)
    (hpre : ∀ p ∈ pre, p.1 ≤ a.1) (hb : a.1 < b.1) :
    interp a.1 (pre ++ a :: b :: post) = some a.2 := by
  rw [interp_linear_between a.1 pre post a b hpre (le_refl _) hb]; simp

/-- `interp`: right of (or at) the last data point the last value is held. -/
theorem interp_right_of_last (x : α) (pre : List (α × α)) (a : α × α)
    (hpre : ∀ p ∈ pre, p.1 ≤ x) (ha : a.1 ≤ x) : interp x (pre ++ [a]) = some a.2 :=
  interp_split x pre [] a hpre ha

/-- The interpolated value stays between the two neighbouring data values. -/
theorem interp_within_neighbouring_values (x : α) (a b : α × α) (ha : a.1 ≤ x) (hb : x < b.1) :
    min a.2 b.2 ≤ (b.2 - a.2) / (b.1 - a.1) * (x - a.1) + a.2 ∧
    (b.2 - a.2) / (b.1 - a.1) * (x - a.1) + a.2 ≤ max a.2 b.2 :=
  interp_between_bounds x a b ha hb

/-! ## The water-table series read by the initial adjustment -/

/-- A single observation gives a constant series (either method). -/
theorem gw_single_observation_constant (n : Nat) (me : GwMethod) (d : Int) (v : α) :
    gwSeries n me [(d, v)] = .ok (List.replicate n (some v)) := rfl

/-- "Constant" method: on day `i` the depth is that of the last row dated on or before `i`. -/
theorem gw_constant_is_step_function (i : Int) (first : Bool) (pre post : List (Int × α)) (d : Int)
    (v : α) (cur : Option α) (hd : d ≤ i) (hpost : ∀ q ∈ post, i < q.1) :
    gwConstAt i first (pre ++ (d, v) :: post) cur = some v :=
  gw_constant i first pre post d v cur hd hpost

/-- "Variable" method: on an observation day inside the simulation the series has exactly the
observed depth. -/
theorem gw_variable_exact_at_observations (n : Nat) (pre post : List (Int × α)) (d : Nat) (v : α)
    (hd : d < n) (hpost : ∀ q ∈ post, q.1 ≠ Int.ofNat d) :
    (gwVariable n (pre ++ (Int.ofNat d, v) :: post))[d]? = some (some v) :=
  gw_variable_at_obs n pre post d v hd hpost

/-- "Variable" method: between two consecutive observations (each the last row of its date, no row
dated strictly between them) the series is linear in time, wherever the two are dated. -/
theorem gw_variable_linear_in_gaps (n : Nat) (obs pre0 post0 pre1 post1 : List (Int × α))
    (d0 d1 : Int) (v0 v1 : α) (i : Nat) (hi : i < n)
    (e0 : obs = pre0 ++ (d0, v0) :: post0) (hpost0 : ∀ q ∈ post0, q.1 ≠ d0)
    (e1 : obs = pre1 ++ (d1, v1) :: post1) (hpost1 : ∀ q ∈ post1, q.1 ≠ d1)
    (hno : ∀ q ∈ obs, ¬ (d0 < q.1 ∧ q.1 < d1)) (h0 : d0 ≤ Int.ofNat i) (h1 : Int.ofNat i < d1) :
    (gwVariable n obs)[i]? =
      some (some ((v1 - v0) / ((d1 - d0 : Int) : α) * ((Int.ofNat i - d0 : Int) : α) + v0)) :=
  gw_variable_between n obs pre0 post0 pre1 post1 d0 d1 v0 v1 i hi e0 hpost0 e1 hpost1 hno h0 h1

end field

/-! ## Texture-based layers -/

section texture
variable {α : Type} [Field α] [LinearOrder α] [IsStrictOrderedRing α]

/-- A layer added with `add_layer_from_texture` satisfies the premise of `hydraulic_order_of_spec`:
for sand and clay percentages in the texture triangle with clay ≤ 50 %, organic matter ≤ 8 % and
(organic matter ≥ 1 % or clay ≥ 3 %) the pedotransfer method does not raise and hands `add_layer` values with
`0 < th_wp < th_fc ≤ th_s < 1`, `0 < Ksat` (laws of `F`: `round` within 1/2 and sign-preserving,
`log` monotone, `x ** y ≥ x³` for `0 < x ≤ 1`, `y ≤ 3`; all three hold for the reals,
`Proofs/SoilTextureReal.lean`). -/
theorem texture_layer_hydraulic_order {τ : Type} {F : Fn α} (hR : TexRoundLaws F)
    (hL : TexLogPowLaws F) (t : τ) {sp cp om : α} (pen : α) (hs : 0 ≤ sp) (hc : 0 ≤ cp)
    (hsc : sp + cp ≤ 100) (hc5 : cp ≤ 50) (ho0 : 0 ≤ om) (ho8 : om ≤ 8) (ho1 : 1 ≤ om ∨ 3 ≤ cp) :
    ∃ L : LayerSpec α τ, layerFromTexture F t sp cp om pen = .ok L ∧
      0 < L.wp ∧ L.wp < L.fc ∧ L.fc ≤ L.s ∧ L.s < 1 ∧ 0 < L.ksat := by
  have ho1' : 1 ≤ om ∨ (0.03 : α) ≤ cp / 100 :=
    ho1.imp_right fun h3 => by rw [le_div_iff₀ (by norm_num)]; norm_num; exact h3
  have hc5' : cp / 100 ≤ (0.5 : α) := by rw [div_le_iff₀ (by norm_num)]; norm_num; exact hc5
  obtain ⟨wp, fc, ts, k, e, p1, p2, p3, p4, p5⟩ :=
    texture_order_region hR hL (texRegion_of_pct hs hc hsc ho0 ho8) hc5' ho1'
  refine ⟨{ thick := t, wp := wp, fc := fc, s := ts, ksat := k, pen := pen }, ?_, p1, p2, le_of_lt p3,
    p4, p5⟩
  simp only [layerFromTexture, e]

/-- The same for the method itself, for every density factor in [0.9, 1]. -/
theorem texture_hydraulic_order {F : Fn α} (hR : TexRoundLaws F) (hL : TexLogPowLaws F)
    {s c om df : α} (h : TexRegion s c om) (hc5 : c ≤ 0.5) (ho1 : 1 ≤ om ∨ 0.03 ≤ c) (hd0 : 0.9 ≤ df)
    (hd1 : df ≤ 1) :
    ∃ wp fc ts k, hydraulicFromTexture F s c om df = .ok (wp, fc, ts, k) ∧
      0 < wp ∧ wp < fc ∧ fc < ts ∧ ts < 1 ∧ 0 < k :=
  texture_order_region_df hR hL h hc5 ho1 hd0 hd1

/-- Up to clay 60 % when organic matter ≤ 3 % (default density factor; `Ksat ≥ 0` only). -/
theorem texture_hydraulic_order_clay60 {F : Fn α} (hR : TexRoundLaws F) (hP : TexPowLaws F)
    {s c om : α} (h : TexRegion s c om) (hc6 : c ≤ 0.6) (ho1 : 1 ≤ om ∨ 0.03 ≤ c) (ho3 : om ≤ 3) :
    ∃ wp fc ts k, hydraulicFromTexture F s c om 1 = .ok (wp, fc, ts, k) ∧
      0 < wp ∧ wp < fc ∧ fc < ts ∧ ts < 1 ∧ 0 ≤ k :=
  hydraulic_ok_of_raw hR hP s c om 1
    (rawOK_of_region (g := 0.003) h hc6 ho1 (by norm_num) (raw_fc_lt_s_om3 h hc6 ho3) (by norm_num)
      le_rfl).1

/-- COUNTER-STATEMENT: inside the range the pedotransfer functions were calibrated on (clay ≤ 60 %,
organic matter ≤ 8 %) the order fails — sand 40 %, clay 60 %, organic matter 8 % has `th_s < th_fc`,
and `add_layer_from_texture` raises `ValueError` (whatever `log`, `**`, `round` are). -/
theorem texture_order_fails_in_calibrated_range (F : Fn α) :
    (texRaw (0.4 : α) 0.6 8 1).thS < (texRaw (0.4 : α) 0.6 8 1).thFC ∧
      hydraulicFromTexture F (0.4 : α) 0.6 8 1 = .error "E:value" :=
  ⟨order_fails_40_60_8, hydraulicFromTexture_raises F _ _ _ _ (.inr order_fails_40_60_8)⟩

/-- COUNTER-STATEMENT: in the texture triangle the method can return a wilting point ABOVE field
capacity without raising (pure clay, 8 % organic matter: 0.507 > 0.386 on the real method). -/
theorem texture_returns_wp_above_fc {F : Fn α} (hR : TexRoundLaws F) :
    ∃ wp fc ts k, hydraulicFromTexture F (0 : α) 1 8 1 = .ok (wp, fc, ts, k) ∧ fc < wp := by
  obtain ⟨h1, h2, h3⟩ := order_fails_0_100_8 (α := α)
  have h0 : 0 < (texRaw (0 : α) 1 8 1).thWP := h3.trans (lt_trans (lt_add_of_pos_right _ (by norm_num)) h1)
  exact ⟨_, _, _, _, hydraulicFromTexture_ok F 0 1 8 1 (texRaises_false F h0 h3 h2),
    texRound3_lt hR (by linarith)⟩

/-- COUNTER-STATEMENT: pure sand without organic matter has `th_wp < 0`; the method raises. -/
theorem texture_raises_on_pure_sand (F : Fn α) :
    hydraulicFromTexture F (1 : α) 0 0 1 = .error "E:value" := by
  refine hydraulicFromTexture_raises F _ _ _ _ (.inl ?_)
  rw [(texRaw_df_one (1 : α) 0 0).1]
  norm_num [predThWP]

/-- The 12 USDA class centroids (organic matter 2.5 %) are well ordered with positive `Ksat`. -/
theorem usda_centroids_ordered {F : Fn α} (hR : TexRoundLaws F) (hL : TexLogPowLaws F) :
    ∀ c ∈ usdaCentroids, ∃ wp fc ts k,
      hydraulicFromTexture F ((c.1 : α) / 100) ((c.2 : α) / 100) 2.5 1 = .ok (wp, fc, ts, k) ∧
        0 < wp ∧ wp < fc ∧ fc < ts ∧ ts < 1 ∧ 0 < k := centroid_order hR hL

/-- The capillary-rise `if` tree is total: the pair written is always the pair of formulas of the
class the tree selects; the `assert`s fail exactly when a class formula itself evaluates to 0. -/
theorem cap_rise_tree_total (F : Fn α) (w f s k : α) :
    crParams F w f s k =
      if (crOfClass F k (crBranch w f s k).2).1 = 0 ∨ (crOfClass F k (crBranch w f s k).2).2 = 0 then none
      else some (crOfClass F k (crBranch w f s k).2) := crParams_eq_branch F w f s k

/-- For `Ksat ≥ 0`, `aCR` vanishes (and `assert aCR != 0` aborts the initialisation) only for a
loamy layer with `Ksat = 5540` or a silty-clayey one with `Ksat = 795.75` mm/day. -/
theorem cap_rise_aCR_zero_cases (F : Fn α) (cls : CrClass) {k : α} (hk : 0 ≤ k)
    (h : (crOfClass F k cls).1 = 0) : (cls = .loamy ∧ k = 5540) ∨ (cls = .siltyClayey ∧ k = 795.75) := by
  cases cls
  · have := (crA_sandy_neg F hk).1; linarith
  · exact .inl ⟨rfl, (crA_loamy_zero_iff F k).1 h⟩
  · have := (crA_sandy_neg F hk).2; linarith
  · exact .inr ⟨rfl, (crA_silty_zero_iff F k).1 h⟩

end texture

/-- By exact computation over ℚ (exact half-even rounding): the polynomial part of the method gives
for the 12 centroids exactly the thousandths the real method returns (table cross-checked against the
implementation by `harness/tests/corr_soil_texture.py`). -/
theorem usda_centroids_exact : centroidTable.all centroidRowOK = true := by decide +kernel

/-! ## The built-in soils as the source builds them (`Generated/SoilTable.lean`) -/

/-- Tie to the source, re-proved on every run: no layer of a built-in soil, as /repo's `soil.py` builds
them, can trip `assert aCR != 0` when a water table is present. -/
theorem builtin_soils_aCR_nonzero (F : Fn ℚ) : ∀ l ∈ Aqua.Generated.builtinLayersGen,
    (crOfClass F l.ksat (crBranch l.wp l.fc l.s l.ksat).2).1 ≠ 0 := by
  intro l hl h
  obtain ⟨_, h1, h2⟩ := builtinLayersGen_ok' l hl
  have hk : 0 < l.ksat := (Aqua.Generated.builtinLayersGen_ok l hl).2.2.2.2.2.2.2.1
  rcases cap_rise_aCR_zero_cases F _ hk.le h with ⟨_, e⟩ | ⟨_, e⟩
  · exact h1 e
  · exact h2 e

/-- Tie to the source, re-proved on every run: the layers of the built-in soils as /repo's
`soil.py` builds them (table regenerated by `harness/translate/tables.py`) all satisfy
air-dry < wilting point < field capacity ≤ saturation, drainage coefficient in [0,1]. -/
theorem hydraulic_order_builtin_from_source : ∀ l ∈ Aqua.Generated.builtinLayersGen, LayerOK l :=
  Aqua.Generated.builtinLayersGen_ok

end Aqua.C18
