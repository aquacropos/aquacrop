import AquaVerif.Proofs.CatalogueCfg

/-
Property C01 along a run: the theorems of `Properties/C01.lean` on every simulated day of every
run of `runModel` (the run-level lemma files rest on the day-level theorems of that file, so these
cannot stand in it).
-/

set_option linter.unusedSectionVars false
namespace Aqua.C01
open Aqua
variable {α : Type} [Field α] [LinearOrder α] [IsStrictOrderedRing α]

/-! ### every simulated day of every run (the whole day incl. the crop side, driven by the clock) -/

/-- **Run level.** On every simulated day of every run of the model (`Model/Run.lean`: the clock
state machine driving the full day `fullDay`, with the season-start reset) the soil-water balance
closes — by induction over the run, under the run premises `RunPre` (initial content within
limits, bund water ≥ 0, …) and the per-day premises `DayOK` (transpiration geometry; with a water
table: the rounding laws, and capillary rise lifted no compartment above saturation). -/
theorem run_closes {F : Fn α} {T : TrigFn α} {cfg : RunCfg α} {s : RunState α}
    (hP : RunPre F cfg) (wp fc : Nat → α) (hr : RunReach F T cfg s)
    (hOK : ∀ d ∈ s.daysRev, DayOK F wp fc d) :
    ∀ d ∈ s.daysRev,
      storage d.r.state.cells + d.r.state.pond =
        storage d.st.cells + d.st.pond + d.r.flux.infl + d.r.water.preIrr + d.r.water.irrNet
          + d.r.water.crAdded + d.r.flux.gwIn - d.r.flux.deepPerc - d.r.flux.es - d.r.flux.tr :=
  Aqua.run_closes hP wp fc hr hOK

/-- **Run level, second sentence of the property.** Between consecutive simulated days water
content and ponding are either carried over unchanged or — only at a season start with the
off-season skipped — the water content is the stored initial content and ponding is
`min(bund_water, z_bund)` with bunds higher than 0.001 mm, else 0 — for every reachable run
state, no premise. -/
theorem stored_water_carried_over {F : Fn α} {T : TrigFn α} {cfg : RunCfg α} {s : RunState α}
    (hr : RunReach F T cfg s) : CarriedAll cfg s.daysRev :=
  carriedAll_of_chain ((run_linked hr).imp fun _ _ h => h.carried)

/-! ### run level, per-day premises discharged (`Proofs/RunClosed*.lean`) -/

section closed

/-- **Run level, closed.** The daily soil-water balance closes on every simulated day of every
run: premises on the configuration only (`CfgOK`), plus — with a water table — that capillary rise
did not overshoot saturation on the simulated days (`ResidualW`; vacuous without a water table). -/
theorem run_closes_closed {F : Fn α} {T : TrigFn α} {cfg : RunCfg α} {s : RunState α}
    (hC : CfgOK F T cfg) (hr : RunReach F T cfg s) (hR : ∀ d ∈ s.daysRev, ResidualW d) :
    ∀ d ∈ s.daysRev,
      storage d.r.state.cells + d.r.state.pond =
        storage d.st.cells + d.st.pond + d.r.flux.infl + d.r.water.preIrr + d.r.water.irrNet
          + d.r.water.crAdded + d.r.flux.gwIn - d.r.flux.deepPerc - d.r.flux.es - d.r.flux.tr :=
  Aqua.run_closes_closed hC hr hR
end closed

/-! ### run level, catalogue configurations (`Proofs/Catalogue*.lean`): every hypothesis is membership in a table
regenerated from the sources, a fact about initialisation outputs, or a premise on the weather -/

section catalogueRun
open Aqua.Response Aqua.HarvestIndexReal

/-- **Run level, catalogue configurations.** The daily soil-water balance closes on every simulated
day of every run of every catalogue configuration (`CatCfg`: crops of the generated crop table,
profile and initial water content from the profile builder / `initWC`, parameter ranges) — real
`exp`/`log`/`pow`; with a water table, `ResidualW` (capillary rise did not overshoot saturation). -/
theorem catalogue_run_closes {cfg : RunCfg ℝ} {s : RunState ℝ} (h : CatCfg cfg)
    (hr : RunReach realFn realTrig cfg s) (hR : ∀ d ∈ s.daysRev, ResidualW d) :
    ∀ d ∈ s.daysRev,
      storage d.r.state.cells + d.r.state.pond =
        storage d.st.cells + d.st.pond + d.r.flux.infl + d.r.water.preIrr + d.r.water.irrNet
          + d.r.water.crAdded + d.r.flux.gwIn - d.r.flux.deepPerc - d.r.flux.es - d.r.flux.tr :=
  Aqua.catalogue_run_closes h hr hR
end catalogueRun

end Aqua.C01
