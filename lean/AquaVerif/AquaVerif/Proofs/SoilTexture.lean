import AquaVerif.Model.SoilTexture
import AquaVerif.Proofs.SoilBuild
import Mathlib.Data.Rat.Floor
/-
Lemmas about the texture-based soil constructor (`Model/SoilTexture.lean`), property C18.

What is assumed of `F` is in `TexRoundLaws`, `TexPowLaws`, `TexLogPowLaws`.  The final rounding keeps
an order that holds with a margin of 1/1000, so `hydraulic_ok_of_raw` goes from margins on the unrounded
values (`RawOK`) to the returned tuple.  The margins are proved at `DF = 1` (the density factor
`add_layer_from_texture` passes) on a region of the texture triangle, each as a Handelman certificate,
and carried to density factors in [0.9, 1] (`rawOK_of_margins`, `texture_order_region_df`); outside the
region there are counter-examples.  Then: the `add_layer` call `add_layer_from_texture` makes, the 12
USDA class centroids (order over any field; the table of their rounded values over ℚ, which
`C18.usda_centroids_exact` evaluates), and the capillary-rise `if` tree (total; where `aCR = 0`).
-/

set_option linter.unusedSectionVars false
namespace Aqua

section
variable {α : Type} [Field α] [LinearOrder α] [IsStrictOrderedRing α]

/-! ## Laws -/

/-- Python `round(x)`: within 1/2 of `x`, and never negative for a non-negative argument. -/
structure TexRoundLaws (F : Fn α) : Prop where
  round0_lo : ∀ x, x - 1 / 2 ≤ F.round0 x
  round0_hi : ∀ x, F.round0 x ≤ x + 1 / 2
  round0_nonneg : ∀ x, 0 ≤ x → 0 ≤ F.round0 x

structure TexPowLaws (F : Fn α) : Prop where
  pow_pos : ∀ x y, 0 < x → 0 < F.pow x y

/-- what the positivity of the *rounded* `Ksat` needs: `log` weakly monotone on the positives, and
`x ** y ≥ x³` for a base in `(0,1]` and an exponent `≤ 3`. -/
structure TexLogPowLaws (F : Fn α) : Prop where
  log_mono : ∀ x y, 0 < x → x ≤ y → F.log x ≤ F.log y
  pow_ge_cube : ∀ x y, 0 < x → x ≤ 1 → y ≤ 3 → x * x * x ≤ F.pow x y

/-! ## Rounding -/

theorem texRound3_near {F : Fn α} (hR : TexRoundLaws F) (x : α) :
    x - 1 / 2000 ≤ texRound3 F x ∧ texRound3 F x ≤ x + 1 / 2000 := by
  unfold texRound3
  constructor
  · linear_combination (1 / 1000) * hR.round0_lo (1000 * x)
  · linear_combination (1 / 1000) * hR.round0_hi (1000 * x)

theorem texRound3_lt {F : Fn α} (hR : TexRoundLaws F) {x y : α} (h : x + 1 / 1000 < y) :
    texRound3 F x < texRound3 F y := by
  linarith [(texRound3_near hR x).2, (texRound3_near hR y).1]

/-! ## From the unrounded values to the returned tuple -/

/-- the unrounded values are ordered with the margins the final rounding needs -/
structure RawOK (r : TexRaw α) : Prop where
  wp_pos : 1 / 2000 < r.thWP
  wp_fc  : r.thWP + 1 / 1000 < r.thFC
  fc_s   : r.thFC + 1 / 1000 < r.thS
  s_one  : r.thS < 1 - 1 / 2000

theorem texRaises_false (F : Fn α) {r : TexRaw α} (h1 : 0 < r.thWP) (h2 : 0 < r.thFC)
    (h3 : r.thFC < r.thS) : texRaises F r = false := by
  simp [texRaises, not_le.2 h1, not_le.2 h2, not_lt.2 (sub_nonneg.2 h3.le), not_le.2 (sub_pos.2 h3)]

theorem hydraulicFromTexture_ok (F : Fn α) (sand clay om df : α)
    (h : texRaises F (texRaw sand clay om df) = false) :
    hydraulicFromTexture F sand clay om df =
      .ok (texRound3 F (texRaw sand clay om df).thWP, texRound3 F (texRaw sand clay om df).thFC,
        texRound3 F (texRaw sand clay om df).thS, texRound1 F (texKsat F (texRaw sand clay om df))) := by
  simp only [hydraulicFromTexture, h]
  rfl

theorem hydraulicFromTexture_raises (F : Fn α) (sand clay om df : α)
    (h : (texRaw sand clay om df).thWP ≤ 0 ∨
      (texRaw sand clay om df).thS < (texRaw sand clay om df).thFC) :
    hydraulicFromTexture F sand clay om df = .error "E:value" := by
  have hr : texRaises F (texRaw sand clay om df) = true := by
    rcases h with h | h
    · simp [texRaises, h]
    · simp [texRaises, sub_neg.2 h]
  simp only [hydraulicFromTexture, hr]
  rfl

theorem RawOK.order {r : TexRaw α} (h : RawOK r) :
    0 < r.thWP ∧ r.thWP < r.thFC ∧ r.thFC < r.thS ∧ r.thS < 1 :=
  ⟨lt_trans (by norm_num) h.wp_pos, lt_trans (lt_add_of_pos_right _ (by norm_num)) h.wp_fc,
    lt_trans (lt_add_of_pos_right _ (by norm_num)) h.fc_s, h.s_one.trans (sub_lt_self _ (by norm_num))⟩

theorem RawOK.not_raises (F : Fn α) {r : TexRaw α} (h : RawOK r) : texRaises F r = false :=
  texRaises_false F h.order.1 (h.order.1.trans h.order.2.1) h.order.2.2.1

theorem RawOK.rounded {F : Fn α} (hR : TexRoundLaws F) {r : TexRaw α} (h : RawOK r) :
    0 < texRound3 F r.thWP ∧ texRound3 F r.thWP < texRound3 F r.thFC ∧
      texRound3 F r.thFC < texRound3 F r.thS ∧ texRound3 F r.thS < 1 :=
  ⟨by linarith [(texRound3_near hR r.thWP).1, h.wp_pos], texRound3_lt hR h.wp_fc,
    texRound3_lt hR h.fc_s, by linarith [(texRound3_near hR r.thS).2, h.s_one]⟩

theorem texKsat_pos {F : Fn α} (hP : TexPowLaws F) {r : TexRaw α} (h : r.thFC < r.thS) :
    0 < texKsat F r :=
  mul_pos (mul_pos (by norm_num) (hP.pow_pos _ _ (sub_pos.2 h))) (by norm_num)

theorem texKsat_ge_cube {F : Fn α} (hL : TexLogPowLaws F) {r : TexRaw α} (h0 : 0 < r.thWP)
    (h1 : r.thWP ≤ r.thFC) (h2 : r.thFC < r.thS) (h3 : r.thS ≤ 1) :
    46320 * ((r.thS - r.thFC) * (r.thS - r.thFC) * (r.thS - r.thFC)) ≤ texKsat F r := by
  have hl : 0 ≤ texLambda F r.thWP r.thFC :=
    div_nonneg zero_le_one (div_nonneg
      (sub_nonneg.2 (hL.log_mono 33 1500 (by norm_num) (by norm_num)))
      (sub_nonneg.2 (hL.log_mono _ _ h0 h1)))
  have := hL.pow_ge_cube (r.thS - r.thFC) (3 - texLambda F r.thWP r.thFC) (by linarith) (by linarith)
    (by linarith)
  unfold texKsat
  linarith

/-- with `th_s − th_fc ≥ 0.011` the *rounded* `Ksat` is positive: `46320·0.011³ > 1/20` -/
theorem texRound1_ksat_pos {F : Fn α} (hR : TexRoundLaws F) (hL : TexLogPowLaws F) {r : TexRaw α}
    (h0 : 0 < r.thWP) (h1 : r.thWP ≤ r.thFC) (hgap : r.thFC + 0.011 ≤ r.thS) (h3 : r.thS ≤ 1) :
    0 < texRound1 F (texKsat F r) := by
  have hd : (0.011 : α) ≤ r.thS - r.thFC := le_sub_iff_add_le'.2 hgap
  have hd0 : 0 ≤ r.thS - r.thFC := le_trans (by norm_num) hd
  have hd2 := mul_le_mul hd hd (by norm_num) hd0
  have hd3 := mul_le_mul hd2 hd (by norm_num) (mul_nonneg hd0 hd0)
  have hk : (1 / 20 : α) < texKsat F r := lt_of_lt_of_le (by norm_num)
    (le_trans (mul_le_mul_of_nonneg_left hd3 (by norm_num))
      (texKsat_ge_cube hL h0 h1 (sub_pos.1 (lt_of_lt_of_le (by norm_num) hd)) h3))
  have h2 := hR.round0_lo (10 * texKsat F r)
  exact div_pos (by linarith) (by norm_num)

theorem hydraulic_ok_of_raw {F : Fn α} (hR : TexRoundLaws F) (hP : TexPowLaws F) (sand clay om df : α)
    (h : RawOK (texRaw sand clay om df)) :
    ∃ wp fc s k, hydraulicFromTexture F sand clay om df = .ok (wp, fc, s, k) ∧
      0 < wp ∧ wp < fc ∧ fc < s ∧ s < 1 ∧ 0 ≤ k := by
  obtain ⟨a, b, c, d⟩ := h.rounded hR
  exact ⟨_, _, _, _, hydraulicFromTexture_ok F sand clay om df (h.not_raises F), a, b, c, d,
    div_nonneg (hR.round0_nonneg _ (mul_nonneg (by norm_num) (texKsat_pos hP h.order.2.2.1).le))
      (by norm_num)⟩

theorem hydraulic_ok_of_raw_ksat_pos {F : Fn α} (hR : TexRoundLaws F) (hL : TexLogPowLaws F)
    (sand clay om df : α) (h : RawOK (texRaw sand clay om df))
    (hgap : (texRaw sand clay om df).thFC + 0.011 ≤ (texRaw sand clay om df).thS) :
    ∃ wp fc s k, hydraulicFromTexture F sand clay om df = .ok (wp, fc, s, k) ∧
      0 < wp ∧ wp < fc ∧ fc < s ∧ s < 1 ∧ 0 < k := by
  obtain ⟨a, b, c, d⟩ := h.rounded hR
  exact ⟨_, _, _, _, hydraulicFromTexture_ok F sand clay om df (h.not_raises F), a, b, c, d,
    texRound1_ksat_pos hR hL h.order.1 h.order.2.1.le hgap h.order.2.2.2.le⟩

/-! ## The density factor -/

/-- at `DF = 1` the compaction terms vanish: `th_fc = PredAdj_thFC`, `th_s = Pred_thS` -/
theorem texRaw_df_one (s c om : α) :
    (texRaw s c om 1).thWP = predThWP s c om + 0.14 * predThWP s c om - 0.02 ∧
    (texRaw s c om 1).thFC = predAdjThFC (predThFC s c om) ∧
    (texRaw s c om 1).thS = (predAdjThFC (predThFC s c om) + predAdjThS33 (predThS33 s c om))
        + (-0.097 * s + 0.043) := by
  refine ⟨rfl, ?_, ?_⟩
  · simp only [texRaw]; ring
  · simp only [texRaw]; norm_num

/-- the tuple at density factor `df` in terms of the one at `DF = 1`: compaction (`df > 1`) lowers
`th_s` and `th_fc`, loosening raises them -/
theorem texRaw_df (s c om df : α) :
    (texRaw s c om df).thWP = (texRaw s c om 1).thWP ∧
    (texRaw s c om df).thFC =
      (texRaw s c om 1).thFC + 0.2 * ((1 - (texRaw s c om 1).thS) * (1 - df)) ∧
    (texRaw s c om df).thS = 1 - df * (1 - (texRaw s c om 1).thS) := by
  refine ⟨rfl, ?_, ?_⟩
  · simp only [texRaw]; ring
  · simp only [texRaw]; ring

/-! ## The region -/

/-- the texture triangle with organic matter between 0 and 8 % (`sand`, `clay` fractions) -/
structure TexRegion (sand clay om : α) : Prop where
  sand_nn : 0 ≤ sand
  clay_nn : 0 ≤ clay
  sum_le  : sand + clay ≤ 1
  om_nn   : 0 ≤ om
  om_le   : om ≤ 8

/-- the five constraints as non-negative quantities, the form their products are taken in -/
theorem TexRegion.nonneg {s c om : α} (h : TexRegion s c om) :
    0 ≤ s ∧ 0 ≤ c ∧ 0 ≤ 1 - (s + c) ∧ 0 ≤ om ∧ 0 ≤ 8 - om :=
  ⟨h.sand_nn, h.clay_nn, sub_nonneg.2 h.sum_le, h.om_nn, sub_nonneg.2 h.om_le⟩

/-! The `Pred_*` polynomials are bilinear in (sand, clay, organic matter).  Each bound below is a
Handelman certificate: the difference of the two sides is written as a non-negative combination of
products of the region's constraints (for `th_fc < th_s` plus one square), which `linear_combination`
checks by normalising both sides. -/

theorem predThFC_bounds {s c om : α} (h : TexRegion s c om) (hc6 : c ≤ 0.6) :
    0.04 ≤ predThFC s c om ∧ predThFC s c om ≤ 0.45 := by
  obtain ⟨hs, hc, h1, ho, h8⟩ := h.nonneg
  have h6 := sub_nonneg.2 hc6
  simp only [predThFC]
  constructor
  · linear_combination (91 / 500) * hc + (203 / 1000) * h1 + (17 / 1000) * ho +
      (113 / 250) * mul_nonneg hs hc + (33 / 1000) * mul_nonneg hc h8 + (3 / 500) * mul_nonneg h1 h8
  · linear_combination (63 / 1000) * h1 + (9 / 20000) * h8 + (3 / 500) * mul_nonneg hs h8 +
      (133 / 300) * mul_nonneg hs h6 + (13 / 1500) * mul_nonneg hc hc + (13 / 1500) * mul_nonneg hc h1 +
      (113 / 12000) * mul_nonneg hc ho + (211 / 12000) * mul_nonneg h8 h6

/-- `PredAdj_thFC` lies above its tangent at 0.175 … -/
theorem predAdjThFC_ge (q : α) : 1.07505 * q - 0.054291875 ≤ predAdjThFC q := by
  unfold predAdjThFC
  linear_combination 1.283 * sq_nonneg (q - 0.175)

/-- … and on `[0, 0.45]` below its chord -/
theorem predAdjThFC_le {q : α} (h0 : 0 ≤ q) (h1 : q ≤ 0.45) : predAdjThFC q ≤ 1.20335 * q - 0.015 := by
  unfold predAdjThFC
  linear_combination 1.283 * mul_nonneg h0 (sub_nonneg.2 h1)

/-- the tangent bound on `PredAdj_thFC` leaves a bilinear inequality. -/
theorem raw_wp_lt_fc {s c om : α} (h : TexRegion s c om) (hc6 : c ≤ 0.6) :
    (texRaw s c om 1).thWP + 0.005 ≤ (texRaw s c om 1).thFC := by
  obtain ⟨e1, e2, _⟩ := texRaw_df_one s c om
  rw [e1, e2]
  obtain ⟨hs, hc, h1, ho, h8⟩ := h.nonneg
  have h6 := sub_nonneg.2 hc6
  have key : 0.005 ≤ 1.07505 * predThFC s c om - 0.034291875 - 1.14 * predThWP s c om := by
    simp only [predThFC, predThWP]
    linear_combination (42777 / 50000000) * ho + (285547 / 20000000) * mul_nonneg hs hc +
      (17057 / 2500000) * mul_nonneg hc h8 + (1576501 / 4000000) * mul_nonneg hc h6 +
      (7503 / 10000000) * mul_nonneg h1 h8 + (1576501 / 4000000) * mul_nonneg h1 h6 +
      (162677 / 20000000) * mul_nonneg ho h6
  linear_combination key + predAdjThFC_ge (predThFC s c om)

/-- at `DF = 1` the difference is bilinear: `1.636·Pred_thS33 − 0.064 − 0.097·Sand`. -/
theorem raw_fc_lt_s {s c om : α} (h : TexRegion s c om) (hc5 : c ≤ 0.5) :
    (texRaw s c om 1).thFC + 0.02 ≤ (texRaw s c om 1).thS := by
  obtain ⟨_, e2, e3⟩ := texRaw_df_one s c om
  rw [e2, e3]
  obtain ⟨hs, hc, h1, ho, h8⟩ := h.nonneg
  have h5 := sub_nonneg.2 hc5
  simp only [predAdjThS33, predThS33]
  linear_combination (409 / 500000) * h8 + (25187 / 625000) * h5 + (3747 / 78125) * mul_nonneg hs h1 +
    (81839 / 156250) * mul_nonneg hs h5 + (14988 / 78125) * mul_nonneg hc h1 +
    (3681 / 125000) * mul_nonneg h1 ho + (3681 / 250000) * mul_nonneg ho h5 +
    (3747 / 78125) * sq_nonneg (s - 2 * c + 1 / 2)

theorem raw_fc_lt_s_om3 {s c om : α} (h : TexRegion s c om) (hc6 : c ≤ 0.6) (ho3 : om ≤ 3) :
    (texRaw s c om 1).thFC + 0.003 ≤ (texRaw s c om 1).thS := by
  obtain ⟨_, e2, e3⟩ := texRaw_df_one s c om
  rw [e2, e3]
  obtain ⟨hs, hc, h1, ho, _⟩ := h.nonneg
  have h6 := sub_nonneg.2 hc6
  have h3 := sub_nonneg.2 ho3
  simp only [predAdjThS33, predThS33]
  linear_combination (20783 / 168750000) * ho + (56851 / 1125000) * h6 +
    (238856 / 1265625) * mul_nonneg hs h1 + (50911 / 8437500) * mul_nonneg hs h3 +
    (29857 / 101250) * mul_nonneg hc h1 + (395113 / 16875000) * mul_nonneg h1 ho +
    (700579 / 33750000) * mul_nonneg ho h6 + (238856 / 1265625) * sq_nonneg (s - 5 * c / 4 + 2 / 5)

theorem raw_wp_pos {s c om : α} (h : TexRegion s c om) (ho1 : 1 ≤ om) :
    0.00052 ≤ (texRaw s c om 1).thWP := by
  rw [(texRaw_df_one s c om).1]
  obtain ⟨hs, hc, h1, ho, h8⟩ := h.nonneg
  have ho1 := sub_nonneg.2 ho1
  simp only [predThWP]
  linear_combination (21831 / 50000) * hc + (3477 / 350000) * ho1 + (969 / 12500) * mul_nonneg hs hc +
    (57 / 21875) * mul_nonneg hs ho1 + (627 / 35000) * mul_nonneg hc h8 +
    (1083 / 350000) * mul_nonneg h1 h8

theorem raw_wp_pos_clay {s c om : α} (h : TexRegion s c om) (hc3 : 0.03 ≤ c) :
    0.005 ≤ (texRaw s c om 1).thWP := by
  rw [(texRaw_df_one s c om).1]
  obtain ⟨hs, hc, h1, ho, h8⟩ := h.nonneg
  have hc3 := sub_nonneg.2 hc3
  simp only [predThWP]
  linear_combination (9430821 / 1000000000) * ho + (21831 / 50000) * hc3 +
    (25707 / 10000000) * mul_nonneg hs ho + (969 / 12500) * mul_nonneg hs hc3 +
    (31293 / 10000000) * mul_nonneg h1 h8 + (179493 / 10000000) * mul_nonneg h8 hc3

/-- the chord bound on `PredAdj_thFC` leaves a bilinear inequality. -/
theorem raw_s_lt_one {s c om : α} (h : TexRegion s c om) (hc6 : c ≤ 0.6) :
    (texRaw s c om 1).thS ≤ 0.9 := by
  rw [(texRaw_df_one s c om).2.2]
  obtain ⟨hq0, hq1⟩ := predThFC_bounds h hc6
  obtain ⟨hs, hc, h1, ho, h8⟩ := h.nonneg
  have h6 := sub_nonneg.2 hc6
  have key : 1.20335 * predThFC s c om - 0.015 + predAdjThS33 (predThS33 s c om)
      + (-0.097 * s + 0.043) ≤ 0.9 := by
    simp only [predThFC, predAdjThS33, predThS33]
    linear_combination (2441121 / 20000000) * hs + (14853517 / 800000000) * h8 +
      (2057549 / 5000000) * mul_nonneg hs hc + (6460447 / 160000000) * mul_nonneg hc ho +
      (222279 / 10000000) * mul_nonneg h1 h8 + (2249081 / 160000000) * mul_nonneg h8 h6
  linear_combination key + predAdjThFC_le (le_trans (by norm_num) hq0) hq1

/-- margins at `DF = 1` carry over to a loosened soil, `0.9 ≤ df ≤ 1`: with
`u = (1 − th_s)(1 − df) ≥ 0`, `th_fc` rises by `0.2·u` and `th_s` by `u`, so the gap `g` grows, and
`th_s = 1 − df·(1 − th_s) ≤ 1 − 0.9·0.1`. -/
theorem rawOK_of_margins {r : TexRaw α} {wp fc ts df g : α} (e1 : r.thWP = wp)
    (e2 : r.thFC = fc + 0.2 * ((1 - ts) * (1 - df))) (e3 : r.thS = 1 - df * (1 - ts))
    (hg : 1 / 1000 < g) (hd0 : 0.9 ≤ df) (hd1 : df ≤ 1) (a : 0.00052 ≤ wp) (b : wp + 0.005 ≤ fc)
    (d : fc + g ≤ ts) (e : ts ≤ 0.9) : RawOK r ∧ r.thFC + g ≤ r.thS := by
  have u : 0 ≤ (1 - ts) * (1 - df) :=
    mul_nonneg (sub_nonneg.2 (e.trans (by norm_num))) (sub_nonneg.2 hd1)
  have v : 0 ≤ (df - 0.9) * (0.9 - ts) := mul_nonneg (sub_nonneg.2 hd0) (sub_nonneg.2 e)
  refine ⟨⟨?_, ?_, ?_, ?_⟩, ?_⟩
  · rw [e1]; exact lt_of_lt_of_le (by norm_num) a
  · rw [e1, e2]; linear_combination b + 0.2 * u
  · rw [e2, e3]; linear_combination d + 0.8 * u + hg
  · rw [e3]; linear_combination v + 0.1 * hd0 + 0.9 * e
  · rw [e2, e3]; linear_combination d + 0.8 * u

theorem rawOK_of_region {s c om df g : α} (h : TexRegion s c om) (hc6 : c ≤ 0.6)
    (ho1 : 1 ≤ om ∨ 0.03 ≤ c) (hg : 1 / 1000 < g)
    (hgap : (texRaw s c om 1).thFC + g ≤ (texRaw s c om 1).thS) (hd0 : 0.9 ≤ df) (hd1 : df ≤ 1) :
    RawOK (texRaw s c om df) ∧ (texRaw s c om df).thFC + g ≤ (texRaw s c om df).thS :=
  rawOK_of_margins (texRaw_df s c om df).1 (texRaw_df s c om df).2.1 (texRaw_df s c om df).2.2 hg hd0 hd1
    (ho1.elim (raw_wp_pos h) fun hc3 => le_trans (by norm_num) (raw_wp_pos_clay h hc3))
    (raw_wp_lt_fc h hc6) hgap (raw_s_lt_one h hc6)

theorem texture_order_region_df {F : Fn α} (hR : TexRoundLaws F) (hL : TexLogPowLaws F) {s c om df : α}
    (h : TexRegion s c om) (hc5 : c ≤ 0.5) (ho1 : 1 ≤ om ∨ 0.03 ≤ c) (hd0 : 0.9 ≤ df) (hd1 : df ≤ 1) :
    ∃ wp fc ts k, hydraulicFromTexture F s c om df = .ok (wp, fc, ts, k) ∧
      0 < wp ∧ wp < fc ∧ fc < ts ∧ ts < 1 ∧ 0 < k := by
  obtain ⟨hok, hgap⟩ := rawOK_of_region (g := 0.02) h (hc5.trans (by norm_num)) ho1 (by norm_num)
    (raw_fc_lt_s h hc5) hd0 hd1
  exact hydraulic_ok_of_raw_ksat_pos hR hL s c om df hok (by linarith)

theorem texture_order_region {F : Fn α} (hR : TexRoundLaws F) (hL : TexLogPowLaws F) {s c om : α}
    (h : TexRegion s c om) (hc5 : c ≤ 0.5) (ho1 : 1 ≤ om ∨ 0.03 ≤ c) :
    ∃ wp fc ts k, hydraulicFromTexture F s c om 1 = .ok (wp, fc, ts, k) ∧
      0 < wp ∧ wp < fc ∧ fc < ts ∧ ts < 1 ∧ 0 < k :=
  texture_order_region_df hR hL h hc5 ho1 (by norm_num) le_rfl

/-! ### Counter-examples (replayed on the real method by `harness/tests/corr_soil_texture.py`) -/

/-- COUNTER-EXAMPLE for a compacted soil: pure silt (sand 0, clay 0) with 1 % organic matter at
`DF = 1.3` has `th_s < th_fc`; the method raises. -/
theorem raises_silt_df13 (F : Fn α) : hydraulicFromTexture F (0 : α) 0 1 1.3 = .error "E:value" := by
  refine hydraulicFromTexture_raises F _ _ _ _ (.inr ?_)
  obtain ⟨_, e2, e3⟩ := texRaw_df (0 : α) 0 1 1.3
  obtain ⟨_, f2, f3⟩ := texRaw_df_one (0 : α) 0 1
  rw [e2, e3, f2, f3]
  norm_num [predAdjThFC, predAdjThS33, predThFC, predThS33]

/-- COUNTER-EXAMPLE inside the range Saxton & Rawls calibrated (clay ≤ 60 %, OM ≤ 8 %):
sand 40 %, clay 60 %, organic matter 8 % has `th_s < th_fc`, so the method raises
(`ValueError: cannot convert float NaN to integer`, `hydraulicFromTexture_raises`). -/
theorem order_fails_40_60_8 :
    (texRaw (0.4 : α) 0.6 8 1).thS < (texRaw (0.4 : α) 0.6 8 1).thFC := by
  obtain ⟨_, e2, e3⟩ := texRaw_df_one (0.4 : α) 0.6 8
  rw [e2, e3]
  norm_num [predAdjThFC, predAdjThS33, predThFC, predThS33]

/-- COUNTER-EXAMPLE in the triangle: pure clay with 8 % organic matter has `th_wp > th_fc` by more
than 0.1 and `th_fc < th_s`: the method does not raise and returns a wilting point above field
capacity (real method: 0.507 > 0.386). -/
theorem order_fails_0_100_8 :
    (texRaw (0 : α) 1 8 1).thFC + 0.1 < (texRaw (0 : α) 1 8 1).thWP ∧
      (texRaw (0 : α) 1 8 1).thFC < (texRaw (0 : α) 1 8 1).thS ∧ 0 < (texRaw (0 : α) 1 8 1).thFC := by
  obtain ⟨e1, e2, e3⟩ := texRaw_df_one (0 : α) 1 8
  rw [e1, e2, e3]
  norm_num [predAdjThFC, predAdjThS33, predThFC, predThS33, predThWP]

/-! ## `add_layer_from_texture` -/

theorem texRegion_of_pct {sp cp om : α} (hs : 0 ≤ sp) (hc : 0 ≤ cp) (hsc : sp + cp ≤ 100)
    (ho0 : 0 ≤ om) (ho8 : om ≤ 8) : TexRegion (sp / 100) (cp / 100) om :=
  ⟨div_nonneg hs (by norm_num), div_nonneg hc (by norm_num),
    by rw [← add_div, div_le_one (by norm_num)]; exact hsc, ho0, ho8⟩

theorem layerFromTexture_ok {τ : Type} (F : Fn α) (t : τ) (sp cp om pen : α) (L : LayerSpec α τ)
    (h : layerFromTexture F t sp cp om pen = .ok L) :
    hydraulicFromTexture F (sp / 100) (cp / 100) om 1 = .ok (L.wp, L.fc, L.s, L.ksat) ∧
      L.thick = t ∧ L.pen = pen := by
  unfold layerFromTexture at h
  split at h
  · cases h
  · rename_i wp fc s k heq
    cases h
    exact ⟨heq, rfl, rfl⟩

end

/-! ## The 12 USDA texture-class centroids (organic matter 2.5 %) -/

/-- (sand %, clay %) of the 12 USDA texture classes as tabulated by Saxton & Rawls (2006), table 3:
Sand, Loamy sand, Sandy loam, Loam, Silt loam, Silt, Sandy clay loam, Clay loam, Silty clay loam,
Silty clay, Sandy clay, Clay. -/
def usdaCentroids : List (Nat × Nat) :=
  [(88, 5), (80, 5), (65, 10), (40, 20), (20, 15), (10, 5), (60, 25), (30, 35), (10, 35), (10, 45),
   (50, 40), (25, 50)]

section
variable {α : Type} [Field α] [LinearOrder α] [IsStrictOrderedRing α]

theorem centroid_region {c : Nat × Nat} (hc : c ∈ usdaCentroids) :
    TexRegion ((c.1 : α) / 100) ((c.2 : α) / 100) 2.5 ∧ (c.2 : α) / 100 ≤ 0.5 := by
  have hpct : ∀ c ∈ usdaCentroids, c.1 + c.2 ≤ 100 ∧ c.2 ≤ 50 := by decide
  obtain ⟨h1, h2⟩ := hpct c hc
  refine ⟨texRegion_of_pct (Nat.cast_nonneg _) (Nat.cast_nonneg _) (by exact_mod_cast h1)
    (by norm_num) (by norm_num), ?_⟩
  rw [div_le_iff₀ (by norm_num)]
  norm_num
  exact_mod_cast h2

theorem centroid_order {F : Fn α} (hR : TexRoundLaws F) (hL : TexLogPowLaws F) :
    ∀ c ∈ usdaCentroids, ∃ wp fc ts k,
      hydraulicFromTexture F ((c.1 : α) / 100) ((c.2 : α) / 100) 2.5 1 = .ok (wp, fc, ts, k) ∧
        0 < wp ∧ wp < fc ∧ fc < ts ∧ ts < 1 ∧ 0 < k := by
  intro c hc
  exact texture_order_region hR hL (centroid_region hc).1 (centroid_region hc).2 (.inl (by norm_num))

/-- the unrounded `Ksat` of the centroids is positive from `pow_pos` alone -/
theorem centroid_ksat_pos {F : Fn α} (hP : TexPowLaws F) :
    ∀ c ∈ usdaCentroids, 0 < texKsat F (texRaw ((c.1 : α) / 100) ((c.2 : α) / 100) 2.5 1) := by
  intro c hc
  exact texKsat_pos hP (lt_of_lt_of_le (lt_add_of_pos_right _ (by norm_num))
    (raw_fc_lt_s (centroid_region hc).1 (centroid_region hc).2))

end

/-! ### Exact computation over ℚ -/

/-- Python `round(x)` on a rational: nearest integer, ties to even -/
def roundHalfEvenQ (x : ℚ) : ℚ :=
  let f : ℤ := Rat.floor x
  let d : ℚ := x - f
  if d < 1 / 2 then f else if 1 / 2 < d then f + 1 else if f % 2 = 0 then f else f + 1

/-- exact rounding; the transcendental functions are placeholders (not used by the polynomial part) -/
def FqTex : Fn ℚ where
  exp := fun _ => 1
  log := fun _ => 0
  log10 := fun _ => 0
  pow := fun x y => if y = 2 then x * x else 1
  round0 := roundHalfEvenQ
  round2 := fun x => x
  round3 := fun x => x
  round4 := fun x => x
  pyRound2 := fun x => x

/-- exact half-even rounding satisfies the rounding laws (non-vacuity of `TexRoundLaws`) -/
theorem texRoundLaws_FqTex : TexRoundLaws FqTex := by
  -- the floor when the fractional part is at most 1/2, the floor plus one when it is at least 1/2
  have key : ∀ x : ℚ, (roundHalfEvenQ x = ⌊x⌋ ∧ x - ⌊x⌋ ≤ 1 / 2) ∨
      (roundHalfEvenQ x = ⌊x⌋ + 1 ∧ 1 / 2 ≤ x - ⌊x⌋) := by
    intro x
    unfold roundHalfEvenQ
    simp only
    split_ifs with a b c
    · exact .inl ⟨rfl, a.le⟩
    · exact .inr ⟨rfl, b.le⟩
    · exact .inl ⟨rfl, not_lt.1 b⟩
    · exact .inr ⟨rfl, not_lt.1 a⟩
  refine ⟨fun x => ?_, fun x => ?_, fun x hx => ?_⟩
  · show x - 1 / 2 ≤ roundHalfEvenQ x
    have hx := Int.lt_floor_add_one x
    rcases key x with ⟨e, h⟩ | ⟨e, h⟩
    · rw [e]; linarith
    · rw [e]; linarith
  · show roundHalfEvenQ x ≤ x + 1 / 2
    have hx := Int.floor_le x
    rcases key x with ⟨e, h⟩ | ⟨e, h⟩
    · rw [e]; linarith
    · rw [e]; linarith
  · show 0 ≤ roundHalfEvenQ x
    have h0 : (0 : ℚ) ≤ ⌊x⌋ := by exact_mod_cast Int.floor_nonneg.2 hx
    rcases key x with ⟨e, h⟩ | ⟨e, h⟩
    · rw [e]; linarith
    · rw [e]; linarith

/-- … and its placeholders (`log = 0`, `pow = 1` except `x ** 2 = x · x`) satisfy the two other law
structures, so `FqTex` is a computable model of all the laws assumed in this file -/
theorem texPowLaws_FqTex : TexPowLaws FqTex := ⟨fun x y hx => by
  simp only [FqTex]; split_ifs
  · exact mul_pos hx hx
  · exact zero_lt_one⟩

theorem texLogPowLaws_FqTex : TexLogPowLaws FqTex :=
  ⟨fun _ _ _ _ => le_refl _, fun x y hx hx1 _ => by
    have h2 : x * x ≤ 1 := by nlinarith
    simp only [FqTex]; split_ifs
    · nlinarith [mul_pos hx hx]
    · nlinarith⟩

/-- non-vacuity of the region lemmas: loam (sand 40 %, clay 20 %, organic matter 2.5 %) lies in the
region -/
example : TexRegion (0.4 : ℚ) 0.2 2.5 ∧ (0.2 : ℚ) ≤ 0.5 ∧ (1 : ℚ) ≤ 2.5 := by
  refine ⟨⟨?_, ?_, ?_, ?_, ?_⟩, ?_, ?_⟩ <;> norm_num

/-- … and the whole method evaluates on it (with the placeholder `pow = 1`: `Ksat = 1930·24`) -/
example : hydraulicFromTexture FqTex 0.4 0.2 2.5 1 = .ok (137 / 1000, 7 / 25, 459 / 1000, 46320) := by
  decide +kernel

/-- (sand %, clay %, th_wp, th_fc, th_s in thousandths): the values the REAL method returns for the
centroids (`harness/tests/corr_soil_texture.py` reads this table and compares it with the method). -/
def centroidTable : List (Nat × Nat × Nat × Nat × Nat) :=
  [(88, 5, 50, 103, 462), (80, 5, 51, 120, 460), (65, 10, 81, 179, 450), (40, 20, 137, 280, 459),
   (20, 15, 110, 305, 479), (10, 5, 57, 305, 479), (60, 25, 166, 267, 434), (30, 35, 218, 358, 477),
   (10, 35, 215, 382, 511), (10, 45, 268, 409, 523), (50, 40, 249, 361, 444), (25, 50, 298, 421, 498)]

def centroidRowOK (e : Nat × Nat × Nat × Nat × Nat) : Bool :=
  let r := texRaw ((e.1 : ℚ) / 100) ((e.2.1 : ℚ) / 100) 2.5 1
  decide (texRound3 FqTex r.thWP = (e.2.2.1 : ℚ) / 1000) &&
  decide (texRound3 FqTex r.thFC = (e.2.2.2.1 : ℚ) / 1000) &&
  decide (texRound3 FqTex r.thS = (e.2.2.2.2 : ℚ) / 1000)

theorem centroid_table_ordered :
    centroidTable.all (fun e => decide (0 < e.2.2.1 ∧ e.2.2.1 < e.2.2.2.1 ∧ e.2.2.2.1 < e.2.2.2.2 ∧
      e.2.2.2.2 < 1000)) = true := by decide

theorem centroid_table_covers : centroidTable.map (fun e => (e.1, e.2.1)) = usdaCentroids := by decide

/-! ## Capillary-rise parameters -/

section
variable {α : Type} [Field α] [LinearOrder α] [IsStrictOrderedRing α]

theorem crBranch_leaf (w f s k : α) :
    (crBranch w f s k) ∈ [(1, CrClass.siltyClayey), (2, .sandyClayey), (3, .sandy), (4, .sandyClayey),
      (5, .sandy), (6, .loamy), (7, .siltyClayey)] := by
  -- membership is pushed to the leaves, and every leaf is in the list
  simp only [crBranch, apply_ite (Membership.mem (γ := List (Nat × CrClass)) _), List.mem_cons, true_or,
    or_true, ite_self]

/-- no path through the `if` tree of `add_capillary_rise_params` leaves the initial `aCR = bCR = 0` in
place; `none` is a failed `assert`. -/
theorem crParams_eq_branch (F : Fn α) (w f s k : α) :
    crParams F w f s k =
      if (crOfClass F k (crBranch w f s k).2).1 = 0 ∨ (crOfClass F k (crBranch w f s k).2).2 = 0 then none
      else some (crOfClass F k (crBranch w f s k).2) := by
  -- the right-hand side is the same `if` tree once `crOfClass` is pushed to the leaves of `crBranch`
  simp only [crBranch, apply_ite (Prod.snd : Nat × CrClass → CrClass), apply_ite (crOfClass F k),
    le_antisymm_iff (b := (0 : α))]
  rfl

theorem crParams_some (F : Fn α) (w f s k : α) (ab : α × α) (h : crParams F w f s k = some ab) :
    ab = crOfClass F k (crBranch w f s k).2 ∧ ab.1 ≠ 0 ∧ ab.2 ≠ 0 := by
  rw [crParams_eq_branch] at h
  split_ifs at h with hz
  cases h
  exact ⟨rfl, (not_or.mp hz).1, (not_or.mp hz).2⟩

theorem crA_sandy_neg (F : Fn α) {k : α} (hk : 0 ≤ k) :
    (crOfClass F k .sandy).1 < 0 ∧ (crOfClass F k .sandyClayey).1 < 0 := by
  simp only [crOfClass]
  constructor
  · linear_combination (1 / 100000) * hk
  · linear_combination (4 / 100000) * hk

/-- FINDING: the loamy formula gives `aCR = 0` at `Ksat = 5540` and the silty-clayey one at
`Ksat = 795.75` mm/day — `assert aCR != 0` then aborts the initialisation of a perfectly valid soil
(replayed on the real method: `AssertionError`). -/
theorem crA_loamy_zero_iff (F : Fn α) (k : α) : (crOfClass F k .loamy).1 = 0 ↔ k = 5540 := by
  simp only [crOfClass]
  exact ⟨fun h => by linear_combination (100000 / 9) * h, fun h => by rw [h]; norm_num⟩

theorem crA_silty_zero_iff (F : Fn α) (k : α) : (crOfClass F k .siltyClayey).1 = 0 ↔ k = 795.75 := by
  simp only [crOfClass]
  exact ⟨fun h => by linear_combination (10000 / 8) * h, fun h => by rw [h]; norm_num⟩

end

/-- the leaf of the `if` tree each layer of the 15 built-in soils falls into
(Clay, ClayLoam, Default, Loam, LoamySand, Sand, SandyClay, SandyClayLoam, SandyLoam, Silt,
SiltClayLoam, SiltLoam, SiltClay, Paddy 1–2, ac_TunisLocal 1–2) -/
theorem builtin_cr_leaves :
    builtinLayers.map (fun l => (crBranch l.wp l.fc l.s l.ksat).1) =
      [1, 2, 6, 6, 3, 3, 2, 2, 3, 6, 1, 6, 1, 1, 1, 1, 6] := by decide +kernel

/-! ## Axiom audit -/
#print axioms hydraulic_ok_of_raw
#print axioms hydraulic_ok_of_raw_ksat_pos
#print axioms texture_order_region
#print axioms texture_order_region_df
#print axioms raises_silt_df13
#print axioms centroid_order
#print axioms centroid_ksat_pos
#print axioms texRoundLaws_FqTex
#print axioms crParams_eq_branch
#print axioms builtin_cr_leaves

end Aqua
