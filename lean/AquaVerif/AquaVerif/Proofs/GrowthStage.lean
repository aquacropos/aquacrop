import AquaVerif.Model.GrowthStage
import AquaVerif.Proofs.Irrigation
/-
Facts about `growthStage` (`aquacrop/solution/growth_stage.py`): in season the stage is one of
1…4 (so it always indexes the four soil-moisture thresholds of irrigation method 1 validly),
it never goes back as the adjusted time increases, off season it is the dummy 0.
-/

set_option linter.unusedSectionVars false
namespace Aqua
variable {α : Type} [Field α] [LinearOrder α] [IsStrictOrderedRing α]

/-- in a linear order the "keep the old value" fall-through of the Python `elif` chain is dead -/
theorem stageOf_eq (t c10 mx sen : α) (old : Nat) :
    stageOf t c10 mx sen old =
      if t ≤ c10 then 1 else if t ≤ mx then 2 else if t ≤ sen then 3 else 4 := by
  unfold stageOf
  by_cases h : t ≤ sen
  · rw [if_pos h, if_pos h]
  · rw [if_neg h, if_neg h, if_pos (not_le.mp h)]

theorem stageOf_range (t c10 mx sen : α) (old : Nat) :
    1 ≤ stageOf t c10 mx sen old ∧ stageOf t c10 mx sen old ≤ 4 := by
  rw [stageOf_eq]
  split_ifs <;> decide

theorem stageOf_indep_old (t c10 mx sen : α) (old old' : Nat) :
    stageOf t c10 mx sen old = stageOf t c10 mx sen old' := by
  rw [stageOf_eq, stageOf_eq]

/-- the stage is monotone in the adjusted time (no ordering of the thresholds is needed) -/
theorem stageOf_mono (t t' c10 mx sen : α) (old old' : Nat) (h : t ≤ t') :
    stageOf t c10 mx sen old ≤ stageOf t' c10 mx sen old' := by
  -- a test `t' ≤ x` that succeeds for `t'` succeeds for `t`, so `t` has left the chain no later
  rw [stageOf_eq t']
  by_cases h1 : t' ≤ c10
  · rw [if_pos h1, stageOf_eq, if_pos (h.trans h1)]
  rw [if_neg h1]
  by_cases h2 : t' ≤ mx
  · rw [if_pos h2, stageOf_eq, if_pos (h.trans h2)]
    split_ifs <;> decide
  rw [if_neg h2]
  by_cases h3 : t' ≤ sen
  · rw [if_pos h3, stageOf_eq, if_pos (h.trans h3)]
    split_ifs <;> decide
  rw [if_neg h3]
  exact (stageOf_range t c10 mx sen old).2

theorem stageOf_eq_iff (t c10 mx sen : α) (old : Nat) (h12 : c10 ≤ mx) (h23 : mx ≤ sen) :
    (stageOf t c10 mx sen old = 1 ↔ t ≤ c10) ∧
    (stageOf t c10 mx sen old = 2 ↔ c10 < t ∧ t ≤ mx) ∧
    (stageOf t c10 mx sen old = 3 ↔ mx < t ∧ t ≤ sen) ∧
    (stageOf t c10 mx sen old = 4 ↔ sen < t) := by
  rw [stageOf_eq]
  by_cases h1 : t ≤ c10
  · have h2 := h1.trans h12
    simp [h1, not_lt.mpr h1, not_lt.mpr h2, not_lt.mpr (h2.trans h23)]
  by_cases h2 : t ≤ mx
  · simp [h1, h2, not_le.mp h1, not_lt.mpr h2, not_lt.mpr (h2.trans h23)]
  by_cases h3 : t ≤ sen
  · simp [h1, h2, h3, not_le.mp h2, not_lt.mpr h3]
  · simp [h1, h2, h3, not_le.mp h3]

theorem growthStage_offseason (cal : Nat) (dap dc g dg c10 mx sen : α) (old : Nat) :
    growthStage cal dap dc g dg c10 mx sen false old = some 0 := by
  unfold growthStage; simp

theorem growthStage_inseason (cal : Nat) (dap dc g dg c10 mx sen : α) (old s : Nat)
    (h : growthStage cal dap dc g dg c10 mx sen true old = some s) :
    1 ≤ s ∧ s ≤ 4 ∧ (cal = 1 ∨ cal = 2) ∧ ∃ i, smtIndex s = some i ∧ i.val = s - 1 := by
  obtain ⟨hc, t, rfl⟩ : (cal = 1 ∨ cal = 2) ∧ ∃ t, stageOf t c10 mx sen old = s := by
    unfold growthStage at h
    rw [if_pos rfl] at h
    split_ifs at h with h1 h2
    · exact ⟨Or.inl h1, _, Option.some.inj h⟩
    · exact ⟨Or.inr h2, _, Option.some.inj h⟩
  obtain ⟨r1, r4⟩ := stageOf_range t c10 mx sen old
  exact ⟨r1, r4, hc, _, smtIndex_valid _ r1 r4, rfl⟩

end Aqua
