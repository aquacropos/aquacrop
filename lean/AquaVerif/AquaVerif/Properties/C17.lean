import AquaVerif.Proofs.CropFull
import AquaVerif.Generated.CropTable
import AquaVerif.Proofs.ResponseMono
import AquaVerif.Proofs.RealInstance
import AquaVerif.Proofs.Catalogue
/-
Property C17 — response functions bounded and monotone.

What is modelled: `water_stress` (`Aqua.waterStress`), `temperature_stress` (`polHeat`, `polCold`,
`temperatureStress`), `growing_degree_day` (`growingDegreeDay`), `cc_development` (`ccDevelopment`,
modes Growth / Decline), `cc_required_time` (`ccRequiredTime`) and the CO2 adjustment of the water
productivity in its two copies (`fco2Init` = `compute_variables`, `fco2Reset` =
`reset_initial_conditions`) — `Model/WaterStress.lean`, `Model/Response.lean`.

What is quantified over.
* Part 1 (abstract): **every** linearly ordered field `α`, **every** `F : Fn α` whose `exp`
  satisfies the order laws `ExpOrdLaws` (positive, `exp 0 = 1`, strictly increasing; plus
  `ExpAddLaw` for the canopy growth curve and `LogExpLaws` for its inverse), and **every** value of
  every argument subject to the stated premises.
* Part 2 (reals): the same with `F = realFn` (`Real.exp`, `Real.log`), where the laws are theorems.
  The water-stress theorems of parts 1–3 are stated for ordered thresholds (part 1: the thresholds as
  used; part 2: the raw ones, `p_up ≤ p_lo ≤ 1`, `0 ≤ beta ≤ 100`, `0 ≤ ET0`), but their proofs do
  not use the ordering: the relative depletion is 0 or 1 except for `p_up·TAW < Dr < p_lo·TAW`, a
  condition that by itself keeps the interpolated value in [0,1] and monotone in `Dr` (`drel_range`,
  `drel_mono`), so bounds and antitonicity hold for any thresholds.  That the raw ordering gives the ordering as used
  (`water_stress_premise_from_raw_thresholds`, `et0_adjustment_preserves_threshold_order`,
  `wsOrdered_real` in `Proofs/RealInstance.lean`) is what the harvest-index premise `HiPre.ord`
  needs (`Proofs/CropFullReal.lean`, `Proofs/HarvestIndexReal.lean`).
* Part 3 (catalogue): for every crop record `c : CropResp` of exact rationals satisfying the
  decidable predicate `ResponseOK c`, all premises of part 2 hold for the crop's parameters;
  `ResponseOK` is closed by `decide +kernel` for Wheat, Maize, Cotton here and for the generated
  37-row `cropTable` in `all_catalogue_crops_satisfy_premises`.

The lemmas are in `Proofs/Response.lean`, `Proofs/ResponseMono.lean`, `Proofs/RealInstance.lean`;
`RealPremises` is in `Proofs/Catalogue.lean`.
-/

set_option linter.unusedSectionVars false
namespace Aqua.C17
open Aqua Aqua.Response

/-! ## Part 1 — every ordered field, `exp` constrained by its order laws -/

section abstract
variable {α : Type} [Field α] [LinearOrder α] [IsStrictOrderedRing α]

/-- The five water-stress coefficients (expansion, stomata, senescence, pollination, linear
stomata) lie in [0,1] when the three exponential shape factors are non-zero.  The property is stated
for thresholds that, as used (after ET0 adjustment, early-senescence reduction, clipping), are
ordered (`hord`); the proof does not use `hord`: the interpolating branch of the relative depletion
is entered only for `p_up·TAW < Dr < p_lo·TAW` (`drel_range`). -/
theorem water_stress_in_unit_interval {F : Fn α} (hF : ExpOrdLaws F) (pUp pLo fsh : Fin 4 → α)
    (etAdj : Bool) (betaPct tEarlySen dr taw et0 : α) (betaFlag : Bool)
    (hord : ∀ i, wsUp F pUp etAdj betaPct tEarlySen et0 betaFlag i ≤ wsLo F pLo etAdj et0 i)
    (hf : ∀ i : Fin 4, i.val < 3 → fsh i ≠ 0) :
    let k := waterStress F pUp pLo fsh etAdj betaPct tEarlySen dr taw et0 betaFlag
    (0 ≤ k.exp ∧ k.exp ≤ 1) ∧ (0 ≤ k.sto ∧ k.sto ≤ 1) ∧ (0 ≤ k.sen ∧ k.sen ≤ 1) ∧
      (0 ≤ k.pol ∧ k.pol ≤ 1) ∧ (0 ≤ k.stoLin ∧ k.stoLin ≤ 1) :=
  waterStress_mem hF pUp pLo fsh etAdj betaPct tEarlySen dr taw et0 betaFlag hf

/-- None of the five water-stress coefficients increases when root-zone depletion increases
(`hord` as in `water_stress_in_unit_interval`: part of the property as stated, not used). -/
theorem water_stress_antitone_in_depletion {F : Fn α} (hF : ExpOrdLaws F)
    (pUp pLo fsh : Fin 4 → α) (etAdj : Bool) (betaPct tEarlySen taw et0 : α) (betaFlag : Bool)
    {dr dr' : α}
    (hord : ∀ i, wsUp F pUp etAdj betaPct tEarlySen et0 betaFlag i ≤ wsLo F pLo etAdj et0 i)
    (hf : ∀ i : Fin 4, i.val < 3 → fsh i ≠ 0) (hdr : dr ≤ dr') :
    let k := waterStress F pUp pLo fsh etAdj betaPct tEarlySen dr taw et0 betaFlag
    let k' := waterStress F pUp pLo fsh etAdj betaPct tEarlySen dr' taw et0 betaFlag
    k'.exp ≤ k.exp ∧ k'.sto ≤ k.sto ∧ k'.sen ≤ k.sen ∧ k'.pol ≤ k.pol ∧ k'.stoLin ≤ k.stoLin :=
  waterStress_antitone hF pUp pLo fsh etAdj betaPct tEarlySen taw et0 betaFlag hf hdr

/-- Without the ET0 adjustment the ordering of the thresholds as used follows from the raw one:
`p_up i ≤ p_lo i`, `0 ≤ beta`, `0 ≤ p_up3` (no law of `F` needed). -/
theorem water_stress_premise_from_raw_thresholds (F : Fn α) (pUp pLo : Fin 4 → α)
    (betaPct tEarlySen et0 : α) (betaFlag : Bool) (h : ∀ i, pUp i ≤ pLo i) (hb0 : 0 ≤ betaPct)
    (hp2 : 0 ≤ pUp 2) :
    ∀ i, wsUp F pUp false betaPct tEarlySen et0 betaFlag i ≤ wsLo F pLo false et0 i := by
  intro i
  unfold wsUp wsLo
  simp only [Bool.false_eq_true, false_and, if_false]
  apply clip01_mono
  split_ifs with h1 h2
  · have hi : i = 2 := Fin.ext h1
    subst hi
    have : pUp 2 * (1 - betaPct / 100) ≤ pUp 2 := by
      have : 0 ≤ pUp 2 * (betaPct / 100) := mul_nonneg hp2 (by positivity)
      linarith
    exact le_trans this (h 2)
  · have hi : i = 2 := Fin.ext h1
    subst hi
    exact h 2
  · exact h i

/-- The heat-stress pollination coefficient lies in [0,1] — no premise on thresholds or shape. -/
theorem heat_stress_in_unit_interval {F : Fn α} (hF : ExpOrdLaws F) (tmaxUp tmaxLo b tmax : α) :
    0 ≤ polHeat F tmaxUp tmaxLo b tmax ∧ polHeat F tmaxUp tmaxLo b tmax ≤ 1 :=
  polH_range hF tmaxUp tmaxLo b tmax

/-- The heat-stress coefficient does not increase with the maximum temperature (for either
ordering of the two thresholds; shape factor `≥ 0`). -/
theorem heat_stress_antitone_in_tmax {F : Fn α} (hF : ExpOrdLaws F) (tmaxUp tmaxLo : α)
    {b tmax tmax' : α} (hb : 0 ≤ b) (h : tmax ≤ tmax') :
    polHeat F tmaxUp tmaxLo b tmax' ≤ polHeat F tmaxUp tmaxLo b tmax := by
  have r' := polH_range hF tmaxUp tmaxLo b tmax'
  unfold polHeat at r' ⊢
  by_cases a1 : tmax ≤ tmaxLo
  · rw [if_pos a1]; exact r'.2
  · rw [if_neg a1]
    have b1 : ¬ tmax' ≤ tmaxLo := fun hc => a1 (le_trans h hc)
    rw [if_neg b1] at r' ⊢
    by_cases a2 : tmaxUp ≤ tmax
    · rw [if_pos a2, if_pos (le_trans a2 h)]
    · rw [if_neg a2]
      by_cases b2 : tmaxUp ≤ tmax'
      · rw [if_pos b2]; exact (polLogistic_range hF _ _).1.le
      · rw [if_neg b2]
        rw [not_le] at a1 a2
        have hd : 0 < tmaxUp - tmaxLo := by linarith
        exact polLogistic_antitone hF hb
          (div_le_div_of_nonneg_right (by linarith) hd.le)

/-- The cold-stress pollination coefficient lies in [0,1]. -/
theorem cold_stress_in_unit_interval {F : Fn α} (hF : ExpOrdLaws F) (tminUp tminLo b tmin : α) :
    0 ≤ polCold F tminUp tminLo b tmin ∧ polCold F tminUp tminLo b tmin ≤ 1 :=
  polC_range hF tminUp tminLo b tmin

/-- The cold-stress coefficient does not decrease with the minimum temperature (shape factor
`≥ 0`). -/
theorem cold_stress_monotone_in_tmin {F : Fn α} (hF : ExpOrdLaws F) (tminUp tminLo : α)
    {b tmin tmin' : α} (hb : 0 ≤ b) (h : tmin ≤ tmin') :
    polCold F tminUp tminLo b tmin ≤ polCold F tminUp tminLo b tmin' := by
  rw [polCold_eq_polHeat, polCold_eq_polHeat]
  exact heat_stress_antitone_in_tmax hF _ _ hb (neg_le_neg h)

/-- `temperature_stress` as called (flags 0/1): both returned coefficients lie in [0,1]. -/
theorem temperature_stress_in_unit_interval {F : Fn α} (hF : ExpOrdLaws F) {ph pc : Nat}
    {tmaxUp tmaxLo tminUp tminLo b tmax tmin h c : α}
    (hr : temperatureStress F ph pc tmaxUp tmaxLo tminUp tminLo b tmax tmin = some (h, c)) :
    (0 ≤ h ∧ h ≤ 1) ∧ (0 ≤ c ∧ c ≤ 1) := by
  unfold temperatureStress at hr
  simp only [] at hr
  split_ifs at hr with h1 h2 h3 h4 h5 h6 <;>
    simp only [Option.some.injEq, Prod.mk.injEq] at hr <;>
    obtain ⟨rfl, rfl⟩ := hr
  · exact ⟨⟨zero_le_one, le_refl _⟩, ⟨zero_le_one, le_refl _⟩⟩
  · exact ⟨⟨zero_le_one, le_refl _⟩, polC_range hF _ _ _ _⟩
  · exact ⟨polH_range hF _ _ _ _, ⟨zero_le_one, le_refl _⟩⟩
  · exact ⟨polH_range hF _ _ _ _, polC_range hF _ _ _ _⟩

/-- With `Tmax_up ≤ Tmax_lo` (the ordering of every built-in crop, e.g. 40 < 45) the heat-stress
coefficient is a step at `Tmax_lo`: the logistic branch is unreachable (recorded observation). -/
theorem heat_stress_is_step_for_catalogue_ordering (F : Fn α) {tmaxUp tmaxLo : α} (b tmax : α)
    (h : tmaxUp ≤ tmaxLo) :
    polHeat F tmaxUp tmaxLo b tmax = if tmax ≤ tmaxLo then 1 else 0 :=
  polH_step_of_up_le_lo F b tmax h

/-- Daily growing degree days lie in [0, Tupp − Tbase] for the three methods (`Tbase ≤ Tupp`). -/
theorem gdd_in_range {m : Nat} {tupp tbase tmax tmin g : α} (h : tbase ≤ tupp)
    (hg : growingDegreeDay m tupp tbase tmax tmin = some g) : 0 ≤ g ∧ g ≤ tupp - tbase :=
  gdd_range h hg

/-- Growing degree days do not decrease when the day's temperatures rise (all three methods, no
premise on the thresholds). -/
theorem gdd_monotone_in_temperatures {m : Nat} {tupp tbase tmax tmin tmax' tmin' g g' : α}
    (hx : tmax ≤ tmax') (hn : tmin ≤ tmin')
    (hg : growingDegreeDay m tupp tbase tmax tmin = some g)
    (hg' : growingDegreeDay m tupp tbase tmax' tmin' = some g') : g ≤ g' :=
  gdd_mono hx hn hg hg'

/-- The canopy growth curve is non-decreasing in time (`0 < CC0`, `0 < CCx`, `0 ≤ CGC`). -/
theorem canopy_growth_monotone {F : Fn α} (hF : ExpOrdLaws F) (hA : ExpAddLaw F)
    {cco ccx cgc dt dt' : α} (cdc ccx0 : α) (hcco : 0 < cco) (hccx : 0 < ccx) (hcgc : 0 ≤ cgc)
    (h : dt ≤ dt') :
    ccDevelopment F cco ccx cgc cdc dt .growth ccx0 ≤
      ccDevelopment F cco ccx cgc cdc dt' .growth ccx0 := by
  unfold ccDevelopment
  rw [clipCC_eq_clip01, clipCC_eq_clip01]
  exact clip01_mono (ccGrowth_mono_in_dt hF hA hcco hccx hcgc h)

/-- The canopy growth curve stays within (0, CCx) (`0 < CC0`, `0 < CCx ≤ 1`). -/
theorem canopy_growth_in_range {F : Fn α} (hF : ExpOrdLaws F) (hA : ExpAddLaw F)
    {cco ccx cgc : α} (cdc dt ccx0 : α) (hcco : 0 < cco) (hccx : 0 < ccx) (hccx1 : ccx ≤ 1) :
    0 < ccDevelopment F cco ccx cgc cdc dt .growth ccx0 ∧
      ccDevelopment F cco ccx cgc cdc dt .growth ccx0 < ccx := by
  obtain ⟨a, b⟩ := ccGrowth_range hF hA (cgc := cgc) dt hcco hccx
  unfold ccDevelopment
  simp only []
  rw [clipCC_eq_clip01, clip01_of_mem a.le (by linarith)]
  exact ⟨a, b⟩

/-- The canopy decline curve is non-increasing in time (`0 ≤ CDC`, `−2.29 < CCx0`). -/
theorem canopy_decline_antitone {F : Fn α} (hF : ExpOrdLaws F) {ccx cdc ccx0 dt dt' : α}
    (cco cgc : α) (hcdc : 0 ≤ cdc) (hccx0 : 0 < ccx0 + 2.29) (h : dt ≤ dt') :
    ccDevelopment F cco ccx cgc cdc dt' .decline ccx0 ≤
      ccDevelopment F cco ccx cgc cdc dt .decline ccx0 := by
  unfold ccDevelopment
  rw [clipCC_eq_clip01, clipCC_eq_clip01]
  exact clip01_mono (ccDecline_antitone hF hcdc hccx0 h)

/-- The canopy decline curve stays within [0, CCx] for non-negative elapsed time (`0 ≤ CDC`,
`0 ≤ CCx`, `−2.29 < CCx0`). -/
theorem canopy_decline_in_range {F : Fn α} (hF : ExpOrdLaws F) {ccx cdc ccx0 dt : α}
    (cco cgc : α) (hcdc : 0 ≤ cdc) (hccx0 : 0 < ccx0 + 2.29) (hccx : 0 ≤ ccx) (hdt : 0 ≤ dt) :
    0 ≤ ccDevelopment F cco ccx cgc cdc dt .decline ccx0 ∧
      ccDevelopment F cco ccx cgc cdc dt .decline ccx0 ≤ ccx :=
  ccDevelopment_decline_range hF cco cgc hcdc hccx0 hccx hdt

/-- Whatever the arguments and the mode, `cc_development` returns a value in [0,1]. -/
theorem canopy_cover_always_in_unit_interval (F : Fn α) (cco ccx cgc cdc dt : α) (mode : CCMode)
    (ccx0 : α) :
    0 ≤ ccDevelopment F cco ccx cgc cdc dt mode ccx0 ∧
      ccDevelopment F cco ccx cgc cdc dt mode ccx0 ≤ 1 :=
  ccDevelopment_range01 F cco ccx cgc cdc dt mode ccx0

/-- The time-to-reach-cover function inverts the growth curve: for every `dt`,
`cc_required_time(cc_development(…, dt, "Growth"), …, "CGC") = dt` (`0 < CC0`, `0 < CCx ≤ 1`,
`CGC ≠ 0`). -/
theorem required_time_inverts_growth {F : Fn α} (hF : ExpOrdLaws F) (hA : ExpAddLaw F)
    (hL : LogExpLaws F) {cco ccx cgc : α} (cdc dt ccx0 : α) (hcco : 0 < cco) (hccx : 0 < ccx)
    (hccx1 : ccx ≤ 1) (hcgc : cgc ≠ 0) :
    ccRequiredTime F (ccDevelopment F cco ccx cgc cdc dt .growth ccx0) cco ccx cgc cdc .cgc = dt :=
  requiredTime_inverts_growth hF hA hL cdc dt ccx0 hcco hccx hccx1 hcgc

/-- The CO2 productivity factor is exactly 1 at the reference concentration (season-0 copy;
reference `≠ 0`). -/
theorem co2_factor_one_at_reference (F : Fn α) {ref : α} (bsted bface fsink wp : α)
    (href : ref ≠ 0) : fco2Init F ref ref bsted bface fsink wp = some 1 := by
  rw [fco2Init_eq, fco2Sel_at_ref F _ _ _ href]
  simp

/-- … and in the copy executed at the start of later seasons (needs `ref ≤ 550`, else that copy
raises). -/
theorem co2_factor_one_at_reference_reset (F : Fn α) {ref : α} (bsted bface fsink wp : α)
    (href : ref ≠ 0) (h550 : ref ≤ 550) : fco2Reset F ref ref bsted bface fsink wp = some 1 := by
  rw [fco2Init_eq_fco2Reset_of_ref_le F ref bsted bface fsink wp h550]
  exact co2_factor_one_at_reference F bsted bface fsink wp href

/-- The CO2 productivity factor is non-decreasing in the concentration over `0 ≤ c ≤ c'` (all
regimes and their junctions), under `CO2Params`. -/
theorem co2_factor_monotone {F : Fn α} (hF : ExpOrdLaws F) {c c' ref bsted bface fsink : α}
    (wp : α) (hp : CO2Params ref bsted bface fsink) (hc : 0 ≤ c) (h : c ≤ c') :
    ∃ v v', fco2Init F c ref bsted bface fsink wp = some v ∧
      fco2Init F c' ref bsted bface fsink wp = some v' ∧ v ≤ v' :=
  fco2Init_mono hF wp hp hc h

/-- … likewise for the copy of later seasons. -/
theorem co2_factor_monotone_reset {F : Fn α} (hF : ExpOrdLaws F)
    {c c' ref bsted bface fsink : α} (wp : α) (hp : CO2Params ref bsted bface fsink) (hc : 0 ≤ c)
    (h : c ≤ c') :
    ∃ v v', fco2Reset F c ref bsted bface fsink wp = some v ∧
      fco2Reset F c' ref bsted bface fsink wp = some v' ∧ v ≤ v' := by
  rw [fco2Init_eq_fco2Reset_of_ref_le F c bsted bface fsink wp hp.ref_lt.le,
    fco2Init_eq_fco2Reset_of_ref_le F c' bsted bface fsink wp hp.ref_lt.le]
  exact fco2Init_mono hF wp hp hc h

end abstract

/-! ## Part 2 — the reals: no law hypotheses, premises on raw parameters -/

/-- Over the reals the three law structures hold (non-vacuity of part 1). -/
theorem real_exp_log_satisfy_the_laws :
    ExpOrdLaws realFn ∧ ExpAddLaw realFn ∧ LogExpLaws realFn :=
  ⟨expOrdLaws_real, expAddLaw_real, logExpLaws_real⟩

/-- All five water-stress coefficients lie in [0,1] and none increases with depletion, for real
parameters with non-zero shape factors — with or without ET0 adjustment and early-senescence
reduction.  The property is stated for `p_up i ≤ p_lo i ≤ 1`, `0 ≤ ET0`, `0 ≤ beta ≤ 100` (which make
the thresholds as used ordered: `wsOrdered_real`); the proof uses none of these five premises. -/
theorem water_stress_real (pUp pLo fsh : Fin 4 → ℝ) (etAdj : Bool)
    (betaPct tEarlySen taw et0 : ℝ) (betaFlag : Bool) {dr dr' : ℝ}
    (h : ∀ i, pUp i ≤ pLo i) (h1 : ∀ i, pLo i ≤ 1) (het0 : 0 ≤ et0)
    (hb0 : 0 ≤ betaPct) (hb1 : betaPct ≤ 100)
    (hf : ∀ i : Fin 4, i.val < 3 → fsh i ≠ 0) (hdr : dr ≤ dr') :
    let k := waterStress realFn pUp pLo fsh etAdj betaPct tEarlySen dr taw et0 betaFlag
    let k' := waterStress realFn pUp pLo fsh etAdj betaPct tEarlySen dr' taw et0 betaFlag
    ((0 ≤ k.exp ∧ k.exp ≤ 1) ∧ (0 ≤ k.sto ∧ k.sto ≤ 1) ∧ (0 ≤ k.sen ∧ k.sen ≤ 1) ∧
      (0 ≤ k.pol ∧ k.pol ≤ 1) ∧ (0 ≤ k.stoLin ∧ k.stoLin ≤ 1)) ∧
    (k'.exp ≤ k.exp ∧ k'.sto ≤ k.sto ∧ k'.sen ≤ k.sen ∧ k'.pol ≤ k.pol ∧ k'.stoLin ≤ k.stoLin) :=
  ⟨waterStress_mem expOrdLaws_real pUp pLo fsh etAdj betaPct tEarlySen dr taw et0 betaFlag hf,
   waterStress_antitone expOrdLaws_real pUp pLo fsh etAdj betaPct tEarlySen taw et0 betaFlag hf hdr⟩

/-- Maize water-stress thresholds and shape factors satisfy the premises of
`water_stress_real` (ET0 adjustment on, early-senescence reduction `beta = 12`). -/
example (dr dr' taw tes : ℝ) (hdr : dr ≤ dr') :=
  water_stress_real
    (fun i : Fin 4 => if i = 0 then 0.14 else if i = 1 then 0.72 else if i = 2 then 0.69 else 0.8)
    (fun i : Fin 4 => if i = 0 then 0.72 else 1)
    (fun i : Fin 4 => if i = 0 then 2.9 else if i = 1 then 6 else if i = 2 then 2.7 else 1)
    true 12 tes taw 7.5 true (dr := dr) (dr' := dr')
    (by intro i; fin_cases i <;> simp <;> norm_num)
    (by intro i; fin_cases i <;> simp; norm_num)
    (by norm_num) (by norm_num) (by norm_num)
    (by intro i _; fin_cases i <;> simp <;> norm_num)
    hdr

/-- Over the reals the ET0 adjustment `p ↦ p + 0.04·(5 − ET0)·log10(10 − 9p)` preserves the order of
two thresholds `p ≤ q ≤ 1` for every `ET0 ≥ 0`. -/
theorem et0_adjustment_preserves_threshold_order {p q et0 : ℝ} (hpq : p ≤ q) (hq : q ≤ 1)
    (het0 : 0 ≤ et0) : etAdjust realFn p et0 ≤ etAdjust realFn q et0 :=
  etAdjust_mono_real hpq hq het0

/-! ## Part 3 — the crop catalogue -/

/-- For a crop record satisfying the decidable rational predicate `ResponseOK`, every premise of
the real-number theorems holds for the crop's parameters. -/
theorem catalogue_premises_imply {c : CropResp} (h : ResponseOK c) : RealPremises c := by
  obtain ⟨h1, h2, h3, h4, h5, h6, h7, h8, h9, h10, h11, h12, g1, g2, g3, g4, g5⟩ := h
  refine ⟨fun i => by exact_mod_cast h1 i, fun i => by exact_mod_cast h2 i,
    fun i hi => by exact_mod_cast h3 i hi, by exact_mod_cast h4, by exact_mod_cast h5,
    by exact_mod_cast h6, by exact_mod_cast h7, by exact_mod_cast h8, by exact_mod_cast h9,
    by exact_mod_cast h10, by exact_mod_cast h11, by exact_mod_cast h12, ?_⟩
  have e := co2Ref_cast (α := ℝ)
  refine ⟨?_, ?_, by exact_mod_cast g3, by exact_mod_cast g4, ?_⟩
  · rw [← e]; exact_mod_cast g1
  · rw [← e]; exact_mod_cast g2
  · rw [← e]; exact_mod_cast g5

/-- Water stress for a catalogue crop: coefficients in [0,1], antitone in depletion — for every
depletion, TAW, `ET0 ≥ 0`, early-senescence time and both settings of the two switches. -/
theorem catalogue_water_stress {c : CropResp} (h : ResponseOK c) (etAdj betaFlag : Bool)
    (tEarlySen taw et0 : ℝ) {dr dr' : ℝ} (het0 : 0 ≤ et0) (hdr : dr ≤ dr') :
    let P : Fin 4 → ℝ := fun i => ((c.pUp i : ℚ) : ℝ)
    let L : Fin 4 → ℝ := fun i => ((c.pLo i : ℚ) : ℝ)
    let S : Fin 4 → ℝ := fun i => ((c.fshapeW i : ℚ) : ℝ)
    let k := waterStress realFn P L S etAdj ((c.beta : ℚ) : ℝ) tEarlySen dr taw et0 betaFlag
    let k' := waterStress realFn P L S etAdj ((c.beta : ℚ) : ℝ) tEarlySen dr' taw et0 betaFlag
    ((0 ≤ k.exp ∧ k.exp ≤ 1) ∧ (0 ≤ k.sto ∧ k.sto ≤ 1) ∧ (0 ≤ k.sen ∧ k.sen ≤ 1) ∧
      (0 ≤ k.pol ∧ k.pol ≤ 1) ∧ (0 ≤ k.stoLin ∧ k.stoLin ≤ 1)) ∧
    (k'.exp ≤ k.exp ∧ k'.sto ≤ k.sto ∧ k'.sen ≤ k.sen ∧ k'.pol ≤ k.pol ∧ k'.stoLin ≤ k.stoLin) :=
  have r := catalogue_premises_imply h
  water_stress_real _ _ _ etAdj _ tEarlySen taw et0 betaFlag r.thr_ord r.thr_le_one het0 r.beta_nn
    r.beta_le r.shape_ne hdr

/-- Temperature responses for a catalogue crop: heat and cold coefficients in [0,1] and monotone
in the temperature (whatever the crop's temperature thresholds); degree days in
[0, Tupp − Tbase] and monotone. -/
theorem catalogue_temperature_responses {c : CropResp} (h : ResponseOK c)
    (tmaxUp tmaxLo tminUp tminLo : ℝ) :
    (∀ tmax, 0 ≤ polHeat realFn tmaxUp tmaxLo ((c.fshapeB : ℚ) : ℝ) tmax ∧
        polHeat realFn tmaxUp tmaxLo ((c.fshapeB : ℚ) : ℝ) tmax ≤ 1) ∧
    (∀ tmax tmax', tmax ≤ tmax' →
        polHeat realFn tmaxUp tmaxLo ((c.fshapeB : ℚ) : ℝ) tmax' ≤
          polHeat realFn tmaxUp tmaxLo ((c.fshapeB : ℚ) : ℝ) tmax) ∧
    (∀ tmin, 0 ≤ polCold realFn tminUp tminLo ((c.fshapeB : ℚ) : ℝ) tmin ∧
        polCold realFn tminUp tminLo ((c.fshapeB : ℚ) : ℝ) tmin ≤ 1) ∧
    (∀ tmin tmin', tmin ≤ tmin' →
        polCold realFn tminUp tminLo ((c.fshapeB : ℚ) : ℝ) tmin ≤
          polCold realFn tminUp tminLo ((c.fshapeB : ℚ) : ℝ) tmin') ∧
    (∀ m tmax tmin g,
        growingDegreeDay m ((c.tupp : ℚ) : ℝ) ((c.tbase : ℚ) : ℝ) tmax tmin = some g →
        0 ≤ g ∧ g ≤ ((c.tupp : ℚ) : ℝ) - ((c.tbase : ℚ) : ℝ)) ∧
    (∀ m tmax tmin tmax' tmin' g g', tmax ≤ tmax' → tmin ≤ tmin' →
        growingDegreeDay m ((c.tupp : ℚ) : ℝ) ((c.tbase : ℚ) : ℝ) tmax tmin = some g →
        growingDegreeDay m ((c.tupp : ℚ) : ℝ) ((c.tbase : ℚ) : ℝ) tmax' tmin' = some g' →
        g ≤ g') :=
  have r := catalogue_premises_imply h
  ⟨fun t => polH_range expOrdLaws_real _ _ _ t,
   fun _ _ ht => heat_stress_antitone_in_tmax expOrdLaws_real _ _ r.fshapeB_nn ht,
   fun t => polC_range expOrdLaws_real _ _ _ t,
   fun _ _ ht => cold_stress_monotone_in_tmin expOrdLaws_real _ _ r.fshapeB_nn ht,
   fun _ _ _ _ hg => gdd_range r.tbase_le hg,
   fun _ _ _ _ _ _ _ hx hn hg hg' => gdd_mono hx hn hg hg'⟩

/-- Canopy curves for a catalogue crop: growth non-decreasing within (0, CCx), decline
non-increasing within [0, CCx] (from any `CCx`-start value in [0, ∞)), and the required-time
function inverts the growth curve. -/
theorem catalogue_canopy_curves {c : CropResp} (h : ResponseOK c) :
    let cco : ℝ := ((c.cc0 : ℚ) : ℝ)
    let ccx : ℝ := ((c.ccx : ℚ) : ℝ)
    let cgc : ℝ := ((c.cgc : ℚ) : ℝ)
    let cdc : ℝ := ((c.cdc : ℚ) : ℝ)
    (∀ dt dt' ccx0, dt ≤ dt' → ccDevelopment realFn cco ccx cgc cdc dt .growth ccx0 ≤
        ccDevelopment realFn cco ccx cgc cdc dt' .growth ccx0) ∧
    (∀ dt ccx0, 0 < ccDevelopment realFn cco ccx cgc cdc dt .growth ccx0 ∧
        ccDevelopment realFn cco ccx cgc cdc dt .growth ccx0 < ccx) ∧
    (∀ dt dt' cc, dt ≤ dt' → ccDevelopment realFn cco cc cgc cdc dt' .decline ccx ≤
        ccDevelopment realFn cco cc cgc cdc dt .decline ccx) ∧
    (∀ dt cc, 0 ≤ cc → 0 ≤ dt → 0 ≤ ccDevelopment realFn cco cc cgc cdc dt .decline ccx ∧
        ccDevelopment realFn cco cc cgc cdc dt .decline ccx ≤ cc) ∧
    (∀ dt ccx0, ccRequiredTime realFn (ccDevelopment realFn cco ccx cgc cdc dt .growth ccx0)
        cco ccx cgc cdc .cgc = dt) := by
  have r := catalogue_premises_imply h
  have hx0 : (0 : ℝ) < ((c.ccx : ℚ) : ℝ) + 2.29 := add_pos r.ccx_pos (by norm_num)
  exact ⟨fun _ _ ccx0 hd =>
      canopy_growth_monotone expOrdLaws_real expAddLaw_real _ ccx0 r.cc0_pos r.ccx_pos
        r.cgc_pos.le hd,
    fun dt ccx0 =>
      canopy_growth_in_range expOrdLaws_real expAddLaw_real _ dt ccx0 r.cc0_pos r.ccx_pos
        r.ccx_le,
    fun _ _ _ hd => canopy_decline_antitone expOrdLaws_real _ _ r.cdc_nn hx0 hd,
    fun _ _ hcc hdt => ccDevelopment_decline_range expOrdLaws_real _ _ r.cdc_nn hx0 hcc hdt,
    fun dt ccx0 =>
      requiredTime_inverts_growth_real _ dt ccx0 r.cc0_pos r.ccx_pos r.ccx_le r.cgc_pos.ne'⟩

/-- CO2 factor for a catalogue crop at the reference concentration 369.41 ppm: exactly 1 at the
reference, non-decreasing in the concentration on `[0, ∞)`, and the two copies of the code agree
for every concentration (for every water productivity `wp`). -/
theorem catalogue_co2_factor {c : CropResp} (h : ResponseOK c) (wp : ℝ) :
    let bs : ℝ := ((c.bsted : ℚ) : ℝ)
    let bf : ℝ := ((c.bface : ℚ) : ℝ)
    let fs : ℝ := ((c.fsink : ℚ) : ℝ)
    fco2Init realFn 369.41 369.41 bs bf fs wp = some 1 ∧
    (∀ x x', 0 ≤ x → x ≤ x' → ∃ v v', fco2Init realFn x 369.41 bs bf fs wp = some v ∧
        fco2Init realFn x' 369.41 bs bf fs wp = some v' ∧ v ≤ v') ∧
    (∀ x, fco2Reset realFn x 369.41 bs bf fs wp = fco2Init realFn x 369.41 bs bf fs wp) := by
  have r := catalogue_premises_imply h
  exact ⟨co2_factor_one_at_reference realFn _ _ _ wp (by norm_num),
    fun _ _ hx hxx => fco2Init_mono expOrdLaws_real wp r.co2 hx hxx,
    fun x => fco2Init_eq_fco2Reset_of_ref_le realFn x _ _ _ wp (by norm_num)⟩

/-- Wheat, Maize and Cotton (numbers of `crop_params.py`) satisfy `ResponseOK` — by kernel
evaluation, the way the generated 37-row table is checked. -/
theorem three_catalogue_crops_ok :
    ∀ c ∈ [wheatResp, maizeResp, cottonResp], ResponseOK c := by decide +kernel

example : ResponseOK wheatResp := three_catalogue_crops_ok _ (by simp)
example : ResponseOK maizeResp := three_catalogue_crops_ok _ (by simp)
example : ResponseOK cottonResp := three_catalogue_crops_ok _ (by simp)
example : RealPremises wheatResp := catalogue_premises_imply (three_catalogue_crops_ok _ (by simp))


/-- Tie to the source, re-proved on every run: every crop of the catalogue as /repo's
`crop_params.py` defines it (table regenerated by `harness/translate/croptable.py`, 37
entries) satisfies the premises `ResponseOK`, hence (`catalogue_premises_imply` and the
`catalogue_*` theorems above) all conclusions of this file. -/
theorem all_catalogue_crops_satisfy_premises : ∀ c ∈ Aqua.Generated.cropTable, ResponseOK c :=
  Aqua.Generated.cropTable_responseOK

/-- `crop_params.py` defines 37 crops. -/
theorem catalogue_has_37_crops : Aqua.Generated.cropTable.length = 37 := Aqua.Generated.cropTable_count


/-- The response-function table `cropTable` is, entry by entry, the projection (`CropFull.toResp`)
of the full crop table generated from the same sources. -/
theorem response_table_is_projection_of_full_table :
    Aqua.Generated.cropFullTable.length = Aqua.Generated.cropTable.length ∧
    ∀ p ∈ (Aqua.Generated.cropFullTable.map CropFull.toResp).zip Aqua.Generated.cropTable,
      RespAgree p.1 p.2 := by decide +kernel

/-- Every crop of the full table `cropFullTable` (`crop_params.py`), projected to its response
parameters, satisfies `ResponseOK`. -/
theorem full_catalogue_response_ok :
    ∀ c ∈ Aqua.Generated.cropFullTable, ResponseOK c.toResp :=
  fun c hc => responseOK_of_ok (catalogue_ok c hc)

end Aqua.C17
