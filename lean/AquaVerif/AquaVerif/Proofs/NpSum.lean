import AquaVerif.Model.RootDevelopment
import AquaVerif.Proofs.Basic
import Mathlib.Algebra.Order.BigOperators.Group.List

/-
numpy's `np.add.reduce` on floats (`npSum` of `Model/RootDevelopment.lean`: left-to-right addition for
fewer than 8 terms, eight lanes per block of at most 128, pairwise above) adds every term exactly
once, so over a field it is the plain sum, whatever the length: `npSum_eq_sum`.
-/

set_option linter.unusedSectionVars false
namespace Aqua
variable {α : Type} [Field α] [LinearOrder α] [IsStrictOrderedRing α]

theorem sumFrom_eq_sum (acc : α) (l : List α) : sumFrom acc l = acc + l.sum := by
  induction l generalizing acc with
  | nil => simp [sumFrom]
  | cons x xs ih => simp [sumFrom, ih, add_assoc]

theorem zipWith_add_sum (l1 l2 : List α) (h : l1.length = l2.length) :
    (List.zipWith (· + ·) l1 l2).sum = l1.sum + l2.sum := by
  induction l1 generalizing l2 with
  | nil => cases l2 with
    | nil => simp
    | cons y ys => simp at h
  | cons x xs ih =>
    cases l2 with
    | nil => simp at h
    | cons y ys =>
      simp only [List.length_cons, Nat.add_right_cancel_iff] at h
      simp only [List.zipWith_cons_cons, List.sum_cons, ih ys h]
      ring

/-- the eight lanes after all complete blocks: still eight, and they add up to everything fed in -/
theorem lanes8_spec (fuel : Nat) (r xs : List α) (hr : r.length = 8) (hx : xs.length % 8 = 0)
    (hf : xs.length ≤ fuel) :
    (lanes8 fuel r xs).length = 8 ∧ (lanes8 fuel r xs).sum = r.sum + xs.sum := by
  induction fuel generalizing r xs with
  | zero =>
    have : xs = [] := List.length_eq_zero_iff.mp (by omega)
    subst this
    simp [lanes8, hr]
  | succ fuel ih =>
    unfold lanes8
    by_cases h8 : xs.length < 8
    · have : xs = [] := List.length_eq_zero_iff.mp (by omega)
      subst this
      simp [hr]
    · simp only [h8, if_false]
      have ht : (xs.take 8).length = 8 := by simp; omega
      have hr' : (List.zipWith (· + ·) r (xs.take 8)).length = 8 := by
        simp [List.length_zipWith, hr]; omega
      have hd : (xs.drop 8).length = xs.length - 8 := by simp
      obtain ⟨h1, h2⟩ := ih (List.zipWith (· + ·) r (xs.take 8)) (xs.drop 8) hr'
        (by rw [hd]; omega) (by rw [hd]; omega)
      refine ⟨h1, ?_⟩
      rw [h2, zipWith_add_sum r (xs.take 8) (by rw [hr, ht]), add_assoc,
        List.sum_take_add_sum_drop]

theorem npSumBlock_eq_sum (a : List α) : npSumBlock a = a.sum := by
  unfold npSumBlock
  by_cases h8 : a.length < 8
  · simp [h8, sumFrom_eq_sum]
  · simp only [h8, if_false]
    have hm8 : 8 ≤ a.length - a.length % 8 := by omega
    have hml : a.length - a.length % 8 ≤ a.length := by omega
    have hr : (a.take 8).length = 8 := by simp; omega
    have hxl : ((a.take (a.length - a.length % 8)).drop 8).length
        = a.length - a.length % 8 - 8 := by
      simp
    obtain ⟨h1, h2⟩ := lanes8_spec a.length (a.take 8)
      ((a.take (a.length - a.length % 8)).drop 8) hr (by rw [hxl]; omega) (by rw [hxl]; omega)
    have htt : a.take 8 = (a.take (a.length - a.length % 8)).take 8 := by
      rw [List.take_take]; congr 1; omega
    have hs : (a.take 8).sum + ((a.take (a.length - a.length % 8)).drop 8).sum +
        (a.drop (a.length - a.length % 8)).sum = a.sum := by
      rw [htt, List.sum_take_add_sum_drop, List.sum_take_add_sum_drop]
    generalize lanes8 a.length (a.take 8) ((a.take (a.length - a.length % 8)).drop 8) = L
      at h1 h2
    match L, h1 with
    | [r0, r1, r2, r3, r4, r5, r6, r7], _ =>
      simp only [sumFrom_eq_sum]
      rw [← hs, ← h2]
      simp only [List.sum_cons, List.sum_nil]
      ring

theorem npSumAux_eq_sum (fuel : Nat) (a : List α) : npSumAux fuel a = a.sum := by
  induction fuel generalizing a with
  | zero => simp [npSumAux, npSumBlock_eq_sum]
  | succ fuel ih =>
    unfold npSumAux
    by_cases h : a.length ≤ 128
    · simp [h, npSumBlock_eq_sum]
    · simp only [h, if_false, ih, List.sum_take_add_sum_drop]

theorem npSum_eq_sum (l : List α) : npSum l = l.sum := by
  simp [npSum, npSumAux_eq_sum]

theorem npSum_nonneg {a : List α} (h : ∀ x ∈ a, 0 ≤ x) : 0 ≤ npSum a :=
  npSum_eq_sum a ▸ List.sum_nonneg h

#print axioms npSum_eq_sum

end Aqua
