import AquaVerif.Model.Effects
import AquaVerif.Generated.EffectTable
/-
Property C10 — runs are deterministic and model instances are isolated.

"Running model A and then model B gives B exactly the results B gives alone … regardless of which
other models were built or run earlier in the same process."

What is proved here is the *static* half: no function reachable from construction, initialisation
or stepping stores into a location of class `global` (module-level objects incl. `crop_params`,
class attributes, mutable default arguments, closure variables), nor into a location the extractor
could not resolve; hence (frame theorem) any sequence of other models leaves `global` unchanged and
a model's result — a function of its own objects and of `global` — does not depend on that sequence.
Hash randomisation, process boundaries and library internals are outside the model; they are covered
by the differential tie (fresh subprocesses / shuffled in-process order).
-/

namespace Aqua.C10
open Aqua.Effects Aqua.Effects.Generated

/-- Global stores that are known and accepted.  The current sources have none, so the statement
below is unconditional.  (Mutable default arguments DO exist — `Soil(dz=[0.1]*12)`,
`GroundWater(dates=[], values=[])`, `InitialWaterContent(depth_layer=[1], value=['FC'])` — and four
of them are retained on instances, see `retainedDefaults`; but nothing ever stores *through* them,
which is what `no_global_writes` and `defaults_not_retained_mutably` establish.) -/
def knownGlobal : List Effect := []

/-- the classes that stand for a location inside an object of the model or of the user -/
def resolved : LocClass → Bool
  | .global | .unknown => false
  | _ => true

/-- Every row of the generated effect table has a class other than `global` and `unknown`. -/
theorem no_global_writes_check : (effectTable.all fun e => resolved e.cls) = true := by
  decide +kernel

/-- **C10, table form.**  No tabulated store (construction, initialisation, stepping) lands in
process-global state. -/
theorem no_global_writes : ∀ e ∈ effectTable, e.cls ≠ .global := by
  intro e he hg
  have h : resolved e.cls = true := List.all_eq_true.mp no_global_writes_check e he
  rw [hg] at h
  exact Bool.false_ne_true h

/-- … and none lands in a location the extractor could not resolve (the table is fail-closed:
an unresolved store would appear as `unknown` and break this theorem). -/
theorem no_unresolved_writes : ∀ e ∈ effectTable, e.cls ≠ .unknown := by
  intro e he hu
  have h : resolved e.cls = true := List.all_eq_true.mp no_global_writes_check e he
  rw [hu] at h
  exact Bool.false_ne_true h

/-- The statement "modulo `knownGlobal`" (trivial while the list is empty; kept so that an accepted
global store can be listed without changing the shape of the proof). -/
theorem no_global_writes_modulo_known :
    ∀ e ∈ effectTable, e.cls = .global → e ∈ knownGlobal :=
  fun e he hg => absurd hg (no_global_writes e he)

/-- A default list that is stored on an instance (`retainedDefaults`: `groundwater.dates`,
`groundwater.values`, `initial_water_content.depth_layer`, `initial_water_content.value`, and —
conservatively — the `dz` column of the soil profile) is never the target of a store: the extractor
maps every store whose access path may reach a default object to that object, lists it in
`storesThroughDefaults` (and, with class `global`, in `effectTable`); the list is empty. -/
theorem defaults_not_retained_mutably : storesThroughDefaults = [] := rfl

/-- Consistency of the two generated lists: a store through a default would be a `global` row. -/
theorem stores_through_defaults_are_global :
    ∀ e ∈ storesThroughDefaults, e ∈ effectTable ∧ e.cls = .global := by
  decide +kernel

/-- **Isolation.**  Let the result of a model be any function `result` of its own objects `own` and
of the global state.  Run any sequence `others` of other models (each a fragment whose stores are
tabulated stores of any region) before it: the result is the one obtained without them. -/
theorem isolated_of_no_global_writes {α β : Type} (result : α → Nat → β) (own : α)
    (others : List (List Write)) (hdrawn : ∀ ws ∈ others, DrawnFromAny effectTable ws) (hp : Heap) :
    result own (execAll others hp .global) = result own (hp .global) := by
  rw [frame_runs_any effectTable .global no_global_writes others hdrawn hp]

/-- The same for the unresolved class: nothing the table cannot account for is touched. -/
theorem unknown_untouched (others : List (List Write))
    (hdrawn : ∀ ws ∈ others, DrawnFromAny effectTable ws) (hp : Heap) :
    execAll others hp .unknown = hp .unknown :=
  frame_runs_any effectTable .unknown no_unresolved_writes others hdrawn hp

/-- Running other models A₁…Aₖ and then B, versus B alone: B's own stores are the same fragment
`b`; the content of the global class after B is the same in both histories. -/
theorem b_after_a_equals_b_alone (others : List (List Write)) (b : List Write)
    (ho : ∀ ws ∈ others, DrawnFromAny effectTable ws) (hb : DrawnFromAny effectTable b) (hp : Heap) :
    exec b (execAll others hp) .global = exec b hp .global := by
  have h1 : ∀ w ∈ b, w.1 ≠ LocClass.global := by
    intro w hw
    obtain ⟨e, he, hc⟩ := hb w hw
    rw [← hc]; exact no_global_writes e he
  rw [frame b .global h1, frame b .global h1]
  exact frame_runs_any effectTable .global no_global_writes others ho hp

end Aqua.C10
