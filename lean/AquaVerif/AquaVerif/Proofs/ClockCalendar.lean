import AquaVerif.Proofs.Clock
import AquaVerif.Proofs.Calendar
/-
From the date set-up to the clock: `toCfg`, the clock configuration of a `Seasons` record, and
`valid_of_seasons`, `Valid` for planting and harvest day numbers given as functions `P`, `H` with the
order facts that `Proofs/Calendar.lean` proves of `Aqua.Calendar.seasonDates`.  That every
configuration the date set-up produces is `Valid`, so that all clock theorems apply whenever
`_initialize` does not raise, is `C07.date_setup_is_valid` (`Properties/C07.lean`).
-/

namespace Aqua
open Aqua.Calendar Aqua.Clock

/-- the `ClockStruct` that `_initialize` builds from the date set-up -/
def toCfg (r : Seasons) (off : Bool) : Cfg :=
  { n := r.n, planting := r.planting.map Int.toNat, harvest := r.harvest, offSeason := off,
    season0 := r.season0 }

theorem getD_map_range {β : Type} (f : Nat → β) {L k : Nat} (d : β) (hk : k < L) :
    ((List.range L).map f).getD k d = f k := by
  simp [List.getD_eq_getElem?_getD, List.getElem?_map, List.getElem?_range hk]

theorem valid_of_seasons {n L : Nat} {P H : Nat → Int} (off : Bool) {s0 : Int} (hn : 2 ≤ n)
    (hL : 0 < L) (hP0 : 0 ≤ P 0) (hmono : ∀ i j, i < j → P i < P j)
    (hlast : ∀ i, i < L → P i + 2 ≤ n) (hs0 : s0 = if 0 = P 0 then 0 else -1)
    (hPH : ∀ k, k < L → P k < H k) (hHP : ∀ k, k + 1 < L → H k ≤ P (k + 1)) :
    Valid { n := n, planting := (List.range L).map (fun i => (P i).toNat),
            harvest := (List.range L).map H, offSeason := off, season0 := s0 } := by
  have hnonneg : ∀ i, 0 ≤ P i := by
    intro i
    cases i with
    | zero => exact hP0
    | succ i => have := hmono 0 (i + 1) (by omega); omega
  refine ⟨⟨hn, ?_, ?_, ?_, ?_, ?_⟩, ?_, ?_⟩
  · simp only [ne_eq, List.map_eq_nil_iff, List.range_eq_nil]; omega
  · simp only [List.length_map]
  · rw [List.pairwise_map]
    refine List.Pairwise.imp ?_ List.pairwise_lt_range
    intro i j hij
    have := hmono i j hij
    have := hnonneg i
    omega
  · intro p hp
    simp only [List.mem_map, List.mem_range] at hp
    obtain ⟨i, hi, rfl⟩ := hp
    have := hlast i hi
    have := hnonneg i
    show (P i).toNat + 2 ≤ n
    omega
  · obtain ⟨L, rfl⟩ : ∃ L', L = L' + 1 := ⟨L - 1, by omega⟩
    simp only [List.range_succ_eq_map, List.map_cons, List.head?_cons, Option.some.injEq, hs0]
    by_cases he : 0 = P 0
    · simp [← he]
    · rw [if_neg he, if_neg (by omega)]
  · intro k hk
    simp only [List.length_map, List.length_range] at hk
    simp only [Cfg.pl, Cfg.hv, getD_map_range _ _ hk]
    have := hPH k hk
    have := hnonneg k
    omega
  · intro k hk
    simp only [List.length_map, List.length_range] at hk
    simp only [Cfg.pl, Cfg.hv, getD_map_range _ _ (show k < L by omega),
      getD_map_range _ _ (show k + 1 < L by omega)]
    have := hHP k (by omega)
    have := hnonneg (k + 1)
    omega

/-- non-vacuity: a two-season window with a crop spanning New Year -/
example : seasonDates 2001 3 1 2003 2 28 11 10 2 20 =
    .ok { n := 730, planting := [254, 619], harvest := [356, 721], season0 := -1 } := by rfl

/-- no planting date in the window: the Python raises `IndexError` -/
example : seasonDates 2001 6 1 2001 12 31 5 1 9 1 = .error .index := by rfl
/-- end date on 29 February with a within-year crop: `pd.to_datetime("1990/2/29")` raises -/
example : seasonDates 2003 3 1 2004 2 29 3 10 4 20 = .error .date := by rfl
/-- a crop spanning New Year in a window of one calendar year: `plant_years[0]` raises although
the planting date 2001-11-10 lies inside the window -/
example : seasonDates 2001 1 1 2001 12 31 11 10 2 20 = .error .index := by rfl

end Aqua
