import AquaVerif.Model.WaterStress
import AquaVerif.Model.Response
import AquaVerif.Proofs.Basic
import AquaVerif.Proofs.WaterStress
/-
Response functions: the laws asked of `F`, `clip01`, `ksShape` and the range of the water-stress
coefficients, growing degree days, the canopy decline curve and the range of `cc_development`.
Relative depletion `drel` is in `Proofs/WaterStress.lean`; monotonicity, the growth curve and its
inverse, pollination stress, aeration stress and the CO2 factor in `Proofs/ResponseMono.lean`.

All statements are for an arbitrary linearly ordered field `α`; the transcendental functions
are constrained only through the law structures below, which `Proofs/RealInstance.lean` shows
to be satisfied by `Real.exp` / `Real.log` (non-vacuity).
-/

set_option linter.unusedSectionVars false
namespace Aqua
variable {α : Type} [Field α] [LinearOrder α] [IsStrictOrderedRing α]

/-! ## Laws assumed about `F`

(`Aqua.ExpLaws` is the structure of `Proofs/Drainage.lean` with the single field `one_le`; it
follows from `ExpOrdLaws`: `FnOK.exp`, `Proofs/RunClosed.lean`.) -/

structure ExpOrdLaws (F : Fn α) : Prop where
  exp_pos : ∀ x, 0 < F.exp x
  exp_zero : F.exp 0 = 1
  exp_mono : ∀ x y, x < y → F.exp x < F.exp y

/-- functional equation of the exponential (only needed where the code uses `exp(-x)` and
`exp(x)` side by side: the two regimes of the canopy growth curve) -/
structure ExpAddLaw (F : Fn α) : Prop where
  exp_add : ∀ x y, F.exp (x + y) = F.exp x * F.exp y

/-- `log` inverts `exp` (needed only for `cc_required_time`) -/
structure LogExpLaws (F : Fn α) : Prop where
  exp_log : ∀ x, 0 < x → F.exp (F.log x) = x
  log_exp : ∀ x, F.log (F.exp x) = x

namespace ExpOrdLaws
variable {F : Fn α}

theorem exp_le (h : ExpOrdLaws F) {x y : α} (hxy : x ≤ y) : F.exp x ≤ F.exp y := by
  rcases lt_or_eq_of_le hxy with h1 | h1
  · exact (h.exp_mono x y h1).le
  · rw [h1]

theorem one_lt_exp (h : ExpOrdLaws F) {x : α} (hx : 0 < x) : 1 < F.exp x := by
  have := h.exp_mono 0 x hx; rwa [h.exp_zero] at this

theorem exp_lt_one (h : ExpOrdLaws F) {x : α} (hx : x < 0) : F.exp x < 1 := by
  have := h.exp_mono x 0 hx; rwa [h.exp_zero] at this

theorem exp_le_one (h : ExpOrdLaws F) {x : α} (hx : x ≤ 0) : F.exp x ≤ 1 := by
  have := h.exp_le hx; rwa [h.exp_zero] at this

end ExpOrdLaws

theorem ExpAddLaw.exp_neg {F : Fn α} (hA : ExpAddLaw F) (hF : ExpOrdLaws F) (x : α) :
    F.exp (-x) = (F.exp x)⁻¹ := by
  have h1 : F.exp x * F.exp (-x) = 1 := by
    rw [← hA.exp_add, add_neg_cancel, hF.exp_zero]
  exact eq_inv_of_mul_eq_one_right h1

/-- the offset `2.29` of the canopy-decline coefficient keeps its denominators positive -/
theorem add_229_pos {x : α} (h : 0 ≤ x) : 0 < x + 2.29 :=
  add_pos_of_nonneg_of_pos h (by norm_num)

/-! ## 1. `clip01` -/

theorem clip01_eq (p : α) : clip01 p = min (max p 0) 1 := by
  show pmin (pmax p 0) 1 = _
  rw [pmin_eq, pmax_eq]

theorem clip01_range (p : α) : 0 ≤ clip01 p ∧ clip01 p ≤ 1 := by
  rw [clip01_eq]
  exact ⟨le_min (le_max_right _ _) zero_le_one, min_le_right _ _⟩

theorem clip01_of_mem {p : α} (h0 : 0 ≤ p) (h1 : p ≤ 1) : clip01 p = p := by
  rw [clip01_eq, max_eq_left h0, min_eq_left h1]

/-! ## 2. `ksShape`, `waterStress` -/

/-- the curve `(exp(d·f) − 1)/(exp f − 1)` shared by the water-stress coefficients and the
CO2 factor -/
def expRatio (F : Fn α) (d f : α) : α := (F.exp (d * f) - 1) / (F.exp f - 1)

theorem ksShape_eq (F : Fn α) (d f : α) : ksShape F d f = 1 - expRatio F d f := rfl

theorem expRatio_mono {F : Fn α} (hF : ExpOrdLaws F) {f d d' : α} (hf : f ≠ 0) (h : d ≤ d') :
    expRatio F d f ≤ expRatio F d' f := by
  unfold expRatio
  rcases lt_or_gt_of_ne hf with hneg | hpos
  · -- f < 0: numerator and denominator negative
    have hden : F.exp f - 1 < 0 := by have := hF.exp_lt_one hneg; linarith
    have hnum : F.exp (d' * f) ≤ F.exp (d * f) :=
      hF.exp_le (mul_le_mul_of_nonpos_right h hneg.le)
    exact div_le_div_of_nonpos_of_le hden.le (by linarith)
  · have hden : 0 < F.exp f - 1 := by have := hF.one_lt_exp hpos; linarith
    have hnum : F.exp (d * f) ≤ F.exp (d' * f) :=
      hF.exp_le (mul_le_mul_of_nonneg_right h hpos.le)
    exact div_le_div_of_nonneg_right (by linarith) hden.le

theorem expRatio_zero {F : Fn α} (hF : ExpOrdLaws F) (f : α) : expRatio F 0 f = 0 := by
  unfold expRatio; rw [zero_mul, hF.exp_zero, sub_self, zero_div]

theorem expRatio_one {F : Fn α} (hF : ExpOrdLaws F) {f : α} (hf : f ≠ 0) : expRatio F 1 f = 1 := by
  unfold expRatio
  rw [one_mul]
  have : F.exp f - 1 ≠ 0 := by
    rcases lt_or_gt_of_ne hf with hneg | hpos
    · have := hF.exp_lt_one hneg; intro hc; linarith
    · have := hF.one_lt_exp hpos; intro hc; linarith
  exact div_self this

theorem expRatio_range {F : Fn α} (hF : ExpOrdLaws F) {f d : α} (hf : f ≠ 0) (h0 : 0 ≤ d)
    (h1 : d ≤ 1) : 0 ≤ expRatio F d f ∧ expRatio F d f ≤ 1 := by
  constructor
  · rw [← expRatio_zero hF f]; exact expRatio_mono hF hf h0
  · rw [← expRatio_one hF hf]; exact expRatio_mono hF hf h1

/-- `f = 0` makes the Python divide `0/0`; in a field `x/0 = 0`, so the premise `f ≠ 0` is kept
explicit rather than exploiting that convention. -/
theorem ksShape_range {F : Fn α} (hF : ExpOrdLaws F) {d f : α} (hf : f ≠ 0) (hd0 : 0 ≤ d)
    (hd1 : d ≤ 1) : 0 ≤ ksShape F d f ∧ ksShape F d f ≤ 1 := by
  obtain ⟨a, b⟩ := expRatio_range hF hf hd0 hd1
  rw [ksShape_eq]; constructor <;> linarith

/-- upper thresholds of `water_stress` after ET0 adjustment, early-senescence reduction and
clipping (the model's local `upC`) -/
def wsUp (F : Fn α) (pUp : Fin 4 → α) (etAdj : Bool) (betaPct tEarlySen et0 : α)
    (betaFlag : Bool) (i : Fin 4) : α :=
  let up (i : Fin 4) : α := if etAdj ∧ i.val < 3 then etAdjust F (pUp i) et0 else pUp i
  let up2 : α := if betaFlag ∧ 0 < tEarlySen then up 2 * (1 - betaPct / 100) else up 2
  clip01 (if i.val = 2 then up2 else up i)

/-- lower thresholds after ET0 adjustment and clipping (the model's local `loC`) -/
def wsLo (F : Fn α) (pLo : Fin 4 → α) (etAdj : Bool) (et0 : α) (i : Fin 4) : α :=
  clip01 (if etAdj ∧ i.val < 3 then etAdjust F (pLo i) et0 else pLo i)

theorem waterStress_eq (F : Fn α) (pUp pLo fsh : Fin 4 → α) (etAdj : Bool)
    (betaPct tEarlySen dr taw et0 : α) (betaFlag : Bool) :
    waterStress F pUp pLo fsh etAdj betaPct tEarlySen dr taw et0 betaFlag =
      let d (i : Fin 4) : α :=
        drel (wsUp F pUp etAdj betaPct tEarlySen et0 betaFlag i) (wsLo F pLo etAdj et0 i) dr taw
      { exp := ksShape F (d 0) (fsh 0)
        sto := ksShape F (d 1) (fsh 1)
        sen := ksShape F (d 2) (fsh 2)
        pol := 1 - d 3
        stoLin := 1 - d 1 } := rfl

theorem waterStress_mem {F : Fn α} (hF : ExpOrdLaws F) (pUp pLo fsh : Fin 4 → α) (etAdj : Bool)
    (betaPct tEarlySen dr taw et0 : α) (betaFlag : Bool)
    (hf : ∀ i : Fin 4, i.val < 3 → fsh i ≠ 0) :
    let k := waterStress F pUp pLo fsh etAdj betaPct tEarlySen dr taw et0 betaFlag
    (0 ≤ k.exp ∧ k.exp ≤ 1) ∧ (0 ≤ k.sto ∧ k.sto ≤ 1) ∧ (0 ≤ k.sen ∧ k.sen ≤ 1) ∧
      (0 ≤ k.pol ∧ k.pol ≤ 1) ∧ (0 ≤ k.stoLin ∧ k.stoLin ≤ 1) := by
  rw [waterStress_eq]
  have r := fun i => drel_range (wsUp F pUp etAdj betaPct tEarlySen et0 betaFlag i)
    (wsLo F pLo etAdj et0 i) dr taw
  exact ⟨ksShape_range hF (hf 0 (by decide)) (r 0).1 (r 0).2,
    ksShape_range hF (hf 1 (by decide)) (r 1).1 (r 1).2,
    ksShape_range hF (hf 2 (by decide)) (r 2).1 (r 2).2,
    ⟨sub_nonneg.mpr (r 3).2, sub_le_self 1 (r 3).1⟩,
    ⟨sub_nonneg.mpr (r 1).2, sub_le_self 1 (r 1).1⟩⟩

/-! ## 3. growing degree days -/

theorem gdd_method1 (tupp tbase tmax tmin : α) :
    growingDegreeDay 1 tupp tbase tmax tmin =
      some (max (min ((tmax + tmin) / 2) tupp) tbase - tbase) := by
  rw [growingDegreeDay, if_pos rfl]
  simp only [pmin_eq, pmax_eq]

theorem gdd_method2 (tupp tbase tmax tmin : α) :
    growingDegreeDay 2 tupp tbase tmax tmin =
      some ((max (min tmax tupp) tbase + max (min tmin tupp) tbase) / 2 - tbase) := by
  rw [growingDegreeDay, if_neg (by decide), if_pos rfl]
  simp only [pmin_eq, pmax_eq]

theorem gdd_method3 (tupp tbase tmax tmin : α) :
    growingDegreeDay 3 tupp tbase tmax tmin =
      some (max ((max (min tmax tupp) tbase + min tmin tupp) / 2) tbase - tbase) := by
  rw [growingDegreeDay, if_neg (by decide), if_neg (by decide), if_pos rfl]
  simp only [pmin_eq, pmax_eq]

theorem gdd_cases {m : Nat} {tupp tbase tmax tmin g : α}
    (hg : growingDegreeDay m tupp tbase tmax tmin = some g) :
    (m = 1 ∧ g = max (min ((tmax + tmin) / 2) tupp) tbase - tbase) ∨
    (m = 2 ∧ g = (max (min tmax tupp) tbase + max (min tmin tupp) tbase) / 2 - tbase) ∨
    (m = 3 ∧ g = max ((max (min tmax tupp) tbase + min tmin tupp) / 2) tbase - tbase) := by
  by_cases h1 : m = 1
  · subst h1
    rw [gdd_method1] at hg
    exact Or.inl ⟨rfl, (Option.some.inj hg).symm⟩
  · by_cases h2 : m = 2
    · subst h2
      rw [gdd_method2] at hg
      exact Or.inr (Or.inl ⟨rfl, (Option.some.inj hg).symm⟩)
    · by_cases h3 : m = 3
      · subst h3
        rw [gdd_method3] at hg
        exact Or.inr (Or.inr ⟨rfl, (Option.some.inj hg).symm⟩)
      · rw [growingDegreeDay, if_neg h1, if_neg h2, if_neg h3] at hg
        cases hg

theorem gdd_range {m : Nat} {tupp tbase tmax tmin g : α} (h : tbase ≤ tupp)
    (hg : growingDegreeDay m tupp tbase tmax tmin = some g) : 0 ≤ g ∧ g ≤ tupp - tbase := by
  have clamp : ∀ x : α, tbase ≤ max (min x tupp) tbase ∧ max (min x tupp) tbase ≤ tupp :=
    fun x => ⟨le_max_right _ _, max_le (min_le_right _ _) h⟩
  rcases gdd_cases hg with ⟨_, rfl⟩ | ⟨_, rfl⟩ | ⟨_, rfl⟩
  · exact ⟨sub_nonneg.mpr (clamp _).1, sub_le_sub_right (clamp _).2 tbase⟩
  · obtain ⟨a1, a2⟩ := clamp tmax
    obtain ⟨b1, b2⟩ := clamp tmin
    constructor <;> linarith
  · have b2 : min tmin tupp ≤ tupp := min_le_right _ _
    exact ⟨sub_nonneg.mpr (le_max_right _ _),
      sub_le_sub_right (max_le (by linarith [(clamp tmax).2]) h) tbase⟩

/-! ## 4. the canopy decline curve, `cc_development` -/

/-- relative cover `τ` time units into a decline of rate `k` -/
def declD (F : Fn α) (k τ : α) : α := 1 - 0.05 * (F.exp (τ * k) - 1)

/-- rate of the decline from a maximum cover `x0` -/
def declK (cdc x0 : α) : α := (cdc * 3.33) / (x0 + 2.29)

theorem declD_zero {F : Fn α} (hF : ExpOrdLaws F) (k : α) : declD F k 0 = 1 := by
  rw [declD, zero_mul, hF.exp_zero, sub_self, mul_zero, sub_zero]

theorem declD_anti {F : Fn α} (hF : ExpOrdLaws F) {k a b : α} (hk : 0 ≤ k) (h : a ≤ b) :
    declD F k b ≤ declD F k a :=
  sub_le_sub_left (mul_le_mul_of_nonneg_left
    (sub_le_sub_right (hF.exp_le (mul_le_mul_of_nonneg_right h hk)) 1) (by norm_num)) 1

theorem declD_le_one {F : Fn α} (hF : ExpOrdLaws F) {k τ : α} (hk : 0 ≤ k) (hτ : 0 ≤ τ) :
    declD F k τ ≤ 1 :=
  declD_zero hF k ▸ declD_anti hF hk hτ

theorem declK_nonneg {cdc x0 : α} (hcdc : 0 ≤ cdc) (hx : 0 < x0 + 2.29) : 0 ≤ declK cdc x0 :=
  div_nonneg (mul_nonneg hcdc (by norm_num)) hx.le

theorem ccDecline_of_lt {F : Fn α} {ccx : α} (cdc dt ccx0 : α) (h : ccx < 0.001) :
    ccDecline F ccx cdc dt ccx0 = 0 := by
  rw [ccDecline, if_pos h]

/-- above the cut-off the `(CCx + 2.29)` of the Python expression cancels: the decline is
`CCx·D` at the rate of `CCx0` -/
theorem ccDecline_of_ge {F : Fn α} {ccx : α} (cdc dt ccx0 : α) (h : ¬ ccx < 0.001) :
    ccDecline F ccx cdc dt ccx0 = ccx * declD F (declK cdc ccx0) dt := by
  have hb : ccx + 2.29 ≠ 0 :=
    (add_229_pos (le_trans (by norm_num) (not_lt.mp h))).ne'
  rw [ccDecline, if_neg h, ← mul_div_assoc, mul_comm _ (ccx + 2.29), mul_div_assoc,
    mul_div_cancel_left₀ _ hb, mul_assoc, mul_div_assoc]
  rfl

/-- no lower bound: the curve may go negative, the final clipping takes care of that -/
theorem ccDecline_le_ccx {F : Fn α} (hF : ExpOrdLaws F) {ccx cdc ccx0 dt : α} (hcdc : 0 ≤ cdc)
    (hccx0 : 0 < ccx0 + 2.29) (hccx : 0 ≤ ccx) (hdt : 0 ≤ dt) :
    ccDecline F ccx cdc dt ccx0 ≤ ccx := by
  by_cases h1 : ccx < 0.001
  · rw [ccDecline_of_lt _ _ _ h1]
    exact hccx
  · rw [ccDecline_of_ge _ _ _ h1]
    exact mul_le_of_le_one_right hccx (declD_le_one hF (declK_nonneg hcdc hccx0) hdt)

theorem clipCC_eq (x : α) : clipCC x = min (max x 0) 1 := by
  unfold clipCC
  by_cases h1 : 1 < x
  · rw [if_pos h1, max_eq_left (zero_le_one.trans h1.le), min_eq_right h1.le]
  · rw [if_neg h1]
    by_cases h0 : x < 0
    · rw [if_pos h0, max_eq_right h0.le, min_eq_left zero_le_one]
    · rw [if_neg h0, max_eq_left (not_lt.mp h0), min_eq_left (not_lt.mp h1)]

theorem clipCC_eq_clip01 (x : α) : clipCC x = clip01 x := by rw [clipCC_eq, clip01_eq]

theorem clipCC_le {x y : α} (h : x ≤ y) (hy : 0 ≤ y) : clipCC x ≤ y := by
  rw [clipCC_eq]
  exact (min_le_left _ _).trans (max_le h hy)

theorem ccDevelopment_range01 (F : Fn α) (cco ccx cgc cdc dt : α) (mode : CCMode) (ccx0 : α) :
    0 ≤ ccDevelopment F cco ccx cgc cdc dt mode ccx0 ∧
      ccDevelopment F cco ccx cgc cdc dt mode ccx0 ≤ 1 := clamp01_bounds _

theorem ccDevelopment_decline_range {F : Fn α} (hF : ExpOrdLaws F) {ccx cdc ccx0 dt : α}
    (cco cgc : α) (hcdc : 0 ≤ cdc) (hccx0 : 0 < ccx0 + 2.29) (hccx : 0 ≤ ccx) (hdt : 0 ≤ dt) :
    0 ≤ ccDevelopment F cco ccx cgc cdc dt .decline ccx0 ∧
      ccDevelopment F cco ccx cgc cdc dt .decline ccx0 ≤ ccx := by
  refine ⟨(ccDevelopment_range01 F cco ccx cgc cdc dt .decline ccx0).1, ?_⟩
  unfold ccDevelopment
  exact clipCC_le (ccDecline_le_ccx hF hcdc hccx0 hccx hdt) hccx

end Aqua
