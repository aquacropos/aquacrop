import AquaVerif.Proofs.InertRunProc
import AquaVerif.Proofs.Run
/-
**The relations between management records** and the day-level theorem for each.

`fullDay` (`Model/Day.lean`) reads the irrigation record (`IrrMngt`: method, thresholds, …,
`NetIrrSMT`, `WetSurf`, the day's `Schedule` entry) and the field-management record in exactly
seven places: `pre_irrigation`, `rainfall_partition`, `irrigation`, `infiltration`,
`soil_evaporation`, `transpiration` and the irrigation report of the output block (`IrrMethod = 4`
only).

* `FmSim F m m'`  — two field-management records that the four readers (`rainfall_partition`,
  `infiltration`, the mulch adjustment of `soil_evaporation`, the season-start surface storage)
  cannot tell apart; instances: `FmInert` (parameters of features that are off:
  `fmSim_of_inert`), mulches at a neutral value ≡ no mulches (`fmSim_mulch_neutral`), bunds lower
  than 0.001 mm ≡ no bunds (`fmSim_low_bund`), a curve-number adjustment of 0 % ≡ none
  (`fmSim_cnAdj_zero`).
* `IrrSim F gs stg irrCum …` — two irrigation records (with `NetIrrSMT`, `WetSurf` and the day's
  schedule entry) that the readers cannot tell apart on a day with the given growing-season flag,
  growth stage and seasonal counter; instances: `IrrInert` (parameters of the strategies that are
  not selected, everything but the method under rain-fed / net irrigation: `irrSim_of_inert`), off
  season *every* record (`irrSim_offseason`), two records whose demand is capped to nothing
  (`irrSim_of_zero`: constant depth 0, a zero schedule entry, `MaxIrr = 0`, `MaxIrrSeason = 0`
  versus rain-fed).
* `fullDayTrace_of_sims`, `fullDay_of_sims`: the day under replaced records (`DayParams.withMgmt`)
  coincides with the original day in every row, the new state, the summary row, the ghost records,
  the error outcome and every process output of the trace, up to the ghost branch ids
  (`Proofs/Inert.lean` §0).  The proof walks along the process calls of `fullDayTrace`; each call
  site that reads a management record is rewritten by a field of the two relations, the output
  block by `dayResultOf_withMgmt`.
-/

set_option linter.unusedSectionVars false
namespace Aqua
variable {α : Type} [Field α] [LinearOrder α] [IsStrictOrderedRing α]

/-! ## 1. field management -/

structure FmSim (F : Fn α) (m m' : FieldMngt α) : Prop where
  rain : ∀ p cells daySub cn adjCN zCN,
    rainPartition F p cells daySub m'.srInhb m'.bunds m'.zBund
        (if m'.cnAdj then m'.cnAdjPct else 0) cn adjCN zCN =
      rainPartition F p cells daySub m.srInhb m.bunds m.zBund
        (if m.cnAdj then m.cnAdjPct else 0) cn adjCN zCN
  inf : ∀ cells pond infl irr appEff dp ro gs,
    (infiltration F cells pond infl irr appEff m'.bunds m'.zBund dp ro gs).map InfOut.noBranch =
      (infiltration F cells pond infl irr appEff m.bunds m.zBund dp ro gs).map InfOut.noBranch
  mulch : mulchFactor m'.mulches m'.fMulch m'.mulchPct = mulchFactor m.mulches m.fMulch m.mulchPct
  /-- `reset_initial_conditions`: the surface storage restored at a season start -/
  pond0 : ∀ bw, resetPondOf m'.bunds m'.zBund bw = resetPondOf m.bunds m.zBund bw

theorem FmSim.refl (F : Fn α) (m : FieldMngt α) : FmSim F m m :=
  ⟨fun _ _ _ _ _ _ => rfl, fun _ _ _ _ _ _ _ _ => rfl, rfl, fun _ => rfl⟩

theorem FmSim.trans {F : Fn α} {a b c : FieldMngt α} (h1 : FmSim F a b) (h2 : FmSim F b c) :
    FmSim F a c :=
  ⟨fun p cells ds cn adj z => (h2.rain p cells ds cn adj z).trans (h1.rain p cells ds cn adj z),
   fun cells pond infl irr ae dp ro gs =>
     (h2.inf cells pond infl irr ae dp ro gs).trans (h1.inf cells pond infl irr ae dp ro gs),
   h2.mulch.trans h1.mulch, fun bw => (h2.pond0 bw).trans (h1.pond0 bw)⟩

/-- **inert field-management parameters**: the two records share the four switches and runoff
inhibition; the parameters of a feature may differ when its switch is off (and the curve-number
percentage also when runoff is inhibited or held back by bunds of at least 0.001 mm) -/
structure FmInert (m m' : FieldMngt α) : Prop where
  srInhb : m'.srInhb = m.srInhb
  bunds : m'.bunds = m.bunds
  cnAdj : m'.cnAdj = m.cnAdj
  mulches : m'.mulches = m.mulches
  /-- `z_bund` is read only with `bunds` -/
  zBund : m.bunds = true → m'.zBund = m.zBund
  /-- `curve_number_adj_pct` is read only with `curve_number_adj`, without runoff inhibition and
  without bunds of at least 0.001 mm -/
  cnAdjPct : m.cnAdj = true → m.srInhb = false → (m.bunds = false ∨ m.zBund < 0.001) →
    m'.cnAdjPct = m.cnAdjPct
  /-- `f_mulch`, `mulch_pct` are read only with `mulches` -/
  fMulch : m.mulches = true → m'.fMulch = m.fMulch
  mulchPct : m.mulches = true → m'.mulchPct = m.mulchPct

theorem fmSim_of_inert (F : Fn α) {m m' : FieldMngt α} (h : FmInert m m') : FmSim F m m' := by
  obtain ⟨sr, bu, zB, cnA, cnP, mu, fM, mP⟩ := m
  obtain ⟨sr', bu', zB', cnA', cnP', mu', fM', mP'⟩ := m'
  obtain ⟨h1, h2, h3, h4, h5, h6, h7, h8⟩ := h
  simp only at h1 h2 h3 h4 h5 h6 h7 h8
  subst h1 h2 h3 h4
  refine ⟨fun p cells ds cn adj z => ?_, fun cells pond infl irr ae dp ro gs => ?_, ?_, fun bw => ?_⟩
  · simp only
    cases bu' with
    | true =>
      rw [h5 rfl]
      apply rainPartition_cn_inert
      intro hs hb
      cases cnA' with
      | false => rfl
      | true => simp only [if_true]; exact h6 rfl hs hb
    | false =>
      rw [rainPartition_bunds_off F p cells ds sr' zB' zB]
      apply rainPartition_cn_inert
      intro hs hb
      cases cnA' with
      | false => rfl
      | true => simp only [if_true]; exact h6 rfl hs (Or.inl rfl)
  · simp only
    cases bu' with
    | true => rw [h5 rfl]
    | false => rw [infiltration_bunds_off F cells pond infl irr ae zB' zB dp ro gs]
  · simp only
    cases mu' with
    | true => rw [h7 rfl, h8 rfl]
    | false => rfl
  · simp only
    cases bu' with
    | true => rw [h5 rfl]
    | false => simp [resetPondOf]

theorem fmSim_mulch_neutral (F : Fn α) (m : FieldMngt α) (h0 : m.mulchPct = 0 ∨ m.fMulch = 0) :
    FmSim F m { m with mulches := false } := by
  refine ⟨fun _ _ _ _ _ _ => rfl, fun _ _ _ _ _ _ _ _ => rfl, ?_, fun _ => rfl⟩
  unfold mulchFactor
  cases m.mulches with
  | false => rfl
  | true => rcases h0 with h | h <;> simp [h]

theorem fmSim_low_bund (F : Fn α) (m : FieldMngt α) (hz : m.zBund < 0.001) :
    FmSim F m { m with bunds := false } := by
  refine ⟨fun p cells ds cn adj z => ?_, fun cells pond infl irr ae dp ro gs => ?_, rfl, fun bw => ?_⟩
  · cases hb : m.bunds with
    | false => rfl
    | true => exact (rainPartition_low_bund F p cells ds m.srInhb m.zBund _ cn adj z hz).symm
  · cases hb : m.bunds with
    | false => rfl
    | true => exact (infiltration_low_bund F cells pond infl irr ae m.zBund dp ro gs hz.le).symm
  · have : ¬ (0.001 : α) < m.zBund := not_lt.mpr hz.le
    simp [resetPondOf, this]

theorem fmSim_cnAdj_zero (F : Fn α) (m : FieldMngt α) (h0 : m.cnAdjPct = 0) :
    FmSim F m { m with cnAdj := false } := by
  refine ⟨fun p cells ds cn adj z => ?_, fun _ _ _ _ _ _ _ _ => rfl, rfl, fun _ => rfl⟩
  have : (if m.cnAdj = true then m.cnAdjPct else 0) = 0 := by rw [h0]; split_ifs <;> rfl
  rw [this]
  rfl

/-! ## 2. irrigation management -/

/-- "the demand of the strategy is capped to nothing": the `if/elif` chain over the method succeeds
and what it asks for, cut at 0 and capped by the seasonal maximum, is 0 -/
def ZeroDemand (I : IrrParams α) (s : Option α) (stg : Nat) (irrCum : α) : Prop :=
  ∀ dap dep taw, ∃ x n, irrDemand I (if dap = 1 then 1 else stg) dep taw dap s = .ok (x, n) ∧
    irrCap I.maxSeason irrCum (pmax 0 x) = 0

structure IrrSim (F : Fn α) (gs : Bool) (stg : Nat) (irrCum : α)
    (I : IrrParams α) (smt wet : α) (s : Option α)
    (I' : IrrParams α) (smt' wet' : α) (s' : Option α) : Prop where
  net : gs = true → (I'.method = 4 ↔ I.method = 4)
  smt : gs = true → I.method = 4 → smt' = smt
  irr : ∀ cells ePot tPot zRoot dap zMin aer zTop rain runoff,
    (irrigation F I' cells stg irrCum ePot tPot zRoot dap s' zMin aer zTop gs rain runoff).map
        IrrOut.noBranch =
      (irrigation F I cells stg irrCum ePot tPot zRoot dap s zMin aer zTop gs rain runoff).map
        IrrOut.noBranch
  /-- after the irrigation call: nothing was applied, or efficiency and wetted fraction agree -/
  app : ∀ cells ePot tPot zRoot dap zMin aer zTop rain runoff i,
    irrigation F I cells stg irrCum ePot tPot zRoot dap s zMin aer zTop gs rain runoff = .ok i →
    i.irr = 0 ∨ (I'.appEff = I.appEff ∧ (I.method ≠ 4 → wet' = wet))

theorem IrrSim.refl (F : Fn α) (gs : Bool) (stg : Nat) (irrCum : α) (I : IrrParams α)
    (smt wet : α) (s : Option α) : IrrSim F gs stg irrCum I smt wet s I smt wet s :=
  ⟨fun _ => Iff.rfl, fun _ _ => rfl, fun _ _ _ _ _ _ _ _ _ _ => rfl,
   fun _ _ _ _ _ _ _ _ _ _ _ _ => Or.inr ⟨rfl, fun _ => rfl⟩⟩

theorem irrSim_offseason {F : Fn α} {stg : Nat} {irrCum : α} {I I' : IrrParams α}
    {smt wet smt' wet' : α} {s s' : Option α} :
    IrrSim F false stg irrCum I smt wet s I' smt' wet' s' :=
  ⟨fun h => (by cases h), fun h => (by cases h),
   fun cells ePot tPot zRoot dap zMin aer zTop rain runoff =>
     irrigation_offseason_noBranch I I' s s',
   fun _ _ _ _ _ _ _ _ _ _ i hi => Or.inl (irr_offseason hi).1⟩

theorem irrSim_of_zero (F : Fn α) (gs : Bool) (stg : Nat) (irrCum : α) {I I' : IrrParams α}
    {smt wet smt' wet' : α} {s s' : Option α}
    (h4 : gs = true → (I'.method = 4 ↔ I.method = 4)) (hs : gs = true → I.method = 4 → smt' = smt)
    (hd : gs = true → ZeroDemand I s stg irrCum) (hd' : gs = true → ZeroDemand I' s' stg irrCum) :
    IrrSim F gs stg irrCum I smt wet s I' smt' wet' s' :=
  ⟨h4, hs,
   fun _ _ _ _ dap _ _ _ _ _ =>
     irrigation_noBranch_of_zero gs (fun hg => hd hg dap) (fun hg => hd' hg dap),
   fun _ _ _ _ dap _ _ _ _ _ _ hi =>
     Or.inl (irr_zero_of_zero hi (fun hg => hd hg dap))⟩

theorem zeroDemand_rainfed_net {I : IrrParams α} {s : Option α} {stg : Nat} {irrCum : α}
    (h04 : I.method = 0 ∨ I.method = 4) : ZeroDemand I s stg irrCum := by
  intro dap dep taw
  refine ⟨0, 0, ?_, by rw [pmax_eq, max_self, irrCap_zero]⟩
  rcases h04 with h | h
  · exact irrDemand_rainfed I _ dep taw dap s h
  · exact irrDemand_net I _ dep taw dap s h

/-- **inert irrigation parameters**: the two records share the method; a parameter may differ when
the selected strategy does not read it -/
structure IrrInert (I : IrrParams α) (smt wet : α) (s : Option α)
    (I' : IrrParams α) (smt' wet' : α) (s' : Option α) : Prop where
  method : I'.method = I.method
  /-- `SMT` — soil-moisture thresholds, method 1 only -/
  smtArr : I.method = 1 → I'.smt = I.smt
  /-- `IrrInterval` — method 2 only -/
  interval : I.method = 2 → I'.interval = I.interval
  /-- `Schedule[t]` — method 3 only -/
  sched : I.method = 3 → s' = s
  /-- `depth` — method 5 only -/
  depth : I.method = 5 → I'.depth = I.depth
  /-- `NetIrrSMT` — method 4 only -/
  netSMT : I.method = 4 → smt' = smt
  /-- `AppEff`, `MaxIrr`, `MaxIrrSeason`, `WetSurf` — not under rain-fed or net irrigation -/
  appEff : I.method ≠ 0 → I.method ≠ 4 → I'.appEff = I.appEff
  maxIrr : I.method ≠ 0 → I.method ≠ 4 → I'.maxIrr = I.maxIrr
  maxSeason : I.method ≠ 0 → I.method ≠ 4 → I'.maxSeason = I.maxSeason
  wetSurf : I.method ≠ 0 → I.method ≠ 4 → wet' = wet

theorem irrDemand_of_inert {I I' : IrrParams α} {smt wet smt' wet' : α} {s s' : Option α}
    (h : IrrInert I smt wet s I' smt' wet' s') (stage : Nat) (dep taw : α) (dap : Nat) :
    irrDemand I' stage dep taw dap s' = irrDemand I stage dep taw dap s := by
  have hm := h.method
  unfold irrDemand irrGross
  by_cases h0 : I.method = 0
  · simp [hm, h0]
  by_cases h4 : I.method = 4
  · simp [hm, h4]
  have hx := h.maxIrr h0 h4
  have he := h.appEff h0 h4
  by_cases h1 : I.method = 1
  · simp [hm, h1, h.smtArr h1, hx, he]
  by_cases h2 : I.method = 2
  · simp [hm, h2, h.interval h2, hx, he]
  by_cases h3 : I.method = 3
  · simp [hm, h3, h.sched h3, hx]
  by_cases h5 : I.method = 5
  · simp [hm, h5, h.depth h5, hx]
  simp [hm, h0, h1, h2, h3, h4, h5]

theorem irrSim_of_inert (F : Fn α) (gs : Bool) (stg : Nat) (irrCum : α) {I I' : IrrParams α}
    {smt wet smt' wet' : α} {s s' : Option α} (h : IrrInert I smt wet s I' smt' wet' s') :
    IrrSim F gs stg irrCum I smt wet s I' smt' wet' s' := by
  by_cases h04 : I.method = 0 ∨ I.method = 4
  · have h04' : I'.method = 0 ∨ I'.method = 4 := by rw [h.method]; exact h04
    exact irrSim_of_zero F gs stg irrCum (fun _ => by rw [h.method]) (fun _ => h.netSMT)
      (fun _ => zeroDemand_rainfed_net h04)
      (fun _ => zeroDemand_rainfed_net h04')
  · have h0 : I.method ≠ 0 := fun e => h04 (Or.inl e)
    have h4 : I.method ≠ 4 := fun e => h04 (Or.inr e)
    refine ⟨fun _ => by rw [h.method], fun _ => h.netSMT,
      fun cells ePot tPot zRoot dap zMin aer zTop rain runoff => ?_,
      fun _ _ _ _ _ _ _ _ _ _ _ _ => Or.inr ⟨h.appEff h0 h4, fun _ => h.wetSurf h0 h4⟩⟩
    rw [irrigation_congr F cells stg irrCum ePot tPot zRoot dap zMin aer zTop gs rain runoff s s'
      h.method (h.maxSeason h0 h4) (fun stage dep taw => irrDemand_of_inert h stage dep taw dap)]

/-! ## 3. from the relations to the day -/

@[reducible] def DayParams.withMgmt (P : DayParams α) (irr' : IrrParams α) (smt' wet' : α)
    (fm' : FieldMngt α) : DayParams α :=
  { P with W := { P.W with irr := irr', netIrrSMT := smt', wetSurf := wet' }, fm := fm' }

section day
variable {F : Fn α} {T : TrigFn α} {P : DayParams α} {st : DayState' α} {D : DayIn' α}
  {irr' : IrrParams α} {smt' wet' : α} {fm' : FieldMngt α} {s' : Option α}

theorem dayResultOf_withMgmt (hnet : D.gs = true → (irr'.method = 4 ↔ P.W.irr.method = 4))
    (X : FullTrace α) :
    dayResultOf (P.withMgmt irr' smt' wet' fm') st { D with sched := s' } X =
      dayResultOf P st D X := by
  have e1 : irrReportOf (P.withMgmt irr' smt' wet' fm') { D with sched := s' } X =
      irrReportOf P D X := by
    unfold irrReportOf irrReport
    cases hg : D.gs with
    | false => simp
    | true =>
      have hnet := hnet hg
      by_cases h4 : P.W.irr.method = 4
      · simp [h4, hnet.mpr h4]
      · simp [h4, mt hnet.mp h4]
  have e2 : stateAfter (P.withMgmt irr' smt' wet' fm') st { D with sched := s' } X =
      stateAfter P st D X := by
    unfold stateAfter
    rw [e1]
    rfl
  have e3 : dayOutOf (P.withMgmt irr' smt' wet' fm').W ({ D with sched := s' } : DayIn' α).water
      X.water = dayOutOf P.W D.water X.water := by
    unfold dayOutOf
    cases hg : D.gs with
    | false => simp [DayIn'.water, hg]
    | true =>
      have hnet := hnet hg
      by_cases h4 : P.W.irr.method = 4
      · simp [h4, hnet.mpr h4, DayIn'.water, hg]
      · simp [h4, mt hnet.mp h4, DayIn'.water, hg]
  unfold dayResultOf
  rw [e1, e2, e3]
  rfl

theorem IrrSim.applied
    (hI : IrrSim F D.gs st.growthStage st.irrCum P.W.irr P.W.netIrrSMT P.W.wetSurf D.sched
      irr' smt' wet' s')
    {cells : List (Cell α)} {zRoot : α} {dap : Nat} {runoff : α} {i : IrrOut α}
    (hi : irrigation F P.W.irr cells st.growthStage st.irrCum st.ePot st.tPot zRoot dap D.sched
        P.W.crop.tr.zMin P.W.crop.tr.aer P.W.soil.zTop D.gs D.rain runoff = .ok i) :
    i.irr = 0 ∨ (D.gs = true ∧ irr'.appEff = P.W.irr.appEff ∧
      (irr'.method = 4 ↔ P.W.irr.method = 4) ∧ (P.W.irr.method ≠ 4 → wet' = P.W.wetSurf)) := by
  cases hg : D.gs with
  | false => rw [hg] at hi; exact Or.inl (irr_offseason hi).1
  | true =>
    exact (hI.app _ _ _ _ _ _ _ _ _ _ i hi).imp_right fun h => ⟨rfl, h.1, hI.net hg, h.2⟩

theorem fullDayTrace_of_sims
    (hI : IrrSim F D.gs st.growthStage st.irrCum P.W.irr P.W.netIrrSMT P.W.wetSurf D.sched
      irr' smt' wet' s')
    (hF : FmSim F P.fm fm') :
    (fullDayTrace F T (P.withMgmt irr' smt' wet' fm') st { D with sched := s' }).map
        FullTrace.noBranch =
      (fullDayTrace F T P st D).map FullTrace.noBranch := by
  have hC : ∀ tc rd ge cc, cropDayOf (P.withMgmt irr' smt' wet' fm') st tc rd ge cc =
      cropDayOf P st tc rd ge cc := fun _ _ _ _ => rfl
  have hE : ∀ infl irr, dayEvapDay ({ D with sched := s' } : DayIn' α).water infl irr =
      dayEvapDay D.water infl irr := fun _ _ => rfl
  have hP : dayEvapParams (P.withMgmt irr' smt' wet' fm').W fm' =
      (dayEvapParams P.W P.fm).withAdj fm'.mulches fm'.fMulch fm'.mulchPct wet' irr'.method := rfl
  unfold fullDayTrace
  dsimp only [DayState'.water]
  simp only [hC, hE]
  refine map_bind_congr (fun tc htc => ?_)
  refine map_bind_congr (fun g hg => ?_)
  refine map_bind_congr (fun rd hrd => ?_)
  rw [preIrrigationT_method_congr hI.net hI.smt]
  refine map_bind_congr (fun p hp => ?_)
  rw [hF.rain]
  refine map_bind_congr (fun r hr => ?_)
  refine sim_bind_er _ IrrOut.noBranch (mapErr_map_congr _ _ (hI.irr _ _ _ _ _ _ _ _ _ _))
    (fun i i' hi hi' hii => ?_)
  have ei : i'.depletion = i.depletion ∧ i'.taw = i.taw ∧ i'.irr = i.irr := by
    have := hii
    cases i; cases i'
    simp only [IrrOut.noBranch, IrrOut.mk.injEq] at this
    exact ⟨this.1, this.2.1, this.2.2.2.1⟩
  -- what `infiltration` and `soil_evaporation` may use of the irrigation call
  have happ := hI.applied (mapErr_ok hi)
  rw [ei.2.2]
  refine sim_bind_er _ InfOut.noBranch ?_ (fun f f' hf hf' hff => ?_)
  · rw [← hF.inf]
    congr 1
    apply infiltration_appEff_inert
    rcases happ with h | h
    · exact Or.inr (Or.inl h)
    · exact Or.inr (Or.inr h.2.1)
  have ef : f'.cells = f.cells ∧ f'.pond = f.pond ∧ f'.infl = f.infl := by
    have := hff
    cases f; cases f'
    simp only [InfOut.noBranch, InfOut.mk.injEq] at this
    exact ⟨this.1, this.2.1, this.2.2.2.2.1⟩
  rw [ef.1, ef.2.1, ef.2.2, ei.1, ei.2.1]
  refine map_bind_congr (fun c hc => ?_)
  refine map_bind_congr (fun ge hge => ?_)
  refine map_bind_congr (fun gst hgst => ?_)
  refine map_bind_congr (fun cc hcc => ?_)
  refine sim_bind_er _ EvapOut.noBranch ?_ (fun e e' he he' hee => ?_)
  · have hz : (dayEvapDay D.water f.infl i.irr).irr ≤ 0 ∨
        ((irr'.method = 4 ↔ P.W.irr.method = 4) ∧ (P.W.irr.method ≠ 4 → wet' = P.W.wetSurf)) :=
      happ.imp (fun h => le_of_eq h) fun h => ⟨h.2.2.1, h.2.2.2⟩
    rw [hP]
    exact soilEvaporation_withAdj _ _ _ _ _ _ _ _ _ _
      (fun s => evapRefresh_method _ _ _ _ _ _ _ _ (hz.imp_right And.left))
      (fun e => esPotAdjust_value e hF.mulch hz)
  have ee : e'.cells = e.cells ∧ e'.pond = e.pond := by
    have := hee
    cases e; cases e'
    simp only [EvapOut.noBranch, EvapOut.mk.injEq] at this
    exact ⟨this.1, this.2.2.2.2.2.1⟩
  rw [ee.1, ee.2, transpiration_method_congr hI.net hI.smt]
  refine map_bind_congr (fun t ht => ?_)
  refine map_bind_congr (fun w hw => ?_)
  refine map_bind_congr (fun hi hhi => ?_)
  refine map_bind_congr (fun rz hrz => ?_)
  show Except.ok _ = Except.ok _
  congr 1
  simp only [FullTrace.noBranch, hii, hff, hee]

theorem fullDay_of_sims
    (hI : IrrSim F D.gs st.growthStage st.irrCum P.W.irr P.W.netIrrSMT P.W.wetSurf D.sched
      irr' smt' wet' s')
    (hF : FmSim F P.fm fm') :
    (fullDay F T (P.withMgmt irr' smt' wet' fm') st { D with sched := s' }).map
        DayResult.noBranch =
      (fullDay F T P st D).map DayResult.noBranch := by
  unfold fullDay
  rcases except_map_eq (fullDayTrace_of_sims (T := T) hI hF) with
    ⟨e, hX', hX⟩ | ⟨X, X', hX', hX, hXX⟩
  · rw [hX', hX]
  · rw [hX', hX]
    show Except.ok _ = Except.ok _
    congr 1
    rw [dayResultOf_withMgmt hI.net]
    exact congrArg (dayResultOf P st D) hXX

end day
end Aqua
