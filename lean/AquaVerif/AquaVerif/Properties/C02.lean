import AquaVerif.Proofs.WaterDay
/-
Property C02 — rain and irrigation are fully partitioned at the surface.

What is modelled: `rainfall_partition` (`rainPartition`: the SCS curve-number split, or its bypass
when runoff is inhibited or bunds of at least 0.001 mm are present), `infiltration` (intake
`max(Infl,0) + Irr·AppEff/100`, Ksat-limited surface split, bund storage and overtopping, back-up
runoff, final `Infl := Infl − Runoff`) and their composition in `waterDay`, where the `Runoff`
and `Infl` of step 5 feed step 7 and the `Irr` of step 6 is the irrigation applied.

What is quantified over: an arbitrary linearly ordered field, every `Fn`, profile, parameter
record, state, day input and `CropDay`; each statement is about a successful call.
One law of `Fn` is used: `PowSqLaw F` (`x ** 2 = x · x`, `Proofs/PowSq.lean`) — the SCS runoff is
`(term ** 2) / (…)` in the Python (C `pow`), so its sign and its bound by the rain need the law;
the sum `Runoff + Infl = P` does not (`rain_partition_sum`).  The law enters explicitly (`hF`), or
as the field `sq` of `DayPre` / `CfgSurfOK`, or through `CfgOK.fn.powSq`.

The property's own bound "effective curve number ≤ 100" appears as the premise
`ScsRuns fm → 0 < out.cn ∧ out.cn ≤ 100`, where `out.cn` is the ghost "curve number the SCS
split used" (after the percentage and antecedent-moisture adjustments) and
`ScsRuns fm := sr_inhb = False ∧ (bunds = False ∨ z_bund < 0.001)` is the guard of the SCS branch.
`irrApplied W D out := if growing season then out.irr · (AppEff/100) else 0`.
`DayPre` (see `Properties/C01.lean`) supplies the invariant on the incoming profile that the upper
bound on runoff needs (`th ≤ th_s`, and `FluxOut ≤ Ksat` after drainage, which is proved).
Here: the theorems about each process and about one day (`waterDay`); the theorems along a run
are in `Properties/C02Run.lean`.
-/

set_option linter.unusedSectionVars false
namespace Aqua.C02
open Aqua
variable {α : Type} [Field α] [LinearOrder α] [IsStrictOrderedRing α]

/-! ### the processes -/

/-- SCS split: for a curve number in `(0, 100]` and non-negative rain, runoff lies between 0 and
the rain, and runoff + infiltration = rain. -/
theorem scs_runoff_within_rain {F : Fn α} (hF : PowSqLaw F) (p cn : α) (hp : 0 ≤ p) (hcn : 0 < cn)
    (hcn' : cn ≤ 100) :
    0 ≤ (scsSplit F p cn).1 ∧ (scsSplit F p cn).1 ≤ p ∧
      (scsSplit F p cn).1 + (scsSplit F p cn).2 = p :=
  ⟨(scsSplit_bounds hF p cn hp hcn hcn').1, (scsSplit_bounds hF p cn hp hcn hcn').2,
    scsSplit_sum F p cn⟩

/-- `rainfall_partition` returns `Runoff + Infl = P` in both of its branches — no premise. -/
theorem rain_partition_sum {F : Fn α} {p : α} {cells : List (Cell α)} {daySub : Nat}
    {srInhb bunds : Bool} {zBund pct soilCN zCN : α} {adjCN : Bool} {r : RainOut α}
    (h : rainPartition F p cells daySub srInhb bunds zBund pct soilCN adjCN zCN = some r) :
    r.runoff + r.infl = p :=
  rainPartition_sum h

/-- … and with non-negative rain and (where the split runs) an effective curve number in
`(0,100]`, both parts lie between 0 and the rain. -/
theorem rain_partition_bounds {F : Fn α} (hF : PowSqLaw F) {p : α} {cells : List (Cell α)} {daySub : Nat}
    {srInhb bunds : Bool} {zBund pct soilCN zCN : α} {adjCN : Bool} {r : RainOut α}
    (h : rainPartition F p cells daySub srInhb bunds zBund pct soilCN adjCN zCN = some r)
    (hp : 0 ≤ p)
    (hcn : (srInhb = false ∧ (bunds = false ∨ zBund < 0.001)) → 0 < r.cn ∧ r.cn ≤ 100) :
    0 ≤ r.runoff ∧ r.runoff ≤ p ∧ 0 ≤ r.infl ∧ r.infl ≤ p :=
  rainPartition_bounds hF h hp hcn

section infiltration
variable {F : Fn α} {cells : List (Cell α)} {pond infl irr appEff zBund dp0 ro0 : α}
  {bunds gs : Bool} {out : InfOut α}

/-- Infiltration: reported infiltration + the runoff this process adds = the day's intake
`max(Infl,0) + Irr·AppEff/100` (irrigation term only in season). -/
theorem partition_sum
    (h : infiltration F cells pond infl irr appEff bunds zBund dp0 ro0 gs = .ok out) :
    out.infl + (out.runoffTot - ro0) = pmax infl 0 + (if gs then irr * (appEff / 100) else 0) := by
  obtain ⟨I, s, R, B, H⟩ := infiltration_ok h
  rw [← infIntake_eq, H.intake, H.runoffTot_eq, H.infl_eq]
  ring

/-- The runoff added by infiltration is never negative (premises: non-negative incoming ponding,
`Ksat ≥ 0`). -/
theorem runoff_nonneg
    (h : infiltration F cells pond infl irr appEff bunds zBund dp0 ro0 gs = .ok out)
    (hp : 0 ≤ pond) (hk : ∀ c ∈ cells, 0 ≤ c.c.ksat) : 0 ≤ out.runoffTot - ro0 := by
  obtain ⟨I, s, R, B, H⟩ := infiltration_ok h
  obtain ⟨-, -, hri, -⟩ := (infSurface_facts H.surf).2 H.intake_nn hp (head_ksat_nonneg hk)
  have hro := (infRun_facts F cells s.toStore R H.run).2.1
  have hb := H.bund ▸ (bundRestore_bounds s.pond s.runoffIni (R.2.2 + s.runoffIni) zBund bunds
    (le_add_of_nonneg_left hro)).2.2.1
  rw [H.runoffTot_eq, add_sub_cancel_right]
  exact hri.trans hb

/-- … and never exceeds the day's intake plus the water already ponded (premises: cells within
limits, `FluxOut ≤ Ksat` on entry, non-negative ponding). -/
theorem runoff_le_supply
    (h : infiltration F cells pond infl irr appEff bunds zBund dp0 ro0 gs = .ok out)
    (hinv : ∀ c ∈ cells, c.Inv) (hfl : ∀ c ∈ cells, c.flux ≤ c.c.ksat) (hp : 0 ≤ pond) :
    out.runoffTot - ro0 ≤ out.inflIn + pond := by
  linarith only [(infiltration_inv h hinv hp).2.1, infiltration_surface_le h hinv hfl hp]

/-- Reported infiltration is negative only when the no-bunds block runs (no bunds, or bunds not
higher than 0.001 mm) with water ponded on entry — and then by no more than that water (premises:
cells within limits, `FluxOut ≤ Ksat` on entry, ponding ≥ 0, with higher bunds ponding ≤ `z_bund`). -/
theorem negative_infiltration_only_on_bund_removal
    (h : infiltration F cells pond infl irr appEff bunds zBund dp0 ro0 gs = .ok out)
    (hinv : ∀ c ∈ cells, c.Inv) (hfl : ∀ c ∈ cells, c.flux ≤ c.c.ksat) (hp : 0 ≤ pond)
    (hpz : bunds = true → 0.001 < zBund → pond ≤ zBund) (hneg : out.infl < 0) :
    (bunds = false ∨ zBund ≤ 0.001) ∧ 0 < pond ∧ -out.infl ≤ pond := by
  obtain ⟨I, s, R, B, H⟩ := infiltration_ok h
  have hk : ∀ c ∈ cells, 0 ≤ c.c.ksat := fun c hc => (hinv c hc).wf.ksat_nn
  obtain ⟨-, -, -, hsp, hbt, -⟩ := (infSurface_facts H.surf).2 H.intake_nn hp (head_ksat_nonneg hk)
  have hro := (infRun_facts F cells s.toStore R H.run).2.1
  obtain ⟨b1, b2, b3, -, b5, b6, -⟩ := H.bund ▸ bundRestore_bounds s.pond s.runoffIni
    (R.2.2 + s.runoffIni) zBund bunds (le_add_of_nonneg_left hro)
  have hsl := infiltration_surface_le h hinv hfl hp
  rw [H.pond_eq, H.runoffTot_eq, H.inflIn_eq, add_sub_cancel_right] at hsl
  rw [H.infl_eq] at hneg ⊢
  have hub : B.2 ≤ I + pond := by linarith only [hsl, b1 hsp]
  refine ⟨?_, by linarith only [hneg, hub], by linarith only [hub]⟩
  -- with bunds higher than 0.001 mm the pond ends full as soon as there is any runoff: then `B.2 ≤ I`
  by_contra hcon
  obtain ⟨hb, hz⟩ := not_not.mp (mt (not_highBund_iff bunds zBund).1 hcon)
  obtain ⟨hle, hfull⟩ := hbt hb hz
  have hle := hle (hpz hb hz)
  have h1 : B.1 = zBund := by
    by_cases hlt : s.runoffIni < B.2
    · exact b6 hb hz hlt
    · have hfull := hfull (by linarith only [not_lt.mp hlt, hneg, H.intake_nn, b3])
      exact le_antisymm (b5 hle) (by linarith only [b2 hle, hfull])
  linarith only [hpz hb hz, h1, hneg, hsl]

/-- No intake and nothing ponded: infiltration and added runoff are zero and nothing changes. -/
theorem dry_day
    (h : infiltration F cells pond infl irr appEff bunds zBund dp0 ro0 gs = .ok out)
    (hk : ∀ c ∈ cells, 0 ≤ c.c.ksat)
    (hI0 : pmax infl 0 + (if gs then irr * (appEff / 100) else 0) = 0) (hp0 : pond = 0) :
    out.infl = 0 ∧ out.runoffTot = ro0 ∧ out.cells = cells ∧ out.pond = 0 ∧ out.deepPerc = dp0 := by
  obtain ⟨I, s, R, B, H⟩ := infiltration_ok h
  rw [← infIntake_eq, H.intake] at hI0
  obtain ⟨-, -, -, -, -, -, hz⟩ :=
    (infSurface_facts H.surf).2 H.intake_nn (le_of_eq hp0.symm) (head_ksat_nonneg hk)
  obtain ⟨hT, hri, hsp⟩ := hz hI0 hp0
  have hR : R = (cells, 0, 0) := by rw [← H.run, hT, infRun_of_not_pos F cells 0 (lt_irrefl _)]
  have hB : B = (0, 0) := by rw [← H.bund, hri, hsp, hR]; simp [bundRestore]
  rw [H.cells_eq, H.pond_eq, H.deepPerc_eq, H.runoffTot_eq, H.infl_eq, hB, hR, hI0]
  simp

end infiltration

/-! ### the whole day -/

variable {F : Fn α} {W : WaterParams α} {fm : FieldMngt α} {C : CropDay α}
  {cells : List (Cell α)} {S : DayState α} {D : DayIn α} {out : DayOut α}

/-- **Rainfall plus the efficiency-adjusted irrigation application equals reported infiltration
plus reported runoff** — for non-negative rain and an effective curve number in `(0,100]` (needed
so that the infiltration part of the SCS split is not negative, which `infiltration` would clamp). -/
theorem day_partition (hF : PowSqLaw F) (h : waterDay F W fm C cells S D = .ok out)
    (hrain : 0 ≤ D.rain)
    (hcn : ScsRuns fm → 0 < out.cn ∧ out.cn ≤ 100) :
    out.infl + out.runoff = D.rain + irrApplied W D out := by
  obtain ⟨T, hs, rfl⟩ := waterDay_ok h
  obtain ⟨r1, r2, r3, r4⟩ := daySteps_rain hF hs hrain hcn
  have hp := partition_sum hs.hf
  rw [r4] at hp
  simp only [dayOutOf, irrApplied]
  linear_combination hp + r1

/-- Reported runoff is never negative and never exceeds the day's rain and applied irrigation
plus the water ponded at the start of the day (premises: `DayPre`, non-negative rain, curve
number in `(0,100]`). -/
theorem day_runoff_bounds (h : waterDay F W fm C cells S D = .ok out) (hP : DayPre F W cells S)
    (hrain : 0 ≤ D.rain) (hcn : ScsRuns fm → 0 < out.cn ∧ out.cn ≤ 100) :
    0 ≤ out.runoff ∧ out.runoff ≤ D.rain + irrApplied W D out + S.pond := by
  obtain ⟨T, hs, rfl⟩ := waterDay_ok h
  obtain ⟨r1, r2, r3, r4⟩ := daySteps_rain hP.sq hs hrain hcn
  have hm := day_mid hs hP
  have h1 := runoff_nonneg hs.hf hP.pond (fun c hc => (hm.d_inv c hc).wf.ksat_nn)
  have h2 := runoff_le_supply hs.hf hm.d_inv hm.d_flux hP.pond
  have h3 := (infiltration_inflIn hs.hf).1
  rw [r4] at h3
  have hle : T.f.runoffTot ≤ T.r.runoff + (T.f.inflIn + S.pond) := sub_le_iff_le_add'.1 h2
  rw [h3, ← add_assoc, ← add_assoc, r1] at hle
  exact ⟨le_trans r2 (sub_nonneg.1 h1), hle⟩

/-- Reported infiltration is negative only on a day without effective bunds that starts with
ponded water, and then by no more than that ponded water (premises: `DayPre`; with bunds the
incoming ponding is not above the bund height). -/
theorem day_negative_infiltration_only_on_bund_removal
    (h : waterDay F W fm C cells S D = .ok out) (hP : DayPre F W cells S)
    (hpz : fm.bunds = true → 0.001 < fm.zBund → S.pond ≤ fm.zBund) (hneg : out.infl < 0) :
    (fm.bunds = false ∨ fm.zBund ≤ 0.001) ∧ 0 < S.pond ∧ -out.infl ≤ S.pond := by
  obtain ⟨T, hs, rfl⟩ := waterDay_ok h
  have hm := day_mid hs hP
  exact negative_infiltration_only_on_bund_removal hs.hf hm.d_inv hm.d_flux hP.pond hpz hneg

/-- With no rain, no irrigation and nothing ponded, infiltration and runoff are both zero
(premises: positive thicknesses, `Ksat ≥ 0`, curve number in `(0,100]`). -/
theorem day_dry (h : waterDay F W fm C cells S D = .ok out)
    (hdz : ∀ x ∈ cells, 0 < x.c.dz) (hk : ∀ x ∈ cells, 0 ≤ x.c.ksat)
    (hcn : ScsRuns fm → 0 < out.cn ∧ out.cn ≤ 100)
    (hrain : D.rain = 0) (hirr : out.irr = 0) (hpond : S.pond = 0) :
    out.infl = 0 ∧ out.runoff = 0 := by
  obtain ⟨T, hs, rfl⟩ := waterDay_ok h
  -- no rain: the bypass returns `(0, P)`, the SCS split takes its `term ≤ 0` branch (no `pow`)
  have hr : T.r.runoff = 0 ∧ T.r.infl = 0 := by
    rcases rainPartition_cases hs.hr with ⟨_, h1, h2, _, _⟩ | ⟨hb, h1, h2, _⟩
    · exact ⟨h1, by rw [h2, hrain]⟩
    · have hc : 0 < T.r.cn ∧ T.r.cn ≤ 100 := hcn hb
      rw [h1, h2, hrain, scsSplit_zero F hc.1 hc.2]; exact ⟨rfl, rfl⟩
  have hkd := forall_of_map_eq (·.c) (day_comps hs).d (fun c => 0 ≤ c.ksat) hk
  have hirr' : T.i.irr = 0 := hirr
  have := dry_day hs.hf hkd (by rw [hr.2, hirr']; simp [pmax]) hpond
  exact ⟨this.1, this.2.1.trans hr.1⟩

/-! ### non-vacuity -/

/-- the concrete day of `Proofs/WaterDay.lean`: rain 20 mm at curve number 72 and 10 mm of
irrigation at 90 % efficiency are split into positive runoff and positive infiltration that add
up to 29 mm -/
example : ∃ out, waterDay DayExample.Fq DayExample.Wq DayExample.fmq DayExample.Cq
      DayExample.cellsq DayExample.Sq DayExample.Dq = .ok out ∧ 0 < out.runoff ∧ 0 < out.infl ∧
    out.infl + out.runoff = 29 := by
  obtain ⟨out, h, _, _, hinfl, hro, _, _, hirr, hcn, _⟩ := DayExample.runs
  refine ⟨out, h, hro, hinfl, ?_⟩
  have := day_partition DayExample.Fq_sq h (by norm_num [DayExample.Dq]) (fun _ => by rw [hcn]; norm_num)
  rw [this]
  simp only [irrApplied, hirr, DayExample.Dq, DayExample.Wq]
  norm_num

end Aqua.C02
