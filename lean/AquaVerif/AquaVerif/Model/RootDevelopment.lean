import AquaVerif.Model.Profile
/-
Model of `aquacrop/solution/root_development.py` (the restrictive-layer limitation is applied to
yesterday's *and* to today's potential depth, `for ZrIn in (ZrOld, Zr)`).

Python partiality that is modelled (`Except.error`):
* `E:unbound`  – `CalendarType ∉ {1,2}` leaves `tAdj` unassigned;
* `E:index`    – `np.argwhere(prof.dzsum >= ZiTmp)[0]` when the new root tip lies below the
                 profile; `l_idx[0]` when a layer number `1..nLayer` has no compartment;
* `E:zerodiv`  – Python-float divisions: `1 / Crop.fshape_r` (only evaluated on the curved part of
                 the potential-depth curve) and, in the `rCor` update, `ZrPot / Zroot`, `… / SxBot`
                 when `ZrPot` is a Python float (i.e. did not come out of `np.power`; numpy scalars
                 divide to `inf`/`nan` like `Float`).
-/

namespace Aqua
section
variable {α : Type} [Add α] [Sub α] [Mul α] [Div α] [Neg α] [LT α] [LE α]
  [DecidableLT α] [DecidableLE α] [OfScientific α] [OfNat α 0] [OfNat α 1] [OfNat α 2]
  [OfNat α 100]

/-! ### `ndarray.sum()` (numpy's pairwise summation, bit-exact) -/

/-- `for x in xs: res += x` -/
def sumFrom (acc : α) : List α → α
  | [] => acc
  | x :: xs => sumFrom (acc + x) xs

/-- the eight running lanes of numpy's unrolled loop: `r[j] += a[i+j]` for every complete
block of eight (`fuel` ≥ number of blocks). -/
def lanes8 : Nat → List α → List α → List α
  | 0, r, _ => r
  | fuel+1, r, xs =>
    if xs.length < 8 then r else lanes8 fuel (List.zipWith (· + ·) r (xs.take 8)) (xs.drop 8)

/-- `pairwise_sum` for `n ≤ 128` -/
def npSumBlock (a : List α) : α :=
  if a.length < 8 then sumFrom 0 a
  else
    let m := a.length - a.length % 8
    match lanes8 a.length (a.take 8) ((a.take m).drop 8) with
    | [r0, r1, r2, r3, r4, r5, r6, r7] =>
      sumFrom (((r0 + r1) + (r2 + r3)) + ((r4 + r5) + (r6 + r7))) (a.drop m)
    | _ => 0     -- unreachable (eight lanes)

/-- `pairwise_sum`: blocks of at most 128 elements, larger arrays split in halves (multiple of 8) -/
def npSumAux : Nat → List α → α
  | 0, a => npSumBlock a
  | fuel+1, a =>
    if a.length ≤ 128 then npSumBlock a
    else
      let n2 := a.length / 2
      let n2 := n2 - n2 % 8
      npSumAux fuel (a.take n2) + npSumAux fuel (a.drop n2)

/-- `arr.sum()` of a contiguous float64 array: `0 + pairwise_sum(arr)` -/
def npSum (a : List α) : α := 0 + npSumAux a.length a

/-! ### soil layers -/

/-- one soil layer as the limitation loop sees it: `prof.dz[l_idx].sum()` and
`prof.Penetrability[l_idx[0]]` (`none` when `l_idx` is empty) -/
abbrev Lay (α : Type) := α × Option α

/-- layer number `i`: the compartments with `prof.Layer == i` -/
def layerOf (i : Nat) (cells : List (Cell α)) : Lay α :=
  let sel := cells.filter (fun x => x.c.layer == i)
  (npSum (sel.map (·.c.dz)), sel.head?.map (·.c.pen))

/-- `Soil_nLayer = np.unique(prof.Layer).shape[0]` -/
def nLayers (cells : List (Cell α)) : Nat := (cells.map (·.c.layer)).eraseDups.length

/-- layers `1 … Soil_nLayer` -/
def layersOf (cells : List (Cell α)) : List (Lay α) :=
  (List.range (nLayers cells)).map (fun k => layerOf (k + 1) cells)

/-! ### limitation of a potential depth by restrictive layers -/

/-- `while (round(Zsoil, 2) <= Zmin) and (layeri < Soil_nLayer)`: returns the current layer,
the layers below it and `Zsoil`. -/
def limSkip (F : Fn α) (zmin : α) : Lay α → List (Lay α) → α → Lay α × List (Lay α) × α
  | cur, [], zs => (cur, [], zs)
  | cur, nxt :: rest, zs =>
    if F.round2 zs ≤ zmin then limSkip F zmin nxt rest (zs + nxt.1) else (cur, nxt :: rest, zs)

/-- `while EndProf == False` — `pen` is the penetrability of the current layer, `rest` the layers
below it (`rest = []` ⇔ `layeri == Soil_nLayer`). -/
def limLoop : α → List (Lay α) → α → α → α → α → Except String α
  | pen, [], zAdj, zRemain, _, _ => .ok (zAdj + (zRemain * (pen / 100)))
  | pen, nxt :: rest, zAdj, zRemain, zSoil, deltaZ =>
    let zTest := zAdj + (zRemain * (pen / 100))
    if (pen ≤ 0 ∧ 0 ≤ pen) ∨ zTest ≤ zSoil then .ok zTest
    else
      match nxt.2 with
      | none => .error "E:index"
      | some p' => limLoop p' rest zSoil (zRemain - (deltaZ / (pen / 100))) (zSoil + nxt.1) nxt.1

/-- body of `for ZrIn in (ZrOld, Zr)`: `ZrIn ↦ ZrOUT` -/
def limit (F : Fn α) (layers : List (Lay α)) (zmin zIn : α) : Except String α :=
  match layers with
  | [] => .error "E:index"
  | l0 :: rest =>
    match limSkip F zmin l0 rest l0.1 with
    | (cur, rest', zs) =>
      match cur.2 with
      | none => .error "E:index"
      | some p => limLoop p rest' zmin (zIn - zmin) zs (zs - zmin)

/-! ### potential rooting depth -/

structure RdCrop (α : Type) where
  calendarType : Nat      -- 1, 2; anything else: 0
  zmin : α
  zmax : α
  pctZmin : α
  emergence : α
  maxRooting : α
  fshapeR : α
  fshapeEx : α
  pUp1 : α                -- p_up[1]
  fshapeW1 : α            -- fshape_w[1]
  sxTop : α
  sxBot : α

def RdCrop.zini (C : RdCrop α) : α := C.zmin * (C.pctZmin / 100)
def RdCrop.t0 (F : Fn α) (C : RdCrop α) : α := F.round0 (C.emergence / 2)

/-- `t` falls on the curved part of the potential-depth curve -/
def RdCrop.mid (F : Fn α) (C : RdCrop α) (t : α) : Bool :=
  if C.maxRooting ≤ t then false else if t ≤ C.t0 F then false else true

/-- potential depth before the `Zmin` floor -/
def RdCrop.zrRaw (F : Fn α) (C : RdCrop α) (t : α) : α :=
  if C.maxRooting ≤ t then C.zmax
  else if t ≤ C.t0 F then C.zini
  else
    let x := (t - C.t0 F) / (C.maxRooting - C.t0 F)
    C.zini + ((C.zmax - C.zini) * F.pow x (1 / C.fshapeR))

/-- potential depth at (adjusted) time `t` -/
def RdCrop.zrPot (F : Fn α) (C : RdCrop α) (t : α) : α :=
  let z := C.zrRaw F t
  if z < C.zmin then C.zmin else z

/-- the potential depth is a numpy scalar (came out of `np.power` and was not floored) -/
def RdCrop.zrIsNp (F : Fn α) (C : RdCrop α) (t : α) : Bool :=
  C.mid F t && !(decide (C.zrRaw F t < C.zmin))

/-- the compartment `np.argwhere(prof.dzsum >= z).flatten()[0]` -/
def firstGECell (z : α) : List (Cell α) → Option (Cell α)
  | [] => none
  | x :: xs => if z ≤ x.c.dzsum then some x else firstGECell z xs

structure RdOut (α : Type) where
  zRoot : α
  rCor : α
  -- ghost outputs
  dZr : α        -- final expansion of the day
  dZr0 : α       -- expansion before the stress reductions
  zrPot : α      -- today's potential depth (before the layer limitation)
  zInit : α      -- `Zroot_init` after the day-1 reset
  br : Nat       -- branch bits, see `rootDevelopment`

/-- rate reduction for stomatal stress -/
def rdStomatal (F : Fn α) (C : RdCrop α) (trRatio dZr : α) : α :=
  if trRatio < 0.9999 then
    if 0 ≤ C.fshapeEx then dZr * trRatio
    else dZr * ((F.exp (trRatio * C.fshapeEx) - 1) / (F.exp C.fshapeEx - 1))
  else dZr

/-- the expansion after the dry-soil check in compartment `x` (the one the new root tip falls in),
with the branch bits 16 (fully inhibited) / 32 (partially inhibited) -/
def rdDryCell (F : Fn α) (C : RdCrop α) (x : Cell α) (dZr : α) : α × Nat :=
  let pZexp := C.pUp1 + ((1 - C.pUp1) / 2)
  let taw := x.c.thFC - x.c.thWP
  let thThr := x.c.thFC - (pZexp * taw)
  if x.th < thThr then
    if x.th ≤ x.c.thWP then (0, 16)
    else
      let wrel := (x.c.thFC - x.th) / taw
      let drel := 1 - ((1 - wrel) / (1 - pZexp))
      let ks := 1 - ((F.exp (drel * C.fshapeW1) - 1) / (F.exp C.fshapeW1 - 1))
      (dZr * ks, 32)
  else (dZr, 0)

/-- rate reduction for a dry expansion front -/
def rdDry (F : Fn α) (C : RdCrop α) (cells : List (Cell α)) (zInit dZr : α) :
    Except String (α × Nat) :=
  if 0.001 < dZr then
    match firstGECell (zInit + dZr) cells with
    | none => .error "E:index"
    | some x => let r := rdDryCell F C x dZr; .ok (r.1, 8 + r.2)
  else .ok (dZr, 0)

/-- `rCor` update (`isNp`: `ZrPot` is a numpy scalar) -/
def rdRCor (C : RdCrop α) (isNp : Bool) (zNew zrPot trRatio tPot : α) : Except String (α × Nat) :=
  if zNew < zrPot then
    if !isNp ∧ ((zNew ≤ 0 ∧ 0 ≤ zNew) ∨ (C.sxBot ≤ 0 ∧ 0 ≤ C.sxBot)) then .error "E:zerodiv"
    else
      let r := ((2 * (zrPot / zNew) * ((C.sxTop + C.sxBot) / 2)) - C.sxTop) / C.sxBot
      if 0 < tPot then
        let r2 := r * trRatio
        .ok (if r2 < 1 then 1 else r2, 256)
      else .ok (r, 256)
  else .ok (1, 0)

/-- water-table cap -/
def rdGwCap (C : RdCrop α) (waterTable : Nat) (zGW zNew : α) : α × Nat :=
  if waterTable = 1 ∧ 0 < zGW then
    if zGW < zNew then
      if zGW < C.zmin then (C.zmin, 512 + 1024) else (zGW, 512)
    else (zNew, 0)
  else (zNew, 0)

/-- expansion of the day before the stress reductions, from the two potential depths -/
def rdDZr0 (F : Fn α) (C : RdCrop α) (layers : List (Lay α)) (zrOld zr : α) :
    Except String (α × Nat) :=
  if C.zmin < zr then
    match limit F layers C.zmin zrOld with
    | .error e => .error e
    | .ok a =>
      match limit F layers C.zmin zr with
      | .error e => .error e
      | .ok b => .ok (b - a, if b < zr then 1 + 2048 else 1)
  else .ok (zr - zrOld, 0)

/-- the in-season part once `tAdj`, `tOld` are known -/
def rdSeason (F : Fn α) (C : RdCrop α) (cells : List (Cell α)) (tAdj tOld zInit trRatio cc ccNS : α)
    (germ : Bool) (tPot zGW : α) (waterTable : Nat) : Except String (RdOut α) :=
  if (C.fshapeR ≤ 0 ∧ 0 ≤ C.fshapeR) ∧ (C.mid F tOld ∨ C.mid F tAdj) then .error "E:zerodiv" else
  let zrOld := C.zrPot F tOld
  let zr := C.zrPot F tAdj
  match rdDZr0 F C (layersOf cells) zrOld zr with
  | .error e => .error e
  | .ok (dZr0, b0) =>
    let dZr1 := rdStomatal F C trRatio dZr0
    let b1 : Nat := if trRatio < 0.9999 then (if 0 ≤ C.fshapeEx then 2 else 4) else 0
    match rdDry F C cells zInit dZr1 with
    | .error e => .error e
    | .ok (dZr2, b2) =>
      let sen : Bool := decide (cc ≤ 0 ∧ 0.5 < ccNS)
      let dZr3 := if sen then 0 else dZr2
      let dZr4 := if germ then dZr3 else 0
      let zNew := zInit + dZr4
      match rdRCor C (C.zrIsNp F tAdj) zNew zr trRatio tPot with
      | .error e => .error e
      | .ok (rc, b3) =>
        let g := rdGwCap C waterTable zGW zNew
        .ok { zRoot := g.1, rCor := rc, dZr := dZr4, dZr0 := dZr0, zrPot := zr, zInit := zInit,
              br := b0 + b1 + b2 + (if sen then 64 else 0) + (if germ then 0 else 128) + b3 + g.2 }

/-- `root_development`.  Branch bits of the ghost `br`: 1 layer limitation evaluated, 2 linear /
4 exponential stomatal reduction, 8 dry-front check, 16 expansion fully / 32 partially inhibited,
64 canopy-death stop, 128 not germinated, 256 `rCor` recomputed, 512 water-table cap,
1024 cap floored at `Zmin`, 2048 today's limited depth is below the potential depth. -/
def rootDevelopment (F : Fn α) (C : RdCrop α) (cells : List (Cell α))
    (dap zRoot delayedCDs gddCum delayedGDDs trRatio cc ccNS : α) (germ : Bool)
    (rCor tPot zGW gdd : α) (gs : Bool) (waterTable : Nat) : Except String (RdOut α) :=
  if gs then
    let zInit := if dap ≤ 1 ∧ 1 ≤ dap then C.zmin else zRoot
    if C.calendarType = 1 then
      let tAdj := dap - delayedCDs
      rdSeason F C cells tAdj (tAdj - 1) zInit trRatio cc ccNS germ tPot zGW waterTable
    else if C.calendarType = 2 then
      let tAdj := gddCum - delayedGDDs
      rdSeason F C cells tAdj (tAdj - gdd) zInit trRatio cc ccNS germ tPot zGW waterTable
    else .error "E:unbound"
  else
    .ok { zRoot := 0, rCor := rCor, dZr := 0, dZr0 := 0, zrPot := 0, zInit := zRoot, br := 0 }

end
end Aqua
