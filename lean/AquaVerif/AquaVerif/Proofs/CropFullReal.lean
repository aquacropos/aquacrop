import AquaVerif.Proofs.CropFull
import AquaVerif.Proofs.RealInstance
import AquaVerif.Proofs.RootDevelopmentReal
import AquaVerif.Proofs.HarvestIndexReal
/-
The catalogue bridge of `Proofs/CropFull.lean` over the reals: the extra law `ExpGeomLaw`
(`exp x · (1 − x) ≤ 1` on `[0,1)`) holds for the real exponential, and the ordering premise
`HiPre.ord` of the water-stress thresholds *as used* (which involves `log10` when `ETadj = 1`)
follows from the raw catalogue premises for `ET0 ≥ 0` (`wsOrdered_real`).  Hence, at `ℝ` with the
real `exp`/`log`/`pow`, the canopy premise `CcCropPre` holds for every catalogue crop with no law
hypothesis left, and `HiPre` needs only the derived calendar values and `ET0 ≥ 0`.
-/

set_option linter.unusedSectionVars false
namespace Aqua
open Aqua.Response Aqua.Generated Aqua.HarvestIndexReal

theorem expGeomLaw_real : ExpGeomLaw realFn := by
  refine ⟨fun x _ _ => ?_⟩
  show Real.exp x * (1 - x) ≤ 1
  have h1 : 1 - x ≤ Real.exp (-x) := by
    have := Real.add_one_le_exp (-x)
    linarith
  have h2 : Real.exp x * Real.exp (-x) = 1 := by rw [← Real.exp_add]; simp
  calc Real.exp x * (1 - x) ≤ Real.exp x * Real.exp (-x) :=
        mul_le_mul_of_nonneg_left h1 (Real.exp_pos x).le
    _ = 1 := h2

variable {c : CropFull} {K : CropDerived ℝ}

theorem catalogue_ccCropPre_real : ∀ c ∈ cropFullTable, ∀ (K : CropDerived ℝ) (P : DayParams ℝ),
    P.cx = c.cropX K → CcCropPre realFn P :=
  fun c hc _ _ hP => ccCropPre_of_ok hP (catalogue_ok c hc) expOrdLaws_real expGeomLaw_real

theorem hiPre_ord_real (h : CropFullOK c) {et0 : ℝ} (het : 0 ≤ et0) :
    ∀ tes i, wsUp realFn (c.hikCrop (α := ℝ)).pUp (c.hikCrop (α := ℝ)).etAdj
        (c.hikCrop (α := ℝ)).beta tes et0 true i ≤
      wsLo realFn (c.hikCrop (α := ℝ)).pLo (c.hikCrop (α := ℝ)).etAdj et0 i := by
  obtain ⟨s1, s2, _, _, s5, s6⟩ := (h.stress.cast (α := ℝ))
  intro tes
  exact wsOrdered_real _ _ _ _ tes et0 true s1 s2 het s5 s6

theorem hiPre_real {P : DayParams ℝ} {D : DayIn' ℝ}
    (hP : P.cx = c.cropX K) (h : CropFullOK c) (hl : CropFull.LeafyOK c)
    (hgc : 0 ≤ K.hiGC) (hlin : 0 ≤ K.dHILinear) (h1 : K.hiStartCD ≤ K.canopyDevEndCD)
    (h2 : 0 ≤ K.yldFormCD) (het : 0 ≤ D.et0) : HiPre realFn realTrig P D :=
  hiPre_of_ok hP h hl expOrdLaws_real sinLaw_real powNonneg_real hgc hlin h1 h2 (hiPre_ord_real h het)

theorem rootPre_real {P : DayParams ℝ} {cells : List (Cell ℝ)} (hP : P.cx = c.cropX K)
    (h : CropFullOK c)
    (hcells : ∀ x ∈ cells, 0 < x.c.dz ∧ 0 ≤ x.c.pen ∧ x.c.pen ≤ 100 ∧ x.c.thWP < x.c.thFC) :
    RootPre realFn P cells :=
  rootPre_of_ok hP h powLaws_real expOrdLaws_real (skipOK_real _) hcells

section AxiomAudit
#print axioms expGeomLaw_real
#print axioms catalogue_ccCropPre_real
#print axioms hiPre_ord_real
#print axioms hiPre_real
#print axioms rootPre_real
end AxiomAudit

end Aqua
