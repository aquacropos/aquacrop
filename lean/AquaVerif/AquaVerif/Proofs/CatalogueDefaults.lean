import AquaVerif.Generated.RunDefaults
import AquaVerif.Proofs.CatalogueCfg

/-
**The parameter ranges of `CatCfg` hold for the repository's program defaults.**

`Generated/RunDefaults.lean` (`runDefaults`, regenerated from `/repo` by
`harness/translate/rundefaults.py` on every run) holds the keyword defaults of `Soil`, `FieldMngt`,
`IrrigationManagement`, `CO2` and the range of the bundled Mauna Loa CO2 series as exact
rationals.  `runDefaults_ok` (kernel evaluation) checks the ranges the closed run theorems need;
`cfgRanges_of_defaults` turns "the configuration uses the defaults" (`UsesDefaults`: equalities with
the generated values, CO2 concentrations within the bundled series) into `CfgRanges`.
-/

set_option linter.unusedSectionVars false
namespace Aqua
open Aqua.Generated

/-- **what the closed run theorems ask of the program defaults**
1. `0 ≤ Kex`                              — `CfgEsOK.kex`
2. `0 ≤ fwcc ≤ 100`                       — `CfgEsOK.fwcc0/fwcc1`
3. `f_mulch · mulch_pct/100 ≤ 1`          — `CfgEsOK.mulch`
4. `0 ≤ WetSurf`                          — `CfgEsOK.wet`
5. `0 ≤ NetIrrSMT ≤ 100`                  — `CfgOK.smt`
6. `0 ≤ bund_water`                       — `CfgOK.bundWater`
7. `CO2ref = 369.41` (the value the CO2 premises `CropFull.CO2OK` are checked for), `< 550`
8. the bundled CO2 series lies within `[0, ref + 20·(550 − ref)]` — `CfgTrOK.co2` -/
def RunDefaultsOK (d : RunDefaults) : Prop :=
  0 ≤ d.kex ∧ 0 ≤ d.fwcc ∧ d.fwcc ≤ 100 ∧ d.fMulch * (d.mulchPct / 100) ≤ 1 ∧ 0 ≤ d.wetSurf ∧
  0 ≤ d.netIrrSMT ∧ d.netIrrSMT ≤ 100 ∧ 0 ≤ d.bundWater ∧ d.co2Ref = co2RefDefault ∧
  d.co2Ref < 550 ∧ 0 ≤ d.co2DataMin ∧ d.co2DataMax ≤ d.co2Ref + 20 * (550 - d.co2Ref)

instance (d : RunDefaults) : Decidable (RunDefaultsOK d) := by unfold RunDefaultsOK; infer_instance

theorem runDefaults_ok : RunDefaultsOK runDefaults := by decide +kernel

/-- the configuration uses the program defaults for the parameters the ranges are about, and CO2
concentrations of the bundled series -/
structure UsesDefaults (cfg : RunCfg ℝ) : Prop where
  kex : cfg.W0.soil.kex = (runDefaults.kex : ℝ)
  fwcc : cfg.W0.soil.fwcc = (runDefaults.fwcc : ℝ)
  fMulch : cfg.fm.fMulch = (runDefaults.fMulch : ℝ)
  mulchPct : cfg.fm.mulchPct = (runDefaults.mulchPct : ℝ)
  fMulchF : cfg.fallowFm.fMulch = (runDefaults.fMulch : ℝ)
  mulchPctF : cfg.fallowFm.mulchPct = (runDefaults.mulchPct : ℝ)
  wetSurf : cfg.irr.wetSurf = (runDefaults.wetSurf : ℝ)
  wetSurfF : cfg.fallowIrr.wetSurf = (runDefaults.wetSurf : ℝ)
  netIrrSMT : cfg.irr.netIrrSMT = (runDefaults.netIrrSMT : ℝ)
  netIrrSMTF : cfg.fallowIrr.netIrrSMT = (runDefaults.netIrrSMT : ℝ)
  bundWater : cfg.bundWater = (runDefaults.bundWater : ℝ)
  co2Ref : cfg.W0.co2Ref = (runDefaults.co2Ref : ℝ)
  co2Cur : ∀ season : Int, cfg.co2Cur season ≤ (runDefaults.co2DataMax : ℝ)

theorem cfgRanges_of_defaults {cfg : RunCfg ℝ} (h : UsesDefaults cfg) : CfgRanges cfg := by
  obtain ⟨d1, d2, d3, d4, d5, d6, d7, d8, _, d10, _, d12⟩ := runDefaults_ok
  have c4 : (runDefaults.fMulch : ℝ) * ((runDefaults.mulchPct : ℝ) / 100) ≤ 1 := by
    exact_mod_cast d4
  have c5 : (0 : ℝ) ≤ (runDefaults.wetSurf : ℝ) := by exact_mod_cast d5
  have c67 : (0 : ℝ) ≤ (runDefaults.netIrrSMT : ℝ) ∧ (runDefaults.netIrrSMT : ℝ) ≤ 100 :=
    ⟨by exact_mod_cast d6, by exact_mod_cast d7⟩
  have c12 : (runDefaults.co2DataMax : ℝ) ≤
      (runDefaults.co2Ref : ℝ) + 20 * (550 - (runDefaults.co2Ref : ℝ)) := by exact_mod_cast d12
  exact
    { smt := fun _ => by rw [h.netIrrSMT]; exact c67
      smtF := fun _ => by rw [h.netIrrSMTF]; exact c67
      bundWater := by rw [h.bundWater]; exact_mod_cast d8
      co2Ref := by rw [h.co2Ref]; exact_mod_cast d10
      co2Cur := fun season => by rw [h.co2Ref]; exact le_trans (h.co2Cur season) c12
      kex := by rw [h.kex]; exact_mod_cast d1
      fwcc0 := by rw [h.fwcc]; exact_mod_cast d2
      fwcc1 := by rw [h.fwcc]; exact_mod_cast d3
      mulch := fun _ => by rw [h.fMulch, h.mulchPct]; exact c4
      mulchF := fun _ => by rw [h.fMulchF, h.mulchPctF]; exact c4
      wet := fun _ => by rw [h.wetSurf]; exact c5
      wetF := fun _ => by rw [h.wetSurfF]; exact c5 }

/-- the reference concentration of the defaults is the one the crop catalogue's CO2 premises
(`CropFull.CO2OK`, `co2Params_of_ok`) are stated for -/
theorem runDefaults_co2Ref : (runDefaults.co2Ref : ℝ) = 369.41 := by
  have := runDefaults_ok.2.2.2.2.2.2.2.2.1
  rw [this]
  exact co2Ref_cast

end Aqua

section AxiomAudit
open Aqua
#print axioms runDefaults_ok
#print axioms cfgRanges_of_defaults
#print axioms runDefaults_co2Ref
end AxiomAudit
