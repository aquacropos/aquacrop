import AquaVerif.Proofs.RunTotal
import AquaVerif.Proofs.CatalogueCfg
/-
`catalogue_run_total` — the run of a catalogue configuration
(`CatCfg`, `Proofs/CatalogueCfg.lean`: every crop record built from the generated crop table, the
profile and initial water content built by `soilProfile`/`initWC`, well-formed clock) over `ℝ`
terminates without taking an error branch.

From the catalogue (no premise left): `CfgOK`; the option switches of every crop record
(`GDDmethod`, `CalendarType`, `TrColdStress`, `CropType`, `PolHeatStress`, `PolColdStress` — the
conjuncts `SwitchOK`, `CanopyOK`, `HiOK` of `CropFullOK`); `SxBot > 0` for every catalogue crop
(`catalogue_sxBot_pos`, from the kernel evaluation `catalogue_rowOK` of the table); `CO2.ref ≠ 550`; well-formed clock and
cleared initial flags.

`CatTotOK cfg Zcap Zev` — what `CatCfg` does not say and stays a premise: the geometry of the built
profile relative to the crops and the evaporation depths (`ProfOK`; `Zmax ≤ Zcap` for every crop,
`0.3 ≤ Zcap` for the fallow filler crop), the irrigation records (`method ≤ 5`, interval ≥ 1,
schedule covering the window, `AppEff ≥ 0`), `water_table ∈ {0,1}` with a defined non-negative
depth, `EvapTimeSteps ≠ 0`, the evaporation depths, the initial `growth_stage`/`evap_z`.
`TopOK` stays a premise too.  Neither the weather (`ET0 > 0`) nor the capillary-rise residual
`ResidualW` is needed: no error site reads them.
-/

set_option linter.unusedSectionVars false
namespace Aqua
open Aqua.Generated Aqua.Response Aqua.HarvestIndexReal Aqua.Clock

/-- every catalogue crop has a positive bottom sink term (`SxBot`): the Python-float division of
the `rCor` update in `root_development` never divides by zero -/
theorem catalogue_sxBot_pos : ∀ c ∈ cropFullTable, 0 < c.sxBot :=
  fun c hc => (catalogue_rowOK c hc).2.2.2.2.1

structure CatTotOK (cfg : RunCfg ℝ) (Zcap Zev : ℝ) : Prop where
  prof : ProfOK realFn cfg.W0.soil cfg.W0.waterTable cfg.zGerm Zcap Zev cfg.init.cells
  /-- the profile is deep enough for every crop: `Zmax ≤ Zcap` -/
  zmax : ∀ k, (cfg.seasonCrop k).cx.rd.zmax ≤ Zcap
  zmaxF : cfg.fallowCrop.cx.rd.zmax ≤ Zcap
  /-- … and for the fallow filler crop's `Zmin = 0.3` -/
  fallowZmin : 0.3 ≤ Zcap
  irr : IrrTotOK cfg.irr
  fallowIrr : IrrTotOK cfg.fallowIrr
  sched : cfg.irr.irr.method = 3 → ∀ t, ∃ v, cfg.irr.sched t = some v ∧ 0 ≤ v
  wt : cfg.W0.waterTable = 0 ∨ cfg.W0.waterTable = 1
  zgw : cfg.W0.waterTable = 1 → ∀ t, 0 ≤ cfg.zgw t
  steps : cfg.W0.evapTimeSteps ≠ 0
  evLo : cfg.W0.soil.evapZMin ≤ Zev
  evHi : cfg.W0.soil.evapZMax + 0.001 ≤ Zev
  evFuel : cfg.W0.soil.evapZMax - cfg.W0.soil.evapZMin ≤ 100
  stage0 : cfg.init.growthStage ≤ 4
  ev0 : cfg.W0.soil.evapZMax - 100 ≤ cfg.init.evapZ
  ev1 : cfg.init.evapZ ≤ Zev

section
variable {cfg : RunCfg ℝ} {Zcap Zev : ℝ}

theorem CatCrop.totOK {p : CropParams ℝ} (h : CatCrop p) (hz : p.cx.rd.zmax ≤ Zcap) :
    CropTotOK p Zcap := by
  obtain ⟨c, hc, _, K, _, rfl⟩ := h
  have hok := catalogue_ok c hc
  obtain ⟨_, _, _, hph, hpc, hgd, htc⟩ := hok.switch
  have hcal : c.calendarType = 1 ∨ c.calendarType = 2 := hok.canopy.2.1
  have hz' : ((c.zmax : ℚ) : ℝ) ≤ Zcap := hz
  have hzz : ((c.zmin : ℚ) : ℝ) ≤ Zcap := le_trans (hok.root.cast (α := ℝ)).2.1 hz'
  exact
    { gdd := hgd, calW := hcal, calRd := hcal, calCc := hcal, cold := htc,
      ctype := hok.hi.1, pol := ⟨hph, hpc⟩
      sxBot := by
        have : (0 : ℝ) < ((c.sxBot : ℚ) : ℝ) := by exact_mod_cast catalogue_sxBot_pos c hc
        exact ne_of_gt this
      capZmax := hz', capTr := hzz, capCc := hzz, capHi := hzz }

theorem cfgTotOK_of_catalogue (h : CatCfg cfg) (hX : CatTotOK cfg Zcap Zev) :
    CfgTotOK realFn cfg Zcap Zev :=
  { wf := h.clock
    initOK := ⟨h.init.dap, h.init.mature, h.init.dead, h.init.flag⟩
    prof := hX.prof
    crop := fun season => by
      unfold cropOf
      split_ifs
      · exact (h.crops _).totOK (hX.zmax _)
      · exact (h.fallow.totOK hX.zmaxF).fallowAdjust hX.fallowZmin
    cap0 := le_trans (by norm_num) hX.fallowZmin
    irr := hX.irr
    fallowIrr := hX.fallowIrr
    sched := hX.sched
    wt := hX.wt
    zgw := hX.zgw
    steps := hX.steps
    evLo := hX.evLo
    evHi := hX.evHi
    evFuel := hX.evFuel
    co2 := ne_of_lt h.ranges.co2Ref
    stage0 := hX.stage0
    ev0 := hX.ev0
    ev1 := hX.ev1 }

/-- The run of a catalogue configuration whose profile satisfies the geometric premises terminates
without taking an error branch: `run_model(num_steps = n)` returns `.ok` with `finished = true`;
from every reachable unfinished state `_perform_timestep` and every `run_model(num_steps = k)`,
`k ≥ 1`, return `.ok`.  No premise on the weather, none on computed values. -/
theorem catalogue_run_total (h : CatCfg cfg) (hX : CatTotOK cfg Zcap Zev)
    (hTop : TopOK realFn cfg.W0.soil.zTop cfg.init.cells) :
    (∃ s₀ s, runInit cfg = .ok s₀ ∧ runModel realFn realTrig cfg cfg.clock.n s₀ = .ok s ∧
      s.finished = true ∧ RunReach realFn realTrig cfg s) ∧
    ∀ s, RunReach realFn realTrig cfg s → s.finished = false →
      (∃ s', performR realFn realTrig cfg s = .ok s') ∧
      ∀ k, 1 ≤ k → ∃ s', runModel realFn realTrig cfg k s = .ok s' := by
  have hC := cfgOK_of_catalogue h
  have hZ := cfgTotOK_of_catalogue h hX
  refine ⟨run_finishes hC hZ hTop, fun s hr hf => ⟨?_, fun k hk => ?_⟩⟩
  · obtain ⟨s', hp, _⟩ := performR_total hC hZ hTop hr hf
    exact ⟨s', hp⟩
  · obtain ⟨s', hp, _⟩ := run_total hC hZ hTop hr hf k hk
    exact ⟨s', hp⟩

/-- totality and the invariants of C03/C05 (`catalogue_run_no_table`) together: without a water
table and with `ET0 > 0` the complete run of a catalogue configuration succeeds, and its final
state satisfies the water invariant and the crop envelope -/
theorem catalogue_run_total_no_table (h : CatCfg cfg) (hX : CatTotOK cfg Zcap Zev)
    (hTop : TopOK realFn cfg.W0.soil.zTop cfg.init.cells)
    (het : ∀ t, 0 < (cfg.weather t).et0) (hwt : cfg.W0.waterTable ≠ 1) :
    ∃ s₀ s, runInit cfg = .ok s₀ ∧ runModel realFn realTrig cfg cfg.clock.n s₀ = .ok s ∧
      s.finished = true ∧ WaterInv cfg s ∧ CropEnv realFn (paramsOf cfg s.season false) s.day := by
  obtain ⟨⟨s₀, s, h0, h1, h2, hr⟩, _⟩ := catalogue_run_total h hX hTop
  exact ⟨s₀, s, h0, h1, h2, (catalogue_run_no_table h het hwt hr).1⟩

end
end Aqua

#print axioms Aqua.catalogue_sxBot_pos
#print axioms Aqua.cfgTotOK_of_catalogue
#print axioms Aqua.catalogue_run_total
#print axioms Aqua.catalogue_run_total_no_table
