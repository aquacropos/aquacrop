import AquaVerif.Model.CapillaryRise
import AquaVerif.Proofs.GwCommon
import AquaVerif.Proofs.Sweep
/-
Lemmas about `capillaryRise` (`Model/CapillaryRise.lean`) at an arbitrary ordered field.

Laws of `F` used (structures in `Proofs/GwCommon.lean`):
* `GwRoundLaws F`  : `|F.round4 x − x| ≤ 1/20000`      (error bound of `CrTot`, upper bound of `th`);
* `GwRoundSign F`  : `0 < F.round4 x → 0 < x`           (monotonicity `th ≤ th'` of filled cells);
* `GwExpLaws F`    : `0 < F.exp x`                      (`MaxCR ≥ 0`, hence `CrTot ≥ 0`);
* `GwRound0Laws F` : `F.round0 0 = 0`                   (not here: `C19.far_table_no_rise`).
The balance and frame lemmas use no law at all.
-/

set_option linter.unusedSectionVars false
namespace Aqua
variable {α : Type} [Field α] [LinearOrder α] [IsStrictOrderedRing α]

/-! ### one iteration -/

theorem crStore_cases (F : Fn α) (fshape zGW maxCR zBot : α) (x : Cell α) :
    ∃ dth dmax, dth = F.round4 (x.fcAdj - x.th) ∧
      dmax = crKrel x * crDf F fshape x * maxCR / (1000 * x.c.dz) ∧
      (crStore F fshape zGW maxCR zBot x = ⟨x.th, 0, 0, maxCR, 0⟩ ∨
       (0 < dth ∧ dmax ≤ dth ∧ crStore F fshape zGW maxCR zBot x =
          ⟨x.th + dmax, dmax * 1000 * x.c.dz, dmax * 1000 * x.c.dz, 0, 1⟩) ∨
       (0 < dth ∧ dth < dmax ∧ crStore F fshape zGW maxCR zBot x =
          ⟨x.fcAdj, dth * 1000 * x.c.dz, (x.fcAdj - x.th) * 1000 * x.c.dz,
            crKrel x * maxCR - dth * 1000 * x.c.dz, 2⟩)) := by
  unfold crStore
  extract_lets df krel dth dmax
  refine ⟨dth, dmax, rfl, rfl, ?_⟩
  by_cases h1 : 0 < dth ∧ zBot - x.c.dz / 2 < zGW
  · rw [if_pos h1]
    by_cases h2 : dmax ≤ dth
    · rw [if_pos h2]; exact Or.inr (Or.inl ⟨h1.1, h2, rfl⟩)
    · rw [if_neg h2]; exact Or.inr (Or.inr ⟨h1.1, not_le.mp h2, rfl⟩)
  · rw [if_neg h1]; exact Or.inl rfl

theorem crKrel_nonneg (x : Cell α) : 0 ≤ crKrel x := by
  unfold crKrel
  extract_lets thThr
  refine ite_ind (fun r : α => 0 ≤ r) (fun _ => ?_) fun _ => zero_le_one
  refine ite_ind (fun r : α => 0 ≤ r) (fun _ => le_refl _) fun h2 => ?_
  rw [not_or, not_le, not_le] at h2
  exact div_nonneg (sub_pos.mpr h2.1).le (sub_pos.mpr h2.2).le

theorem crDf_range (F : Fn α) (fshape : α) (x : Cell α) :
    0 ≤ crDf F fshape x ∧ crDf F fshape x ≤ 1 := by
  unfold crDf
  refine ite_ind (fun r : α => 0 ≤ r ∧ r ≤ 1) (fun _ => ?_) fun _ => ⟨zero_le_one, le_refl _⟩
  extract_lets d
  refine ite_ind (fun r : α => 0 ≤ r ∧ r ≤ 1) (fun _ => ⟨zero_le_one, le_refl _⟩) fun h2 => ?_
  exact ite_ind (fun r : α => 0 ≤ r ∧ r ≤ 1) (fun _ => ⟨le_refl _, zero_le_one⟩)
    fun h3 => ⟨not_lt.mp h3, not_lt.mp h2⟩

theorem crLimit_nonneg (F : Fn α) (hE : GwExpLaws F) (zGW z : α) (c : Comp α) :
    0 ≤ crLimit F zGW z c := by
  unfold crLimit
  refine ite_ind (fun r : α => 0 ≤ r) (fun _ => ?_) fun _ => le_refl _
  refine ite_ind (fun r : α => 0 ≤ r) (fun _ => by norm_num) fun _ => ?_
  exact ite_ind (fun r : α => 0 ≤ r) (fun _ => by norm_num) fun _ => (hE.exp_pos _).le

theorem crAdvance_maxCR_nonneg (F : Fn α) (hE : GwExpLaws F) (zGW : α) (x : Cell α)
    (next : Option (Cell α)) (s : CRAcc α) (r : CRStep α) (hr : 0 ≤ r.maxCR) :
    0 ≤ (crAdvance F zGW x next s r).maxCR := by
  cases next with
  | none => exact hr
  | some y => exact ite_ind (fun m : α => 0 ≤ m) (fun _ => crLimit_nonneg F hE _ _ _) fun _ => hr

/-- relation between an input cell and the output cell (no hypothesis) -/
def CRRel (F : Fn α) (x y : Cell α) : Prop :=
  y.c = x.c ∧ y.fcAdj = x.fcAdj ∧ y.flux = x.flux ∧ y.aer = x.aer ∧
    (y.th = x.th ∨
     (0 < F.round4 (x.fcAdj - x.th) ∧
       (y.th = x.fcAdj ∨ ∃ d, d ≤ F.round4 (x.fcAdj - x.th) ∧ y.th = x.th + d)))

theorem CRRel.refl (F : Fn α) (x : Cell α) : CRRel F x x := ⟨rfl, rfl, rfl, rfl, Or.inl rfl⟩

theorem CRRel.read_eq {β : Type} {F : Fn α} {x y : Cell α} (h : CRRel F x y) (k : Cell α → β)
    (hth : NoTh k) : k y = k x :=
  Cell.read_eq k h.1 (.inr hth) (.inl h.2.1) (.inl h.2.2.1) (.inl h.2.2.2.1)

/-- relation with sign information (needs `MaxCR ≥ 0`, `dz > 0`) -/
def CRRelPos (F : Fn α) (x y : Cell α) : Prop :=
  y.th = x.th ∨
   (0 < F.round4 (x.fcAdj - x.th) ∧
     (y.th = x.fcAdj ∨ ∃ d, 0 ≤ d ∧ d ≤ F.round4 (x.fcAdj - x.th) ∧ y.th = x.th + d))

/-- what the loop does at one compartment: nothing (it has stopped), or the storage part followed by
the update of the accumulator (`next` is the compartment above, if any) -/
def CRIter (F : Fn α) (fshape zGW : α) (x : Cell α) (s : CRAcc α) (y : Cell α) (s' : CRAcc α) :
    Prop :=
  (y = x ∧ s' = s) ∨ ∃ next, y = { x with th := (crStore F fshape zGW s.maxCR s.zBot x).th } ∧
    s' = crAdvance F zGW x next s (crStore F fshape zGW s.maxCR s.zBot x)

section step
variable {F : Fn α} {fshape zGW : α} {x y : Cell α} {s s' : CRAcc α}

theorem CRIter.added (h : CRIter F fshape zGW x s y s') :
    y.water + -s'.added = x.water + -s.added := by
  rcases h with ⟨rfl, rfl⟩ | ⟨next, rfl, rfl⟩
  · rfl
  obtain ⟨dth, dmax, -, -, e | ⟨_, _, e⟩ | ⟨_, _, e⟩⟩ :=
    crStore_cases F fshape zGW s.maxCR s.zBot x <;>
    simp only [Cell.water, crAdvance, e, one_ne_zero, OfNat.ofNat_ne_zero, if_false, if_true] <;> ring

theorem abs_err_chain {w0 w1 w2 a0 a1 a2 d0 d1 d2 k : α}
    (h1 : |(w1 - w0) - (a1 - a0)| ≤ (d1 - d0) * 1000 * k)
    (h2 : |(w2 - w1) - (a2 - a1)| ≤ (d2 - d1) * 1000 * k) :
    |(w2 - w0) - (a2 - a0)| ≤ (d2 - d0) * 1000 * k := by
  rw [abs_le] at h1 h2 ⊢
  constructor <;> linarith only [h1.1, h1.2, h2.1, h2.2]

/-- reported (`wcr`) vs. real (`added`) amount over a stretch of the loop -/
def CRSlack (s s' : CRAcc α) : Prop :=
  s.dzFill ≤ s'.dzFill ∧
    |(s'.wcr - s.wcr) - (s'.added - s.added)| ≤ (s'.dzFill - s.dzFill) * 1000 * (1 / 20000)

theorem CRSlack.refl (s : CRAcc α) : CRSlack s s := by simp [CRSlack]

theorem CRSlack.trans (a b c : CRAcc α) (h1 : CRSlack a b) (h2 : CRSlack b c) : CRSlack a c :=
  ⟨le_trans h1.1 h2.1, abs_err_chain h1.2 h2.2⟩

theorem CRIter.err (hR : GwRoundLaws F) (h : CRIter F fshape zGW x s y s') (hdz : 0 ≤ x.c.dz) :
    CRSlack s s' := by
  rcases h with ⟨rfl, rfl⟩ | ⟨next, rfl, rfl⟩
  · exact CRSlack.refl _
  unfold CRSlack
  obtain ⟨dth, dmax, hdth, -, e | ⟨_, _, e⟩ | ⟨_, _, e⟩⟩ :=
    crStore_cases F fshape zGW s.maxCR s.zBot x <;>
    simp only [crAdvance, e, one_ne_zero, OfNat.ofNat_ne_zero, OfNat.one_ne_ofNat, if_false,
      if_true]
  · simp
  · simp
  · refine ⟨le_add_of_nonneg_right hdz, ?_⟩
    have h1000 : (0:α) ≤ 1000 * x.c.dz := mul_nonneg (by norm_num) hdz
    have e1 : s.wcr + dth * 1000 * x.c.dz - s.wcr -
        (s.added + (x.fcAdj - x.th) * 1000 * x.c.dz - s.added) =
        (dth - (x.fcAdj - x.th)) * (1000 * x.c.dz) := by ring
    have e2 : (s.dzFill + x.c.dz - s.dzFill) * 1000 * (1 / 20000) =
        (1 / 20000) * (1000 * x.c.dz) := by ring
    rw [e1, e2, abs_mul, abs_of_nonneg h1000, hdth]
    exact mul_le_mul_of_nonneg_right (hR.round4_err _) h1000

theorem CRIter.rel (h : CRIter F fshape zGW x s y s') : CRRel F x y := by
  rcases h with ⟨rfl, rfl⟩ | ⟨next, rfl, rfl⟩
  · exact CRRel.refl F _
  refine ⟨rfl, rfl, rfl, rfl, ?_⟩
  obtain ⟨dth, dmax, rfl, -, e | ⟨hd, hle, e⟩ | ⟨hd, _, e⟩⟩ :=
    crStore_cases F fshape zGW s.maxCR s.zBot x <;> rw [e]
  · exact Or.inl rfl
  · exact Or.inr ⟨hd, Or.inr ⟨_, hle, rfl⟩⟩
  · exact Or.inr ⟨hd, Or.inl rfl⟩

/-- `dmax ≥ 0` in the capped step; in the filling step `MaxCR` stays non-negative because
`dth·1000·dz < Krel·Df·MaxCR ≤ Krel·MaxCR`, as `Df ≤ 1` -/
theorem CRIter.nonneg (hE : GwExpLaws F) (h : CRIter F fshape zGW x s y s') (hdz : 0 < x.c.dz)
    (hm : 0 ≤ s.maxCR) : CRRelPos F x y ∧ 0 ≤ s'.maxCR ∧ s.wcr ≤ s'.wcr := by
  rcases h with ⟨rfl, rfl⟩ | ⟨next, rfl, rfl⟩
  · exact ⟨Or.inl rfl, hm, le_refl _⟩
  have hk := crKrel_nonneg x
  have hdf := crDf_range F fshape x
  have hden : 0 < 1000 * x.c.dz := mul_pos (by norm_num) hdz
  have key : 0 ≤ (crStore F fshape zGW s.maxCR s.zBot x).maxCR ∧
      0 ≤ (crStore F fshape zGW s.maxCR s.zBot x).cr ∧
      CRRelPos F x { x with th := (crStore F fshape zGW s.maxCR s.zBot x).th } := by
    obtain ⟨dth, dmax, rfl, hdmax, e | ⟨hd, hle, e⟩ | ⟨hd, hlt, e⟩⟩ :=
      crStore_cases F fshape zGW s.maxCR s.zBot x <;> rw [e]
    · exact ⟨hm, le_refl _, Or.inl rfl⟩
    · have hd0 : 0 ≤ dmax := hdmax ▸ div_nonneg (mul_nonneg (mul_nonneg hk hdf.1) hm) hden.le
      exact ⟨le_refl _, mul_nonneg (mul_nonneg hd0 (by norm_num)) hdz.le,
        Or.inr ⟨hd, Or.inr ⟨_, hd0, hle, rfl⟩⟩⟩
    · have h1 : F.round4 (x.fcAdj - x.th) * (1000 * x.c.dz) < crKrel x * crDf F fshape x * s.maxCR :=
        (lt_div_iff₀ hden).mp (hdmax ▸ hlt)
      have h2 : crKrel x * crDf F fshape x * s.maxCR ≤ crKrel x * s.maxCR := by
        rw [mul_right_comm]; exact mul_le_of_le_one_right (mul_nonneg hk hm) hdf.2
      exact ⟨by linarith only [h1, h2], mul_nonneg (mul_nonneg hd.le (by norm_num)) hdz.le,
        Or.inr ⟨hd, Or.inl rfl⟩⟩
  exact ⟨key.2.2, crAdvance_maxCR_nonneg F hE zGW x _ s _ key.1,
    ite_ind (fun w : α => s.wcr ≤ w) (fun _ => le_refl _) fun _ => le_add_of_nonneg_right key.2.1⟩

end step

/-! ### the loop -/

theorem crLoop_cases (F : Fn α) (fshape zGW : α) (x : Cell α) (xs : List (Cell α)) (s : CRAcc α) :
    crLoop F fshape zGW (x :: xs) s = (x :: xs, s) ∨
    ∃ r s', r = crStore F fshape zGW s.maxCR s.zBot x ∧ s' = crAdvance F zGW x xs.head? s r ∧
      crLoop F fshape zGW (x :: xs) s =
        ({ x with th := r.th } :: (crLoop F fshape zGW xs s').1, (crLoop F fshape zGW xs s').2) := by
  rw [crLoop]
  exact (ite_eq_or_eq _ _ _).symm.imp id fun h => ⟨_, _, rfl, rfl, h⟩

theorem crLoop_sweep (F : Fn α) (fshape zGW : α) (cells : List (Cell α)) (s : CRAcc α) :
    Sweep (CRIter F fshape zGW) cells s (crLoop F fshape zGW cells s).1
      (crLoop F fshape zGW cells s).2 := by
  induction cells generalizing s with
  | nil => exact Sweep.nil s
  | cons x xs ih =>
    rcases crLoop_cases F fshape zGW x xs s with e | ⟨r, s', rfl, rfl, e⟩ <;> rw [e]
    · exact Sweep.refl _ (fun _ => Or.inl ⟨rfl, rfl⟩) _
    · exact Sweep.cons (Or.inr ⟨_, rfl, rfl⟩) (ih _)

/-! ### the process -/

def crStart (F : Fn α) (zGW : α) (b : Cell α) : CRAcc α :=
  { maxCR := crLimit F zGW b.c.zMid b.c, zBot := b.c.dzsum, wcr := 0, added := 0, dzFill := 0,
    nIter := 0, nCap := 0, nFill := 0 }

def crOut (q : List (Cell α) × CRAcc α) : CROut α :=
  { cells := q.1.reverse, crTot := q.2.wcr, crAdded := q.2.added, dzFill := q.2.dzFill,
    nIter := q.2.nIter, nCap := q.2.nCap, nFill := q.2.nFill }

/-- The failures in the Python: a flag other than 0 or 1 leaves `CrTot` unbound; an empty profile is an
`IndexError`; the layer test is the `assert`. -/
theorem capillaryRise_ok_iff (F : Fn α) (cells : List (Cell α)) (nLayer : Nat) (fshape zGW : α)
    (wt : Nat) (r : CROut α) :
    capillaryRise F cells nLayer fshape zGW wt = .ok r ↔
      (wt = 0 ∧ r = { cells := cells, crTot := 0, crAdded := 0, dzFill := 0, nIter := 0, nCap := 0,
                      nFill := 0 }) ∨
      (wt = 1 ∧ ∃ b above, cells.reverse = b :: above ∧ b.c.layer = nLayer ∧
        r = crOut (crLoop F fshape zGW (b :: above) (crStart F zGW b))) := by
  unfold capillaryRise
  by_cases h0 : wt = 0
  · rw [if_pos h0, Except.ok.injEq]
    exact ⟨fun h => Or.inl ⟨h0, h.symm⟩, fun h => h.elim (fun h => h.2.symm) fun h => by omega⟩
  rw [if_neg h0]
  by_cases h1 : wt = 1
  · rw [if_pos h1]
    cases cells.reverse with
    | nil => exact ⟨nofun, fun h => h.elim (fun h => absurd h.1 h0) fun ⟨_, _, _, h, _⟩ => nomatch h⟩
    | cons b above =>
      by_cases hl : b.c.layer = nLayer
      · simp only [ne_eq, hl, not_true_eq_false, if_false, Except.ok.injEq]
        refine ⟨fun h => Or.inr ⟨h1, b, above, rfl, hl, h.symm⟩, fun h => h.elim (fun h => absurd h.1 h0) ?_⟩
        rintro ⟨-, b', above', e, -, rfl⟩
        cases e; rfl
      · simp only [ne_eq, hl, not_false_eq_true, if_true]
        refine ⟨nofun, fun h => h.elim (fun h => absurd h.1 h0) ?_⟩
        rintro ⟨-, b', above', e, hl', -⟩
        cases e; exact absurd hl' hl
  · rw [if_neg h1]
    exact ⟨nofun, fun h => h.elim (fun h => absurd h.1 h0) fun h => absurd h.1 h1⟩

theorem capillaryRise_table (F : Fn α) (cells : List (Cell α)) (nLayer : Nat) (fshape zGW : α)
    (r : CROut α) (h : capillaryRise F cells nLayer fshape zGW 1 = .ok r) :
    ∃ b above, cells.reverse = b :: above ∧ b.c.layer = nLayer ∧
      r = crOut (crLoop F fshape zGW (b :: above) (crStart F zGW b)) :=
  (((capillaryRise_ok_iff F cells nLayer fshape zGW 1 r).1 h).resolve_left fun h => nomatch h.1).2

theorem capillaryRise_no_table (F : Fn α) (cells : List (Cell α)) (nLayer : Nat) (fshape zGW : α) :
    capillaryRise F cells nLayer fshape zGW 0 =
      .ok { cells := cells, crTot := 0, crAdded := 0, dzFill := 0, nIter := 0, nCap := 0,
            nFill := 0 } :=
  (capillaryRise_ok_iff F cells nLayer fshape zGW 0 _).2 (Or.inl ⟨rfl, rfl⟩)

/-- `crAdded` is the water really added, `crTot` what the code reports.  They differ because a cell
filled to `th_fc_Adj` is credited with the 4-decimal rounding of its room `fcAdj − th`: an error of at
most `1/20000` in water content, `1000·dz/20000` mm, for each such cell; `dzFill` is their total
thickness. -/
theorem capillaryRise_spec (F : Fn α) (cells : List (Cell α)) (nLayer : Nat) (fshape zGW : α)
    (wt : Nat) (r : CROut α) (h : capillaryRise F cells nLayer fshape zGW wt = .ok r) :
    List.Forall₂ (CRRel F) cells r.cells ∧ storage r.cells = storage cells + r.crAdded ∧
    (GwRoundLaws F → (∀ x ∈ cells, 0 ≤ x.c.dz) →
      0 ≤ r.dzFill ∧ |r.crTot - r.crAdded| ≤ r.dzFill * 1000 * (1 / 20000)) ∧
    (GwExpLaws F → (∀ x ∈ cells, 0 < x.c.dz) →
      0 ≤ r.crTot ∧ List.Forall₂ (CRRelPos F) cells r.cells) := by
  rcases (capillaryRise_ok_iff F cells nLayer fshape zGW wt r).1 h with ⟨-, rfl⟩ |
    ⟨-, b, above, hb, -, rfl⟩
  · exact ⟨List.forall₂_same.mpr (fun y _ => CRRel.refl F y), (add_zero _).symm,
      fun _ _ => by simp, fun _ _ => ⟨le_refl _, List.forall₂_same.mpr (fun y _ => Or.inl rfl)⟩⟩
  · rw [← hb]
    simp only [crOut]
    have hsw := crLoop_sweep F fshape zGW cells.reverse (crStart F zGW b)
    have h1 : (crStart F zGW b).maxCR = crLimit F zGW b.c.zMid b.c := rfl
    have h2 : (crStart F zGW b).wcr = 0 := rfl
    have h3 : (crStart F zGW b).added = 0 := rfl
    have h4 : (crStart F zGW b).dzFill = 0 := rfl
    have hrev {P : Cell α → Prop} (hP : ∀ x ∈ cells, P x) : ∀ x ∈ cells.reverse, P x :=
      fun x hx => hP x (List.mem_reverse.mp hx)
    refine ⟨?_, ?_, fun hR hdz => ?_, fun hE hdz => ?_⟩
    · rw [← List.forall₂_reverse_iff, List.reverse_reverse]
      exact hsw.forall₂ _ fun _ _ _ _ h => h.rel
    · have := hsw.sum (fun _ => True) Cell.water (fun s => -s.added) storage storage_cons
        (fun _ _ _ _ h _ => h.added) (fun _ _ => trivial)
      rw [storage_reverse, h3] at this
      rw [storage_reverse]
      linear_combination this
    · have := (hsw.inv (fun x => 0 ≤ x.c.dz) (fun _ => True) (fun _ _ => True) CRSlack
        (fun _ _ _ _ h hdz _ => ⟨trivial, trivial, h.err hR hdz⟩) CRSlack.refl CRSlack.trans
        (hrev hdz) trivial).2.2
      unfold CRSlack at this
      rw [h2, h3, h4, sub_zero, sub_zero, sub_zero] at this
      exact this
    · obtain ⟨a2, -, a1⟩ := hsw.inv (fun x => 0 < x.c.dz) (fun s => 0 ≤ s.maxCR) (CRRelPos F)
        (fun s s' => s.wcr ≤ s'.wcr) (fun _ _ _ _ h hdz hm => h.nonneg hE hdz hm)
        (fun _ => le_refl _) (fun _ _ _ => le_trans) (hrev hdz) (h1 ▸ crLimit_nonneg F hE _ _ _)
      rw [← List.forall₂_reverse_iff, List.reverse_reverse]
      exact ⟨h2 ▸ a1, a2⟩

theorem capillaryRise_length (F : Fn α) (cells : List (Cell α)) (nLayer : Nat) (fshape zGW : α)
    (wt : Nat) (r : CROut α) (h : capillaryRise F cells nLayer fshape zGW wt = .ok r) :
    r.cells.length = cells.length :=
  (capillaryRise_spec F cells nLayer fshape zGW wt r h).1.length_eq.symm

/-- The slack `1/20000` is real: in the capped branch `th' = th + dthMax` with
`dthMax ≤ round(fcAdj − th, 4)`, and the rounded room can exceed the true room by up to `1/20000`. -/
theorem capillaryRise_bounds (F : Fn α) (hE : GwExpLaws F) (hR : GwRoundLaws F) (hS : GwRoundSign F)
    (cells : List (Cell α)) (nLayer : Nat) (fshape zGW : α) (wt : Nat) (r : CROut α)
    (hdz : ∀ x ∈ cells, 0 < x.c.dz)
    (h : capillaryRise F cells nLayer fshape zGW wt = .ok r) :
    ∀ y ∈ r.cells, ∃ x ∈ cells, y.c = x.c ∧ y.fcAdj = x.fcAdj ∧ x.th ≤ y.th ∧
      y.th ≤ max x.th (x.fcAdj + 1 / 20000) := by
  obtain ⟨hf, -, -, hp⟩ := capillaryRise_spec F cells nLayer fshape zGW wt r h
  have hp := (hp hE hdz).2
  intro y hy
  obtain ⟨x, hx, ⟨hc, hfc, -, -, -⟩, hrel⟩ :=
    forall₂_mem_right (List.Forall₂.mp (fun _ _ => And.intro) hf hp) hy
  refine ⟨x, hx, hc, hfc, ?_⟩
  have h20 : (0:α) ≤ 1 / 20000 := by norm_num
  rcases hrel with e | ⟨hd, e | ⟨d, hd0, hdle, e⟩⟩ <;> rw [e]
  · exact ⟨le_refl _, le_max_left _ _⟩
  · exact ⟨(sub_pos.1 (hS.round4_pos _ hd)).le,
      le_trans (le_add_of_nonneg_right h20) (le_max_right _ _)⟩
  · have := (abs_le.mp (hR.round4_err (x.fcAdj - x.th))).2
    exact ⟨le_add_of_nonneg_right hd0, le_trans (by linarith only [this, hdle]) (le_max_right _ _)⟩

/-- the invariant `th ≤ thS` itself is *not* preserved, only `th ≤ thS + 1/20000` -/
theorem capillaryRise_inv_slack (F : Fn α) (hE : GwExpLaws F) (hR : GwRoundLaws F) (hS : GwRoundSign F)
    (cells : List (Cell α)) (nLayer : Nat) (fshape zGW : α) (wt : Nat) (r : CROut α)
    (hinv : ∀ x ∈ cells, x.Inv)
    (h : capillaryRise F cells nLayer fshape zGW wt = .ok r) :
    ∀ y ∈ r.cells, y.c.WF ∧ y.c.thDry ≤ y.th ∧ y.th ≤ y.c.thS + 1 / 20000 ∧
      y.c.thFC ≤ y.fcAdj ∧ y.fcAdj ≤ y.c.thS := by
  intro y hy
  obtain ⟨x, hx, hc, hfc, h1, h2⟩ := capillaryRise_bounds F hE hR hS cells nLayer fshape zGW wt r
    (fun x hx => (hinv x hx).wf.dz_pos) h y hy
  have ix := hinv x hx
  rw [hc, hfc]
  exact ⟨ix.wf, le_trans ix.th_lo h1,
    h2.trans (max_le (ix.th_hi.trans (le_add_of_nonneg_right (by norm_num)))
      (add_le_add_left ix.fc_hi _)), ix.fc_lo, ix.fc_hi⟩

/-! ### non-vacuity: the hypotheses of the main lemmas are satisfiable.
`F` with `exp = 1`, `round4 = id`, `round0 = id` satisfies all four law structures; a call on a
two-compartment profile with the table at 0.5 m succeeds. -/

def gwExF : Fn ℚ :=
  ⟨fun _ => 1, id, id, fun x y => if y = 2 then x * x else x, id, id, id, id, id⟩

example : GwExpLaws gwExF ∧ GwRoundLaws gwExF ∧ GwRoundSign gwExF ∧ GwRound0Laws gwExF :=
  ⟨⟨fun _ => by simp [gwExF]⟩, ⟨fun x => by simp [gwExF]⟩, ⟨fun x h => by simpa [gwExF] using h⟩,
   ⟨by simp [gwExF]⟩⟩

example : ∃ r, capillaryRise gwExF
    [⟨gwExComp (1/10) (1/20), 1/10, 3/10, 0, 0⟩, ⟨gwExComp (1/5) (3/20), 1/5, 3/10, 0, 0⟩]
    1 16 (1/2) 1 = .ok r := by
  simp [capillaryRise, gwExComp]

end Aqua

section
open Aqua
#print axioms capillaryRise_spec
#print axioms capillaryRise_bounds
#print axioms capillaryRise_inv_slack
#print axioms capillaryRise_no_table
end
